import NasdaqModel.Lemmas.SessionLemmas
/-
What acceptance by the close-sequence monitor (`monRun l ≠ 9`) means in plain terms.
-/
namespace NasdaqModel.Sess

theorem mon_sink (o : Obs) : mon 9 o = 9 := by cases o <;> simp [mon]

theorem foldl_mon_sink (l : List Obs) : l.foldl mon 9 = 9 := by
  induction l with
  | nil => rfl
  | cons o l ih => simp [List.foldl, mon_sink, ih]

/-- the event that takes the close sequence from phase `k` to phase `k + 1` -/
def phaseObs : Nat → Obs
  | 0 => .tclose
  | 1 => .cbEnter
  | _ => .cbExit

theorem mon_phaseObs {k : Nat} (hk : k ≤ 2) (p : Nat) : mon p (phaseObs k) = if p = k then k + 1 else 9 := by
  match k, hk with
  | 0, _ => rfl
  | 1, _ => rfl
  | 2, _ => rfl

theorem mon_step {p : Nat} {o : Obs} (h : mon p o ≠ 9) : mon p o = p ∨ (mon p o = p + 1 ∧ o = phaseObs p) := by
  have key : ∀ k, k ≤ 2 → o = phaseObs k → mon p o = p + 1 ∧ o = phaseObs p := by
    intro k hk e
    rw [e, mon_phaseObs hk] at h ⊢
    by_cases hp : p = k
    · rw [if_pos hp, hp]; exact ⟨rfl, rfl⟩
    · rw [if_neg hp] at h; exact absurd rfl h
  cases o with
  | tclose => exact Or.inr (key 0 (by omega) rfl)
  | cbEnter => exact Or.inr (key 1 (by omega) rfl)
  | cbExit => exact Or.inr (key 2 (by omega) rfl)
  | msgEnter n =>
    left
    by_cases hp : p = 0
    · simp [mon, hp]
    · simp [mon, hp] at h
  | _ => exact Or.inl rfl

theorem mon_phaseObs_ne_zero {k : Nat} (hk : k ≤ 2) (p : Nat) : mon p (phaseObs k) ≠ 0 := by
  rw [mon_phaseObs hk]
  split
  · omega
  · omega

theorem mon_ne_zero {p : Nat} (hp : p ≠ 0) (o : Obs) : mon p o ≠ 0 := by
  by_cases h9 : mon p o = 9
  · rw [h9]; omega
  · rcases mon_step h9 with e | ⟨e, _⟩
    · rw [e]; exact hp
    · rw [e]; omega

theorem foldl_mon_ne_zero (l : List Obs) : ∀ p, p ≠ 0 → l.foldl mon p ≠ 0 := by
  induction l with
  | nil => intro p hp; exact hp
  | cons o l ih => intro p hp; exact ih _ (mon_ne_zero hp o)

theorem mon_mono (p : Nat) (o : Obs) (h : mon p o ≠ 9) : p ≤ mon p o := by
  rcases mon_step h with e | ⟨e, _⟩
  · omega
  · omega

theorem mon_head_ok {o : Obs} {l : List Obs} {p : Nat} (h : (o :: l).foldl mon p ≠ 9) : mon p o ≠ 9 := by
  intro h9
  apply h
  simp [List.foldl, h9, foldl_mon_sink]

theorem foldl_mon_mono (l : List Obs) : ∀ p, l.foldl mon p ≠ 9 → p ≤ l.foldl mon p := by
  induction l with
  | nil => intro p _; exact Nat.le_refl _
  | cons o l ih =>
    intro p h
    exact Nat.le_trans (mon_mono p o (mon_head_ok h)) (ih _ h)

theorem foldl_mon_prefix_ok (l1 l2 : List Obs) (p : Nat) (h : (l1 ++ l2).foldl mon p ≠ 9) : l1.foldl mon p ≠ 9 := by
  intro h9
  apply h
  rw [List.foldl_append, h9, foldl_mon_sink]

theorem count_phaseObs {k : Nat} (hk : k ≤ 2) (l : List Obs) : ∀ p, l.foldl mon p ≠ 9 →
    (p ≤ k → l.count (phaseObs k) ≤ 1) ∧ (k < p → l.count (phaseObs k) = 0) := by
  induction l with
  | nil => intro p _; simp
  | cons o l ih =>
    intro p h
    have h1 := mon_head_ok h
    have ih' := ih (mon p o) h
    have hm := mon_mono p o h1
    by_cases ho : o = phaseObs k
    · subst ho
      rw [mon_phaseObs hk] at h1 ih'
      have hp : p = k := by
        by_cases hp : p = k
        · exact hp
        · rw [if_neg hp] at h1; exact absurd rfl h1
      rw [if_pos hp] at ih'
      have := ih'.2 (by omega)
      simp [this, hp]
    · have hc : (o :: l).count (phaseObs k) = l.count (phaseObs k) := by
        simp [List.count_cons, ho]
      rw [hc]
      constructor
      · intro hp
        by_cases h2 : mon p o ≤ k
        · exact ih'.1 h2
        · rw [ih'.2 (by omega)]; omega
      · intro hp
        exact ih'.2 (by omega)

theorem mem_phaseObs {k : Nat} (l : List Obs) : ∀ p, p ≤ k → l.foldl mon p ≠ 9 → k < l.foldl mon p → phaseObs k ∈ l := by
  induction l with
  | nil => intro p hp _ h; simp at h; omega
  | cons o l ih =>
    intro p hp h9 h
    rcases mon_step (mon_head_ok h9) with e | ⟨e, eo⟩
    · exact List.mem_cons_of_mem _ (ih _ (by omega) h9 h)
    · by_cases hpk : p = k
      · rw [eo, hpk]; exact List.mem_cons_self
      · exact List.mem_cons_of_mem _ (ih _ (by omega) h9 h)

theorem tclose_mem_of_phase (l : List Obs) (h9 : l.foldl mon 0 ≠ 9) (h : 1 ≤ l.foldl mon 0) : Obs.tclose ∈ l :=
  mem_phaseObs (k := 0) l 0 (Nat.le_refl 0) h9 h

/-- the close callback is entered only after the transport has been closed, and returns only after it was entered: the close
    observable of phase `k + 1` is preceded by that of phase `k` -/
theorem phaseObs_before {k : Nat} (hk : k + 1 ≤ 2) (l l1 l2 : List Obs) (h : monRun l ≠ 9)
    (e : l = l1 ++ phaseObs (k + 1) :: l2) : phaseObs k ∈ l1 := by
  subst e
  have hp : (l1 ++ [phaseObs (k + 1)]).foldl mon 0 ≠ 9 := by
    apply foldl_mon_prefix_ok _ l2
    simpa [monRun] using h
  rw [List.foldl_append, List.foldl_cons, List.foldl_nil, mon_phaseObs hk] at hp
  have h1 : l1.foldl mon 0 = k + 1 := by
    by_cases h1 : l1.foldl mon 0 = k + 1
    · exact h1
    · rw [if_neg h1] at hp; exact absurd rfl hp
  exact mem_phaseObs l1 0 (by omega) (by omega) (by omega)

theorem no_msgEnter_after_tclose (l l1 l2 : List Obs) (n : Nat) (h : monRun l ≠ 9)
    (e : l = l1 ++ Obs.msgEnter n :: l2) : Obs.tclose ∉ l1 ∧ Obs.cbEnter ∉ l1 := by
  subst e
  have hp : (l1 ++ [Obs.msgEnter n]).foldl mon 0 ≠ 9 := by
    apply foldl_mon_prefix_ok _ l2
    simpa [monRun] using h
  rw [List.foldl_append] at hp
  have h1 : l1.foldl mon 0 = 0 := by
    by_cases h1 : l1.foldl mon 0 = 0
    · exact h1
    · simp [List.foldl, mon, h1] at hp
  have key : ∀ (o : Obs), (o = .tclose ∨ o = .cbEnter) → o ∉ l1 := by
    intro o ho hmem
    obtain ⟨a, b, hab⟩ := List.append_of_mem hmem
    rw [hab, List.foldl_append] at h1
    have : mon (a.foldl mon 0) o ≠ 0 := by
      rcases ho with rfl | rfl
      · exact mon_phaseObs_ne_zero (k := 0) (by omega) _
      · exact mon_phaseObs_ne_zero (k := 1) (by omega) _
    simp only [List.foldl] at h1
    exact foldl_mon_ne_zero b _ this h1
  exact ⟨key _ (Or.inl rfl), key _ (Or.inr rfl)⟩

theorem InvA.accepted {cfg : Cfg} {s : St} (i : InvA cfg s) : monRun s.trace ≠ 9 := by
  rw [i.phase]
  cases s.cstage <;> simp [phaseOf]
  split <;> omega

end NasdaqModel.Sess
