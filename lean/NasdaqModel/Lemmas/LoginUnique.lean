import NasdaqModel.Lemmas.SessionLemmas4
/-
A user task returns at most once (C11: "exactly two outcomes" — at most one per attempt).

`InvK u s`: the number of observables `ret u _` in the trace is `0` as long as user task `u` has not ended and at most `1`
afterwards.  It is inductive because `done` is absorbing for user tasks (only library tasks are re-spawned), every step that
emits `ret u _` is a step of task `u` itself (typing, `InvB.typ` / `contOk`) that ends it in the same step, and a task that
takes a step has not ended.  The close machinery is traversed once with `execClose_rule`.
-/
namespace NasdaqModel.Sess

def isRet (u : Nat) : Obs → Bool
  | .ret v _ => v == u
  | _ => false

theorem isRet_iff {u : Nat} {o : Obs} : isRet u o = true ↔ ∃ r, o = .ret u r := by
  cases o <;> simp [isRet]

def retCount (u : Nat) (l : List Obs) : Nat := (l.filter (isRet u)).length

theorem retCount_snoc (u : Nat) (l : List Obs) (o : Obs) :
    retCount u (l ++ [o]) = retCount u l + (if isRet u o = true then 1 else 0) := by
  unfold retCount
  rw [List.filter_append, List.length_append]
  by_cases h : isRet u o = true <;> simp [List.filter, h]

/-- **a user task returns once**: the number of `ret u _` in the trace is 0 while task `u` has not ended and at most 1 afterwards -/
def InvK (u : Nat) (s : St) : Prop := retCount u s.trace ≤ (if s.status (.U u) = .done then 1 else 0)

variable {u : Nat}

theorem InvK.mono {s s' : St} (hc : retCount u s'.trace = retCount u s.trace)
    (hd : s.status (.U u) = .done → s'.status (.U u) = .done) (i : InvK u s) : InvK u s' := by
  unfold InvK at *
  rw [hc]
  by_cases h : s.status (.U u) = .done
  · rw [if_pos (hd h)]; rw [if_pos h] at i; exact i
  · rw [if_neg h] at i; omega

theorem InvK.same {s s' : St} (h1 : s'.trace = s.trace) (h2 : s'.status (.U u) = s.status (.U u)) (i : InvK u s) : InvK u s' :=
  InvK.mono (s := s) (by rw [h1]) (by rw [h2]; exact id) i

theorem InvK.emit {s : St} {o : Obs} (h : isRet u o = false) (i : InvK u s) : InvK u (s.emit o) :=
  InvK.mono (s := s) (by show retCount u (s.trace ++ [o]) = _; rw [retCount_snoc, h]; simp) (fun h => h) i

theorem InvK.finish {s : St} (t : Tid) (i : InvK u s) : InvK u (s.finish t) := by
  refine InvK.mono (s := s) rfl ?_ i
  intro h
  rw [finish_status]
  split
  · rfl
  · rw [h]; simp

theorem InvK.emit_finish {s : St} {o : Obs} {t : Tid} (h : isRet u o = true → t = .U u ∧ s.status (.U u) ≠ .done)
    (i : InvK u s) : InvK u ((s.emit o).finish t) := by
  by_cases ho : isRet u o = true
  · obtain ⟨ht, hnd⟩ := h ho
    subst ht
    unfold InvK at *
    rw [if_neg hnd] at i
    have : ((s.emit o).finish (.U u)).status (.U u) = .done := by simp [finish_status]
    rw [if_pos this]
    show retCount u (s.trace ++ [o]) ≤ 1
    rw [retCount_snoc, ho]; simp; omega
  · exact (i.emit (by simpa using ho)).finish t

theorem InvK.setStatus {s : St} {t : Tid} {x : Status} (h : t = .U u → s.status (.U u) ≠ .done) (i : InvK u s) :
    InvK u (s.setStatus t x) := by
  refine InvK.mono (s := s) rfl ?_ i
  intro hd
  rw [setStatus_status]
  split
  · rename_i e; exact absurd hd (h e.symm)
  · exact hd

theorem InvK.setProg {s : St} {t : Tid} {p : Prog} (i : InvK u s) : InvK u (s.setProg t p) := i.same rfl rfl

theorem InvK.spawn {s : St} {t : Tid} {p : Prog} (h : t = .U u → s.status (.U u) ≠ .done) (i : InvK u s) : InvK u (s.spawn t p) :=
  (i.setStatus h).setProg

theorem InvK.cancelTask {s : St} (x : Tid) (i : InvK u s) : InvK u (s.cancelTask x) :=
  InvK.mono (s := s) (by rw [cancelTask_trace]) (cancelTask_done_iff s x _).mpr i

theorem InvK.wakeGetter {s : St} {t : Tid} (h : t ≠ .U u) (i : InvK u s) : InvK u (s.wakeGetter t) := by
  unfold St.wakeGetter
  split
  · exact i.setStatus (fun e => absurd e h)
  · exact i

theorem InvK.put {s : St} (m : Nat) (i : InvK u s) : InvK u (s.put m) := by
  unfold St.put
  apply InvK.wakeGetter (by simp)
  apply InvK.wakeGetter (by simp)
  exact i.same rfl rfl

theorem InvK.initiateClose {s : St} (i : InvK u s) : InvK u s.initiateClose := by
  unfold St.initiateClose
  split
  · exact i
  · exact InvK.spawn (by simp) (i.same rfl rfl)

theorem InvK.startDispatching {s : St} {cfg : Cfg} (i : InvK u s) : InvK u (s.startDispatching cfg) := by
  unfold St.startDispatching
  split
  · exact InvK.spawn (by simp) (i.same rfl rfl)
  · exact i

theorem InvK.startHeartbeats {s : St} (i : InvK u s) : InvK u s.startHeartbeats := by
  unfold St.startHeartbeats
  exact InvK.spawn (by simp) (InvK.spawn (by simp) (i.same rfl rfl))


theorem isRet_ret {u u' : Nat} {r : Res} (h : isRet u (.ret u' r) = true) : u' = u := by
  simpa [isRet] using h

theorem runCont_InvK {s : St} {t : Tid} {c : Cont} (hc : contOk t c) (hnd : t = .U u → s.status (.U u) ≠ .done)
    (i : InvK u s) : InvK u (runCont s t c) := by
  cases c with
  | readerTail =>
    simp only [contOk] at hc; subst hc
    exact InvK.setProg (InvK.setStatus (by simp) (InvK.same (s := s) rfl rfl i))
  | handlerTail n =>
    simp only [contOk] at hc; subst hc
    exact InvK.same (s := ((s.emit (.msgExit n)).setStatus .D .ready).setProg .D .dispLoop) rfl rfl
      (InvK.setProg (InvK.setStatus (by simp) (i.emit rfl)))
  | monitorTail => exact i.finish t
  | closingTail => exact i.finish t
  | userTail u' r =>
    simp only [contOk] at hc; subst hc
    apply InvK.emit_finish _ i
    intro ho
    have := isRet_ret ho
    subst this
    exact ⟨rfl, hnd rfl⟩

theorem closeTail_InvK {cfg : Cfg} {s : St} {t : Tid} {c : Cont} (hc : contOk t c) (hnd : t = .U u → s.status (.U u) ≠ .done)
    (i : InvK u s) : InvK u (closeTail cfg s t c) := by
  unfold closeTail
  simp only
  split
  · exact runCont_InvK hc hnd (InvK.same (s := s.emit .tclose) rfl rfl (i.emit rfl))
  · split
    · rename_i k _
      exact InvK.same (s := (((s.emit .tclose).emit .cbEnter).setStatus t .ready).setProg t .inClose) rfl rfl
        (InvK.setProg (InvK.setStatus hnd ((i.emit rfl).emit rfl)))
    · exact runCont_InvK hc hnd (InvK.same (s := ((s.emit .tclose).emit .cbEnter).emit .cbExit) rfl rfl (((i.emit rfl).emit rfl).emit rfl))

theorem execClose_InvK {cfg : Cfg} {t : Tid} {c : Cont} (hc : contOk t c) (pc : Nat) (s : St)
    (hnd : t = .U u → s.status (.U u) ≠ .done) (i : InvK u s) : InvK u (execClose cfg s t c pc) := by
  refine execClose_rule cfg t c (fun s' => InvK u s' ∧ (t = .U u → s'.status (.U u) ≠ .done)) (InvK u) ?_ ?_ ?_ ?_ pc s ⟨i, hnd⟩
  · rintro s' ⟨i', h'⟩; exact ⟨InvK.same (s := s') rfl rfl i', h'⟩
  · rintro s' ⟨i', h'⟩; exact ⟨InvK.same (s := s') rfl rfl i', h'⟩
  · rintro s' x pc' ⟨i', h'⟩ _ _ _
    refine InvK.same (s := ((s'.cancelTask x).setStatus t (.waitT x)).setProg t .inClose) rfl rfl ?_
    apply InvK.setProg
    apply InvK.setStatus _ (i'.cancelTask x)
    intro e hd
    exact h' e ((cancelTask_done_iff s' x _).mp hd)
  · rintro s' ⟨i', h'⟩; exact closeTail_InvK hc h' i'

theorem enterClose_InvK {cfg : Cfg} {s : St} {t : Tid} {c : Cont} (hc : contOk t c) (hnd : t = .U u → s.status (.U u) ≠ .done)
    (i : InvK u s) : InvK u (enterClose cfg s t c) := by
  unfold enterClose
  split
  · exact runCont_InvK hc hnd i
  · exact execClose_InvK hc 0 _ hnd (InvK.same (s := s) rfl rfl i)

theorem alive_not_done {x : Status} (h : alive x = true) : x ≠ .done := by
  intro e; rw [e] at h; simp [alive] at h

theorem stepInClose_InvK {cfg : Cfg} {s : St} (b : InvB s) (t : Tid) (cn : Bool) (i : InvK u s) :
    InvK u (stepInClose cfg s t cn) := by
  have hcb : ∀ k c, s.cstage = .cb t k c → contOk t c ∧ (t = .U u → s.status (.U u) ≠ .done) := by
    intro k c hs
    obtain ⟨_, hrun, cok, _⟩ := b.cb t k c hs
    refine ⟨cok, fun e => ?_⟩
    rw [← e]
    rcases hrun with h | h
    · rw [h]; simp
    · rw [h]; simp
  refine stepInClose_rule cfg s t cn (InvK u) i ?_ ?_ ?_ ?_ ?_
  · intro pc c hs
    obtain ⟨_, _, _, hal, _, cok⟩ := b.bst t pc c hs
    have hnd : t = .U u → s.status (.U u) ≠ .done := fun e => by rw [← e]; exact alive_not_done hal
    have i1 : InvK u (s.setStatus t .ready) := i.setStatus hnd
    have hnd1 : t = .U u → (s.setStatus t .ready).status (.U u) ≠ .done := by
      intro e; rw [setStatus_status]; simp [e]
    unfold resumeClose
    simp only
    apply execClose_InvK cok
    · split
      · exact hnd1
      · exact hnd1
    · split
      · exact InvK.same (s := s.setStatus t .ready) rfl rfl i1
      · exact i1
  · intro k u' r hs _
    obtain ⟨cok, hnd⟩ := hcb k _ hs
    simp only [contOk] at cok; subst cok
    apply InvK.emit_finish _ (InvK.same (s := s) rfl rfl i)
    intro ho
    have := isRet_ret ho
    subst this
    exact ⟨rfl, hnd rfl⟩
  · intro k c _ _ _
    exact InvK.finish _ (InvK.same (s := s) rfl rfl i)
  · intro c hs _
    obtain ⟨cok, hnd⟩ := hcb 0 c hs
    exact runCont_InvK cok hnd (InvK.same (s := s.emit .cbExit) rfl rfl (i.emit rfl))
  · intro k c _ _
    exact InvK.same (s := s) rfl rfl i


theorem InvK.ret_finish {s s1 : St} {a : Nat} {r : Res} (h1 : retCount u s1.trace = retCount u s.trace)
    (h2 : s1.status (.U u) = s.status (.U u))
    (hnd : s.status (.U a) ≠ .done) (i : InvK u s) : InvK u ((s1.emit (.ret a r)).finish (.U a)) := by
  apply InvK.emit_finish _ (InvK.mono (s := s) h1 (by rw [h2]; exact id) i)
  intro ho
  have := isRet_ret ho
  subst this
  exact ⟨rfl, by rw [h2]; exact hnd⟩

theorem InvK.ret_setDone {s s1 : St} {a : Nat} {r : Res} (h1 : s1.trace = s.trace) (h2 : s1.status (.U u) = s.status (.U u))
    (hnd : s.status (.U a) ≠ .done) (i : InvK u s) : InvK u ((s1.emit (.ret a r)).setStatus (.U a) .done) := by
  by_cases ho : isRet u (.ret a r) = true
  · have := isRet_ret ho
    subst this
    unfold InvK at *
    rw [if_neg hnd] at i
    have : ((s1.emit (.ret a r)).setStatus (.U a) .done).status (.U a) = .done := by simp [setStatus_status]
    rw [if_pos this]
    show retCount a (s1.trace ++ [.ret a r]) ≤ 1
    rw [retCount_snoc, ho, h1]; simp; omega
  · have hau : a ≠ u := by intro e; subst e; simp [isRet] at ho
    exact InvK.setStatus (by intro e; injection e with e; exact absurd e hau)
      (InvK.emit (by simpa using ho) (InvK.same (s := s) h1 h2 i))

theorem stepReader_InvK {cfg : Cfg} {s : St} (i : InvK u s) : InvK u (stepReader cfg s) := by
  unfold stepReader
  split
  · exact i.finish _
  · split
    · exact i
    · rename_i f rest _
      cases f with
      | msg n => exact InvK.put n (InvK.same (s := s) rfl rfl i)
      | hb => exact InvK.same (s := s) rfl rfl i
      | logout => exact enterClose_InvK (t := .R) (c := .readerTail) rfl (by simp) (InvK.same (s := s) rfl rfl i)
      | bad => exact enterClose_InvK (t := .R) (c := .readerTail) rfl (by simp) (InvK.same (s := s) rfl rfl i)

theorem dispHandle_InvK {cfg : Cfg} {s : St} (n : Nat) (i : InvK u s) : InvK u (dispHandle cfg s n) := by
  unfold dispHandle
  split
  · exact InvK.same (s := s.emit (.msgExit n)) rfl rfl (i.emit rfl)
  · exact i.setProg
  · exact enterClose_InvK (t := .D) (c := .handlerTail n) rfl (by simp) i
  · exact InvK.same (s := (s.initiateClose).emit (.msgExit n)) rfl rfl (i.initiateClose.emit rfl)
  · exact InvK.same (s := s.emit (.msgRaise n)) rfl rfl (i.emit rfl)
  · exact InvK.same (s := ((s.emit (.write .reply)).startHeartbeats).emit (.msgExit n)) rfl rfl (((i.emit rfl).startHeartbeats).emit rfl)
  · exact enterClose_InvK (t := .D) (c := .handlerTail n) rfl (by simp) (i.emit rfl)

theorem stepDisp_InvK {cfg : Cfg} {s : St} (i : InvK u s) : InvK u (stepDisp cfg s) := by
  unfold stepDisp
  split
  · exact i.finish _
  · split
    · exact i
    · split
      · exact i.setStatus (by simp)
      · exact dispHandle_InvK _ (InvK.emit rfl (InvK.same (s := s) rfl rfl i))

theorem stepMon_InvK {cfg : Cfg} {s : St} (b : Bool) (i : InvK u s) : InvK u (stepMon cfg s b) := by
  unfold stepMon
  split
  · split
    · exact InvK.same (s := s) rfl rfl i
    · exact i.emit rfl
  · split
    · exact InvK.same (s := s) rfl rfl i
    · exact enterClose_InvK (t := .M) (c := .monitorTail) rfl (by simp) i

theorem loginResume_InvK {cfg : Cfg} {s : St} {a : Nat} (hnd : s.status (.U a) ≠ .done) (i : InvK u s) :
    InvK u (loginResume cfg s (.U a) a) := by
  refine loginResume_rule (InvK u) ?_ ?_ ?_ ?_
  · intro _ _ _ s2 f
    refine InvK.ret_finish (s := s) ?_ (f.status _ (by simp) (by simp) (by simp)) hnd i
    rw [f.tr, retCount_snoc]; simp [isRet]
  · intro n _ _
    exact enterClose_InvK (c := .userTail a .refused) rfl (fun e => by injection e with e; subst e; exact hnd)
      (InvK.emit rfl (InvK.same (s := s) rfl rfl i))
  · intro _ _
    exact InvK.ret_finish (s := s) rfl rfl hnd i
  · intro _ _
    exact enterClose_InvK (c := .userTail a .cancelled) rfl (fun e => by injection e with e; subst e; exact hnd)
      (InvK.same (s := s) rfl rfl i)

theorem stepRun_InvK {cfg : Cfg} {s : St} (b : InvB s) (t : Tid) (i : InvK u s) : InvK u (stepRun cfg s t) := by
  unfold stepRun
  have i0 : InvK u { s with imm := none } := InvK.same (s := s) rfl rfl i
  have b0 : InvB { s with imm := none } := InvB.of_bcore (s := s) rfl b
  generalize ({ s with imm := none } : St) = s0 at i0 b0
  simp only
  split
  · -- a cancellation is delivered
    rename_i hst
    have hal : alive (s0.status t) = true := by rw [hst]; rfl
    have hnd : ∀ a, t = .U a → s0.status (.U a) ≠ .done := fun a e => by rw [← e, hst]; simp
    have typ := b0.typ t hal
    split
    · exact InvK.finish _ (i0.emit rfl)
    · exact i0.finish _
    · rename_i a hp
      rw [hp] at typ
      have htu := allowed_recvWait typ; subst htu
      split
      · exact InvK.ret_finish (s := s0) rfl rfl (hnd a rfl) i0
      · exact InvK.ret_finish (s := s0) rfl rfl (hnd a rfl) i0
    · rename_i a hp
      rw [hp] at typ
      have htu := allowed_loginWait typ; subst htu
      split
      · exact InvK.ret_finish (s := s0) rfl rfl (hnd a rfl) i0
      · refine enterClose_InvK (c := .userTail a .cancelled) rfl ?_ ?_
        · intro e; injection e with e; subst e; simp [setStatus_status]
        · exact InvK.setStatus (fun e => by injection e with e; subst e; exact hnd _ rfl) (InvK.same (s := s0) rfl rfl i0)
    · exact stepInClose_InvK b0 _ _ i0
    · exact i0.finish _
  · -- the task runs
    rename_i hst
    have hal : alive (s0.status t) = true := by rw [hst]; rfl
    have hnd : ∀ a, t = .U a → s0.status (.U a) ≠ .done := fun a e => by rw [← e, hst]; simp
    have typ := b0.typ t hal
    split
    · split
      · exact stepReader_InvK i0
      · exact i0
    · split
      · exact stepDisp_InvK i0
      · exact i0
    · split
      · exact InvK.same (s := (s0.emit (.msgExit _)).setProg t .dispLoop) rfl rfl ((i0.emit rfl).setProg)
      · exact i0.setProg
    · exact i0.setProg
    · split
      · exact stepMon_InvK _ i0
      · split
        · exact stepMon_InvK _ i0
        · exact i0
    · rename_i c hp
      rw [hp] at typ
      obtain ⟨h1, h2⟩ := allowed_closeEntry typ
      subst h1; subst h2
      exact enterClose_InvK (t := .C) (c := .closingTail) rfl (by simp) i0
    · exact stepInClose_InvK b0 _ _ i0
    · split
      · exact i0.setStatus (hnd u)
      · split
        · exact i0
        · exact InvK.finish _ (InvK.same (s := s0) rfl rfl i0)
    · rename_i a hp
      rw [hp] at typ
      have htu := allowed_recvWait typ; subst htu
      split
      · exact InvK.ret_finish (s := s0) rfl rfl (hnd a rfl) i0
      · split
        · exact InvK.ret_finish (s := s0) rfl rfl (hnd a rfl) i0
        · exact InvK.ret_finish (s := s0) rfl rfl (hnd a rfl) i0
    · rename_i a hp
      rw [hp] at typ
      have htu := allowed_loginWait typ; subst htu
      exact loginResume_InvK (hnd a rfl) i0
    · exact i0
  · exact i0

theorem startRecv_InvK {s : St} (a : Nat) (isLogin : Bool) (hnd : s.status (.U a) ≠ .done) (i : InvK u s) :
    InvK u (startRecv s a isLogin) := by
  have hnd' : Tid.U a = .U u → s.status (.U u) ≠ .done := fun e => by injection e with e; subst e; exact hnd
  unfold startRecv
  split
  · exact i
  · split
    · exact InvK.ret_setDone (s := s) rfl rfl hnd i
    · split
      · exact InvK.setProg (InvK.setStatus hnd' (InvK.same (s := s) rfl rfl i))
      · split
        · split
          · exact InvK.ret_setDone (s := s) rfl rfl hnd i
          · exact InvK.ret_setDone (s := s) rfl rfl hnd i
        · refine InvK.setProg (InvK.setStatus ?_ (InvK.spawn (by simp) (InvK.same (s := s) rfl rfl i)))
          intro e; injection e with e; subst e
          simpa [St.spawn, St.setStatus, St.setProg] using hnd

/-- **`InvK` is kept by every step**, except the synchronous `receive_msg_nowait()` labelled with the same `u`
    (it reports its result under the label `u` without being a task) -/
theorem step_InvK {cfg : Cfg} {s : St} (b : InvB s) (ev : Ev) (hev : ev ≠ .callRecvNowait u) (i : InvK u s) :
    InvK u (step cfg s ev) := by
  cases ev with
  | connect =>
    simp only [step]
    split
    · exact i
    · split
      · exact InvK.startDispatching (InvK.spawn (by simp) i)
      · exact InvK.spawn (by simp) i
  | data fs => exact InvK.same (s := s) rfl rfl i
  | eof => exact i.initiateClose
  | run t =>
    simp only [step]
    split
    · exact stepRun_InvK b t i
    · exact i
  | callClose a =>
    simp only [step]
    split
    · exact i
    · rename_i hab
      have hab' : s.status (.U a) = .absent := by simpa using hab
      refine enterClose_InvK (c := .userTail a .ok) rfl ?_ ?_
      · intro e; injection e with e; subst e; simp [St.setProg, St.setStatus]
      · refine InvK.setProg (InvK.setStatus ?_ i)
        intro e; injection e with e; subst e; rw [hab']; simp
  | callInitiateClose => exact i.initiateClose
  | callLogout => exact InvK.initiateClose (InvK.same (s := s.emit (.write .logout)) rfl rfl (i.emit rfl))
  | callRecv a =>
    simp only [step]
    split
    · exact i
    · rename_i hab
      have hab' : s.status (.U a) = .absent := by simpa using hab
      exact startRecv_InvK a false (by rw [hab']; simp) i
  | callRecvNowait a =>
    have hau : a ≠ u := fun e => hev (by rw [e])
    have hr : ∀ r, isRet u (.ret a r) = false := by intro r; simp [isRet, hau]
    simp only [step]
    split
    · exact i
    · split
      · exact i.emit (hr _)
      · split
        · exact InvK.emit (hr _) (InvK.same (s := s) rfl rfl i)
        · split <;> exact i.emit (hr _)
  | callLogin a =>
    simp only [step]
    split
    · exact i
    · rename_i hab
      have hab' : s.status (.U a) = .absent := by
        simp only [Bool.or_eq_true, not_or] at hab
        simpa using hab.1.1
      exact startRecv_InvK a true (by show s.status (.U a) ≠ .done; rw [hab']; simp)
        (InvK.same (s := s.emit (.write .login)) rfl rfl (i.emit rfl))
  | callSend => exact InvK.same (s := s.emit (.write .data)) rfl rfl (i.emit rfl)
  | cancel a => exact i.cancelTask _

theorem InvK.init (u : Nat) : InvK u {} := by simp [InvK, retCount]

/-- **Every user task returns at most once**, in every reachable state (provided the label `u` is not also used for a
    synchronous `receive_msg_nowait()`). -/
theorem runEvs_InvK (cfg : Cfg) (u : Nat) (evs : List Ev) (h : ∀ ev ∈ evs, ev ≠ .callRecvNowait u) :
    InvK u (runEvs cfg {} evs) := by
  have : ∀ (s : St), InvA cfg s → InvR s → InvB s → InvK u s → InvK u (runEvs cfg s evs) := by
    induction evs with
    | nil => intro s _ _ _ i; exact i
    | cons ev evs ih =>
      intro s a r b i
      exact ih (fun e he => h e (List.mem_cons_of_mem _ he)) _ (step_InvA a ev) (step_InvR a r ev) (step_InvB a r b ev)
        (step_InvK b ev (h ev (by simp)) i)
  exact this _ (InvA.init cfg) InvR.init InvB.init (InvK.init u)

end NasdaqModel.Sess
