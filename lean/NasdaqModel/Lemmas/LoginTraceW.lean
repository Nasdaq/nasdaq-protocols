import NasdaqModel.Lemmas.LoginTraceU
/-
Login at trace level (C11), part 4: the invariants `InvW`, `InvT`, `InvU` are kept by every step of the session machine.

One walk over the transition functions serves all three: `Keeps … s s'` says that the transition keeps `InvW`, keeps `InvT` if it
held, and keeps `InvU` if it and `InvT` held.  Each way a transition goes on is looked at once, with the facts about it (which task
runs, the specification of `close()`, …) derived once; `step_W`, `runEvs_InvW`, `runEvs_InvT` are its components.
-/
namespace NasdaqModel.Sess

variable {cfg : Cfg} {u : Nat} {sd lo can lg sp sp2 : Prop}

/-- the transition from `s` to `s'` keeps the login invariants: `InvW` outright, `InvT` if it held before, `InvU` if it and `InvT`
    held before and `h` holds (what `InvU` asks of the step: see `okEv`, `AcceptCond`); `sd lo` are the parameters of `InvT`,
    `can lg sp sp2` those of `InvU` -/
structure Keeps (cfg : Cfg) (u : Nat) (sd lo can lg sp sp2 h : Prop) (s s' : St) : Prop where
  w : InvW s'
  t : InvT cfg sd lo s → InvT cfg sd lo s'
  caller : InvT cfg sd lo s → InvU cfg u can lg sp sp2 s → h → InvU cfg u can lg sp sp2 s'

theorem Keeps.refl {h : Prop} {s : St} (w : InvW s) : Keeps cfg u sd lo can lg sp sp2 h s s := ⟨w, id, fun _ j _ => j⟩

theorem Keeps.trans {h : Prop} {s s1 s2 : St} (k1 : Keeps cfg u sd lo can lg sp sp2 h s s1)
    (k2 : Keeps cfg u sd lo can lg sp sp2 h s1 s2) : Keeps cfg u sd lo can lg sp sp2 h s s2 :=
  ⟨k2.w, fun i => k2.t (k1.t i), fun i j hh => k2.caller (k1.t i) (k1.caller i j hh) hh⟩

theorem Keeps.same {h : Prop} {s s' : St} (w : InvW s) (hw : viewW s' = viewW s) (ht : viewT s' = viewT s)
    (hu : viewU u s' = viewU u s) : Keeps cfg u sd lo can lg sp sp2 h s s' :=
  ⟨w.of_view hw, fun i => i.same ht, fun _ j _ => j.same hu⟩

/-- one observable that none of the three invariants speaks about is emitted -/
theorem Keeps.emit {h : Prop} {s s' : St} {o : Obs} (w : InvW s) (hw : viewW s' = viewW s)
    (ht : viewT s' = viewT (s.emit o)) (hu : viewU u s' = viewU u (s.emit o)) (ho : boring o) (hou : ∀ r, o ≠ .ret u r) : Keeps cfg u sd lo can lg sp sp2 h s s' :=
  ⟨w.of_view hw, fun i => i.emit ht ho, fun _ j _ => j.emit hu hou⟩

theorem Keeps.enter {h : Prop} {s s1 s' : St} {t : Tid} {c : Cont} (k : Keeps cfg u sd lo can lg sp sp2 h s s1)
    (e : EnterSpec t c s1 s') (hcok : contOk t c) (hc : ∀ r, c = .userTail u r → r = .refused ∨ (r = .cancelled ∧ can))
    (hst : s1.status t = .ready) (hpt : t = .U u → s1.prog t ≠ .recvWait u) : Keeps cfg u sd lo can lg sp sp2 h s s' :=
  ⟨k.w.enter e, fun i => (k.t i).enter e, fun i j hh => (k.caller i j hh).enter e rfl rfl rfl rfl hcok hc hst hpt⟩

/-- a step of the task that is inside `close()`; `x`: a cancellation is delivered to it -/
theorem stepInClose_keeps {h : Prop} {s : St} (a : InvA cfg s) (b : InvB s) (w : InvW s) (t : Tid) (x : Bool)
    (hst : s.status t = if x then .cancelled else .ready) (hp : s.prog t = .inClose) :
    Keeps cfg u sd lo can lg sp sp2 h s (stepInClose cfg s t x) := by
  have hrun : s.status t = .ready ∨ s.status t = .cancelled := by cases x <;> simp [hst]
  rcases stepInClose_spec (cfg := cfg) b t x hrun (fun hx => by rw [hst, hx]; rfl) with h | ⟨c, hc, hcok, e, f⟩
  · rw [h]; exact Keeps.refl w
  · have k := e.closeStep a hc f
    exact ⟨w.close k e.busy, fun i => i.close k e.disp, fun _ j _ => j.close hcok (fun r hr => j.cont r (by rw [hc, hr]))
      (by rcases hrun with h | h <;> rw [h] <;> rfl) (fun _ => by rw [hp]; simp) (fun hx => by rw [hst, hx]; rfl) k⟩

theorem stepReader_keeps {h : Prop} {s : St} (a : InvA cfg s) (b : InvB s) (w : InvW s) (hst : s.status .R = .ready) :
    Keeps cfg u sd lo can lg sp sp2 h s (stepReader cfg s) := by
  unfold stepReader
  split
  · exact ⟨w.finish .R (fun _ => ⟨by simp, by simp⟩), fun i => i.finish .R (by rw [hst]; rfl),
      fun _ j _ => j.finish (by simp) (fun h => waits_of_invB b h) (by simp)⟩
  · split
    · exact Keeps.refl w
    · have p : ClosePre s .R := ClosePre.of_inv a b hst (c := .readerTail) rfl
      split
      · exact ⟨InvW.put (by exact w.of_view rfl) _, fun i => InvT.put (by exact i.same rfl) _, fun _ j _ => InvU.put (by exact j.same rfl) _⟩
      · exact Keeps.same w rfl rfl rfl
      -- `logout` and a malformed frame: the reader closes the session
      all_goals
        exact Keeps.enter (s1 := { s with buf := _, consumed := _ }) (by exact Keeps.same w rfl rfl rfl) (enterClose_spec (p.same rfl rfl rfl) rfl) rfl
          (by simp) hst (by simp)

theorem dispHandle_keeps {h : Prop} {s : St} (w : InvW s) (p : ClosePre s .D) (n : Nat) (hD : s.status .D = .ready) :
    Keeps cfg u sd lo can lg sp sp2 h s (dispHandle cfg s n) := by
  -- the reply of a server's login handler: the dispatcher exists, so something was written before (client configuration)
  have wreply : Keeps cfg u sd lo can lg sp sp2 h s (s.emit (.write .reply)) := by
    refine ⟨w.of_view rfl, fun i => i.emit_write .reply rfl (fun hdc => Or.inr ?_) (by simp) (by simp), fun _ j _ => j.emit rfl (by simp)⟩
    apply Classical.byContradiction
    intro hno
    have := (i.fresh hdc (fun k hk => hno ⟨k, hk⟩)).2
    rw [hD] at this; simp at this
  unfold dispHandle
  split
  · exact Keeps.emit w rfl rfl rfl (by simp [boring]) (by simp)
  · exact Keeps.same w rfl rfl rfl
  · exact (Keeps.refl w).enter (enterClose_spec p rfl) rfl (by simp) hD (by simp)
  · have w1 := w.initiateClose
    exact ⟨w1.of_view rfl, fun i => i.initiateClose.emit rfl (by simp [boring]), fun _ j _ => j.initiateClose.emit rfl (by simp)⟩
  · exact Keeps.emit w rfl rfl rfl (by simp [boring]) (by simp)
  · -- the views are compared by unfolding both states: the state with the monitors started is kept opaque
    have k : Keeps cfg u sd lo can lg sp sp2 h s (s.emit (.write .reply)).startHeartbeats :=
      ⟨wreply.w.startHeartbeats, fun i => (wreply.t i).startHeartbeats ⟨.reply, by simp [St.emit]⟩,
        fun i j hh => (wreply.caller i j hh).startHeartbeats⟩
    generalize (s.emit (.write .reply)).startHeartbeats = s1 at k ⊢
    have w1 := k.w
    exact k.trans (Keeps.emit w1 rfl rfl rfl (by simp [boring]) (by simp))
  · exact wreply.enter (enterClose_spec (p.same rfl rfl rfl) rfl) rfl (by simp) hD (by simp)

theorem stepDisp_keeps {h : Prop} {s : St} (a : InvA cfg s) (b : InvB s) (w : InvW s) (hst : s.status .D = .ready) :
    Keeps cfg u sd lo can lg sp sp2 h s (stepDisp cfg s) := by
  unfold stepDisp
  split
  · exact ⟨w.finish .D (fun _ => ⟨by simp, by simp⟩), fun i => i.finish .D (by rw [hst]; rfl),
      fun _ j _ => j.finish (by simp) (fun h => waits_of_invB b h) (by simp)⟩
  · split
    · exact Keeps.refl w
    · rename_i hbusy
      simp only [Bool.or_eq_true, not_or, Bool.not_eq_true] at hbusy
      split
      · refine ⟨w.of_view (by simp [viewW, St.setStatus, alive, hst]), fun i => ?_, fun _ j _ => j.same rfl⟩
        refine i.ext [] (by simp [St.setStatus]) boring_nil (Or.inr ⟨rfl, rfl⟩) (fun a b => Or.inl ⟨a, b⟩)
          (fun _ ha hp => Or.inl ⟨ha, hp⟩) id (Or.inr ⟨id, ?_⟩)
        intro h; rw [hst] at h; simp at h
      · rename_i n q _
        have p : ClosePre s .D := ClosePre.of_inv a b hst (c := .handlerTail 0) rfl
        have k : Keeps cfg u sd lo can lg sp sp2 h s (({ s with queue := q, gone := s.gone ++ [(n, true)] } : St).emit (.msgEnter n)) :=
          ⟨w.of_view rfl, fun i => i.snoc (.msgEnter n) _ rfl id (fun _ _ => ⟨hbusy.1, w.dalive (by rw [hst]; rfl)⟩) (by simp) (by simp),
            fun _ j _ => j.emit rfl (by simp)⟩
        exact k.trans (dispHandle_keeps k.w (p.same rfl rfl rfl) _ hst)

theorem stepMon_keeps {h : Prop} {s : St} (a : InvA cfg s) (b : InvB s) (w : InvW s) (isLocal : Bool)
    (hst : s.status (if isLocal then .L else .M) = .ready) : Keeps cfg u sd lo can lg sp sp2 h s (stepMon cfg s isLocal) := by
  unfold stepMon
  split
  · rename_i hl; subst hl
    simp only [if_true] at hst
    split
    · exact Keeps.same w rfl rfl rfl
    · -- a heartbeat is written: the monitor exists, so something was written before (client configuration)
      refine ⟨w.of_view rfl, fun i => i.emit_write .hb rfl (fun hdc => Or.inr ?_) (by simp) (by simp), fun _ j _ => j.emit rfl (by simp)⟩
      apply Classical.byContradiction
      intro hno
      have := (i.fresh hdc (fun k hk => hno ⟨k, hk⟩)).1
      rw [hst] at this; simp at this
  · rename_i hl
    have hl' : isLocal = false := by simpa using hl
    subst hl'
    simp only [Bool.false_eq_true, if_false] at hst
    split
    · exact Keeps.same w rfl rfl rfl
    · exact (Keeps.refl w).enter (enterClose_spec (ClosePre.of_inv a b hst (c := .monitorTail) rfl) rfl) rfl (by simp) hst (by simp)

theorem loginResume_keeps {s : St} (a : InvA cfg s) (b : InvB s) (w : InvW s) (x : Nat) (hst : s.status (.U x) = .ready)
    (hp : s.prog (.U x) = .loginWait x) :
    Keeps cfg u sd lo can lg sp sp2 (sp → ¬ AcceptCond s (.run (.U x)) u) s (loginResume cfg s (.U x) x) := by
  have hal : alive (s.status (.U x)) = true := by rw [hst]; rfl
  have hrx : rcving s x := ⟨hal, Or.inl hp⟩
  have p : ClosePre s (.U x) := ClosePre.of_inv a b hst (c := .userTail x .refused) rfl
  have hnrecv : s.prog (.U x) ≠ .recvWait x := by rw [hp]; simp
  have hnr : x ≠ u → ¬ (s.status (.U u) = .ready ∧ s.prog (.U u) = .loginWait u) := fun h => not_resuming w hrx h
  have hne : x ≠ u → Tid.U x ≠ Tid.U u := fun h e => h (by injection e)
  have hcx : x ≠ u → ∀ (r0 : CRes) r, Cont.userTail x r0 = .userTail u r → r = .refused ∨ (r = .cancelled ∧ can) := by
    intro h r0 r e; injection e with e _; exact absurd e h
  refine loginResume_rule (Keeps cfg u sd lo can lg sp sp2 _ s) ?_ ?_ ?_ ?_
  · -- accepted
    intro hv hopen hct s2 f
    have hus : ∀ y, s2.status (.U y) = s.status (.U y) := fun y => f.status _ (by simp) (by simp) (by simp)
    have hup : ∀ y, s2.prog (.U y) = s.prog (.U y) := fun y => f.prog _ (by simp) (by simp) (by simp)
    refine ⟨w.accept x hrx hus hup f.closed f.qclosed f.monL f.monM ?_, fun i => i.accept x (i.lw x hal hp) f.tr hus hup f.closed f.busy ?_,
      fun tt j hsp => ?_⟩
    · intro hD
      rcases f.disp with ⟨h, _⟩ | ⟨h1, h2⟩
      · exact Or.inl h
      · rw [h2] at hD; rw [h1, f.closed]; exact w.dalive hD
    · rcases f.disp with ⟨h, _, h'⟩ | ⟨h, _⟩
      · exact Or.inl ⟨h, h'⟩
      · exact Or.inr h
    · by_cases hxu : x = u
      · subst hxu
        exact j.accept a w tt hst hp hopen (fun h => hsp h ⟨rfl, hst, hp, hv, hopen, hct⟩) f.tr (hup x) f.cstage f.closed f.monL f.monM
      · have i1 : InvU cfg u can lg sp sp2 (s2.emit (.ret x .ok)) := by
          refine j.ext [.loginReply 0, .ret x .ok] ?_ ?_ (hup u) (hus u) (by rw [← f.cstage]; rfl) (by rw [← f.closed]; exact id) ?_ ?_ ?_
            (by rw [← f.qclosed]; exact id) (fun h1 h2 _ => absurd ⟨h1, h2⟩ (hnr hxu))
          · show s2.trace ++ [.ret x .ok] = _
            rw [f.tr, List.append_assoc]; rfl
          · intro o ho
            simp only [List.mem_cons, List.mem_nil_iff, or_false] at ho
            rcases ho with rfl | rfl
            · simp
            · exact ret_ne hxu _
          · intro h; have h' : s2.status .L = .absent := h; rw [f.monL] at h'; simp at h'
          · intro h; have h' : s2.status .M = .absent := h; rw [f.monM] at h'; simp at h'
          · intro _ h; left; have h' : s2.status .V = .cancelled := h; rw [f.status .V (by simp) (by simp) (by simp)] at h'; exact h'
        refine i1.finish (hne hxu) ?_ (by intro e; simp at e)
        intro h
        have h' : s2.status (.U u) = .waitT (.U x) := h
        rw [hus] at h'
        rcases waits_of_invB b h' with h'' | h''
        · exact Or.inl h''
        · right; show s2.prog (.U u) = _; rw [hup]; exact h''
  · -- another reply, or the session is closing
    intro n _ _
    have e := enterClose_spec (cfg := cfg) (s := ({ s with vres := none, rcvBusy := false, gone := s.gone ++ [(n, true)] } : St).emit (.loginReply n))
      (c := .userTail x .refused) (p.same rfl rfl rfl) rfl
    refine ⟨w.leave_enter x hrx e (fun _ _ => rfl) rfl,
      fun i => InvT.enter (i.snoc (.loginReply n) false rfl (by simp) (by simp) (fun _ _ => i.lw x hal hp) (by simp)) e, fun _ j _ => ?_⟩
    by_cases hxu : x = u
    · subst hxu
      have i1 : InvU cfg x can lg sp sp2 (s.emit (.loginReply n)) := j.emit rfl (by simp)
      exact i1.enter e rfl rfl rfl rfl rfl (by intro r e; injection e with _ e; exact Or.inl e.symm) hst (fun _ => hnrecv)
    · have i1 : InvU cfg u can lg sp sp2 (({ s with vres := none, rcvBusy := false, gone := s.gone ++ [(n, true)] } : St).emit (.loginReply n)) :=
        j.ext [.loginReply n] rfl (uboring_one (by simp)) rfl rfl rfl id id id (fun _ h => Or.inl h) id
          (fun h1 h2 _ => absurd ⟨h1, h2⟩ (hnr hxu))
      exact i1.enter e rfl rfl rfl rfl rfl (hcx hxu _) hst (fun e => absurd e (hne hxu))
  · -- the queue was stopped
    intro _ hq
    refine ⟨w.leave_finish x hrx (s1 := ({ s with rcvBusy := false } : St).emit (.ret x .refused)) rfl rfl rfl rfl rfl,
      fun i => i.ret_finish (.U x) (.ret x .refused) ⟨by simp, by simp, by simp⟩ hal
        (s1 := ({ s with rcvBusy := false } : St).emit (.ret x .refused)) rfl rfl, fun _ j _ => ?_⟩
    by_cases hxu : x = u
    · subst hxu
      exact j.self_refused hal (w.qc hq) (s1 := ({ s with rcvBusy := false } : St).emit (.ret x .refused)) rfl rfl rfl rfl rfl
    · exact j.other_leave' b hxu _
  · -- the caller was cancelled
    intro hv hq
    have e := enterClose_spec (cfg := cfg) (s := ({ s with rcvBusy := false } : St)) (c := .userTail x .cancelled) (p.same rfl rfl rfl) rfl
    refine ⟨w.leave_enter x hrx e (fun _ _ => rfl) rfl, fun i => InvT.enter ?_ e, fun _ j _ => ?_⟩
    · exact i.ext [] (by simp) boring_nil (Or.inr ⟨rfl, rfl⟩) (fun h => by simp at h) (fun _ ha hp => Or.inl ⟨ha, hp⟩) id (Or.inr ⟨id, id⟩)
    · by_cases hxu : x = u
      · subst hxu
        have hcan : can := (j.noreply hst hp hv).resolve_left (by rw [hq]; simp)
        exact j.enter e rfl rfl rfl rfl rfl (by intro r e; injection e with _ e; exact Or.inr ⟨e.symm, hcan⟩) hst (fun _ => hnrecv)
      · exact j.enter e rfl rfl rfl rfl rfl (hcx hxu _) hst (fun e => absurd e (hne hxu))

theorem stepRun_keeps {s : St} (a : InvA cfg s) (b : InvB s) (w : InvW s) (t : Tid) :
    Keeps cfg u sd lo can lg sp sp2 (sp → ¬ AcceptCond s (.run t) u) s (stepRun cfg s t) := by
  -- a cancelled task of an open session is not a monitor
  have notLM : ∀ {s0 : St} {t : Tid}, InvW s0 → s0.status t = .cancelled → s0.closed = false → t ≠ .L ∧ t ≠ .M := by
    intro s0 t i0 hst hc
    obtain ⟨hL, hM⟩ := i0.mons hc
    constructor
    · intro e; subst e; rcases hL with h | h <;> rw [h] at hst <;> simp at hst
    · intro e; subst e; rcases hM with h | h <;> rw [h] at hst <;> simp at hst
  have k0 : Keeps cfg u sd lo can lg sp sp2 (sp → ¬ AcceptCond s (.run t) u) s { s with imm := none } := Keeps.same w rfl rfl rfl
  refine k0.trans (stepRun_rule (fun s0 => InvA cfg s0 ∧ InvB s0 ∧ InvW s0)
    (fun s0 s' => Keeps cfg u sd lo can lg sp sp2 (sp → ¬ AcceptCond s0 (.run t) u) s0 s')
    ⟨InvA.of_core (s := s) rfl a, InvB.of_bcore (s := s) rfl b, k0.w⟩ (fun s0 p hal => .of_allowed (p.2.1.typ t hal))
    (fun _ p => Keeps.refl p.2.2) 
    ?cHandler ?cVget ?cRecv ?cLoginEoq ?cLoginClose ?cInClose ?cOther ?rReader ?rDisp ?rHandler ?rHandlerAwait ?rMonStart ?rMonL ?rMonM ?rEntry ?rInClose ?rVgetWait ?rVget ?rRecv ?rRecvNone ?rLogin)
  case cHandler =>
    intro s0 n k ⟨_, b0, w0⟩ _ hst _
    exact ⟨InvW.finish (s := s0.emit _) (w0.of_view rfl) .D (notLM (s0 := s0) w0 hst),
      fun i => InvT.finish (s := s0.emit _) (i.emit rfl (by simp [boring])) .D (by show alive (s0.status .D) = true; rw [hst]; rfl),
      fun _ j _ => InvU.finish (s := s0.emit (.msgAbandon n)) (j.emit rfl (by simp)) (by simp) (fun h => waits_of_invB b0 h) (by simp)⟩
  case cVget =>
    intro s0 ⟨_, _, w0⟩ _ hst _
    exact ⟨w0.finish .V (notLM w0 hst), fun i => i.finish .V (by rw [hst]; rfl),
      fun _ j _ => j.finish (by simp) (fun _ => Or.inl rfl) (fun _ h1 _ => j.vcan h1 hst)⟩
  case cRecv =>
    intro s0 x r ⟨_, b0, w0⟩ _ hst hp _
    have hal : alive (s0.status (.U x)) = true := by rw [hst]; rfl
    exact ⟨w0.leave_finish x ⟨hal, Or.inr hp⟩ (s1 := ({ s0 with vres := none, rcvBusy := false, queue := _ } : St).emit (.ret x r))
        rfl rfl rfl rfl rfl,
      fun i => i.ret_finish (.U x) _ ⟨by simp, by simp, by simp⟩ hal rfl rfl,
      fun _ j _ => j.other_leave b0 w0 ⟨hal, Or.inr hp⟩ (fun e => j.nrecv (e ▸ hp)) _ _ _⟩
  case cLoginEoq =>
    intro s0 x ⟨_, b0, w0⟩ _ hst hp hq
    have hal : alive (s0.status (.U x)) = true := by rw [hst]; rfl
    refine ⟨w0.leave_finish x ⟨hal, Or.inl hp⟩ (s1 := ({ s0 with vres := none, rcvBusy := false, queue := _ } : St).emit (.ret x .refused))
        rfl rfl rfl rfl rfl,
      fun i => i.ret_finish (.U x) _ ⟨by simp, by simp, by simp⟩ hal rfl rfl, fun _ j _ => ?_⟩
    by_cases hxu : x = u
    · subst hxu
      exact j.self_refused hal (w0.qc hq) (s1 := ({ s0 with vres := none, rcvBusy := false, queue := _ } : St).emit (.ret x .refused))
        rfl rfl rfl rfl rfl
    · exact j.other_leave b0 w0 ⟨hal, Or.inl hp⟩ hxu _ _ _
  case cLoginClose =>
    intro s0 x ⟨a0, b0, w0⟩ _ hst hp _
    have hal : alive (s0.status (.U x)) = true := by rw [hst]; rfl
    have hrx : rcving s0 x := ⟨hal, Or.inl hp⟩
    have e := enterClose_spec (cfg := cfg) (c := .userTail x .cancelled)
      (ClosePre.of_cancelled a0 b0 (s' := ({ s0 with vres := none, rcvBusy := false, queue := s0.vres.toList ++ s0.queue } : St).setStatus (.U x) .ready)
        (c := .userTail x .cancelled) rfl (stageOf_user x) rfl rfl (fun _ => rfl)) rfl
    refine ⟨w0.leave_enter x hrx e (fun y hy => by simp [St.setStatus, hy]) rfl, fun i => InvT.enter ?_ e, fun _ j _ => ?_⟩
    · refine i.ext [] (by simp [St.setStatus]) boring_nil (Or.inr ⟨rfl, rfl⟩) (fun h => by simp [St.setStatus] at h) ?_ id
        (Or.inr ⟨by simp [St.setStatus], by simp [St.setStatus]⟩)
      intro a' ha hp'
      by_cases hau : a' = x
      · subst hau; exact Or.inl ⟨hal, hp'⟩
      · have hne : Tid.U a' ≠ Tid.U x := by intro e; injection e with e; exact hau e
        simp only [St.setStatus, hne, if_false] at ha
        exact Or.inl ⟨ha, hp'⟩
    · by_cases hxu : x = u
      · subst hxu
        have hcan : can := j.ncan hst
        have i1 := j.wake_cancelled hst
          (s1 := ({ s0 with vres := none, rcvBusy := false, queue := s0.vres.toList ++ s0.queue } : St).setStatus (.U x) .ready)
          (by simp [viewU, St.setStatus])
        exact i1.enter e rfl rfl rfl rfl rfl (by intro r e; injection e with _ e; exact Or.inr ⟨e.symm, hcan⟩) (by simp [St.setStatus])
          (by intro _; show s0.prog _ ≠ _; rw [hp]; simp)
      · have hne : Tid.U x ≠ Tid.U u := by intro e; injection e with e; exact hxu e
        have i1 : InvU cfg u can lg sp sp2
            (({ s0 with vres := none, rcvBusy := false, queue := s0.vres.toList ++ s0.queue } : St).setStatus (.U x) .ready) :=
          j.ext [] (by simp [St.setStatus]) (uboring_nil u) rfl (by simp [St.setStatus, Ne.symm hne]) rfl id
            (by simp [St.setStatus]) (by simp [St.setStatus]) (fun _ h => Or.inl (by simpa [St.setStatus] using h)) id
            (fun h1 h2 _ => absurd ⟨h1, h2⟩ (not_resuming w0 hrx hxu))
        exact i1.enter e rfl rfl rfl rfl rfl (by intro r e; injection e with e _; exact absurd e hxu) (by simp [St.setStatus])
          (by intro e; exact absurd e hne)
  case cInClose =>
    intro s0 ⟨a0, b0, w0⟩ hst hp
    exact stepInClose_keeps a0 b0 w0 t true hst hp
  case cOther =>
    intro s0 ⟨_, b0, w0⟩ hst _ h4 h5
    have hal : alive (s0.status t) = true := by rw [hst]; rfl
    refine ⟨w0.finish t (notLM w0 hst), fun i => i.finish t hal, fun _ j _ => ?_⟩
    have hne : t ≠ .U u := by
      intro e; subst e
      rcases j.nidle hal with h | h
      · exact h4 u h
      · exact h5 h
    exact j.finish hne (fun h => waits_of_invB b0 h) (by intro e; subst e; intro h1' _; exact j.vcan h1' hst)
  case rReader =>
    intro s0 ⟨a0, b0, w0⟩ _ hst _
    exact stepReader_keeps a0 b0 w0 hst
  case rDisp =>
    intro s0 ⟨a0, b0, w0⟩ _ hst _
    exact stepDisp_keeps a0 b0 w0 hst
  case rHandler =>
    intro s0 n ⟨_, _, w0⟩ _ _ _; exact Keeps.emit w0 rfl rfl rfl (by simp [boring]) (by simp)
  case rHandlerAwait =>
    intro s0 n k ⟨_, _, w0⟩ _ _ _; exact Keeps.same w0 rfl rfl rfl
  case rMonStart =>
    intro s0 ⟨_, _, w0⟩ hx _ _
    rcases hx with h | h <;> subst h <;> exact Keeps.same w0 rfl rfl rfl
  case rMonL =>
    intro s0 ⟨a0, b0, w0⟩ _ hst _
    exact stepMon_keeps a0 b0 w0 true hst
  case rMonM =>
    intro s0 ⟨a0, b0, w0⟩ _ hst _
    exact stepMon_keeps a0 b0 w0 false hst
  case rEntry =>
    intro s0 ⟨a0, b0, w0⟩ _ hst _
    exact (Keeps.refl w0).enter (enterClose_spec (ClosePre.of_inv a0 b0 hst (c := .closingTail) rfl) rfl) rfl (by simp) hst (by simp)
  case rInClose =>
    intro s0 ⟨a0, b0, w0⟩ hst hp
    exact stepInClose_keeps a0 b0 w0 t false hst hp
  case rVgetWait =>
    intro s0 ⟨_, _, w0⟩ _ _ _ _
    exact ⟨w0.of_view rfl, fun i => i.same rfl, fun _ j _ => j.ext [] (by simp [St.setStatus]) (uboring_nil u) rfl (by simp [St.setStatus]) rfl id
      (by simp [St.setStatus]) (by simp [St.setStatus]) (fun _ h => by simp [St.setStatus] at h) id (fun _ _ h => h)⟩
  case rVget =>
    intro s0 n q ⟨_, _, w0⟩ _ hst _ _ _
    refine ⟨InvW.finish (s := { s0 with queue := _, vres := _ }) (by exact w0.of_view rfl) .V (fun _ => ⟨by simp, by simp⟩),
      fun i => InvT.finish (s := { s0 with queue := _, vres := _ }) (by exact i.same rfl) .V (by rw [hst]; rfl), fun _ j _ => ?_⟩
    have i1 : InvU cfg u can lg sp sp2 ({ s0 with queue := q, vres := some n } : St) :=
      j.ext [] (by simp) (uboring_nil u) rfl rfl rfl id id id (fun _ h => Or.inl h) id (fun _ _ h => by simp at h)
    exact i1.finish (by simp) (fun _ => Or.inl rfl) (fun _ _ h => by simp at h)
  case rRecv =>
    intro s0 x n ⟨_, b0, w0⟩ _ hst hp _
    have hal : alive (s0.status (.U x)) = true := by rw [hst]; rfl
    exact ⟨w0.leave_finish x ⟨hal, Or.inr hp⟩ (s1 := ({ s0 with vres := none, rcvBusy := false, gone := _ } : St).emit (.ret x (.msg n)))
        rfl rfl rfl rfl rfl,
      fun i => i.ret_finish (.U x) _ ⟨by simp, by simp, by simp⟩ hal
        (s1 := ({ s0 with vres := none, rcvBusy := false, gone := _ } : St).emit (.ret x (.msg n))) rfl rfl,
      fun _ j _ => j.other_leave b0 w0 ⟨hal, Or.inr hp⟩ (fun e => j.nrecv (e ▸ hp)) _ _ _⟩
  case rRecvNone =>
    intro s0 x r ⟨_, b0, w0⟩ _ hst hp _ _
    have hal : alive (s0.status (.U x)) = true := by rw [hst]; rfl
    exact ⟨w0.leave_finish x ⟨hal, Or.inr hp⟩ (s1 := ({ s0 with rcvBusy := false } : St).emit (.ret x r)) rfl rfl rfl rfl rfl,
      fun i => i.ret_finish (.U x) _ ⟨by simp, by simp, by simp⟩ hal (s1 := ({ s0 with rcvBusy := false } : St).emit (.ret x r)) rfl rfl,
      fun _ j _ => j.other_leave' b0 (fun e => j.nrecv (e ▸ hp)) _⟩
  case rLogin =>
    intro s0 x ⟨a0, b0, w0⟩ ht hst hp
    subst ht
    exact loginResume_keeps a0 b0 w0 x hst hp

theorem startRecv_W {s : St} (i : InvW s) (u : Nat) (isLogin : Bool) (hu : s.status (.U u) = .absent) :
    InvW (startRecv s u isLogin) := by
  have ended : ∀ (o : Obs), InvW ((s.emit o).setStatus (.U u) .done) := by
    intro o
    apply i.shrink
    · intro a ⟨ha1, ha2⟩
      simp only [St.setStatus] at ha1
      split at ha1
      · simp [alive] at ha1
      · exact ⟨ha1, ha2⟩
    · rfl
    · intro a ha hc
      simp only [St.setStatus] at ha
      split at ha
      · simp at ha
      · exact ⟨ha, hc, rfl⟩
    · exact i.qc
    · exact i.dalive
    · exact i.mons
  refine startRecv_rule InvW i (fun _ => ended _) (fun _ _ _ _ => ended _) ?_
  intro hnb _ s1 f
  have none : ∀ a, ¬ rcving s a := by
    intro a ha; have := i.busy a ha; rw [hnb] at this; simp at this
  have others : ∀ a, a ≠ u → s1.status (.U a) = s.status (.U a) ∧ s1.prog (.U a) = s.prog (.U a) := by
    intro a hau
    have hne : Tid.U a ≠ Tid.U u := by intro e; injection e with e; exact hau e
    exact ⟨f.status _ hne (by simp), f.prog _ hne (by simp)⟩
  have only : ∀ a, rcving s1 a → a = u := by
    intro a ⟨ha1, ha2⟩
    apply Decidable.byContradiction
    intro hau
    rw [(others a hau).1] at ha1; rw [(others a hau).2] at ha2
    exact none a ⟨ha1, ha2⟩
  refine ⟨fun _ _ => f.busy, fun a b ha hb => (only a ha).trans (only b hb).symm, ?_, ?_, ?_, ?_⟩
  · intro a ha hc
    by_cases hau : a = u
    · subst hau; rw [f.uprog]; split <;> simp
    · rw [(others a hau).1] at ha; rw [(others a hau).2]
      exact i.wprog a ha (by rw [← f.closed]; exact hc)
  · rw [f.qclosed, f.closed]; exact i.qc
  · rw [f.status .D (by simp) (by simp), f.disp, f.closed]; exact i.dalive
  · rw [f.closed, f.status .L (by simp) (by simp), f.status .M (by simp) (by simp)]; exact i.mons

theorem startRecv_T {cfg : Cfg} {sd lo : Prop} {s : St} (i : InvT cfg sd lo s) (u : Nat) (isLogin : Bool)
    (hlw : isLogin = true → Obs.write .login ∈ s.trace) :
    InvT cfg sd lo (startRecv s u isLogin) := by
  have ended : ∀ (o : Obs), boring o → InvT cfg sd lo ((s.emit o).setStatus (.U u) .done) := by
    intro o ho
    refine i.ext [o] rfl (boring_one ho) (Or.inr ⟨rfl, rfl⟩) (fun a b => Or.inl ⟨a, b⟩) ?_ id
      (Or.inr ⟨by simp [St.setStatus, St.emit], by simp [St.setStatus, St.emit]⟩)
    intro a' ha hp
    simp only [St.setStatus, St.emit] at ha
    split at ha
    · simp [alive] at ha
    · exact Or.inl ⟨ha, hp⟩
  refine startRecv_rule (InvT cfg sd lo) i (fun _ => ended _ ⟨by simp, by simp, by simp⟩)
    (fun _ _ _ _ => ended _ ⟨by simp, by simp, by simp⟩) ?_
  intro _ hds s1 f
  refine i.ext [] (by rw [f.tr, List.append_nil]) boring_nil (Or.inr ⟨f.disp, f.closed⟩) ?_ ?_ (by rw [f.disp]; exact id)
    (Or.inr ⟨by rw [f.status .L (by simp) (by simp)]; exact id, by rw [f.status .D (by simp) (by simp)]; exact id⟩)
  · intro _ hc
    right
    intro n hn
    rcases i.msgd ⟨n, hn⟩ with h | h
    · rw [hds] at h; simp at h
    · rw [← f.closed, hc] at h; simp at h
  · intro a' ha hp
    by_cases hau : a' = u
    · subst hau
      rw [f.uprog] at hp
      cases hL : isLogin with
      | true => exact Or.inr (hlw hL)
      | false => rw [hL] at hp; simp at hp
    · have hne : Tid.U a' ≠ Tid.U u := by intro e; injection e with e; exact hau e
      rw [f.status _ hne (by simp)] at ha; rw [f.prog _ hne (by simp)] at hp
      exact Or.inl ⟨ha, hp⟩

/-- a call of user task `x` starts its receive (`x = u` only for `login()`) -/
theorem startRecv_U {s : St} {sd lo : Prop} (w : InvW s) (tt : InvT cfg sd lo s) (i : InvU cfg u can lg sp sp2 s)
    (x : Nat) (isLogin : Bool) (hx : s.status (.U x) = .absent) (hxu : x = u → isLogin = true ∧ lg) :
    InvU cfg u can lg sp sp2 (startRecv s x isLogin) := by
  by_cases hu : x = u
  · subst hu
    obtain ⟨hL, hlg⟩ := hxu rfl
    subst hL
    have hnsp : sp2 → False := fun h => (i.spent2 h).1 hx
    have hnoret : ∀ r, Obs.ret x r ∉ s.trace := fun r h => i.retst r h hx
    have ended : ∀ (r : Res), (r = .state ∨ r = .refused) → PRet cfg x s.trace (.ret x r) → (r = .refused → s.closed = true) →
        InvU cfg x can lg sp sp2 ((s.emit (.ret x r)).setStatus (.U x) .done) := by
      intro r hr hP hcl
      refine i.self_ends [] r (uboring_nil x) hlg (by rw [List.append_nil]; rfl) (by rw [List.append_nil]; exact hP) rfl (if_pos rfl) rfl
        ?_ ?_ ?_ ?_
      · intro h
        rcases h with h | h | h
        · exact h
        · exact hcl h
        · rcases hr with hr | hr <;> rw [hr] at h <;> simp at h
      · intro y hy e
        have e' : s.status y = .absent := by
          rcases hy with rfl | rfl <;> simpa [St.setStatus, St.emit] using e
        exact ⟨e', by rcases hr with hr | hr <;> rw [hr] <;> simp⟩
      · intro h; rcases hr with hr | hr <;> rw [hr] at h <;> simp at h
      · intro h; rcases hr with hr | hr <;> rw [hr] at h <;> simp at h
    refine startRecv_rule (InvU cfg x can lg sp sp2) i ?_ ?_ ?_
    · intro hds
      refine ended .state (Or.inl rfl) ?_ (by simp)
      intro r e; injection e with _ e; subst e
      exact ⟨by simp [okRes], by simp, fun _ => tt.dset hds⟩
    · intro _ hq r hr
      have hr' : r = .refused := by
        rcases hr with ⟨_, h⟩ | ⟨h, _⟩
        · exact h
        · simp at h
      subst hr'
      refine ended .refused (Or.inr rfl) ?_ (fun _ => w.qc hq)
      intro r e; injection e with _ e; subst e
      exact ⟨by simp [okRes], by simp, by simp⟩
    · intro _ _ s1 f
      have hpr : s1.prog (.U x) = .loginWait x := f.uprog
      have hnoret1 : ∀ r, Obs.ret x r ∉ s1.trace := by rw [f.tr]; exact hnoret
      refine ⟨by rw [hpr]; simp, fun _ => Or.inl hpr, by rw [f.cstage]; exact i.cont, by rw [f.tr]; exact i.rets,
        fun h => h.elim (fun h => absurd h (hnoret1 _)) (fun h => absurd h (hnoret1 _)), fun h => absurd h (hnoret1 _), fun _ => hlg,
        fun r h => absurd h (hnoret1 r), ?_, ?_, ?_, fun h => absurd h (hnoret1 _), fun _ h => absurd h (hnoret1 _),
        fun h => absurd h hnsp⟩
      · intro h; rcases f.how with ⟨h', _⟩ | ⟨h', _⟩ <;> rw [h'] at h <;> simp at h
      · intro h hv
        rcases f.how with ⟨h', _⟩ | ⟨_, h', _⟩
        · rw [h'] at h; simp at h
        · rw [h'] at hv; simp at hv
      · intro h _ hv
        rcases f.how with ⟨_, _, h'⟩ | ⟨h', _⟩
        · exact absurd hv h'
        · rw [h'] at h; simp at h
  · have hne : Tid.U u ≠ Tid.U x := by intro e; injection e with e; exact hu e.symm
    have ended : ∀ (r : Res), InvU cfg u can lg sp sp2 ((s.emit (.ret x r)).setStatus (.U x) .done) := by
      intro r
      exact i.ext [.ret x r] rfl (uboring_one (ret_ne hu _)) rfl (if_neg hne) rfl id
        (fun h => h) (fun h => h) (fun _ h => Or.inl h) id (fun _ _ h => h)
    refine startRecv_rule (InvU cfg u can lg sp sp2) i (fun _ => ended _) (fun _ _ _ _ => ended _) ?_
    intro _ _ s1 f
    refine i.ext [] (by rw [f.tr, List.append_nil]) (uboring_nil u) (f.prog _ hne (by simp)) (f.status _ hne (by simp))
      (by rw [f.cstage]) (by rw [f.closed]; exact id) (by rw [f.status .L (by simp) (by simp)]; exact id)
      (by rw [f.status .M (by simp) (by simp)]; exact id) ?_ (by rw [f.qclosed]; exact id) ?_
    · intro _ hv
      rcases f.how with ⟨_, h, _⟩ | ⟨_, h, _⟩
      · rw [h] at hv; exact Or.inl hv
      · rw [h] at hv; simp at hv
    · intro _ _ hv
      rcases f.how with ⟨_, _, h⟩ | ⟨_, _, h⟩
      · exact absurd hv h
      · rw [h] at hv; exact hv

/-- the event is not another kind of call made by task `u` -/
def okEv (u : Nat) (ev : Ev) : Prop := ev ≠ .callClose u ∧ ev ≠ .callRecv u ∧ ev ≠ .callRecvNowait u

theorem Keeps.mono {h h' : Prop} {s s' : St} (k : Keeps cfg u sd lo can lg sp sp2 h s s') (f : h' → h) :
    Keeps cfg u sd lo can lg sp sp2 h' s s' :=
  ⟨k.w, k.t, fun i j hh => k.caller i j (f hh)⟩

theorem Keeps.initiateClose {h : Prop} {s : St} (w : InvW s) : Keeps cfg u sd lo can lg sp sp2 h s s.initiateClose :=
  ⟨w.initiateClose, fun i => i.initiateClose, fun _ j _ => j.initiateClose⟩

/-- **One event.** `hsd`, `hlo`: what `InvT` records of the event; the condition inside: what `InvU` asks of it. -/
theorem step_keeps {s : St} (a : InvA cfg s) (r : InvR s) (b : InvB s) (w : InvW s) (ev : Ev) (hsd : ev = .callSend → sd)
    (hlo : ev = .callLogout → lo) :
    Keeps cfg u sd lo can lg sp sp2 (okEv u ev ∧ (ev = .cancel u → can) ∧ (ev = .callLogin u → lg) ∧ (sp → ¬ AcceptCond s ev u))
      s (step cfg s ev) := by
  cases ev with
  | connect =>
    simp only [step]
    split
    · exact Keeps.refl w
    · have w1 : InvW (s.spawn .R .readerLoop) := w.of_view rfl
      split
      · rename_i hdc
        refine Keeps.trans (s1 := s.spawn .R .readerLoop) (Keeps.same w rfl rfl rfl) ?_
        obtain ⟨f1, f2, f3, f4, f5, f6, _, f8, f9⟩ := startDispatching_frame (s.spawn .R .readerLoop) cfg
        refine ⟨w1.startDispatching cfg, fun i1 => ⟨?_, ?_, ?_, ?_, ?_, ?_, ?_, ?_, ?_⟩, fun _ j1 _ => ?_⟩
        · rw [f6, f2]; intro h
          rcases i1.msgd h with h' | h'
          · rcases f9 with ⟨h9, _⟩ | ⟨h9, _⟩
            · exact Or.inl h9
            · rw [h9]; exact Or.inl h'
          · exact Or.inr h'
        · rw [f4, f2, f6]; exact i1.quiet
        · intro a' ha hp; rw [(f1 (.U a') (by simp)).1] at ha; rw [(f1 (.U a') (by simp)).2] at hp; rw [f6]; exact i1.lw a' ha hp
        · rw [f6]; exact i1.reply
        · intro hd
          rw [f6]
          rcases f9 with ⟨_, _, h9⟩ | ⟨h9, _⟩
          · exact ⟨h9, Or.inl hdc⟩
          · rw [h9] at hd; exact ⟨(i1.dset hd).1, Or.inl hdc⟩
        · intro h; rw [hdc] at h; simp at h
        · intro h; rw [hdc] at h; simp at h
        · rw [f6]; exact i1.sent
        · rw [f6]; exact i1.logged
        · exact j1.ext [] (by rw [f6]; simp) (uboring_nil u) (f1 _ (by simp)).2 (f1 _ (by simp)).1 (by rw [f8]) (by rw [f2]; exact id)
            (by rw [(f1 .L (by simp)).1]; exact id) (by rw [(f1 .M (by simp)).1]; exact id)
            (by rw [(f1 .V (by simp)).1]; exact fun _ h => Or.inl h) (by rw [f3]; exact id) (by rw [f5]; exact fun _ _ h => h)
      · exact Keeps.same w rfl rfl rfl
  | data fs => exact Keeps.same w rfl rfl rfl
  | eof => exact Keeps.initiateClose w
  | run t =>
    simp only [step]
    split
    · exact (stepRun_keeps a b w t).mono (fun h => h.2.2.2)
    · exact Keeps.refl w
  | callClose x =>
    simp only [step]
    split
    · exact Keeps.refl w
    · rename_i hx
      have hx' : s.status (.U x) = .absent := by simpa using hx
      have b1 := b.userStart x .idle hx' rfl
      have a1 : InvA cfg ((s.setStatus (.U x) .ready).setProg (.U x) .idle) := InvA.of_core (s := s) rfl a
      have e := enterClose_spec (cfg := cfg) (c := .userTail x .ok) (ClosePre.of_inv a1 b1 (c := .userTail x .ok) (by simp [St.setStatus, St.setProg]) rfl) rfl
      have others : ∀ a', a' ≠ x → ((s.setStatus (.U x) .ready).setProg (.U x) .idle).status (.U a') = s.status (.U a') ∧
          ((s.setStatus (.U x) .ready).setProg (.U x) .idle).prog (.U a') = s.prog (.U a') := by
        intro a' hau
        have hne : Tid.U a' ≠ Tid.U x := by intro e; injection e with e; exact hau e
        simp only [St.setStatus, St.setProg, hne, if_false, and_self]
      refine ⟨InvW.enter ?_ e, fun i => InvT.enter ?_ e, fun _ j hh => ?_⟩
      · apply w.shrink
        · intro a' ⟨h1, h2⟩
          by_cases hau : a' = x
          · subst hau; simp [St.setProg] at h2
          · rw [(others a' hau).1] at h1; rw [(others a' hau).2] at h2
            exact ⟨h1, h2⟩
        · rfl
        · intro a' ha hc
          by_cases hau : a' = x
          · subst hau; simp [St.setProg, St.setStatus] at ha
          · rw [(others a' hau).1] at ha
            exact ⟨ha, hc, (others a' hau).2⟩
        · exact w.qc
        · exact w.dalive
        · exact w.mons
      · refine i.ext [] (by simp [St.setStatus, St.setProg]) boring_nil (Or.inr ⟨rfl, rfl⟩) (fun a b => Or.inl ⟨a, b⟩) ?_ id
          (Or.inr ⟨by simp [St.setStatus, St.setProg], by simp [St.setStatus, St.setProg]⟩)
        intro a' ha hp
        by_cases hau : a' = x
        · subst hau; simp [St.setProg] at hp
        · rw [(others a' hau).1] at ha; rw [(others a' hau).2] at hp
          exact Or.inl ⟨ha, hp⟩
      · have hxu : x ≠ u := by intro e; subst e; exact hh.1.1 rfl
        have hne : Tid.U u ≠ Tid.U x := by intro e; injection e with e; exact hxu e.symm
        have i1 : InvU cfg u can lg sp sp2 ((s.setStatus (.U x) .ready).setProg (.U x) .idle) :=
          j.ext [] (by simp [St.setStatus, St.setProg]) (uboring_nil u) (others u (Ne.symm hxu)).2 (others u (Ne.symm hxu)).1 rfl id
            (by simp [St.setStatus, St.setProg]) (by simp [St.setStatus, St.setProg])
            (fun _ h => Or.inl (by simpa [St.setStatus, St.setProg] using h)) id (fun _ _ h => h)
        exact i1.enter e rfl rfl rfl rfl rfl (by intro r e; injection e with e _; exact absurd e hxu)
          (by simp [St.setStatus, St.setProg]) (by intro e; exact absurd e.symm hne)
  | callInitiateClose => exact Keeps.initiateClose w
  | callLogout =>
    simp only [step]
    refine Keeps.trans (s1 := { (s.emit (.write .logout)) with pingL := true }) ⟨w.of_view rfl, fun i => ?_, fun _ j _ => j.emit rfl (by simp)⟩ (Keeps.initiateClose ?_)
    · exact i.emit_write .logout rfl (fun _ => Or.inl (Or.inr (Or.inr rfl))) (by simp) (fun _ => hlo rfl)
    · exact w.of_view rfl
  | callRecv x =>
    simp only [step]
    split
    · exact Keeps.refl w
    · rename_i hx
      have hx' : s.status (.U x) = .absent := by simpa using hx
      exact ⟨startRecv_W w x false hx', fun i => startRecv_T i x false (by simp),
        fun tt j hh => startRecv_U w tt j x false hx' (fun e => absurd (e ▸ rfl) hh.1.2.1)⟩
  | callRecvNowait x =>
    simp only [step]
    -- the result is reported under the label `x`, which is not `u`
    have res : ∀ {h : Prop} (o : Res) (q : List Nat) (g : List (Nat × Bool)), (h → x ≠ u) →
        Keeps cfg u sd lo can lg sp sp2 h s (({ s with queue := q, gone := g } : St).emit (.ret x o)) := by
      intro h o q g hxu
      exact ⟨w.of_view rfl, fun i => i.emit rfl (by simp [boring]), fun _ j hh => j.ext [.ret x o] rfl (uboring_one (ret_ne (hxu hh) _)) rfl rfl rfl id id id
        (fun _ h => Or.inl h) id (fun _ _ h => h)⟩
    have hxu : (okEv u (.callRecvNowait x) ∧ (Ev.callRecvNowait x = .cancel u → can) ∧ (Ev.callRecvNowait x = .callLogin u → lg) ∧
        (sp → ¬ AcceptCond s (.callRecvNowait x) u)) → x ≠ u := fun hh e => hh.1.2.2 (by rw [e])
    split
    · exact Keeps.refl w
    · split
      · exact res _ s.queue s.gone hxu
      · split
        · exact res _ _ _ hxu
        · split
          · exact res _ s.queue s.gone hxu
          · exact res _ s.queue s.gone hxu
  | callLogin x =>
    simp only [step]
    split
    · exact Keeps.refl w
    · rename_i hx
      simp only [bne_iff_ne, ne_eq, Bool.or_eq_true, not_or, Decidable.not_not] at hx
      have w1 : InvW ({ (s.emit (.write .login)) with pingL := true } : St) := w.of_view rfl
      have t1 : InvT cfg sd lo s → InvT cfg sd lo ({ (s.emit (.write .login)) with pingL := true } : St) :=
        fun i => i.emit_write .login rfl (fun _ => Or.inl (Or.inl rfl)) (by simp) (by simp)
      exact ⟨startRecv_W w1 x true hx.1.1, fun i => startRecv_T (t1 i) x true (fun _ => by simp [St.emit]),
        fun tt j hh => startRecv_U w1 (t1 tt) (s := { (s.emit (.write .login)) with pingL := true }) (j.emit rfl (by simp)) x true hx.1.1
          (fun e => ⟨rfl, hh.2.2.1 (by rw [e])⟩)⟩
  | callSend =>
    exact ⟨w.of_view rfl, fun i => i.emit_write .data rfl (fun _ => Or.inl (Or.inr (Or.inl rfl))) (fun _ => hsd rfl) (by simp), fun _ j _ => j.emit rfl (by simp)⟩
  | cancel x =>
    simp only [step]
    obtain ⟨f1, _, f3, f4, _, f6, f7, f8, f9⟩ := cancelTask_flags s (.U x)
    have hpr := cancelTask_prog s (.U x)
    have hcases := cancelTask_cases s (.U x)
    have habs := cancelTask_absent s (.U x)
    refine ⟨?_, fun i => ?_, fun _ j hh => ?_⟩
    · apply w.shrink
      · intro a' ⟨h1, h2⟩
        rw [alive_cancelTask] at h1
        rw [hpr] at h2
        exact ⟨h1, h2⟩
      · exact f1
      · intro a' ha hc; rw [f6] at hc; exact ⟨waitT_of_cancelTask ha, hc, by rw [hpr]⟩
      · rw [f6, f7]; exact w.qc
      · rw [alive_cancelTask, f3, f6]; exact w.dalive
      · rw [f6]
        intro hc
        -- the only task a user task of an open session can be waiting for is the receive helper
        obtain ⟨_, _, wt⟩ := r hc
        have key : ∀ y, y = .L ∨ y = .M → (s.cancelTask (.U x)).status y = s.status y := by
          intro y hy
          rcases hcases y with h | ⟨_, _, h | h⟩
          · exact h
          · rcases hy with hy | hy <;> rw [hy] at h <;> simp at h
          · have hV := wt _ _ h
            rcases hy with hy | hy <;> rw [hy] at hV <;> simp at hV
        rw [key .L (Or.inl rfl), key .M (Or.inr rfl)]
        exact w.mons hc
    · refine i.ext [] (by simp [f8]) boring_nil (Or.inr ⟨f3, f6⟩) ?_ ?_ (by rw [f3]; exact id)
        (Or.inr ⟨(habs .L).mpr, (habs .D).mpr⟩)
      · intro h1 h2; rw [f1] at h1; rw [f6] at h2; exact Or.inl ⟨h1, h2⟩
      · intro a' ha hp
        rw [alive_cancelTask] at ha; rw [hpr] at hp
        exact Or.inl ⟨ha, hp⟩
    · -- the target of a `cancel` is a user task, or the receive helper / a stop target it awaits: never another user task
      have hu_status : x ≠ u → (s.cancelTask (.U x)).status (.U u) = s.status (.U u) := by
        intro hxu
        rcases hcases (.U u) with h | ⟨_, _, h3⟩
        · exact h
        · exfalso
          rcases h3 with h3 | h3
          · injection h3 with h3; exact hxu h3.symm
          · rcases b.waitt _ _ h3 with ⟨pc, c, hb⟩ | ⟨_, _, hV⟩
            · exact stageOf_user u _ (b.bwait _ pc c _ hb h3).1
            · simp at hV
      by_cases hxu : x = u
      · subst hxu
        have hc : can := hh.2.1 rfl
        refine ⟨by rw [hpr]; exact j.nrecv, ?_, by rw [f9]; exact j.cont, by rw [f8]; exact j.rets, by rw [f8, f6]; exact j.failed, ?_,
          fun h => j.called (fun e => h ((habs _).mpr e)), fun r h e => j.retst r (by rw [f8] at h; exact h) ((habs _).mp e),
          fun _ => hc, fun _ _ => Or.inr hc, fun _ _ _ => Or.inr hc, fun _ => hc, by rw [f8]; exact j.spent1, ?_⟩
        · rw [hpr, alive_cancelTask]; exact j.nidle
        · rw [f8]; intro h
          obtain ⟨a1, a2⟩ := j.hb h
          exact ⟨fun e => a1 ((habs _).mp e), fun e => a2 ((habs _).mp e)⟩
        · intro h
          obtain ⟨a1, a2⟩ := j.spent2 h
          refine ⟨fun e => a1 ((habs _).mp e), ?_⟩
          rw [hpr]
          refine a2.imp id ?_
          intro hd
          rcases hcases (.U x) with h' | ⟨_, h', _⟩
          · rw [h', hd]
          · rw [hd] at h'; simp at h'
      · refine j.ext [] (by rw [f8]; simp) (uboring_nil u) (by rw [hpr]) (hu_status hxu) (by rw [f9]) (by rw [f6]; exact id)
          (fun e => (habs _).mp e) (fun e => (habs _).mp e) ?_ (by rw [f7]; exact id) (by rw [f4]; exact fun _ _ h => h)
        intro hw hv
        rcases hcases .V with h | ⟨_, _, h3⟩
        · rw [h] at hv; exact Or.inl hv
        · -- the helper is newly cancelled: by the cancellation of the (one) user that awaits it
          right; left
          rw [f7]
          apply Decidable.byContradiction
          intro hq
          have hq' : s.qClosed = false := by simpa using hq
          obtain ⟨_, hopen⟩ := open_of_not_qClosed a hq'
          rcases h3 with h3 | h3
          · simp at h3
          · have r1 : rcving s x := ⟨by rw [h3]; rfl, w.wprog x h3 hopen⟩
            have r2 : rcving s u := ⟨by rw [hw]; rfl, w.wprog u hw hopen⟩
            exact hxu (w.uniq x u r1 r2)

theorem step_W {cfg : Cfg} {s : St} (a : InvA cfg s) (r : InvR s) (b : InvB s) (i : InvW s) (ev : Ev) : InvW (step cfg s ev) :=
  (step_keeps (u := 0) (sd := True) (lo := True) (can := True) (lg := True) (sp := False) (sp2 := False) a r b i ev (fun _ => trivial)
    (fun _ => trivial)).w

/-- **`InvW` and `InvT` hold in every reachable state** (`sd`, `lo`: the event list contains a `callSend` / a `callLogout`). -/
theorem runEvs_InvWT (cfg : Cfg) (evs : List Ev) :
    InvW (runEvs cfg {} evs) ∧ InvT cfg (Ev.callSend ∈ evs) (Ev.callLogout ∈ evs) (runEvs cfg {} evs) := by
  have : ∀ (l : List Ev) (s : St), (∀ ev ∈ l, ev ∈ evs) → InvA cfg s → InvR s → InvB s → InvW s →
      InvT cfg (Ev.callSend ∈ evs) (Ev.callLogout ∈ evs) s →
      InvW (runEvs cfg s l) ∧ InvT cfg (Ev.callSend ∈ evs) (Ev.callLogout ∈ evs) (runEvs cfg s l) := by
    intro l
    induction l with
    | nil => intro s _ _ _ _ w i; exact ⟨w, i⟩
    | cons ev l ih =>
      intro s hl a r b w i
      have k := step_keeps (u := 0) (can := True) (lg := True) (sp := False) (sp2 := False) a r b w ev
        (fun e => e ▸ hl ev (List.mem_cons_self ..)) (fun e => e ▸ hl ev (List.mem_cons_self ..))
      exact ih _ (fun e he => hl e (List.mem_cons_of_mem _ he)) (step_InvA a ev) (step_InvR a r ev) (step_InvB a r b ev) k.w (k.t i)
  exact this evs _ (fun _ h => h) (InvA.init cfg) InvR.init InvB.init InvW.init (InvT.init cfg _ _)

theorem runEvs_InvW (cfg : Cfg) (evs : List Ev) : InvW (runEvs cfg {} evs) := (runEvs_InvWT cfg evs).1

theorem runEvs_InvT (cfg : Cfg) (evs : List Ev) : InvT cfg (Ev.callSend ∈ evs) (Ev.callLogout ∈ evs) (runEvs cfg {} evs) :=
  (runEvs_InvWT cfg evs).2

/-- the invariants A, R, B (close bookkeeping, reader, tasks), W, T (receive bookkeeping, trace) and U (login caller `u`) -/
structure LoginInv (cfg : Cfg) (u : Nat) (sd lo can lg sp sp2 : Prop) (s : St) : Prop where
  a : InvA cfg s
  r : InvR s
  b : InvB s
  w : InvW s
  t : InvT cfg sd lo s
  caller : InvU cfg u can lg sp sp2 s

theorem LoginInv.step {s : St} (i : LoginInv cfg u sd lo can lg sp sp2 s) (ev : Ev) (hev : okEv u ev)
    (hsd : ev = .callSend → sd) (hlo : ev = .callLogout → lo) (hcan : ev = .cancel u → can) (hlg : ev = .callLogin u → lg)
    (hsp : sp → ¬ AcceptCond s ev u) : LoginInv cfg u sd lo can lg sp sp2 (step cfg s ev) :=
  have k := step_keeps (u := u) (can := can) (lg := lg) (sp := sp) (sp2 := sp2) i.a i.r i.b i.w ev hsd hlo
  ⟨step_InvA i.a ev, step_InvR i.a i.r ev, step_InvB i.a i.r i.b ev, k.w, k.t i.t, k.caller i.t i.caller ⟨hev, hcan, hlg, hsp⟩⟩

/-- a run from a state that satisfies the invariants; `sp` is either impossible, or `u` is already past its receive -/
theorem LoginInv.run (l : List Ev) : ∀ {s : St}, LoginInv cfg u sd lo can lg sp sp2 s → (∀ ev ∈ l, okEv u ev) →
    (Ev.callSend ∈ l → sd) → (Ev.callLogout ∈ l → lo) → (Ev.cancel u ∈ l → can) → (Ev.callLogin u ∈ l → lg) →
    ((sp → False) ∨ sp2) → LoginInv cfg u sd lo can lg sp sp2 (runEvs cfg s l) := by
  induction l with
  | nil => intro s i _ _ _ _ _ _; exact i
  | cons ev l ih =>
    intro s i hev hsd hlo hcan hlg hsp
    refine ih (s := Sess.step cfg s ev) (i.step ev (hev ev (List.mem_cons_self ..)) (fun e => hsd (e ▸ List.mem_cons_self ..))
      (fun e => hlo (e ▸ List.mem_cons_self ..)) (fun e => hcan (e ▸ List.mem_cons_self ..))
      (fun e => hlg (e ▸ List.mem_cons_self ..)) ?_)
      (fun e he => hev e (List.mem_cons_of_mem _ he)) (fun h => hsd (List.mem_cons_of_mem _ h))
      (fun h => hlo (List.mem_cons_of_mem _ h)) (fun h => hcan (List.mem_cons_of_mem _ h)) (fun h => hlg (List.mem_cons_of_mem _ h)) hsp
    intro h
    rcases hsp with hsp | hsp
    · exact absurd h hsp
    · exact (i.caller.weaken id id i.caller.spent1 (fun _ => i.caller.spent2 hsp)).not_accept ev

theorem LoginInv.init (cfg : Cfg) (u : Nat) (sd lo can lg : Prop) : LoginInv cfg u sd lo can lg False False {} :=
  ⟨InvA.init cfg, InvR.init, InvB.init, InvW.init, InvT.init cfg sd lo, InvU.init cfg u can lg False⟩

/-- **every state reachable by an event list in which task `u` makes no call other than `login()` satisfies all invariants** -/
theorem runEvs_LoginInv (cfg : Cfg) (u : Nat) (evs : List Ev) (h : ∀ ev ∈ evs, okEv u ev) :
    LoginInv cfg u (Ev.callSend ∈ evs) (Ev.callLogout ∈ evs) (Ev.cancel u ∈ evs) (Ev.callLogin u ∈ evs) False False
      (runEvs cfg {} evs) :=
  (LoginInv.init cfg u _ _ _ _).run evs h id id id id (Or.inl id)

end NasdaqModel.Sess
