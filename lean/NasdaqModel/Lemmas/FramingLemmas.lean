import NasdaqModel.Model.Framing
import NasdaqModel.Lemmas.PyLemmas
/-
Generic part of the C03 proofs: the reader machine of Model/Framing.lean over *any* protocol whose `deserialize()` satisfies the
three framing facts (`FrameSpec`): a complete frame followed by anything is cut off exactly, a proper prefix of a frame asks for
more bytes, frames are non-empty.  The Soup and FIX instances are proved in Lemmas/FramingInstances.lean.
-/
namespace NasdaqModel.Framing
open NasdaqModel

variable {μ : Type}

/-- bytes handed to `on_data` by an event list, concatenated -/
def received : List Ev → Bytes
  | [] => []
  | .data s :: evs => s ++ received evs
  | .tick :: evs => received evs

def Ev.isTick : Ev → Bool
  | .tick => true
  | .data _ => false

def ticksAfterLastData (evs : List Ev) : Nat := (evs.reverse.takeWhile Ev.isTick).length

def stream (enc : μ → Bytes) (ms : List μ) : Bytes := (ms.map enc).flatten

/-- what the application must see: the non-heartbeats before the first logout -/
def expected (P : Proto μ) (ms : List μ) : List μ :=
  (ms.takeWhile (fun m => !P.isLogout m)).filter (fun m => !P.isHeartbeat m)

def hasLogout (P : Proto μ) (ms : List μ) : Bool := ms.any P.isLogout

structure FrameSpec (P : Proto μ) (enc : μ → Bytes) (wf : μ → Prop) : Prop where
  nonempty : ∀ m, wf m → enc m ≠ []
  exact : ∀ m rest, wf m → P.deser (enc m ++ rest) = .ok (some (m, rest))
  short : ∀ m q, wf m → q <+: enc m → q ≠ enc m → q ≠ [] → P.deser q = .ok none

def later (more : Bytes) : Except Err (Option (μ × Bytes)) → Except Err (Option (μ × Bytes))
  | .ok (some (m, r)) => .ok (some (m, r ++ more))
  | x => x

theorem received_append (a b : List Ev) : received (a ++ b) = received a ++ received b := by
  induction a with
  | nil => simp [received]
  | cons e a ih => cases e <;> simp [received, ih]

theorem received_replicate_tick (n : Nat) : received (List.replicate n Ev.tick) = [] := by
  induction n with
  | zero => simp [received]
  | succ n ih => simp [List.replicate_succ, received, ih]

theorem stream_append (enc : μ → Bytes) (a b : List μ) : stream enc (a ++ b) = stream enc a ++ stream enc b := by
  simp [stream]

theorem stream_cons (enc : μ → Bytes) (m : μ) (l : List μ) : stream enc (m :: l) = enc m ++ stream enc l := by
  simp [stream]

theorem stream_take_drop (enc : μ → Bytes) (ms : List μ) (k : Nat) :
    stream enc ms = stream enc (ms.take k) ++ stream enc (ms.drop k) := by
  rw [← stream_append, List.take_append_drop]

theorem take_succ_of_getElem (l : List μ) (k : Nat) (h : k < l.length) : l.take (k + 1) = l.take k ++ [l[k]] := by
  rw [List.take_add_one]; simp [h]

theorem take_prefix_takeWhile (p : μ → Bool) : ∀ (l : List μ) (k : Nat), (∀ m ∈ l.take k, p m = true) →
    l.take k <+: l.takeWhile p := by
  intro l
  induction l with
  | nil => intro k _; simp
  | cons x l ih =>
    intro k h
    cases k with
    | zero => simp
    | succ k =>
      have hx : p x = true := h x (by simp)
      have := ih k (fun m hm => h m (by simp [hm]))
      simp only [List.take_succ_cons, List.takeWhile_cons, hx, if_true]
      exact (List.prefix_cons_inj x).2 this

theorem takeWhile_eq_take (p : μ → Bool) : ∀ (l : List μ) (j : Nat) (h : j < l.length), (∀ m ∈ l.take j, p m = true) →
    p l[j] = false → l.takeWhile p = l.take j := by
  intro l
  induction l with
  | nil => intro j h; simp at h
  | cons x l ih =>
    intro j h hall hj
    cases j with
    | zero => simp at hj; simp [hj]
    | succ j =>
      have hx : p x = true := hall x (by simp)
      simp only [List.take_succ_cons, List.takeWhile_cons, hx, if_true]
      congr 1
      exact ih j (by simpa using h) (fun m hm => hall m (by simp [hm])) (by simpa using hj)

theorem takeWhile_eq_self (p : μ → Bool) (l : List μ) (h : ∀ m ∈ l, p m = true) : l.takeWhile p = l := by
  induction l with
  | nil => rfl
  | cons x l ih =>
    have hx : p x = true := h x (by simp)
    simp only [List.takeWhile_cons, hx, if_true]
    rw [ih (fun m hm => h m (by simp [hm]))]

theorem received_of_all_tick : ∀ l : List Ev, (∀ b ∈ l, Ev.isTick b = true) → received l = []
  | [], _ => rfl
  | .tick :: l, h => received_of_all_tick l fun b hb => h b (List.mem_cons_of_mem _ hb)
  | .data s :: _, h => by simpa [Ev.isTick] using h (.data s) List.mem_cons_self

theorem eq_replicate_of_all_tick (l : List Ev) (h : ∀ b ∈ l, Ev.isTick b = true) : l = List.replicate l.length Ev.tick := by
  rw [List.eq_replicate_iff]
  refine ⟨rfl, fun b hb => ?_⟩
  cases b with
  | tick => rfl
  | data s => simpa [Ev.isTick] using h _ hb

theorem length_lt_of_prefix_ne {α : Type} {q f : List α} (hq : q <+: f) (hne : q ≠ f) : q.length < f.length :=
  Nat.lt_of_not_le fun h => hne (hq.eq_of_length_le h)

theorem split_trailing_ticks (evs : List Ev) :
    ∃ pre, evs = pre ++ List.replicate (ticksAfterLastData evs) Ev.tick ∧ received pre = received evs := by
  have hall : ∀ b ∈ (evs.reverse.takeWhile Ev.isTick).reverse, Ev.isTick b = true := fun b hb =>
    mem_takeWhile_true _ _ _ (List.mem_reverse.mp hb)
  have hsplit : evs = (evs.reverse.dropWhile Ev.isTick).reverse ++ (evs.reverse.takeWhile Ev.isTick).reverse := by
    rw [← List.reverse_append, List.takeWhile_append_dropWhile, List.reverse_reverse]
  refine ⟨(evs.reverse.dropWhile Ev.isTick).reverse, ?_, ?_⟩
  · conv => lhs; rw [hsplit, eq_replicate_of_all_tick _ hall]
    rw [List.length_reverse]
    rfl
  · conv => rhs; rw [hsplit, received_append, received_of_all_tick _ hall, List.append_nil]

section steps
variable (P : Proto μ) (r : R μ)

@[simp] theorem step_data_buf (seg : Bytes) : (step P r (.data seg)).buf = r.buf ++ seg := by
  simp only [step, stepObs]
  split
  · next h => have : seg = [] := List.eq_nil_of_length_eq_zero h
              simp [this]
  · rfl
@[simp] theorem step_data_stopped (seg : Bytes) : (step P r (.data seg)).stopped = r.stopped := by
  simp only [step, stepObs]; split <;> rfl
@[simp] theorem step_data_out (seg : Bytes) : (step P r (.data seg)).out = r.out := by
  simp only [step, stepObs]; split <;> rfl
@[simp] theorem step_data_close (seg : Bytes) : (step P r (.data seg)).closeSignals = r.closeSignals := by
  simp only [step, stepObs]; split <;> rfl

theorem step_tick_stopped (h : r.stopped = true) : step P r .tick = r := by
  simp only [step, stepObs]; simp [h]

theorem step_tick_empty (h : r.buf = []) : step P r .tick = r := by
  simp only [step, stepObs]; simp [h]

theorem step_tick_none (hs : r.stopped = false) (h : P.deser r.buf = .ok none) : step P r .tick = r := by
  simp only [step, stepObs, hs, h, Bool.false_eq_true, if_false]
  split <;> rfl

theorem step_tick_some (hs : r.stopped = false) (hb : r.buf ≠ []) {m : μ} {rest : Bytes}
    (h : P.deser r.buf = .ok (some (m, rest))) :
    step P r .tick =
      if P.isLogout m then { r with buf := rest, stopped := true, closeSignals := r.closeSignals + 1 }
      else if P.isHeartbeat m then { r with buf := rest }
      else { r with buf := rest, out := r.out ++ [m] } := by
  have hl : ¬ r.buf.length = 0 := fun h0 => hb (List.eq_nil_of_length_eq_zero h0)
  simp only [step, stepObs, hs, h, hl, if_false, Bool.false_eq_true]
  split
  · rfl
  · split <;> rfl

theorem step_tick_error (hs : r.stopped = false) (hb : r.buf ≠ []) {e : Err} (h : P.deser r.buf = .error e) :
    step P r .tick = { r with stopped := true, closeSignals := r.closeSignals + 1, failed := some e } := by
  have hl : ¬ r.buf.length = 0 := fun h0 => hb (List.eq_nil_of_length_eq_zero h0)
  simp only [step, stepObs, hs, h, hl, if_false, Bool.false_eq_true]

theorem step_of_stopped (h : r.stopped = true) (ev : Ev) :
    (step P r ev).stopped = true ∧ (step P r ev).out = r.out ∧ (step P r ev).closeSignals = r.closeSignals := by
  cases ev with
  | data seg => simp [h]
  | tick => rw [step_tick_stopped P r h]; exact ⟨h, rfl, rfl⟩

theorem step_close_inv (h : r.closeSignals = if r.stopped then 1 else 0) (ev : Ev) :
    (step P r ev).closeSignals = if (step P r ev).stopped then 1 else 0 := by
  cases ev with
  | data seg => simpa using h
  | tick =>
    cases hs : r.stopped with
    | true => rw [step_tick_stopped P r hs]; exact h
    | false =>
      have h0 : r.closeSignals = 0 := by simpa [hs] using h
      by_cases hb : r.buf = []
      · rw [step_tick_empty P r hb]
        exact h
      · cases hd : P.deser r.buf with
        | error e =>
          rw [step_tick_error P r hs hb hd]
          simp [h0]
        | ok o =>
          cases o with
          | none =>
            rw [step_tick_none P r hs hd]
            exact h
          | some mr =>
            rw [step_tick_some P r hs hb hd]
            split
            · simp [h0]
            · split <;> simp [hs, h0]
end steps

theorem foldl_of_stopped (P : Proto μ) : ∀ (evs : List Ev) (r : R μ), r.stopped = true →
    (evs.foldl (step P) r).stopped = true ∧ (evs.foldl (step P) r).out = r.out ∧
    (evs.foldl (step P) r).closeSignals = r.closeSignals := by
  intro evs
  induction evs with
  | nil => intro r h; exact ⟨h, rfl, rfl⟩
  | cons ev evs ih =>
    intro r h
    obtain ⟨h1, h2, h3⟩ := step_of_stopped P r h ev
    obtain ⟨i1, i2, i3⟩ := ih (step P r ev) h1
    exact ⟨i1, i2.trans h2, i3.trans h3⟩

theorem foldl_close_inv (P : Proto μ) : ∀ (evs : List Ev) (r : R μ), (r.closeSignals = if r.stopped then 1 else 0) →
    (evs.foldl (step P) r).closeSignals = if (evs.foldl (step P) r).stopped then 1 else 0 := by
  intro evs
  induction evs with
  | nil => intro r h; exact h
  | cons ev evs ih => intro r h; exact ih _ (step_close_inv P r h ev)

/-- `k` messages of `ms` have been framed; what was received so far is their bytes plus the buffer -/
structure Inv (P : Proto μ) (enc : μ → Bytes) (ms : List μ) (k : Nat) (r : R μ) (recv : Bytes) : Prop where
  hk : k ≤ ms.length
  hrecv : recv = stream enc (ms.take k) ++ r.buf
  live : r.stopped = false →
    r.out = (ms.take k).filter (fun m => !P.isHeartbeat m) ∧ (∀ m ∈ ms.take k, (!P.isLogout m) = true) ∧ r.closeSignals = 0
  dead : r.stopped = true → ∃ j, ∃ h : j < ms.length, k = j + 1 ∧ (∀ m ∈ ms.take j, (!P.isLogout m) = true) ∧
    P.isLogout ms[j] = true ∧ r.out = (ms.take j).filter (fun m => !P.isHeartbeat m) ∧ r.closeSignals = 1

section inv
variable {P : Proto μ} {enc : μ → Bytes} {wf : μ → Prop} {ms : List μ}

theorem inv_init : Inv P enc ms 0 ({} : R μ) [] :=
  ⟨Nat.zero_le _, by simp [stream], fun _ => by simp, fun h => by simp at h⟩

theorem inv_tick_full (S : FrameSpec P enc wf) (hwf : ∀ m ∈ ms, wf m) {k : Nat} {r : R μ} {recv : Bytes}
    (h : Inv P enc ms k r recv) (hs : r.stopped = false) (hk : k < ms.length) {t : Bytes}
    (hbuf : r.buf = enc ms[k] ++ t) : Inv P enc ms (k + 1) (step P r .tick) recv := by
  have hm : wf ms[k] := hwf _ (List.getElem_mem hk)
  have hne : r.buf ≠ [] := by
    rw [hbuf]; intro h0
    exact S.nonempty _ hm (List.append_eq_nil_iff.1 h0).1
  have hd : P.deser r.buf = .ok (some (ms[k], t)) := by rw [hbuf]; exact S.exact _ _ hm
  have htake := take_succ_of_getElem ms k hk
  obtain ⟨hout, hnl, hcl⟩ := h.live hs
  have hrecv' : recv = stream enc (ms.take (k + 1)) ++ t := by
    rw [h.hrecv, htake, stream_append, hbuf]; simp [stream]
  rw [step_tick_some P r hs hne hd]
  by_cases hlo : P.isLogout ms[k] = true
  · simp only [hlo, if_true]
    refine ⟨hk, hrecv', fun h0 => by simp at h0, fun _ => ⟨k, hk, rfl, hnl, hlo, hout, by simp [hcl]⟩⟩
  · have hlo' : P.isLogout ms[k] = false := by simpa using hlo
    have hnl' : ∀ m ∈ ms.take (k + 1), (!P.isLogout m) = true := by
      intro m hmem
      rw [htake] at hmem
      rcases List.mem_append.1 hmem with hm1 | hm1
      · exact hnl m hm1
      · rw [List.mem_singleton.1 hm1, hlo']
        rfl
    simp only [hlo', Bool.false_eq_true, if_false]
    cases hhb : P.isHeartbeat ms[k]
    all_goals
      refine ⟨hk, hrecv', fun _ => ⟨?_, hnl', hcl⟩, fun h0 => by simp [hs] at h0⟩
      rw [htake, List.filter_append]
      simp [hhb, hout]

theorem inv_step (S : FrameSpec P enc wf) (hwf : ∀ m ∈ ms, wf m) {k : Nat} {r : R μ} {recv : Bytes}
    (h : Inv P enc ms k r recv) (ev : Ev) (hpre : recv ++ received [ev] <+: stream enc ms) :
    ∃ k', k ≤ k' ∧ Inv P enc ms k' (step P r ev) (recv ++ received [ev]) := by
  cases ev with
  | data seg =>
    refine ⟨k, Nat.le_refl _, h.hk, ?_, ?_, ?_⟩
    · simp [received, h.hrecv]
    · intro hs; simpa using h.live (by simpa using hs)
    · intro hs; simpa using h.dead (by simpa using hs)
  | tick =>
    have hr : recv ++ received [Ev.tick] = recv := by simp [received]
    rw [hr] at hpre ⊢
    cases hs : r.stopped with
    | true => rw [step_tick_stopped P r hs]; exact ⟨k, Nat.le_refl _, h⟩
    | false =>
      by_cases hb : r.buf = []
      · rw [step_tick_empty P r hb]; exact ⟨k, Nat.le_refl _, h⟩
      · -- the buffer is a prefix of the not yet framed part of the stream
        have hbp : r.buf <+: stream enc (ms.drop k) := by
          have := hpre
          rw [h.hrecv, stream_take_drop enc ms k] at this
          exact (List.prefix_append_right_inj _).1 this
        have hklt : k < ms.length := by
          rcases Nat.lt_or_ge k ms.length with h1 | h1
          · exact h1
          · rw [List.drop_eq_nil_of_le h1] at hbp
            simp [stream] at hbp
            exact absurd hbp hb
        rw [List.drop_eq_getElem_cons hklt, stream_cons] at hbp
        by_cases hfull : enc ms[k] <+: r.buf
        · obtain ⟨t, ht⟩ := hfull
          exact ⟨k + 1, Nat.le_succ _, inv_tick_full S hwf h hs hklt ht.symm⟩
        · have hshort : r.buf <+: enc ms[k] := by
            rcases List.prefix_or_prefix_of_prefix hbp (List.prefix_append _ _) with h1 | h1
            · exact h1
            · exact absurd h1 hfull
          have hneq : r.buf ≠ enc ms[k] := fun he => hfull (he ▸ List.prefix_refl _)
          have hd := S.short _ _ (hwf _ (List.getElem_mem hklt)) hshort hneq hb
          rw [step_tick_none P r hs hd]
          exact ⟨k, Nat.le_refl _, h⟩

theorem inv_foldl (S : FrameSpec P enc wf) (hwf : ∀ m ∈ ms, wf m) : ∀ (evs : List Ev) (k : Nat) (r : R μ) (recv : Bytes),
    Inv P enc ms k r recv → recv ++ received evs <+: stream enc ms →
    ∃ k', k ≤ k' ∧ Inv P enc ms k' (evs.foldl (step P) r) (recv ++ received evs) := by
  intro evs
  induction evs with
  | nil => intro k r recv h _; exact ⟨k, Nat.le_refl _, by simpa [received] using h⟩
  | cons ev evs ih =>
    intro k r recv h hpre
    have hsplit : received (ev :: evs) = received [ev] ++ received evs := by
      cases ev <;> simp [received]
    rw [hsplit, ← List.append_assoc] at hpre ⊢
    obtain ⟨k1, hk1, h1⟩ := inv_step S hwf h ev ((List.prefix_append _ _).trans hpre)
    obtain ⟨k2, hk2, h2⟩ := ih k1 _ _ h1 hpre
    exact ⟨k2, Nat.le_trans hk1 hk2, h2⟩

theorem inv_run (S : FrameSpec P enc wf) (hwf : ∀ m ∈ ms, wf m) (evs : List Ev)
    (hpre : received evs <+: stream enc ms) : ∃ k, Inv P enc ms k (run P evs) (received evs) := by
  obtain ⟨k, _, h⟩ := inv_foldl S hwf evs 0 {} [] inv_init (by simpa using hpre)
  exact ⟨k, by simpa [run] using h⟩

theorem inv_stopped {k : Nat} {r : R μ} {recv : Bytes} (h : Inv P enc ms k r recv) (hs : r.stopped = true) :
    r.out = expected P ms ∧ r.closeSignals = 1 ∧ hasLogout P ms = true := by
  obtain ⟨j, hj, _, hnl, hlo, hout, hc⟩ := h.dead hs
  refine ⟨?_, hc, ?_⟩
  · rw [hout, expected, takeWhile_eq_take _ ms j hj hnl (by simp [hlo])]
  · simp only [hasLogout, List.any_eq_true]
    exact ⟨ms[j], List.getElem_mem hj, hlo⟩

theorem inv_out_prefix {k : Nat} {r : R μ} {recv : Bytes} (h : Inv P enc ms k r recv) : r.out <+: expected P ms := by
  cases hs : r.stopped with
  | false =>
    obtain ⟨hout, hnl, _⟩ := h.live hs
    rw [hout]
    exact List.IsPrefix.filter _ (take_prefix_takeWhile _ ms k hnl)
  | true =>
    rw [(inv_stopped h hs).1]
    exact List.prefix_refl _

theorem inv_ticks_complete (S : FrameSpec P enc wf) (hwf : ∀ m ∈ ms, wf m) : ∀ (n k : Nat) (r : R μ),
    Inv P enc ms k r (stream enc ms) →
    ∃ k', Inv P enc ms k' ((List.replicate n Ev.tick).foldl (step P) r) (stream enc ms) ∧
      (((List.replicate n Ev.tick).foldl (step P) r).stopped = true ∨ min (k + n) ms.length ≤ k') := by
  intro n
  induction n with
  | zero => intro k r h; exact ⟨k, by simpa using h, Or.inr (by simp; exact Nat.min_le_left _ _)⟩
  | succ n ih =>
    intro k r h
    simp only [List.replicate_succ, List.foldl_cons]
    cases hs : r.stopped with
    | true =>
      rw [step_tick_stopped P r hs]
      obtain ⟨k', h', _⟩ := ih k r h
      exact ⟨k', h', Or.inl (foldl_of_stopped P _ r hs).1⟩
    | false =>
      rcases Nat.lt_or_ge k ms.length with hk | hk
      · have hbuf : r.buf = enc ms[k] ++ stream enc (ms.drop (k + 1)) := by
          have h1 := h.hrecv
          rw [stream_take_drop enc ms k, List.drop_eq_getElem_cons hk, stream_cons] at h1
          exact (List.append_cancel_left h1).symm
        obtain ⟨k', h', hor⟩ := ih (k + 1) _ (inv_tick_full S hwf h hs hk hbuf)
        exact ⟨k', h', hor.imp id (fun hle => by omega)⟩
      · have hkeq : k = ms.length := Nat.le_antisymm h.hk hk
        have hb : r.buf = [] := by
          have h1 := h.hrecv
          rw [hkeq, List.take_length] at h1
          have : stream enc ms ++ [] = stream enc ms ++ r.buf := by simpa using h1
          exact (List.append_cancel_left this).symm
        rw [step_tick_empty P r hb]
        obtain ⟨k', h', hor⟩ := ih k r h
        exact ⟨k', h', hor.imp id (fun hle => by omega)⟩

theorem inv_final {k : Nat} {r : R μ} {recv : Bytes} (h : Inv P enc ms k r recv)
    (hfin : r.stopped = true ∨ ms.length ≤ k) :
    r.out = expected P ms ∧ (r.stopped = true ↔ hasLogout P ms = true) ∧
      r.closeSignals = (if hasLogout P ms then 1 else 0) := by
  cases hs : r.stopped with
  | true =>
    obtain ⟨h1, h2, h3⟩ := inv_stopped h hs
    exact ⟨h1, by simp [h3], by simp [h3, h2]⟩
  | false =>
    have hk : ms.length ≤ k := by
      rcases hfin with h0 | h0
      · simp [hs] at h0
      · exact h0
    obtain ⟨hout, hnl, hc⟩ := h.live hs
    rw [List.take_of_length_le hk] at hout hnl
    have hno : hasLogout P ms = false := by
      simp only [hasLogout, List.any_eq_false]
      intro m hm; simpa using hnl m hm
    refine ⟨?_, by simp [hno], by simp [hno, hc]⟩
    rw [hout, expected, takeWhile_eq_self _ ms hnl]

end inv

section generic
variable {P : Proto μ} {enc : μ → Bytes} {wf : μ → Prop}

theorem generic_prefix (S : FrameSpec P enc wf) (ms : List μ) (hwf : ∀ m ∈ ms, wf m) (evs : List Ev)
    (hpre : received evs <+: stream enc ms) : (run P evs).out <+: expected P ms := by
  obtain ⟨k, h⟩ := inv_run S hwf evs hpre
  exact inv_out_prefix h

theorem generic_complete (S : FrameSpec P enc wf) (ms : List μ) (hwf : ∀ m ∈ ms, wf m) (evs : List Ev)
    (hrecv : received evs = stream enc ms) (hticks : ms.length ≤ ticksAfterLastData evs) :
    (run P evs).out = expected P ms ∧ ((run P evs).stopped = true ↔ hasLogout P ms = true) ∧
      (run P evs).closeSignals = (if hasLogout P ms then 1 else 0) := by
  obtain ⟨pre, hsplit, hpre⟩ := split_trailing_ticks evs
  obtain ⟨k, h⟩ := inv_run S hwf pre (by rw [hpre, hrecv]; exact List.prefix_refl _)
  rw [hpre, hrecv] at h
  obtain ⟨k', h', hor⟩ := inv_ticks_complete S hwf (ticksAfterLastData evs) k _ h
  have hrun : run P evs = (List.replicate (ticksAfterLastData evs) Ev.tick).foldl (step P) (run P pre) := by
    conv => lhs; rw [hsplit]
    simp [run, List.foldl_append]
  rw [hrun]
  exact inv_final h' (hor.imp id (fun hle => by omega))

theorem generic_stopped (S : FrameSpec P enc wf) (ms : List μ) (hwf : ∀ m ∈ ms, wf m) (evs : List Ev)
    (hpre : received evs <+: stream enc ms) (hs : (run P evs).stopped = true) :
    (run P evs).out = expected P ms ∧ (run P evs).closeSignals = 1 ∧ hasLogout P ms = true := by
  obtain ⟨k, h⟩ := inv_run S hwf evs hpre
  exact inv_stopped h hs

theorem generic_nothing_after_stop (P : Proto μ) (evs more : List Ev) (hs : (run P evs).stopped = true) :
    (run P (evs ++ more)).out = (run P evs).out ∧ (run P (evs ++ more)).closeSignals = (run P evs).closeSignals ∧
      (run P (evs ++ more)).stopped = true := by
  have := foldl_of_stopped P more (run P evs) hs
  simp only [run, List.foldl_append] at this ⊢
  exact ⟨this.2.1, this.2.2, this.1⟩

theorem generic_close_once (P : Proto μ) (evs : List Ev) :
    (run P evs).closeSignals = (if (run P evs).stopped then 1 else 0) :=
  foldl_close_inv P evs {} rfl

end generic
end NasdaqModel.Framing
