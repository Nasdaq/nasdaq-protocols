import NasdaqModel.Lemmas.AppSessionStage
import NasdaqModel.Lemmas.AppSessionLinkInner
/-
The link invariant of the application-close repair (C05-app-close-from-message-callback): the reserved inner user task `U d2u`
exists only as the stand-in of the second dispatcher `D2` carrying out `soup_session.close()`.

`Link s`: in every reachable product state one of
  0. the inner task `U d2u` has never been created;
  1. `D2` is `inSoup`, the close event exists and `U d2u` is the closer of the soup session;
  2. the close of the soup session has ended (`finished` / `aborted`).
It is inductive because (0) the inner machine never creates a user task on its own (`Sess.step_absent`) and the product refuses
the user's inner events that name `U d2u` (`reservedEv`), so the only way out of (0) is `closeOnD2`, which sets `inSoup` and the
event in the same step; (1) the closer stays the closer until the close ends (`Sess.step_closerOrFinal`), `D2` leaves `inSoup`
only through `d2Return`, which `finishClose` runs in the step in which the closer leaves the callback stage, i.e. ends the
close; (2) an ended close stays ended.
-/
namespace NasdaqModel.App
open NasdaqModel

theorem IReachable.induct {a : ACfg} (P : Sess.St → Prop) (h0 : P {})
    (hs : ∀ i e, IReachable a i → P i → P (Sess.step (innerCfg a) i e)) : ∀ i, IReachable a i → P i := by
  rintro i ⟨es, rfl⟩
  have key : ∀ (es : List Sess.Ev) (s : Sess.St), IReachable a s → P s →
      P (Sess.runEvs (innerCfg a) s es) := by
    intro es
    induction es with
    | nil => intro s _ p; exact p
    | cons e es ih => intro s r p; exact ih _ (r.step e) (hs s e r p)
  exact key es {} ⟨[], rfl⟩ h0

/-- the inner close callback configured by the application session suspends exactly once: the callback stage is `cb t 0 c` -/
theorem IReachable.cb_zero {a : ACfg} {i : Sess.St} (h : IReachable a i) :
    ∀ t k c, i.cstage = .cb t k c → k = 0 := by
  refine IReachable.induct (a := a) (fun i => ∀ t k c, i.cstage = .cb t k c → k = 0) ?_ ?_ i h
  · intro t k c h; cases h
  · intro i e hr ih
    obtain ⟨ia, _, _⟩ := hr.invs
    have pre : Sess.preCb i → ∀ t k c, (Sess.step (innerCfg a) i e).cstage = .cb t k c → k = 0 := by
      intro hpre t' k' c' h'
      rcases Sess.step_postCb (innerCfg a) rfl rfl i e ia hpre with hp | ⟨t, c, hcb⟩
      · rcases hp with h | ⟨t'', pc, c'', h⟩ <;> rw [h] at h' <;> cases h'
      · rw [hcb] at h'; cases h'; rfl
    cases hst : i.cstage with
    | cb t k c =>
      have hk : k = 0 := ih t k c hst
      subst hk
      have hcl : i.closed = true := ia.closed_iff.mpr (by rw [hst]; simp)
      by_cases he : e = .run t
      · subst he
        obtain ⟨_, _, _, hs⟩ := cb_facts hr hst
        obtain ⟨f1, f2⟩ := closer_step_final hr hst
        intro t' k' c' h'
        rcases hs with hs | hs
        · rw [f1 hs] at h'; cases h'
        · rw [f2 hs] at h'; cases h'
      · intro t' k' c' h'
        rw [Sess.step_cb_frame _ _ t 0 c e hcl hst he] at h'
        cases h'; rfl
    | finished =>
      have hcl : i.closed = true := ia.closed_iff.mpr (by rw [hst]; simp)
      intro t' k' c' h'
      rw [Sess.step_finished_final (innerCfg a) i e hcl hst] at h'; cases h'
    | aborted =>
      have hcl : i.closed = true := ia.closed_iff.mpr (by rw [hst]; simp)
      intro t' k' c' h'
      rw [Sess.step_aborted_final (innerCfg a) i e hcl hst] at h'; cases h'
    | idle => exact pre (Or.inl hst)
    | body t0 pc0 c0 => exact pre (Or.inr ⟨_, _, _, hst⟩)

theorem isCloser_closed {a : ACfg} {i : Sess.St} (hr : IReachable a i) {t : Sess.Tid} (h : Sess.isCloser i t) :
    i.closed = true := by
  obtain ⟨ia, _, _⟩ := hr.invs
  apply ia.closed_iff.mpr
  rcases h with ⟨pc, c, h⟩ | ⟨k, c, h⟩ <;> rw [h] <;> simp

theorem final_closed {a : ACfg} {i : Sess.St} (hr : IReachable a i) (h : Sess.finalStage i) : i.closed = true := by
  obtain ⟨ia, _, _⟩ := hr.invs
  apply ia.closed_iff.mpr
  rcases h with h | h <;> rw [h] <;> simp

def Link (s : St) : Prop :=
  Sess.Absent d2u s.inner ∨
  (s.astatus .D2 = .inSoup ∧ s.evt ≠ none ∧ Sess.isCloser s.inner (.U d2u)) ∨
  Sess.finalStage s.inner

structure InvL (a : ACfg) (s : St) : Prop where
  reach : IReachable a s.inner
  link : Link s

def NotCreating (e : Sess.Ev) : Prop := e ≠ .callClose d2u ∧ e ≠ .callRecv d2u ∧ e ≠ .callLogin d2u

theorem notCreating_of_not_reserved {e : Sess.Ev} (h : reservedEv e = false) : NotCreating e := by
  unfold NotCreating
  cases e <;> simp_all [reservedEv]

theorem notCreating_run (t : Sess.Tid) : NotCreating (.run t) := by
  unfold NotCreating; simp

theorem InvL.init (a : ACfg) : InvL a {} := ⟨⟨[], rfl⟩, Or.inl rfl⟩

theorem InvL.keeps {a : ACfg} {s s' : St} (i : InvL a s) (k : Keeps s s') : InvL a s' := by
  refine ⟨by rw [k.inner]; exact i.reach, ?_⟩
  rcases i.link with h0 | ⟨h1, h2, h3⟩ | hf
  · exact Or.inl (by rw [k.inner]; exact h0)
  · exact Or.inr (Or.inl ⟨k.d2 h1, k.evt h2, by rw [k.inner]; exact h3⟩)
  · exact Or.inr (Or.inr (by rw [k.inner]; exact hf))

theorem InvL.of_link0 {a : ACfg} {s' : St} (hr : IReachable a s'.inner)
    (h : Sess.Absent d2u s'.inner ∨ Sess.finalStage s'.inner) : InvL a s' :=
  ⟨hr, h.elim Or.inl (fun f => Or.inr (Or.inr f))⟩

theorem InvL.link0 {a : ACfg} {s : St} (i : InvL a s) (h : ¬ (s.astatus .D2 = .inSoup ∧ s.evt ≠ none ∧ Sess.isCloser s.inner (.U d2u))) :
    Sess.Absent d2u s.inner ∨ Sess.finalStage s.inner := by
  rcases i.link with h0 | h1 | hf
  · exact Or.inl h0
  · exact absurd h1 h
  · exact Or.inr hf

theorem InvL.innerEv {a : ACfg} {s s' : St} (i : InvL a s) (e : Sess.Ev)
    (hi : s'.inner = Sess.step (innerCfg a) s.inner e) (he : s.evt ≠ none → s'.evt ≠ none)
    (hd : s.astatus .D2 = .inSoup → s'.astatus .D2 = .inSoup)
    (hc : NotCreating e ∨ (e = .callClose d2u ∧ s.astatus .D2 = .inSoup ∧ s.evt ≠ none ∧ s.inner.closed = false)) :
    InvL a s' := by
  refine ⟨by rw [hi]; exact i.reach.step e, ?_⟩
  rcases i.link with h0 | ⟨h1, h2, h3⟩ | hf
  · rcases hc with hn | ⟨rfl, hD, hE, hcl⟩
    · exact Or.inl (by rw [hi]; exact Sess.step_absent _ _ _ _ h0 hn.1 hn.2.1 hn.2.2)
    · have hcf := Sess.step_callClose_closer (innerCfg a) s.inner d2u h0 hcl
      rcases hcf.2 with hcz | hfin
      · exact Or.inr (Or.inl ⟨hd hD, he hE, by rw [hi]; exact hcz⟩)
      · exact Or.inr (Or.inr (by rw [hi]; exact hfin))
  · have hcl := isCloser_closed i.reach h3
    rcases (Sess.step_closerOrFinal (innerCfg a) s.inner (.U d2u) e ⟨hcl, Or.inl h3⟩).2 with hcz | hfin
    · exact Or.inr (Or.inl ⟨hd h1, he h2, by rw [hi]; exact hcz⟩)
    · exact Or.inr (Or.inr (by rw [hi]; exact hfin))
  · have hcl := final_closed i.reach hf
    refine Or.inr (Or.inr ?_)
    rw [hi]
    rcases hf with hf | hf
    · exact Or.inl (Sess.step_finished_final (innerCfg a) s.inner e hcl hf)
    · exact Or.inr (Sess.step_aborted_final (innerCfg a) s.inner e hcl hf)

theorem InvL.out {a : ACfg} {s s' : St} {t : Sess.Tid} (i : InvL a s) (hc : closerOf s.inner = some t)
    (h : Keeps s s' ∨ s'.inner = Sess.step (innerCfg a) s.inner (.run t)) : InvL a s' := by
  rcases h with k | hi
  · exact i.keeps k
  · obtain ⟨k, c, hcs⟩ := closerOf_some hc
    have hk : k = 0 := i.reach.cb_zero t k c hcs
    subst hk
    refine InvL.of_link0 (by rw [hi]; exact i.reach.step _) ?_
    rw [hi]
    rcases i.link with h0 | _ | _
    · exact Or.inl (Sess.step_absent _ _ _ _ h0 (by simp) (by simp) (by simp))
    all_goals
      obtain ⟨_, _, _, hs⟩ := cb_facts i.reach hcs
      obtain ⟨f1, f2⟩ := closer_step_final i.reach hcs
      rcases hs with hs | hs
      · exact Or.inr (Or.inl (f1 hs))
      · exact Or.inr (Or.inr (f2 hs))

theorem keeps_wake2 (s : St) (t : ATid) : Keeps s (s.wake2 t) := by
  unfold St.wake2
  split
  · rename_i hs; exact keeps_setA_of s t _ (by rw [hs]; simp)
  · exact Keeps.refl s

theorem keeps_put2 (s : St) (v : Nat) : Keeps s (s.put2 v) := by
  unfold St.put2
  have h1 : Keeps s { s with q2 := s.q2 ++ [v], fed := s.fed ++ [v] } := (Keeps.same rfl rfl rfl)
  exact (h1.trans (keeps_wake2 _ .D2)).trans (keeps_wake2 _ .V2)

theorem keeps_feed1 (a : ACfg) (s : St) (n : Nat) : Keeps s (feed1 a s n) := by
  unfold feed1
  split
  · exact keeps_put2 s _
  · exact Keeps.refl s

theorem keeps_feed (a : ACfg) (ns : List Nat) (s : St) : Keeps s (feed a s ns) := by
  induction ns generalizing s with
  | nil => exact Keeps.refl s
  | cons n ns ih => exact (keeps_feed1 a s n).trans (ih (feed1 a s n))

theorem innerStep_evt (a : ACfg) (s : St) (e : Sess.Ev) (h : s.evt ≠ none) : (innerStep a s e).evt ≠ none := by
  unfold innerStep
  exact (keeps_feed a _ _).evt h

theorem innerStep_d2 (a : ACfg) (s : St) (e : Sess.Ev) (h : s.astatus .D2 = .inSoup) :
    (innerStep a s e).astatus .D2 = .inSoup := by
  unfold innerStep
  exact (keeps_feed a _ _).d2 h

theorem resumeSoupClose_keeps_or_step (a : ACfg) (s : St) (t : Sess.Tid) :
    Keeps s (resumeSoupClose a s t) ∨ (resumeSoupClose a s t).inner = Sess.step (innerCfg a) s.inner (.run t) := by
  cases hm : midStage s.cpc with
  | true =>
    rcases resumeSoupClose_out a s t hm with (⟨k, _⟩ | ⟨h, _⟩) | ⟨_, h, _⟩
    · exact Or.inl k
    · exact Or.inr h
    · exact Or.inr h
  | false =>
    refine Or.inl ?_
    unfold resumeSoupClose
    cases hc : s.cpc <;> simp_all [midStage, Keeps.refl]

theorem construct_closed (a : ACfg) (s : St) (h : s.inner.closed = true) : construct a s = s := by
  simp [construct, h]

theorem InvL.construct {a : ACfg} {s : St} (i : InvL a s) : InvL a (construct a s) := by
  by_cases hcl : s.inner.closed = true
  · rw [construct_closed a s hcl]; exact i
  · have h0 := i.link0 (fun h => hcl (isCloser_closed i.reach h.2.2))
    exact InvL.of_link0 (by rw [construct_inner]; exact i.reach) (by rw [construct_inner]; exact h0)

theorem InvL.passInner {a : ACfg} {s : St} (i : InvL a s) (e : Sess.Ev)
    (hc : NotCreating e ∨ (e = .callClose d2u ∧ s.astatus .D2 = .inSoup ∧ s.evt ≠ none ∧ s.inner.closed = false)) :
    InvL a (passInner a s e) := by
  have i1 : InvL a (innerStep a s e) :=
    i.innerEv e (innerStep_inner a s e) (innerStep_evt a s e) (innerStep_d2 a s e) hc
  have i2 := i1.construct
  unfold App.passInner
  simp only
  generalize App.construct a (innerStep a s e) = s2 at i2
  split
  · rename_i t h1 _
    exact i2.out h1 ((onSoupClose_out a s2 t).imp And.left And.left)
  · exact i2

theorem InvL.stepInner {a : ACfg} {s : St} (i : InvL a s) (e : Sess.Ev) (hn : NotCreating e) :
    InvL a (stepInner a s e) := by
  unfold App.stepInner
  split
  · split
    · rename_i h
      split
      · exact i.out h.1 (resumeSoupClose_keeps_or_step a s _)
      · exact i
    · exact i.passInner _ (Or.inl hn)
  · split
    · exact i.keeps (keeps_cancel2 s .D2)
    · split
      · exact i.keeps (keeps_cancel2 s .V2)
      · exact i.passInner _ (Or.inl hn)
  · exact i.passInner _ (Or.inl hn)

/-- `close()` awaited from the message callback, past its guard (no close event yet): the only step that creates `U d2u` -/
theorem InvL.closeOnD2 {a : ACfg} {s : St} (i : InvL a s) (he : s.evt = none) (p : AProg) : InvL a (closeOnD2 a s p) := by
  have h0 := i.link0 (fun h => h.2.1 he)
  unfold App.closeOnD2
  simp only
  split
  · exact InvL.of_link0 (by rw [inner_d2Return]; exact i.reach) (by rw [inner_d2Return]; exact h0)
  · rename_i hcl
    have i0 : InvL a ((({ s with evt := some false } : St).setA .D2 .inSoup).setP .D2 p) := InvL.of_link0 i.reach h0
    exact i0.passInner _ (Or.inr ⟨rfl, by simp [St.setA, St.setP], by simp [St.setA, St.setP], by simpa using hcl⟩)

theorem evt_none_of_guard {s : St} (h : ¬ (s.evt.isSome || s.appClosed) = true) : s.evt = none := by
  cases he : s.evt with
  | none => rfl
  | some b => rw [he] at h; simp at h

theorem InvL.dispHandle2 {a : ACfg} {s : St} (i : InvL a s) (v : Nat) : InvL a (dispHandle2 a s v) := by
  unfold App.dispHandle2
  split
  · exact i.keeps (Keeps.same rfl rfl rfl)
  · exact i.keeps (Keeps.same rfl rfl rfl)
  · exact i.keeps (Keeps.same rfl rfl rfl)
  · split
    · exact i.keeps (Keeps.same rfl rfl rfl)
    · rename_i hg
      exact i.closeOnD2 (evt_none_of_guard hg) _
  · exact i.keeps (Keeps.same rfl rfl rfl)
  · exact i.keeps (Keeps.same rfl rfl rfl)

theorem InvL.handlerDone {a : ACfg} {s : St} (i : InvL a s) (t : ATid) (v : Nat) : InvL a (handlerDone a s t v) := by
  unfold App.handlerDone
  split
  · split
    · exact i.keeps (Keeps.same rfl rfl rfl)
    · rename_i hg
      exact i.closeOnD2 (evt_none_of_guard hg) _
  · exact i.keeps (Keeps.same rfl rfl rfl)

/-- a task that is not `D2`, or any task while `D2` is not `inSoup`, ends / changes its own status -/
macro "kp" i:ident h:ident : tactic =>
  `(tactic| (refine InvL.keeps $i ⟨rfl, fun h => h, fun hD' => ?_⟩
             have hne := $h hD'
             simp [St.finish2, St.setA, St.emit2, St.setP, St.spawn2, hD', hne]))

theorem InvL.stepDisp2 {a : ACfg} {s : St} (i : InvL a s) (hD : s.astatus .D2 ≠ .inSoup) : InvL a (stepDisp2 a s) := by
  unfold App.stepDisp2
  split
  · exact i.keeps ⟨rfl, fun h => h, fun h => absurd h hD⟩
  · split
    · exact i
    · split
      · exact i.keeps ⟨rfl, fun h => h, fun h => absurd h hD⟩
      · rename_i v q _
        exact InvL.dispHandle2 (s := ({ s with q2 := q, gone2 := s.gone2 ++ [(v, true)] } : St).emit2 (.msgEnter v))
          (i.keeps (Keeps.same rfl rfl rfl)) v

theorem InvL.stepRun2 {a : ACfg} {s : St} (i : InvL a s) (t : ATid) (hD : s.astatus .D2 = .inSoup → ¬ ATid.D2 = t) :
    InvL a (stepRun2 a s t) := by
  unfold App.stepRun2
  have i0 : InvL a { s with imm2 := false } := i.keeps (Keeps.same rfl rfl rfl)
  have hD0 : ({ s with imm2 := false } : St).astatus .D2 = .inSoup → ¬ ATid.D2 = t := hD
  generalize ({ s with imm2 := false } : St) = s0 at i0 hD0
  simp only
  split
  · split
    · kp i0 hD0
    · split
      · kp i0 hD0
      · rename_i hg
        exact i0.closeOnD2 (evt_none_of_guard hg) _
    · split <;> kp i0 hD0
    · kp i0 hD0
    · kp i0 hD0
  · split
    · split
      · rename_i ht
        exact i0.stepDisp2 (fun h => hD0 h ht.symm)
      · exact i0
    · split
      · exact i0.handlerDone _ _
      · kp i0 hD0
    · split <;> kp i0 hD0
    · split
      · kp i0 hD0
      · split
        · exact i0
        · kp i0 hD0
    · split
      · kp i0 hD0
      · split <;> kp i0 hD0
    · kp i0 hD0
    · exact i0
  · exact i0

theorem InvL.startRecv2 {a : ACfg} {s : St} (i : InvL a s) (u : Nat) : InvL a (startRecv2 s u) := by
  have hD : s.astatus .D2 = .inSoup → ¬ ATid.D2 = ATid.W u := fun _ => by simp
  unfold App.startRecv2
  split
  · exact i
  · split
    · kp i hD
    · split
      · kp i hD
      · split
        · kp i hD
        · kp i hD

theorem InvL.startClose {a : ACfg} {s : St} (i : InvL a s) (u : Nat) (p : AProg) : InvL a (startClose a s (.W u) p) := by
  refine i.innerEv .callInitiateClose ?_ ?_ ?_ (Or.inl (by unfold NotCreating; simp))
  · simp [App.startClose, innerStep_inner]
  · intro _
    show (innerStep a { s with evt := some false } .callInitiateClose).evt ≠ none
    exact innerStep_evt a _ _ (by simp)
  · intro hD
    have := innerStep_d2 a { s with evt := some false } .callInitiateClose hD
    simp [App.startClose, St.setA, St.setP, this]

theorem step_InvL {a : ACfg} {s : St} (i : InvL a s) (ev : Ev) : InvL a (step a s ev) := by
  cases ev with
  | inner e =>
    simp only [step]
    split
    · exact i
    · rename_i h
      exact i.stepInner e (notCreating_of_not_reserved (by simpa using h))
  | run t =>
    simp only [step]
    split
    · rename_i hr
      refine i.stepRun2 t ?_
      intro hD e
      subst e
      simp [runnable2, hD] at hr
    · split
      · exact InvL.stepInner (s := { s with imm2 := false }) (i.keeps (Keeps.same rfl rfl rfl)) _ (notCreating_run _)
      · exact i
  | appClose u =>
    have hD : s.astatus .D2 = .inSoup → ¬ ATid.D2 = ATid.W u := fun _ => by simp
    simp only [step]
    split
    · exact i
    · split
      · kp i hD
      · exact i.startClose u _
  | appRecv u =>
    simp only [step]
    split
    · exact i
    · exact i.startRecv2 u
  | appCancel u => exact i.keeps (keeps_cancel2 s _)

theorem runEvs_InvL (a : ACfg) (evs : List Ev) : InvL a (runEvs a {} evs) := by
  have : ∀ (s : St), InvL a s → InvL a (runEvs a s evs) := by
    induction evs with
    | nil => intro s i; exact i
    | cons ev evs ih => intro s i; exact ih _ (step_InvL i ev)
  exact this _ (InvL.init a)

end NasdaqModel.App
