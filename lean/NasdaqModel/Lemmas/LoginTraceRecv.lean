import NasdaqModel.Lemmas.LoginTraceBase
/-
Login at trace level (C11), part 1: the receive bookkeeping and a few global state facts — the invariant `InvW` and what keeps it,
operation by operation (every step keeps it: `LoginTraceW.lean`, `runEvs_InvWT`).

  busy / uniq   at most one user task is inside a receive (`receive_msg()` or the receive of `login()`), and while one is, the
                `rcvBusy` flag is set — so the reply taken for a login cannot be taken by anybody else
  wprog         a user task that awaits the receive helper of an open session is inside a receive
  qc            the queue is stopped only by `close()`:  `qClosed → closed`
  dalive        a live dispatcher task means dispatching was switched on (or the session is closed and it is about to end)
  mons          while the session is open a heartbeat monitor, once started, is running
-/
namespace NasdaqModel.Sess

structure InvW (s : St) : Prop where
  busy : ∀ a, rcving s a → s.rcvBusy = true
  uniq : ∀ a b, rcving s a → rcving s b → a = b
  wprog : ∀ a, s.status (.U a) = .waitT .V → s.closed = false → s.prog (.U a) = .loginWait a ∨ s.prog (.U a) = .recvWait a
  qc : s.qClosed = true → s.closed = true
  dalive : alive (s.status .D) = true → s.dispSet = true ∨ s.closed = true
  mons : s.closed = false → (s.status .L = .absent ∨ s.status .L = .ready) ∧ (s.status .M = .absent ∨ s.status .M = .ready)

/-- what `InvW` reads -/
def viewW (s : St) :=
  (fun a => s.status (.U a), fun a => s.prog (.U a), alive (s.status .D), s.status .L, s.status .M, s.rcvBusy, s.dispSet,
    s.closed, s.qClosed)

theorem InvW.of_view {s s' : St} (i : InvW s) (h : viewW s' = viewW s) : InvW s' := by
  simp only [viewW, Prod.mk.injEq] at h
  obtain ⟨h1, h2, h3, h4, h5, h6, h7, h8, h9⟩ := h
  have e1 : ∀ a, s'.status (.U a) = s.status (.U a) := fun a => congrFun h1 a
  have e2 : ∀ a, s'.prog (.U a) = s.prog (.U a) := fun a => congrFun h2 a
  have hr : ∀ a, rcving s' a ↔ rcving s a := by intro a; unfold rcving; rw [e1, e2]
  refine ⟨?_, ?_, ?_, ?_, ?_, ?_⟩
  · intro a ha; rw [h6]; exact i.busy a ((hr a).mp ha)
  · intro a b ha hb; exact i.uniq a b ((hr a).mp ha) ((hr b).mp hb)
  · intro a; rw [e1, e2, h8]; exact i.wprog a
  · rw [h9, h8]; exact i.qc
  · rw [h3, h7, h8]; exact i.dalive
  · rw [h8, h4, h5]; exact i.mons

/-- a step in which no user task enters a receive and the busy flag does not change -/
theorem InvW.shrink {s s' : St} (i : InvW s) (hr : ∀ a, rcving s' a → rcving s a) (hb : s'.rcvBusy = s.rcvBusy)
    (hw : ∀ a, s'.status (.U a) = .waitT .V → s'.closed = false →
      s.status (.U a) = .waitT .V ∧ s.closed = false ∧ s'.prog (.U a) = s.prog (.U a))
    (hq : s'.qClosed = true → s'.closed = true)
    (hd : alive (s'.status .D) = true → s'.dispSet = true ∨ s'.closed = true)
    (hm : s'.closed = false → (s'.status .L = .absent ∨ s'.status .L = .ready) ∧ (s'.status .M = .absent ∨ s'.status .M = .ready)) :
    InvW s' := by
  refine ⟨?_, ?_, ?_, hq, hd, hm⟩
  · intro a ha; rw [hb]; exact i.busy a (hr a ha)
  · intro a b ha hb'; exact i.uniq a b (hr a ha) (hr b hb')
  · intro a ha hc
    obtain ⟨h1, h2, h3⟩ := hw a ha hc
    rw [h3]; exact i.wprog a h1 h2

/-- the receiving user `u` leaves its receive -/
theorem InvW.clear {s s' : St} (i : InvW s) (u : Nat) (hu : rcving s u) (hr : ∀ a, rcving s' a → rcving s a ∧ a ≠ u)
    (hw : ∀ a, s'.status (.U a) = .waitT .V → s'.closed = false →
      s.status (.U a) = .waitT .V ∧ s.closed = false ∧ s'.prog (.U a) = s.prog (.U a))
    (hq : s'.qClosed = true → s'.closed = true)
    (hd : alive (s'.status .D) = true → s'.dispSet = true ∨ s'.closed = true)
    (hm : s'.closed = false → (s'.status .L = .absent ∨ s'.status .L = .ready) ∧ (s'.status .M = .absent ∨ s'.status .M = .ready)) :
    InvW s' := by
  have none : ∀ a, ¬ rcving s' a := by
    intro a ha
    obtain ⟨h1, h2⟩ := hr a ha
    exact h2 (i.uniq a u h1 hu)
  refine ⟨fun a ha => absurd ha (none a), fun a _ ha => absurd ha (none a), ?_, hq, hd, hm⟩
  intro a ha hc
  obtain ⟨h1, h2, h3⟩ := hw a ha hc
  rw [h3]; exact i.wprog a h1 h2

theorem InvW.finish {s : St} (i : InvW s) (t : Tid) (hLM : s.closed = false → t ≠ .L ∧ t ≠ .M) : InvW (s.finish t) := by
  apply i.shrink
  · intro a ⟨h1, h2⟩
    rw [alive_finish] at h1
    split at h1
    · simp at h1
    · exact ⟨h1, h2⟩
  · rfl
  · intro a ha hc; exact ⟨waitT_of_finish ha, hc, rfl⟩
  · exact i.qc
  · intro h
    rw [alive_finish] at h
    split at h
    · simp at h
    · exact i.dalive h
  · intro hc
    have hc' : s.closed = false := hc
    obtain ⟨hL, hM⟩ := i.mons hc'
    obtain ⟨tL, tM⟩ := hLM hc'
    constructor
    · rw [finish_status]; simp only [Ne.symm tL, if_false]
      rcases hL with h | h <;> simp [h]
    · rw [finish_status]; simp only [Ne.symm tM, if_false]
      rcases hM with h | h <;> simp [h]

theorem InvW.close {s s' : St} {ab : Bool} {t : Tid} {c : Cont} (i : InvW s) (e : CloseStep ab t c s s')
    (hb : s'.rcvBusy = s.rcvBusy) : InvW s' := by
  apply i.shrink
  · exact fun a h => (e.rcving h).2
  · exact hb
  · intro a _ hc; rw [e.closed] at hc; simp at hc
  · exact fun _ => e.closed
  · exact fun _ => Or.inr e.closed
  · intro hc; rw [e.closed] at hc; simp at hc

theorem InvW.enter {s s' : St} {t : Tid} {c : Cont} (i : InvW s) (e : EnterSpec t c s s') : InvW s' :=
  i.close e.closeStep e.busy

theorem viewW_put (s : St) (m : Nat) : viewW (s.put m) = viewW s := by
  obtain ⟨_, f2, _, f4, f5, _, f7, f8⟩ := put_frame s m
  simp only [viewW, St.alive_put, f2, f4, f5, f7, f8]
  simp [St.put_status]

theorem InvW.put {s : St} (i : InvW s) (m : Nat) : InvW (s.put m) := i.of_view (viewW_put s m)

theorem viewW_initiateClose (s : St) : viewW s.initiateClose = viewW s := by
  unfold St.initiateClose
  split
  · rfl
  · simp [viewW, St.spawn, St.setStatus, St.setProg]

theorem InvW.initiateClose {s : St} (i : InvW s) : InvW s.initiateClose := i.of_view (viewW_initiateClose s)

theorem InvW.startDispatching {s : St} (i : InvW s) (cfg : Cfg) : InvW (s.startDispatching cfg) := by
  unfold St.startDispatching
  split
  · apply i.shrink (s' := ({ s with dispSet := true } : St).spawn .D .dispLoop)
    · intro a h; exact h
    · rfl
    · intro a ha hc; exact ⟨ha, hc, rfl⟩
    · exact i.qc
    · intro _; exact Or.inl rfl
    · exact i.mons
  · exact i

theorem InvW.startHeartbeats {s : St} (i : InvW s) : InvW s.startHeartbeats := by
  obtain ⟨h1, hL, hM, hcl, hq, hb, _, _, _, hd⟩ := startHeartbeats_spec s
  have hu : ∀ a, s.startHeartbeats.status (.U a) = s.status (.U a) ∧ s.startHeartbeats.prog (.U a) = s.prog (.U a) :=
    fun a => h1 _ (by simp) (by simp)
  apply i.shrink
  · intro a ⟨ha1, ha2⟩
    rw [(hu a).1] at ha1; rw [(hu a).2] at ha2
    exact ⟨ha1, ha2⟩
  · exact hb
  · intro a ha hc
    rw [(hu a).1] at ha; rw [hcl] at hc
    exact ⟨ha, hc, (hu a).2⟩
  · rw [hq, hcl]; exact i.qc
  · rw [(h1 .D (by simp) (by simp)).1, hd, hcl]; exact i.dalive
  · intro _; exact ⟨Or.inr hL, Or.inr hM⟩

theorem InvW.leave_end {s s2 : St} (i : InvW s) (u : Nat) (hu : rcving s u)
    (e1 : ∀ a, s2.status (.U a) = s.status (.U a)) (e2 : ∀ a, s2.prog (.U a) = s.prog (.U a))
    (e3 : s2.closed = s.closed) (e4 : s2.qClosed = s.qClosed)
    (e5 : alive (s2.status .D) = true → s2.dispSet = true ∨ s2.closed = true)
    (e6 : s2.closed = false → (s2.status .L = .absent ∨ s2.status .L = .ready) ∧ (s2.status .M = .absent ∨ s2.status .M = .ready)) :
    InvW (s2.finish (.U u)) := by
  apply i.clear u hu
  · intro a ⟨ha1, ha2⟩
    rw [alive_finish] at ha1
    split at ha1
    · simp at ha1
    · rename_i hne
      have ha2' : s2.prog (.U a) = .loginWait a ∨ s2.prog (.U a) = .recvWait a := ha2
      rw [e1] at ha1; rw [e2] at ha2'
      exact ⟨⟨ha1, ha2'⟩, by intro e; subst e; exact hne rfl⟩
  · intro a ha hc
    have h1' : s2.status (.U a) = .waitT .V := waitT_of_finish ha
    have hc' : s2.closed = false := hc
    rw [e1] at h1'; rw [e3] at hc'
    exact ⟨h1', hc', e2 a⟩
  · show s2.qClosed = true → s2.closed = true
    rw [e3, e4]; exact i.qc
  · intro h
    rw [alive_finish] at h
    split at h
    · simp at h
    · exact e5 h
  · intro hc
    obtain ⟨hL, hM⟩ := e6 hc
    constructor
    · rw [finish_status]; simp only [show Tid.L ≠ Tid.U u by simp, if_false]
      rcases hL with h | h <;> simp [h]
    · rw [finish_status]; simp only [show Tid.M ≠ Tid.U u by simp, if_false]
      rcases hM with h | h <;> simp [h]

theorem InvW.leave_finish {s s1 : St} (i : InvW s) (u : Nat) (hu : rcving s u)
    (h1 : s1.status = s.status) (h2 : s1.prog = s.prog) (h3 : s1.closed = s.closed) (h4 : s1.qClosed = s.qClosed)
    (h5 : s1.dispSet = s.dispSet) : InvW (s1.finish (.U u)) :=
  i.leave_end u hu (fun _ => by rw [h1]) (fun _ => by rw [h2]) h3 h4 (by rw [h1, h5, h3]; exact i.dalive) (by rw [h3, h1]; exact i.mons)

theorem InvW.leave_enter {s s1 s' : St} (i : InvW s) (u : Nat) (hu : rcving s u) {c : Cont} (e : EnterSpec (.U u) c s1 s')
    (h1 : ∀ y, y ≠ .U u → s1.status y = s.status y) (h2 : s1.prog = s.prog) : InvW s' := by
  apply i.clear u hu
  · intro a ha
    obtain ⟨hne, ha1, ha2⟩ := e.closeStep.rcving ha
    rw [h1 _ hne] at ha1; rw [h2] at ha2
    exact ⟨⟨ha1, ha2⟩, fun e => hne (by rw [e])⟩
  · intro a _ hc; rw [e.closed] at hc; simp at hc
  · intro _; exact e.closed
  · intro _; exact Or.inr e.closed
  · intro hc; rw [e.closed] at hc; simp at hc

theorem InvW.accept {s s2 : St} (i : InvW s) (u : Nat) (hu : rcving s u)
    (e1 : ∀ a, s2.status (.U a) = s.status (.U a)) (e2 : ∀ a, s2.prog (.U a) = s.prog (.U a))
    (e3 : s2.closed = s.closed) (e4 : s2.qClosed = s.qClosed) (eL : s2.status .L = .ready) (eM : s2.status .M = .ready)
    (e5 : alive (s2.status .D) = true → s2.dispSet = true ∨ s2.closed = true) :
    InvW ((s2.emit (.ret u .ok)).finish (.U u)) :=
  i.leave_end u hu (s2 := s2.emit (.ret u .ok)) e1 e2 e3 e4 e5 (fun _ => ⟨Or.inr eL, Or.inr eM⟩)

theorem InvW.init : InvW {} :=
  ⟨by intro a ⟨h, _⟩; simp [alive] at h, by intro a b ⟨h, _⟩; simp [alive] at h, by intro a h; simp at h, by simp,
    by intro h; simp [alive] at h, by intro _; exact ⟨Or.inl rfl, Or.inl rfl⟩⟩

end NasdaqModel.Sess
