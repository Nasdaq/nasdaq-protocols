import NasdaqModel.Model.Refine
import NasdaqModel.Lemmas.SessionTick
/-
Session-machine side of the refinement: the reader's data (`buf`, `wire`, `consumed`, `recvd`) are written by exactly two
things — a token delivery (`Ev.data`) and the loop body of the reader task (`stepReader`) — and what one poll of the reader
does to them.
-/
namespace NasdaqModel.Sess

/-- the part of the state that belongs to the reader -/
def rcore (s : St) : List Frame × List Frame × List Frame × List Nat := (s.buf, s.wire, s.consumed, s.recvd)

theorem rcore_of_gcore {s s' : St} (h : gcore s' = gcore s) : rcore s' = rcore s := by
  simp only [gcore, Prod.mk.injEq] at h
  obtain ⟨h1, h2, h3, h4, _⟩ := h
  simp only [rcore, h1, h2, h3, h4]

@[simp] theorem rcore_setStatus (s : St) (t : Tid) (x : Status) : rcore (s.setStatus t x) = rcore s := rfl
@[simp] theorem rcore_setProg (s : St) (t : Tid) (p : Prog) : rcore (s.setProg t p) = rcore s := rfl
@[simp] theorem rcore_spawn (s : St) (t : Tid) (p : Prog) : rcore (s.spawn t p) = rcore s := rfl
@[simp] theorem rcore_finish (s : St) (t : Tid) : rcore (s.finish t) = rcore s := rfl
@[simp] theorem rcore_emit (s : St) (o : Obs) : rcore (s.emit o) = rcore s := rfl
@[simp] theorem rcore_startHeartbeats (s : St) : rcore s.startHeartbeats = rcore s := rcore_of_gcore (gcore_startHeartbeats s)
@[simp] theorem rcore_cancelTask (s : St) (t : Tid) : rcore (s.cancelTask t) = rcore s := rcore_of_gcore (gcore_cancelTask s t)
@[simp] theorem rcore_initiateClose (s : St) : rcore s.initiateClose = rcore s := rcore_of_gcore (gcore_initiateClose s)
@[simp] theorem rcore_startDispatching (s : St) (cfg : Cfg) : rcore (s.startDispatching cfg) = rcore s :=
  rcore_of_gcore (gcore_startDispatching s cfg)
@[simp] theorem rcore_enterClose (cfg : Cfg) (s : St) (t : Tid) (c : Cont) : rcore (enterClose cfg s t c) = rcore s :=
  rcore_of_gcore (gcore_enterClose cfg s t c)
@[simp] theorem rcore_stepInClose (cfg : Cfg) (s : St) (t : Tid) (b : Bool) : rcore (stepInClose cfg s t b) = rcore s :=
  rcore_of_gcore (gcore_stepInClose cfg s t b)
@[simp] theorem rcore_stepMon (cfg : Cfg) (s : St) (b : Bool) : rcore (stepMon cfg s b) = rcore s :=
  rcore_of_gcore (gcore_stepMon cfg s b)
@[simp] theorem rcore_dispHandle (cfg : Cfg) (s : St) (n : Nat) : rcore (dispHandle cfg s n) = rcore s :=
  rcore_of_gcore (gcore_dispHandle cfg s n)

theorem rcore_stepDisp (cfg : Cfg) (s : St) : rcore (stepDisp cfg s) = rcore s := by
  unfold stepDisp
  split
  · rfl
  · split
    · rfl
    · split
      · rfl
      · rw [rcore_dispHandle]; rfl

theorem rcore_loginResume (cfg : Cfg) (s : St) (t : Tid) (u : Nat) : rcore (loginResume cfg s t u) = rcore s := by
  unfold loginResume
  split
  · simp only
    split
    · simp only [rcore_finish, rcore_emit, rcore_startDispatching, rcore_startHeartbeats]; rfl
    · rw [rcore_enterClose]; rfl
  · split
    · rfl
    · rw [rcore_enterClose]; rfl

theorem rcore_startRecv (s : St) (u : Nat) (b : Bool) : rcore (startRecv s u b) = rcore s := by
  unfold startRecv
  split
  · rfl
  · split
    · rfl
    · split
      · simp only [rcore_setProg, rcore_setStatus]
        simp only [rcore]
      · split
        · split <;> rfl
        · simp only [rcore_setProg, rcore_setStatus, rcore_spawn]
          simp only [rcore]

theorem rcore_stepRun (cfg : Cfg) (s : St) (t : Tid)
    (hnr : ¬ (t = .R ∧ s.status .R = .ready ∧ s.prog .R = .readerLoop)) : rcore (stepRun cfg s t) = rcore s := by
  unfold stepRun
  have e0 : rcore ({ s with imm := none } : St) = rcore s := rfl
  have hst : ({ s with imm := none } : St).status = s.status := rfl
  have hpr : ({ s with imm := none } : St).prog = s.prog := rfl
  rw [← e0]
  generalize ({ s with imm := none } : St) = s0 at hst hpr ⊢
  simp only
  split
  · -- cancelled
    split
    · rfl
    · rfl
    · split <;> rfl
    · split
      · rfl
      · rw [rcore_enterClose]; rfl
    · exact rcore_stepInClose _ _ _ _
    · rfl
  · -- ready
    rename_i hready
    split
    · rename_i hprog
      split
      · rename_i ht
        subst ht
        rw [hst] at hready
        rw [hpr] at hprog
        exact absurd ⟨rfl, hready, hprog⟩ hnr
      · rfl
    · split
      · exact rcore_stepDisp _ _
      · rfl
    · split <;> rfl
    · rfl
    · split
      · exact rcore_stepMon _ _ _
      · split
        · exact rcore_stepMon _ _ _
        · rfl
    · exact rcore_enterClose _ _ _ _
    · exact rcore_stepInClose _ _ _ _
    · split
      · rfl
      · split <;> rfl
    · split
      · rfl
      · split <;> rfl
    · exact rcore_loginResume _ _ _ _
    · rfl
  · rfl

theorem rcore_step_notLoop (cfg : Cfg) (s : St) (ev : Ev) (hd : ∀ fs, ev ≠ .data fs) (hr : ev = .run .R → ¬ atLoop s) :
    rcore (step cfg s ev) = rcore s := by
  cases ev with
  | connect =>
    simp only [step]
    split
    · rfl
    · split
      · rw [rcore_startDispatching]; rfl
      · rfl
  | data fs => exact absurd rfl (hd fs)
  | eof => exact rcore_initiateClose s
  | run t =>
    simp only [step]
    split
    · apply rcore_stepRun
      rintro ⟨rfl, h1, h2⟩
      exact hr rfl ⟨h1, h2⟩
    · rfl
  | callClose u =>
    simp only [step]
    split
    · rfl
    · rw [rcore_enterClose]; rfl
  | callInitiateClose => exact rcore_initiateClose s
  | callLogout => simp only [step]; rw [rcore_initiateClose]; rfl
  | callRecv u =>
    simp only [step]
    split
    · rfl
    · exact rcore_startRecv _ _ _
  | callRecvNowait u =>
    simp only [step]
    split
    · rfl
    · split
      · rfl
      · split
        · rfl
        · split <;> rfl
  | callLogin u =>
    simp only [step]
    split
    · rfl
    · rw [rcore_startRecv]; rfl
  | callSend => rfl
  | cancel u => exact rcore_cancelTask _ _

/-- a poll of a reader whose `_stopped` flag is set only ends the task -/
theorem rcore_poll_stopped (cfg : Cfg) (s : St) (h : atLoop s) (hs : s.rStopped = true) :
    rcore (step cfg s (.run .R)) = rcore s := by
  rw [poll_eq_stopped cfg s h hs]
  rfl

theorem polls_iff (s : St) : Refine.polls s = true ↔ (atLoop s ∧ s.rStopped = false) := by
  simp [Refine.polls, atLoop, and_assoc]

/-- **only a token delivery and the reader's own loop body write the reader's data**: every other event — a `run R` that does
    not find the reader task polling (`Refine.polls`) included — leaves them alone -/
theorem rcore_step_other (cfg : Cfg) (s : St) (ev : Ev) (hd : ∀ fs, ev ≠ .data fs) (hr : ev = .run .R → Refine.polls s = false) :
    rcore (step cfg s ev) = rcore s := by
  by_cases hx : ev = .run .R ∧ atLoop s
  · obtain ⟨rfl, hl⟩ := hx
    -- at the top of its loop but not polling: `_stopped` is set, the task ends
    cases hs : s.rStopped with
    | true => exact rcore_poll_stopped cfg s hl hs
    | false => rw [(polls_iff s).2 ⟨hl, hs⟩] at hr; cases hr rfl
  · exact rcore_step_notLoop cfg s ev hd (fun he hl => hx ⟨he, hl⟩)

theorem rcore_poll_nil (cfg : Cfg) (s : St) (h : atLoop s) (hb : s.buf = []) :
    rcore (step cfg s (.run .R)) = rcore s := by
  cases hs : s.rStopped with
  | true => exact rcore_poll_stopped cfg s h hs
  | false =>
    rw [poll_eq_nil cfg s h hs hb]
    rfl

/-- **one frame per poll**: a poll of a running reader takes exactly the first token out of the buffer; a message goes to the
    queue side (`recvd`), a logout / malformed frame closes the session in this very step -/
theorem poll_cons (cfg : Cfg) (s : St) (h : atLoop s) (hs : s.rStopped = false) {f : Frame} {rest : List Frame}
    (hb : s.buf = f :: rest) :
    (step cfg s (.run .R)).buf = rest ∧ (step cfg s (.run .R)).consumed = s.consumed ++ [f] ∧
    (step cfg s (.run .R)).wire = s.wire ∧ (step cfg s (.run .R)).recvd = s.recvd ++ msgsOf [f] ∧
    ((f = .logout ∨ f = .bad) → (step cfg s (.run .R)).closed = true) := by
  have stop : f = .logout ∨ f = .bad →
      (step cfg s (.run .R)).buf = rest ∧ (step cfg s (.run .R)).consumed = s.consumed ++ [f] ∧
      (step cfg s (.run .R)).wire = s.wire ∧ (step cfg s (.run .R)).recvd = s.recvd ++ msgsOf [f] ∧
      ((f = .logout ∨ f = .bad) → (step cfg s (.run .R)).closed = true) := by
    intro hf
    rw [poll_eq_stop cfg s h hs hb hf]
    have := rcore_enterClose cfg ({ s with imm := none, buf := rest, consumed := s.consumed ++ [f] } : St) .R .readerTail
    simp only [rcore, Prod.mk.injEq] at this
    obtain ⟨a1, a2, a3, a4⟩ := this
    refine ⟨a1, a3, a2, ?_, fun _ => enterClose_closed _ _ _ _⟩
    rw [a4]
    rcases hf with rfl | rfl <;> simp [msgsOf]
  cases f with
  | msg n =>
    rw [poll_eq_msg cfg s h hs hb, St.put_eq]
    exact ⟨rfl, rfl, rfl, rfl, fun hf => by rcases hf with hf | hf <;> cases hf⟩
  | hb =>
    rw [poll_eq_hb cfg s h hs hb]
    exact ⟨rfl, rfl, rfl, by simp [msgsOf], fun hf => by rcases hf with hf | hf <;> cases hf⟩
  | logout => exact stop (Or.inl rfl)
  | bad => exact stop (Or.inr rfl)

theorem poll_status (cfg : Cfg) (s : St) (h : atLoop s) (hs : s.rStopped = false) :
    (step cfg s (.run .R)).closed = true ∨ atLoop (step cfg s (.run .R)) := by
  cases hb : s.buf with
  | nil =>
    rw [poll_eq_nil cfg s h hs hb]
    exact Or.inr h
  | cons f rest =>
    cases f with
    | msg n =>
      rw [poll_eq_msg cfg s h hs hb, St.put_eq]
      exact Or.inr ⟨by simp [h.1], h.2⟩
    | hb =>
      rw [poll_eq_hb cfg s h hs hb]
      exact Or.inr h
    | logout =>
      rw [poll_eq_stop cfg s h hs hb (Or.inl rfl)]
      exact Or.inl (enterClose_closed _ _ _ _)
    | bad =>
      rw [poll_eq_stop cfg s h hs hb (Or.inr rfl)]
      exact Or.inl (enterClose_closed _ _ _ _)

end NasdaqModel.Sess
