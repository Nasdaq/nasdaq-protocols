import NasdaqModel.Model.HeapD
import NasdaqModel.Lemmas.HeapLemmas
/-
Lemmas for `Model/HeapD.lean` (C18, declared defaults): one operation of `stepD` does nothing, adds a buffer of the caller, or is an
operation of `Model/Heap.lean` (`stepD_cases`); hence the ownership invariant and the frame property for one step and for histories.
-/
namespace NasdaqModel.HeapD
open NasdaqModel Heap

theorem addBuf_get_old {H : Heap} {bs : Bytes} {a : Addr} {c : Cell} (hc : H.cells[a]? = some c) :
    (addBuf H bs).cells[a]? = some c := by
  simp only [addBuf]
  rw [List.getElem?_append_left (getElem?_lt hc)]; exact hc

theorem addBuf_inv {H : Heap} (bs : Bytes) (hi : Inv H) : Inv (addBuf H bs) :=
  (hi.snoc_buf bs).2

theorem addBuf_deref (S : Schema) {H : Heap} (bs : Bytes) (hi : Inv H) (n : Nat) (v : Val)
    (hv : RefsIn (fun _ => True) H.cells v.refs) :
    deref S n (addBuf H bs).cells v = deref S n H.cells v := by
  apply deref_agree S (fun _ => True) H.cells (addBuf H bs).cells ?_ hi.closed ?_ n v hv
  · intro a c hc _; exact addBuf_get_old hc
  · intro r hr
    simp at hr; subst hr
    obtain ⟨c, hc, _⟩ := hi.cls0
    exact ⟨c, hc, trivial⟩

/-- what `stepD` can do: nothing, add a buffer of the caller, or the operation of `Model/Heap.lean` -/
theorem stepD_cases {S : Schema} {D : Defaults} {H H' : Heap} {op : Op} (hs : stepD S D H op = .ok H') :
    H' = H ∨ (∃ bs, H' = addBuf H bs) ∨ step S H op = .ok H' := by
  cases op with
  | read a p =>
    simp only [stepD] at hs
    obtain ⟨_, _, hs⟩ := bind_ok_inv hs
    injection hs with hs; exact Or.inl hs.symm
  | assign a p k t =>
    simp only [stepD] at hs
    obtain ⟨r, _, hs⟩ := bind_ok_inv hs
    cases r with
    | heap v => exact Or.inr (Or.inr hs)
    | tmp t' =>
      cases t' with
      | obj c ks ts =>
        simp only at hs
        obtain ⟨_, _, hs⟩ := bind_ok_inv hs
        injection hs with hs; exact Or.inl hs.symm
      | int i | str s | none | list xs => simp at hs
  | append a p t =>
    simp only [stepD] at hs
    obtain ⟨r, _, hs⟩ := bind_ok_inv hs
    cases r with
    | heap v => exact Or.inr (Or.inr hs)
    | tmp t' =>
      cases t' with
      | list xs => simp only at hs; injection hs with hs; exact Or.inl hs.symm
      | int i | str s | none | obj c ks ts => simp at hs
  | setIdx a p i t =>
    simp only [stepD] at hs
    obtain ⟨r, _, hs⟩ := bind_ok_inv hs
    cases r with
    | heap v => exact Or.inr (Or.inr hs)
    | tmp t' =>
      cases t' with
      | list xs =>
        simp only at hs
        split at hs
        · injection hs with hs; exact Or.inl hs.symm
        · simp at hs
      | int i | str s | none | obj c ks ts => simp at hs
  | encode a =>
    simp only [stepD] at hs
    obtain ⟨_, _, hs⟩ := bind_ok_inv hs
    injection hs with hs; exact Or.inl hs.symm
  | mkbuf a =>
    simp only [stepD] at hs
    obtain ⟨bs, _, hs⟩ := bind_ok_inv hs
    injection hs with hs; exact Or.inr (Or.inl ⟨bs, hs.symm⟩)
  | new c | decode c b | scribble b | copy b pb k a pa | clone a => exact Or.inr (Or.inr hs)

/-- an operation of the models built on `Model/Heap.lean` does one of three things to the heap -/
def Grows (S : Schema) (H H' : Heap) (tgt : Nat) : Prop :=
  H' = H ∨ (∃ bs, H' = addBuf H bs) ∨ ∃ o, tgt = Op.target H o ∧ step S H o = .ok H'

theorem Grows.inv {S : Schema} (hS : S.freshArrayDefault = true) {H H' : Heap} {tgt : Nat} (hi : Inv H)
    (h : Grows S H H' tgt) : Inv H' := by
  rcases h with h | ⟨bs, h⟩ | ⟨o, _, h⟩
  · rw [h]; exact hi
  · rw [h]; exact addBuf_inv bs hi
  · exact (step_sound hi h (classSafe_of_fresh hS hi o)).2.1

/-- the instance table entry and the stored graph of every instance the operation is not about -/
theorem Grows.frame_core {S : Schema} (hS : S.freshArrayDefault = true) {H H' : Heap} {tgt : Nat} (hi : Inv H)
    (h : Grows S H H' tgt) {b : Nat} (hb : b ≠ tgt) :
    H'.insts[b]? = H.insts[b]? ∧
    ∀ (n : Nat) (cr : Nat × Addr), H.insts[b]? = some cr → deref S n H'.cells (.ref cr.2) = deref S n H.cells (.ref cr.2) := by
  rcases h with h | ⟨bs, h⟩ | ⟨o, ho, h⟩
  · subst h; exact ⟨rfl, fun _ _ _ => rfl⟩
  · subst h
    exact ⟨by simp [addBuf], fun n cr hcr => addBuf_deref S bs hi n _ (hi.root_refs trivial hcr)⟩
  · subst ho
    obtain ⟨hins, hd⟩ := Heap.frame_core hi h (classSafe_of_fresh hS hi o) hb
    exact ⟨hins, fun n cr hcr => hd n _ (hi.root_refs (Or.inl rfl) hcr)⟩

theorem stepD_grows {S : Schema} {D : Defaults} {H H' : Heap} {op : Op} (hs : stepD S D H op = .ok H') :
    Grows S H H' (op.target H) := by
  rcases stepD_cases hs with h | h | h
  · exact .inl h
  · exact .inr (.inl h)
  · exact .inr (.inr ⟨op, rfl, h⟩)

theorem stepD_inv {S : Schema} (hS : S.freshArrayDefault = true) {D : Defaults} {H H' : Heap} {op : Op} (hi : Inv H)
    (hs : stepD S D H op = .ok H') : Inv H' :=
  (stepD_grows hs).inv hS hi

theorem stepD_frame_core {S : Schema} (hS : S.freshArrayDefault = true) {D : Defaults} {H H' : Heap} {op : Op}
    (hi : Inv H) (hs : stepD S D H op = .ok H') {b : Nat} (hb : b ≠ op.target H) :
    H'.insts[b]? = H.insts[b]? ∧
    ∀ (n : Nat) (cr : Nat × Addr), H.insts[b]? = some cr → deref S n H'.cells (.ref cr.2) = deref S n H.cells (.ref cr.2) :=
  (stepD_grows hs).frame_core hS hi hb

theorem stepD_frame {S : Schema} (hS : S.freshArrayDefault = true) {D : Defaults} {H H' : Heap} {op : Op}
    (hi : Inv H) (hs : stepD S D H op = .ok H') {b : Nat} (hb : b ≠ op.target H) (n : Nat) :
    viewD S D n H' b = viewD S D n H b := by
  obtain ⟨hins, hd⟩ := stepD_frame_core hS hi hs hb
  unfold viewD view
  rw [hins]
  cases hcr : H.insts[b]? with
  | none => rfl
  | some cr => simp only [Option.map_some]; rw [hd n cr hcr]

theorem stepD_frame_encode {S : Schema} (hS : S.freshArrayDefault = true) {D : Defaults} {H H' : Heap} {op : Op}
    (hi : Inv H) (hs : stepD S D H op = .ok H') {b : Nat} (hb : b ≠ op.target H) :
    encodeInstD S D H' b = encodeInstD S D H b := by
  obtain ⟨hins, hd⟩ := stepD_frame_core hS hi hs hb
  unfold encodeInstD
  rw [hins]
  cases hcr : H.insts[b]? with
  | none => rfl
  | some cr => simp only; rw [hd _ cr hcr]

theorem stepKD_inv {S : Schema} (hS : S.freshArrayDefault = true) {D : Defaults} {H : Heap} (op : Op) (hi : Inv H) :
    Inv (stepKD S D H op) := by
  unfold stepKD
  cases hs : stepD S D H op with
  | ok H' => exact stepD_inv hS hi hs
  | error e => exact hi

theorem runD_inv {S : Schema} (hS : S.freshArrayDefault = true) (D : Defaults) :
    ∀ (ops : List Op) (H : Heap), Inv H → Inv (runD S D H ops)
  | [], _, hi => hi
  | op :: ops, _, hi => runD_inv hS D ops _ (stepKD_inv hS op hi)

theorem runD_append (S : Schema) (D : Defaults) (H : Heap) (ops : List Op) (op : Op) :
    runD S D H (ops ++ [op]) = stepKD S D (runD S D H ops) op := by
  simp [runD, List.foldl_append]

end NasdaqModel.HeapD
