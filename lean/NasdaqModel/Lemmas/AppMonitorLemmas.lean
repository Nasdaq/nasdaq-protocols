import NasdaqModel.Lemmas.AppSessionInv
/-
What acceptance by the application-level close monitor (`mon2Run l ≠ 9`) means in plain terms.
-/
namespace NasdaqModel.App
open NasdaqModel

theorem mon2_sink (o : AObs) : mon2 9 o = 9 := by cases o <;> simp [mon2]

theorem foldl_mon2_sink (l : List AObs) : l.foldl mon2 9 = 9 := by
  induction l with
  | nil => rfl
  | cons o l ih => simp [List.foldl, mon2_sink, ih]

theorem mon2_ne_zero {p : Nat} (hp : p ≠ 0) (o : AObs) : mon2 p o ≠ 0 := by
  cases o <;> simp [mon2] <;> try omega
  all_goals (split <;> omega)

theorem foldl_mon2_ne_zero (l : List AObs) : ∀ p, p ≠ 0 → l.foldl mon2 p ≠ 0 := by
  induction l with
  | nil => intro p hp; exact hp
  | cons o l ih => intro p hp; exact ih _ (mon2_ne_zero hp o)

theorem foldl_mon2_prefix_ok (l1 l2 : List AObs) (p : Nat) (h : (l1 ++ l2).foldl mon2 p ≠ 9) : l1.foldl mon2 p ≠ 9 := by
  intro h9
  apply h
  rw [List.foldl_append, h9, foldl_mon2_sink]

theorem mon2_step_ok {p : Nat} {o : AObs} {l : List AObs} (h : (o :: l).foldl mon2 p ≠ 9) : mon2 p o ≠ 9 := by
  intro h9; apply h; simp [List.foldl, h9, foldl_mon2_sink]

/-- the user's close callback is entered at most once -/
theorem count2_cbEnter (l : List AObs) : ∀ p, l.foldl mon2 p ≠ 9 →
    (p = 0 → l.count .cbEnter ≤ 1) ∧ (p ≠ 0 → l.count .cbEnter = 0) := by
  induction l with
  | nil => intro p _; simp
  | cons o l ih =>
    intro p h
    have h1 := mon2_step_ok h
    have ih' := ih (mon2 p o) h
    by_cases ho : o = .cbEnter
    · subst ho
      have hp : p = 0 := by
        by_cases hp : p = 0
        · exact hp
        · simp [mon2, hp] at h1
      subst hp
      have := ih'.2 (by simp [mon2])
      simp [this]
    · have hc : (o :: l).count .cbEnter = l.count .cbEnter := by
        simp [List.count_cons, ho]
      rw [hc]
      constructor
      · intro hp
        subst hp
        by_cases h0 : mon2 0 o = 0
        · exact ih'.1 h0
        · rw [ih'.2 h0]; omega
      · intro hp
        exact ih'.2 (mon2_ne_zero hp o)

theorem count2_cbExit (l : List AObs) : ∀ p, l.foldl mon2 p ≠ 9 →
    (p ≤ 1 → l.count .cbExit ≤ 1) ∧ (2 ≤ p → l.count .cbExit = 0) := by
  induction l with
  | nil => intro p _; simp
  | cons o l ih =>
    intro p h
    have h1 := mon2_step_ok h
    have ih' := ih (mon2 p o) h
    by_cases ho : o = .cbExit
    · subst ho
      have hp : p = 1 := by
        by_cases hp : p = 1
        · exact hp
        · simp [mon2, hp] at h1
      subst hp
      have := ih'.2 (by simp [mon2])
      simp [this]
    · have hc : (o :: l).count .cbExit = l.count .cbExit := by
        simp [List.count_cons, ho]
      rw [hc]
      have hm : mon2 p o = p ∨ (p = 0 ∧ mon2 p o = 1) := by
        cases o <;> simp_all [mon2]
        all_goals (split at h1 <;> simp_all)
      constructor
      · intro hp
        rcases hm with hm | ⟨_, hm⟩
        · rw [hm] at ih'; exact ih'.1 hp
        · rw [hm] at ih'; exact ih'.1 (by omega)
      · intro hp
        rcases hm with hm | ⟨h0, _⟩
        · rw [hm] at ih'; exact ih'.2 hp
        · omega

theorem cbEnter2_mem_of_phase (l : List AObs) (h9 : l.foldl mon2 0 ≠ 9) (h : 1 ≤ l.foldl mon2 0) : AObs.cbEnter ∈ l := by
  induction l with
  | nil => simp at h
  | cons o l ih =>
    by_cases ho : o = .cbEnter
    · subst ho; simp
    · have h0 : mon2 0 o = 0 ∨ mon2 0 o = 9 := by
        cases o <;> simp_all [mon2]
      rcases h0 with h0 | h0
      · simp only [List.foldl, h0] at h h9
        exact List.mem_cons_of_mem _ (ih h9 h)
      · simp [List.foldl, h0, foldl_mon2_sink] at h9

theorem cbExit2_mem_of_phase (l : List AObs) : ∀ p, p ≤ 1 → l.foldl mon2 p ≠ 9 → 2 ≤ l.foldl mon2 p → AObs.cbExit ∈ l := by
  induction l with
  | nil => intro p hp _ h; simp at h; omega
  | cons o l ih =>
    intro p hp h9 h
    by_cases ho : o = .cbExit
    · subst ho; simp
    · have h1 := mon2_step_ok h9
      have h0 : mon2 p o ≤ 1 := by
        cases o <;> simp_all [mon2] <;> (try omega)
        all_goals (split at h1 <;> simp_all)
      exact List.mem_cons_of_mem _ (ih _ h0 h9 h)

theorem cbEnter2_before_cbExit2 (l l1 l2 : List AObs) (h : mon2Run l ≠ 9) (e : l = l1 ++ AObs.cbExit :: l2) :
    AObs.cbEnter ∈ l1 := by
  subst e
  have hp : (l1 ++ [AObs.cbExit]).foldl mon2 0 ≠ 9 := by
    apply foldl_mon2_prefix_ok _ l2
    simpa [mon2Run] using h
  rw [List.foldl_append] at hp
  have h1 : l1.foldl mon2 0 = 1 := by
    by_cases h1 : l1.foldl mon2 0 = 1
    · exact h1
    · simp [List.foldl, mon2, h1] at hp
  exact cbEnter2_mem_of_phase l1 (by omega) (by omega)

theorem mon2_zero_no_cb (l : List AObs) (h : l.foldl mon2 0 = 0) : AObs.cbEnter ∉ l ∧ AObs.cbExit ∉ l := by
  have key : ∀ (o : AObs), (o = .cbEnter ∨ o = .cbExit) → o ∉ l := by
    intro o ho hmem
    obtain ⟨a, b, hab⟩ := List.append_of_mem hmem
    rw [hab, List.foldl_append] at h
    have : mon2 (a.foldl mon2 0) o ≠ 0 := by
      rcases ho with rfl | rfl <;> simp [mon2] <;> split <;> omega
    simp only [List.foldl] at h
    exact foldl_mon2_ne_zero b _ this h
  exact ⟨key _ (Or.inl rfl), key _ (Or.inr rfl)⟩

theorem no_msgEnter2_after_cbEnter2 (l l1 l2 : List AObs) (v : Nat) (h : mon2Run l ≠ 9)
    (e : l = l1 ++ AObs.msgEnter v :: l2) : AObs.cbEnter ∉ l1 ∧ AObs.cbExit ∉ l1 := by
  subst e
  have hp : (l1 ++ [AObs.msgEnter v]).foldl mon2 0 ≠ 9 := by
    apply foldl_mon2_prefix_ok _ l2
    simpa [mon2Run] using h
  rw [List.foldl_append] at hp
  have h1 : l1.foldl mon2 0 = 0 := by
    by_cases h1 : l1.foldl mon2 0 = 0
    · exact h1
    · simp [List.foldl, mon2, h1] at hp
  exact mon2_zero_no_cb l1 h1


theorem mon2_two_counts (l : List AObs) (h : l.foldl mon2 0 = 2) : l.count .cbEnter = 1 ∧ l.count .cbExit = 1 := by
  have h9 : l.foldl mon2 0 ≠ 9 := by rw [h]; simp
  have c1 := (count2_cbEnter l 0 h9).1 rfl
  have c2 := (count2_cbExit l 0 h9).1 (by omega)
  have m1 : AObs.cbEnter ∈ l := cbEnter2_mem_of_phase l h9 (by omega)
  have m2 : AObs.cbExit ∈ l := cbExit2_mem_of_phase l 0 (by omega) h9 (by omega)
  have p1 := List.count_pos_iff.mpr m1
  have p2 := List.count_pos_iff.mpr m2
  omega

end NasdaqModel.App
