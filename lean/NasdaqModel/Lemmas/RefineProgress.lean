import NasdaqModel.Lemmas.RefineRun
/-
Byte-level "never open and deaf" (C07): from every reachable state of a byte-level history, `len(buffer)` further polls of the
reader task leave the session closed, or open with every complete frame consumed (byte buffer settled, token buffer empty,
every carried message handed on) and the reader task alive in its loop.
-/
namespace NasdaqModel.Refine
open NasdaqModel Py
open NasdaqModel.Framing (Proto R Consuming Settled)
open NasdaqModel.Sess (St Cfg Frame Tid msgsOf rcore atLoop polls_iff)

variable {μ : Type}

def pollsN (n : Nat) : List BEv := List.replicate n (.ev (.run .R))

theorem bytesOf_pollsN (n : Nat) : bytesOf (pollsN n) = [] := by
  induction n with
  | zero => rfl
  | succ n ih => simpa [pollsN, List.replicate_succ, bytesOf] using ih

theorem bfold_closed (P : Proto μ) (num : μ → Nat) (cfg : Cfg) (evs : List BEv) (b : BSt μ) (h : b.s.closed = true) :
    (bfold P num cfg b evs).s.closed = true := by
  rw [bfold_s]; exact Sess.runEvs_closed_mono cfg _ _ h

/-- an open, connected session whose byte-level reader is settled: everything complete has been consumed -/
theorem PInv.open_settled {P : Proto μ} {num : μ → Nat} {st : Bytes → Bool} {b : BSt μ} (h : PInv P num st b)
    (hr : Sess.InvR b.s) (hopen : b.s.closed = false) (hconn : b.s.status .R ≠ .absent) (hset : Settled P b.r) :
    b.r.stopped = false ∧ b.s.buf = [] ∧ atLoop b.s ∧ b.s.rStopped = false ∧
      b.r.out = carried P b.all ∧ b.s.recvd = (carried P b.all).map num := by
  obtain ⟨hrs, hR, _⟩ := hr hopen
  have hl : atLoop b.s := by
    rcases hR with h0 | h0
    · exact absurd h0 hconn
    · exact h0
  have hst : b.r.stopped = false := by
    cases hst : b.r.stopped with
    | false => rfl
    | true => have := (h.rel.dead hst).2; rw [hopen] at this; cases this
  have htoks : (tokens P b.r.buf).toks = [] := by
    rcases hset with h0 | h0 | h0
    · rw [hst] at h0; cases h0
    · rw [h0]; rfl
    · rw [tokens_none P h0]
  obtain ⟨pre, _, p2, p3, _⟩ := h.pre
  have hout : b.r.out = carried P b.all := by
    unfold carried
    rw [p3 hst, Toks.msgs_prepend, p2, Toks.msgs, htoks]; simp [tokMsgs]
  refine ⟨hst, ?_, hl, hrs, hout, ?_⟩
  · rw [h.rel.live hst, Toks.frames, htoks]; rfl
  · rw [h.rel.out, hout]

theorem polls_settle {P : Proto μ} {st : Bytes → Bool} (F : Framer P st) (num : μ → Nat) (cfg : Cfg) :
    ∀ (n : Nat) (b : BSt μ), PInv P num st b → Sess.InvA cfg b.s → Sess.InvR b.s → b.s.status .R ≠ .absent →
      stable P st b.all = true → (Settled P b.r ∨ b.r.buf.length ≤ n) → ∀ b', b' = bfold P num cfg b (pollsN n) →
      b'.s.closed = true ∨
      (b'.s.closed = false ∧ b'.s.status .R ≠ .absent ∧ Settled P b'.r ∧ PInv P num st b' ∧ Sess.InvR b'.s) := by
  intro n
  induction n with
  | zero =>
    intro b h _ hr hconn _ hn b' hb'
    subst hb'
    have hset : Settled P b'.r := by
      rcases hn with h0 | h0
      · exact h0
      · exact Or.inr (Or.inl (List.eq_nil_of_length_eq_zero (Nat.le_zero.mp h0)))
    cases b'.s.closed with
    | true => exact Or.inl rfl
    | false => exact Or.inr ⟨rfl, hconn, hset, h, hr⟩
  | succ n ih =>
    intro b h ha hr hconn hs hn b' hb'
    have e0 : bfold P num cfg b (pollsN (n + 1)) = bfold P num cfg (bstep P num cfg b (.ev (.run .R))) (pollsN n) := rfl
    rw [e0] at hb'
    cases hc : b.s.closed with
    | true =>
      left
      rw [hb']
      exact bfold_closed P num cfg _ _ (by rw [bstep_run_R]; exact Sess.step_closed_mono cfg _ _ hc)
    | false =>
      obtain ⟨hrs, hR, _⟩ := hr hc
      have hl : atLoop b.s := by
        rcases hR with h0 | h0
        · exact absurd h0 hconn
        · exact h0
      have hp : polls b.s = true := (polls_iff _).2 ⟨hl, hrs⟩
      have h1 : PInv P num st (bstep P num cfg b (.ev (.run .R))) :=
        h.step F num cfg _ (by rw [bstep_ev_all]; exact hs)
      have e1 : bstep P num cfg b (.ev (.run .R)) = ⟨Framing.step P b.r .tick, Sess.step cfg b.s (.run .R), b.all⟩ := by
        rw [bstep_run_R, hp]; rfl
      rw [e1] at h1 hb'
      cases hc1 : (Sess.step cfg b.s (.run .R)).closed with
      | true =>
        left
        rw [hb']
        exact bfold_closed P num cfg _ _ hc1
      | false =>
        have hl1 : atLoop (Sess.step cfg b.s (.run .R)) := by
          rcases Sess.poll_status cfg b.s hl hrs with h0 | h0
          · rw [hc1] at h0; cases h0
          · exact h0
        have hn1 : Settled P (Framing.step P b.r .tick) ∨ (Framing.step P b.r .tick).buf.length ≤ n := by
          by_cases hset : Settled P b.r
          · left; rw [Framing.step_tick_settled P hset]; exact hset
          · rcases Framing.step_tick_progress P F.consuming hset with h0 | h0
            · exact Or.inl (Or.inl h0)
            · right
              rcases hn with h2 | h2
              · exact absurd h2 hset
              · omega
        exact ih _ h1 (Sess.step_InvA ha (.run .R)) (Sess.step_InvR ha hr (.run .R))
          (by show (Sess.step cfg b.s (.run .R)).status .R ≠ .absent; rw [hl1.1]; simp) hs hn1 b' hb'

/-- **byte-level never-deaf**: after any byte-level history (stable stream) of a connected session, `len(buffer)` polls of the
    reader task end with the session closed, or open with the reader alive and everything complete consumed -/
theorem never_deaf {P : Proto μ} {st : Bytes → Bool} (F : Framer P st) (num : μ → Nat) (cfg : Cfg) (evs : List BEv)
    (hs : stable P st (bytesOf evs) = true) (hconn : (brun P num cfg evs).s.status .R ≠ .absent) (n : Nat)
    (hn : (brun P num cfg evs).r.buf.length ≤ n) (b' : BSt μ) (hb' : b' = bfold P num cfg (brun P num cfg evs) (pollsN n)) :
    b'.s.closed = true ∨
    (b'.s.closed = false ∧ Settled P b'.r ∧ b'.r.stopped = false ∧ b'.s.buf = [] ∧ atLoop b'.s ∧ b'.s.rStopped = false ∧
      b'.r.out = carried P (bytesOf evs) ∧ b'.s.recvd = (carried P (bytesOf evs)).map num) := by
  have hp := brun_pinv F num cfg evs hs
  have hall := brun_all P num cfg evs
  have ha : Sess.InvA cfg (brun P num cfg evs).s := by rw [brun_s]; exact Sess.runEvs_InvA cfg _
  have hr : Sess.InvR (brun P num cfg evs).s := by rw [brun_s]; exact Sess.runEvs_InvR cfg _
  rcases polls_settle F num cfg n _ hp ha hr hconn (by rw [hall]; exact hs) (Or.inr hn) b' hb' with h | ⟨h1, h2, h3, h4, h5⟩
  · exact Or.inl h
  · right
    obtain ⟨a1, a2, a3, a4, a5, a6⟩ := h4.open_settled h5 h1 h2 h3
    have hall' : b'.all = bytesOf evs := by
      rw [hb', bfold_all, bytesOf_pollsN, hall]; simp
    rw [hall'] at a5 a6
    exact ⟨h1, h3, a1, a2, a3, a4, a5, a6⟩

/-- in every reachable state: a byte-level reader that has stopped (logout consumed / `deserialize()` raised) has its session
    flagged closed — never open behind an unparsable frame -/
theorem stopped_closed {P : Proto μ} {st : Bytes → Bool} (F : Framer P st) (num : μ → Nat) (cfg : Cfg) (evs : List BEv)
    (hs : stable P st (bytesOf evs) = true) (h : (brun P num cfg evs).r.stopped = true) :
    (brun P num cfg evs).s.closed = true :=
  ((brun_pinv F num cfg evs hs).rel.dead h).2

end NasdaqModel.Refine
