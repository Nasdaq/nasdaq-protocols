import NasdaqModel.Lemmas.FramingInstances
/-
Progress of the reader machine on ARBITRARY bytes (C07, byte level): a poll either stops the reader, or finds that the head of the
buffer is incomplete as announced (`deserialize()` returns `empty_response`), or takes a non-empty frame off the buffer.  Hence
a reader cannot spin on a fixed buffer: without new data it is settled within `len(buffer)` polls.

`fixDeserD` is `FixMessageReader.deserialize` including the first thing `Message.from_bytes` does with the frame that was cut off —
the dispatch `Message.Def[Message.get_msg_type(frame)]` (KeyError for a type the dictionary does not have) — and an arbitrary
field-level decoder that may reject the frame.  (`Framing.fixDeser` stops before the dispatch: there a frame is its byte slice.)
-/
namespace NasdaqModel.Framing
open NasdaqModel Py

/-- `deserialize()` of the FIX reader with the dictionary dispatch: `known ty` = "`ty` is a key of `Message.Def`" -/
def fixDeserD (known : Bytes → Bool) (decode : Bytes → Except Err Unit) (buf : Bytes) : Except Err (Option (Bytes × Bytes)) :=
  match fixDeser buf with
  | .error e => .error e
  | .ok none => .ok none
  | .ok (some (f, rest)) =>
    if known (getMsgType f) then
      match decode f with
      | .ok _ => .ok (some (f, rest))
      | .error e => .error e
    else .error .key                                   -- `Message.Def[...]` raises KeyError

def fixProtoD (known : Bytes → Bool) (decode : Bytes → Except Err Unit) : Proto Bytes :=
  ⟨fixDeserD known decode, fixIsLogout, fixIsHeartbeat⟩

theorem pySliceTo_append_from (b : List α) (i : Int) : pySliceTo b i ++ pySliceFrom b i = b := by
  simp [pySliceTo, pySliceFrom]

theorem soupDeser_consumes {buf rest : Bytes} {m : Soup.Pkt} (h : soupDeser buf = .ok (some (m, rest))) :
    rest.length + 2 ≤ buf.length := by
  match buf, h with
  | [], h => simp [soupDeser] at h
  | [_], h => simp [soupDeser] at h
  | b0 :: b1 :: tl, h =>
    rw [soupDeser_cons2] at h
    split at h
    · cases h
    · rename_i hlen
      cases hd : Soup.decode (List.take (b0 * 256 + b1 + 2) (b0 :: b1 :: tl)) with
      | error e => rw [hd] at h; simp only [err_bind] at h; cases h
      | ok p =>
        rw [hd] at h
        simp only [ok_bind, pure_eq_ok] at h
        injection h with h
        injection h with h
        injection h with _ h2
        subst h2
        simp only [List.length_drop, List.length_cons] at *
        omega

theorem fixDeser_partition {buf f rest : Bytes} (h : fixDeser buf = .ok (some (f, rest))) : f ++ rest = buf := by
  obtain ⟨_, _, _, _, k, _, _, _, _, _, _, hf, hr⟩ := fixDeser_some_inv h
  rw [hf, hr, List.take_append_drop]

theorem fixDeserD_inv {known : Bytes → Bool} {decode : Bytes → Except Err Unit} {buf f r : Bytes}
    (h : fixDeserD known decode buf = .ok (some (f, r))) :
    fixDeser buf = .ok (some (f, r)) ∧ known (getMsgType f) = true ∧ ∃ u, decode f = .ok u := by
  unfold fixDeserD at h
  split at h
  · cases h
  · cases h
  · rename_i f' r' hfd
    split at h
    · rename_i hk
      split at h
      · rename_i u hdec
        cases h
        exact ⟨hfd, hk, u, hdec⟩
      · cases h
    · cases h

theorem fixDeserD_consumes (known : Bytes → Bool) (decode : Bytes → Except Err Unit)
    {buf f rest : Bytes} (h : fixDeserD known decode buf = .ok (some (f, rest))) : rest.length < buf.length :=
  (fixDeser_consumes (fixDeserD_inv h).1).2

variable {μ : Type}

def Consuming (P : Proto μ) : Prop :=
  ∀ (buf : Bytes) (m : μ) (rest : Bytes), P.deser buf = .ok (some (m, rest)) → rest.length < buf.length

theorem soupProto_consuming : Consuming soupProto := by
  intro buf m rest h
  have := soupDeser_consumes (buf := buf) h
  omega

theorem fixProtoD_consuming (known : Bytes → Bool) (decode : Bytes → Except Err Unit) : Consuming (fixProtoD known decode) :=
  fun _ _ _ h => fixDeserD_consumes known decode h

/-- nothing will happen to this reader until new data arrive: it stopped (close signalled), or its buffer is empty, or the head
    of its buffer is incomplete as announced (`deserialize()` answers `empty_response`) -/
def Settled (P : Proto μ) (r : R μ) : Prop :=
  r.stopped = true ∨ r.buf = [] ∨ P.deser r.buf = .ok none

theorem step_tick_settled (P : Proto μ) {r : R μ} (h : Settled P r) : step P r .tick = r := by
  rcases h with h | h | h
  · exact step_tick_stopped P r h
  · exact step_tick_empty P r h
  · cases hs : r.stopped with
    | true => exact step_tick_stopped P r hs
    | false => exact step_tick_none P r hs h

theorem step_tick_progress (P : Proto μ) (hP : Consuming P) {r : R μ} (h : ¬ Settled P r) :
    (step P r .tick).stopped = true ∨ (step P r .tick).buf.length < r.buf.length := by
  have hs : r.stopped = false := by
    cases hs : r.stopped with
    | true => exact absurd (Or.inl hs) h
    | false => rfl
  have hb : r.buf ≠ [] := fun hb => h (Or.inr (Or.inl hb))
  cases hd : P.deser r.buf with
  | error e =>
    left
    rw [step_tick_error P r hs hb hd]
  | ok o =>
    cases o with
    | none => exact absurd (Or.inr (Or.inr hd)) h
    | some mr =>
      obtain ⟨m, rest⟩ := mr
      have hlt := hP _ _ _ hd
      rw [step_tick_some P r hs hb hd]
      split
      · left; rfl
      · split <;> (right; exact hlt)

def ticks (P : Proto μ) (n : Nat) (r : R μ) : R μ := (List.replicate n Ev.tick).foldl (step P) r

theorem ticks_succ (P : Proto μ) (n : Nat) (r : R μ) : ticks P (n + 1) r = ticks P n (step P r .tick) := by
  simp [ticks, List.replicate_succ]

theorem ticks_settled (P : Proto μ) : ∀ (n : Nat) {r : R μ}, Settled P r → ticks P n r = r
  | 0, _, _ => rfl
  | n + 1, r, h => by rw [ticks_succ, step_tick_settled P h]; exact ticks_settled P n h

theorem settled_of_stopped (P : Proto μ) {r : R μ} (h : r.stopped = true) : Settled P r := Or.inl h

theorem ticks_settle (P : Proto μ) (hP : Consuming P) : ∀ (n : Nat) (r : R μ), r.buf.length ≤ n → Settled P (ticks P n r)
  | 0, r, h => Or.inr (Or.inl (List.eq_nil_of_length_eq_zero (Nat.le_zero.mp h)))
  | n + 1, r, h => by
    rw [ticks_succ]
    by_cases hs : Settled P r
    · rw [step_tick_settled P hs, ticks_settled P n hs]; exact hs
    · rcases step_tick_progress P hP hs with h1 | h1
      · rw [ticks_settled P n (settled_of_stopped P h1)]; exact settled_of_stopped P h1
      · exact ticks_settle P hP n _ (by omega)

end NasdaqModel.Framing
