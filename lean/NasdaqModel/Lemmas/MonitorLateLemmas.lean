import NasdaqModel.Lemmas.HeartbeatLemmas
import NasdaqModel.Model.MonitorLate
/-
Invariant of Model/MonitorLate.lean (heartbeat monitors on an event loop that can be held up), C09.

The heart is `InvLate.due`: the deadline of the remote monitor's pending sleep is at least one interval after its last check
(`lastCheck + r ≤ now + left`) — true because `Mon.wake` starts the next sleep *when the check ran* (`left := interval`), however
late that was.  Everything else is bookkeeping: no byte reached the socket since the last check unless the monitor is pinged or
the bytes still wait in the socket (`quiet`), and what was true at the moment the monitor closed the session (`trip`).
-/
namespace NasdaqModel.MonitorLate
open NasdaqModel.Monitor

/-- the remote monitor's sleep has returned: it looks at `_pinged`; trip ⇒ `close()` -/
def remCheck (s : Sess) : Sess :=
  let r := s.rem.wake
  let s1 := { s with rem := r.1 }
  if r.2 then s1.close true else s1

theorem wake_interval (m : Mon) : m.wake.1.interval = m.interval := by
  unfold Mon.wake; grind
theorem wake_pinged (m : Mon) : m.wake.1.pinged = false := by
  unfold Mon.wake; grind
theorem wake_left (m : Mon) (h : m.wake.1.running = true) : m.wake.1.left = m.interval := by
  unfold Mon.wake at *; grind
theorem wake_trip (m : Mon) (h : m.wake.2 = true) : m.pinged = false := by
  unfold Mon.wake at *; grind

theorem close_rem_interval (s : Sess) (b : Bool) : (s.close b).rem.interval = s.rem.interval := by
  unfold Sess.close; split <;> rfl
theorem close_rem_pinged (s : Sess) (b : Bool) : (s.close b).rem.pinged = s.rem.pinged := by
  unfold Sess.close; split <;> rfl
theorem close_rem_left (s : Sess) (b : Bool) : (s.close b).rem.left = s.rem.left := by
  unfold Sess.close; split <;> rfl
theorem close_rem_running (s : Sess) (b : Bool) (h : (s.close b).rem.running = true) : s.rem.running = true := by
  unfold Sess.close at h; split at h
  · exact h
  · simp at h

theorem remCheck_now (s : Sess) : (remCheck s).now = s.now := by
  unfold remCheck; simp only []; split <;> simp
theorem remCheck_interval (s : Sess) : (remCheck s).rem.interval = s.rem.interval := by
  unfold remCheck; simp only []; split
  · rw [close_rem_interval]; exact wake_interval _
  · exact wake_interval _
theorem remCheck_pinged (s : Sess) : (remCheck s).rem.pinged = false := by
  unfold remCheck; simp only []; split
  · rw [close_rem_pinged]; exact wake_pinged _
  · exact wake_pinged _
theorem remCheck_left (s : Sess) (h : (remCheck s).rem.running = true) : (remCheck s).rem.left = s.rem.interval := by
  unfold remCheck at *; simp only [] at *; split at h
  · next ht => rw [if_pos ht, close_rem_left]; exact wake_left _ (close_rem_running _ _ h)
  · next ht => rw [if_neg ht]; exact wake_left _ h

theorem remCheck_flags (s : Sess) :
    ((remCheck s).closed = s.closed ∧ (remCheck s).closeT = s.closeT ∧ (remCheck s).closedByMon = s.closedByMon) ∨
    (s.closed = false ∧ s.rem.pinged = false ∧ (remCheck s).closed = true ∧ (remCheck s).closeT = s.now ∧
      (remCheck s).closedByMon = true) := by
  unfold remCheck; simp only []
  split
  · next ht =>
    by_cases hc : s.closed = true
    · left
      have e : Sess.close { s with rem := s.rem.wake.1 } true = { s with rem := s.rem.wake.1 } := close_of_closed _ _ hc
      rw [e]; exact ⟨rfl, rfl, rfl⟩
    · have hc : s.closed = false := by simpa using hc
      right
      have e := close_of_open { s with rem := s.rem.wake.1 } true hc
      refine ⟨hc, wake_trip _ ht, ?_, ?_, ?_⟩ <;> rw [e]
  · left; exact ⟨rfl, rfl, rfl⟩

theorem fireRemote_idle (s : Sess) (h : remDue s 0 = false) : fireRemote s = s := by
  have : (s.rem.running && s.rem.left == 0) = false := by
    simp only [remDue, Nat.le_zero_eq] at h
    cases hr : s.rem.running <;> simp_all
  simp [fireRemote, fireMon, this]

theorem fireRemote_due (s : Sess) (h : remDue s 0 = true) : fireRemote s = remCheck s := by
  have : (s.rem.running && s.rem.left == 0) = true := by
    simp only [remDue, Nat.le_zero_eq, Bool.and_eq_true, decide_eq_true_eq] at h
    simp [h.1, h.2]
  simp [fireRemote, fireMon, this, remCheck]

theorem tickRemote_due (s : Sess) (h : remDue s 1 = true) : s.tickRemote = remCheck s := by
  simp only [remDue, Bool.and_eq_true, decide_eq_true_eq] at h
  simp [Sess.tickRemote, Mon.adv, h.1, h.2, remCheck]

theorem tickRemote_notdue (s : Sess) (h : remDue s 1 = false) :
    s.tickRemote = s ∨ (s.rem.running = true ∧ 1 < s.rem.left ∧ s.tickRemote = { s with rem := { s.rem with left := s.rem.left - 1 } }) := by
  cases hr : s.rem.running with
  | false => left; exact tickRemote_stopped s hr
  | true =>
    right
    have hl : 1 < s.rem.left := by
      simp only [remDue, hr, Bool.true_and, decide_eq_false_iff_not] at h; omega
    exact ⟨rfl, hl, tickRemote_wait s hr hl⟩

theorem fireLocal_frame (s : Sess) : ∃ m ws, fireLocal s = { s with loc := m, writes := ws } := by
  unfold fireLocal
  simp only []
  split
  · exact ⟨_, _, rfl⟩
  · exact ⟨_, s.writes, rfl⟩

theorem handover_eq (s : Sess) (ks : List RecvKind) :
    handover s ks = { s with rem := { s.rem with pinged := s.rem.pinged || !ks.isEmpty },
                             recvs := (ks.map fun k => (s.now, k)).reverse ++ s.recvs } := by
  induction ks generalizing s with
  | nil => simp [handover]
  | cons k ks ih =>
    show handover (s.dataReceived k) ks = _
    rw [ih]
    simp [Sess.dataReceived, Mon.ping]

/-- consecutive checks of the remote monitor are at least `r` apart, the first one at least `r` after login -/
def Spaced (r : Nat) : List Nat → Prop
  | [] => True
  | c :: rest => rest.headD 0 + r ≤ c ∧ Spaced r rest

theorem Spaced.at {r : Nat} {pre rest : List Nat} {c : Nat} (h : Spaced r (pre ++ c :: rest)) : rest.headD 0 + r ≤ c := by
  induction pre with
  | nil => exact h.1
  | cons p pre ih => exact ih h.2

structure InvLate (r : Nat) (x : LSess) : Prop where
  intv : x.s.rem.interval = r
  arrLe : ∀ a ∈ x.arrivals, a ≤ x.s.now
  due : x.s.rem.running = true → x.lastCheck + r ≤ x.s.now + x.s.rem.left
  quiet : x.s.rem.pinged = false → x.pending = [] → ∀ a ∈ x.arrivals, a ≤ x.lastCheck
  /-- before its first check the monitor is still pinged from its creation -/
  first : x.remChecks = [] → x.s.rem.pinged = true
  closeLe : x.s.closed = true → x.s.closeT ≤ x.s.now
  trip : x.s.closed = true → x.s.closedByMon = true →
    x.tripFrom + r ≤ x.s.closeT ∧ x.tripFrom ∈ x.remChecks ∧ x.s.closeT ∈ x.remChecks ∧
      ∀ a ∈ x.arrivals, ¬ (x.tripFrom < a ∧ a < x.s.closeT)
  spaced : Spaced r x.remChecks
  /-- bytes wait in the socket only while the loop is held up -/
  pend : x.held = false → x.pending = []

theorem invLate_start (l r tl n : Nat) : InvLate r (startWithL l r tl n) := by
  refine ⟨rfl, ?_, ?_, ?_, ?_, ?_, ?_, trivial, fun _ => rfl⟩
  · intro a ha; cases ha
  · intro _; show 0 + r ≤ 0 + r; exact Nat.le_refl _
  · intro h; cases h
  · intro _; rfl
  · intro h; cases h
  · intro h; cases h

/-- the remote monitor does not check at this instant: its sleep merely comes closer to its deadline -/
theorem invLate_nocheck (r : Nat) (x : LSess) (s' : Sess) (h : InvLate r x)
    (h1 : x.s.now ≤ s'.now) (hi : s'.rem.interval = x.s.rem.interval) (hp : s'.rem.pinged = x.s.rem.pinged)
    (hl : s'.rem.running = true → x.lastCheck + r ≤ s'.now + s'.rem.left)
    (h3 : s'.closed = x.s.closed) (h4 : s'.closeT = x.s.closeT) (h5 : s'.closedByMon = x.s.closedByMon) :
    InvLate r { x with s := s' } := by
  refine ⟨?_, ?_, hl, ?_, ?_, ?_, ?_, h.spaced, h.pend⟩
  · show s'.rem.interval = r; rw [hi]; exact h.intv
  · intro a ha; have := h.arrLe a ha; show a ≤ s'.now; omega
  · intro hp' hq; exact h.quiet (by rw [← hp]; exact hp') hq
  · intro he; show s'.rem.pinged = true; rw [hp]; exact h.first he
  · intro hc; have := h.closeLe (by rw [← h3]; exact hc); show s'.closeT ≤ s'.now; omega
  · intro hc hm
    show x.tripFrom + r ≤ s'.closeT ∧ _ ∧ s'.closeT ∈ _ ∧ ∀ a ∈ x.arrivals, ¬ (x.tripFrom < a ∧ a < s'.closeT)
    rw [h4]; exact h.trip (by rw [← h3]; exact hc) (by rw [← h5]; exact hm)

theorem invLate_frame (r : Nat) (x : LSess) (s' : Sess) (h : InvLate r x)
    (h1 : s'.now = x.s.now) (h2 : s'.rem = x.s.rem) (h3 : s'.closed = x.s.closed) (h4 : s'.closeT = x.s.closeT)
    (h5 : s'.closedByMon = x.s.closedByMon) : InvLate r { x with s := s' } :=
  invLate_nocheck r x s' h (Nat.le_of_eq h1.symm) (by rw [h2]) (by rw [h2]) (by rw [h1, h2]; exact h.due) h3 h4 h5

theorem invLate_appClose (r : Nat) (x : LSess) (h : InvLate r x) : InvLate r { x with s := x.s.close false } := by
  cases hc : x.s.closed with
  | true => rw [close_of_closed _ _ hc]; exact h
  | false =>
    rw [close_of_open _ _ hc]
    refine ⟨h.intv, h.arrLe, ?_, h.quiet, h.first, ?_, ?_, h.spaced, h.pend⟩
    · intro hr; cases hr
    · intro _; exact Nat.le_refl _
    · intro _ hm; cases hm

theorem invLate_recv (r : Nat) (x : LSess) (k : RecvKind) (h : InvLate r x) :
    InvLate r { x with s := x.s.dataReceived k, arrivals := x.s.now :: x.arrivals } := by
  refine ⟨h.intv, ?_, h.due, ?_, ?_, h.closeLe, ?_, h.spaced, h.pend⟩
  · intro a ha
    rcases List.mem_cons.mp ha with rfl | ha
    · exact Nat.le_refl _
    · exact h.arrLe a ha
  · intro hp; cases hp
  · intro _; rfl
  · intro hc hm
    obtain ⟨t1, t2, t3, t4⟩ := h.trip hc hm
    refine ⟨t1, t2, t3, ?_⟩
    intro a ha
    rcases List.mem_cons.mp ha with rfl | ha
    · have := h.closeLe hc
      show ¬ (x.tripFrom < x.s.now ∧ x.s.now < x.s.closeT); omega
    · exact t4 a ha

theorem invLate_buffer (r : Nat) (x : LSess) (k : RecvKind) (h : InvLate r x) (hh : x.held = true) :
    InvLate r { x with pending := x.pending ++ [k], arrivals := x.s.now :: x.arrivals } := by
  refine ⟨h.intv, ?_, h.due, ?_, h.first, h.closeLe, ?_, h.spaced, fun hf => absurd (hh ▸ hf : true = false) (by simp)⟩
  · intro a ha
    rcases List.mem_cons.mp ha with rfl | ha
    · exact Nat.le_refl _
    · exact h.arrLe a ha
  · intro _ hq; simp at hq
  · intro hc hm
    obtain ⟨t1, t2, t3, t4⟩ := h.trip hc hm
    refine ⟨t1, t2, t3, ?_⟩
    intro a ha
    rcases List.mem_cons.mp ha with rfl | ha
    · have := h.closeLe hc
      show ¬ (x.tripFrom < x.s.now ∧ x.s.now < x.s.closeT); omega
    · exact t4 a ha

theorem invLate_hold (r : Nat) (x : LSess) (h : InvLate r x) : InvLate r { x with s := passSess x.s, held := true } := by
  have hrem : (passSess x.s).rem = passMon x.s.rem := rfl
  have hnow : (passSess x.s).now = x.s.now + 1 := rfl
  refine ⟨?_, ?_, ?_, ?_, ?_, ?_, ?_, h.spaced, fun hf => by cases hf⟩
  · show (passMon x.s.rem).interval = r
    unfold passMon; split <;> exact h.intv
  · intro a ha; have := h.arrLe a ha; show a ≤ x.s.now + 1; omega
  · intro hr
    show x.lastCheck + r ≤ (x.s.now + 1) + (passMon x.s.rem).left
    have hr' : x.s.rem.running = true := by
      have : (passMon x.s.rem).running = true := hr
      unfold passMon at this; split at this <;> simp_all
    have := h.due hr'
    simp only [passMon, hr', if_true]; omega
  · intro hp hq
    refine h.quiet ?_ hq
    have : (passMon x.s.rem).pinged = false := hp
    unfold passMon at this; split at this <;> exact this
  · intro he
    show (passMon x.s.rem).pinged = true
    have := h.first he
    unfold passMon; split <;> exact this
  · intro hc; have := h.closeLe hc; show x.s.closeT ≤ x.s.now + 1; omega
  · exact h.trip


theorem lastCheck_mem (x : LSess) (h : x.remChecks ≠ []) : x.lastCheck ∈ x.remChecks := by
  unfold LSess.lastCheck
  cases hl : x.remChecks with
  | nil => exact absurd hl h
  | cons c rest => simp

theorem invLate_flush (r : Nat) (x : LSess) (h : InvLate r x) :
    InvLate r { x with s := handover x.s x.pending, held := false, pending := [] } := by
  rw [handover_eq]
  refine ⟨h.intv, h.arrLe, h.due, ?_, ?_, h.closeLe, h.trip, h.spaced, fun _ => rfl⟩
  · intro hp _
    have hp : (x.s.rem.pinged || !x.pending.isEmpty) = false := hp
    rw [Bool.or_eq_false_iff] at hp
    exact h.quiet hp.1 (List.isEmpty_iff.mp (by simpa using hp.2))
  · intro he
    show (x.s.rem.pinged || !x.pending.isEmpty) = true
    rw [h.first he]; rfl

theorem noteCheck_false (x : LSess) (s' : Sess) (hc : s'.closed = x.s.closed) : x.noteCheck false s' = { x with s := s' } := by
  unfold LSess.noteCheck
  have : (!x.s.closed && s'.closed && s'.closedByMon) = false := by rw [hc]; cases x.s.closed <;> simp
  simp [this]

/-- **the remote monitor checks** at instant `sL.now`, at least one interval after its previous check -/
theorem invLate_check (r : Nat) (x : LSess) (sL : Sess) (h : InvLate r x)
    (h1 : x.s.now ≤ sL.now) (h2 : sL.rem = x.s.rem) (h3 : sL.closed = x.s.closed) (h4 : sL.closeT = x.s.closeT)
    (h5 : sL.closedByMon = x.s.closedByMon) (hlate : x.lastCheck + r ≤ sL.now) (hq : x.pending = []) :
    InvLate r (x.noteCheck true (remCheck sL)) := by
  have hnow := remCheck_now sL
  unfold LSess.noteCheck
  simp only [if_true]
  refine ⟨?_, ?_, ?_, ?_, ?_, ?_, ?_, ?_, h.pend⟩
  · show (remCheck sL).rem.interval = r; rw [remCheck_interval, h2]; exact h.intv
  · intro a ha; have := h.arrLe a ha; show a ≤ (remCheck sL).now; omega
  · intro hr
    show (remCheck sL).now + r ≤ (remCheck sL).now + (remCheck sL).rem.left
    rw [remCheck_left sL hr, h2, h.intv]; exact Nat.le_refl _
  · intro _ _ a ha; have := h.arrLe a ha; show a ≤ (remCheck sL).now; omega
  · intro he; cases he
  · intro hc
    show (remCheck sL).closeT ≤ (remCheck sL).now
    rcases remCheck_flags sL with ⟨f1, f2, _⟩ | ⟨_, _, _, f4, _⟩
    · have := h.closeLe (by rw [← h3, ← f1]; exact hc); omega
    · omega
  · intro hc hm
    rcases remCheck_flags sL with ⟨f1, f2, f3⟩ | ⟨g1, g2, g3, g4, g5⟩
    · have hc' : x.s.closed = true := by rw [← h3, ← f1]; exact hc
      have hm' : x.s.closedByMon = true := by rw [← h5, ← f3]; exact hm
      have hcond : (!x.s.closed && (remCheck sL).closed && (remCheck sL).closedByMon) = false := by simp [hc']
      obtain ⟨t1, t2, t3, t4⟩ := h.trip hc' hm'
      show (if (!x.s.closed && (remCheck sL).closed && (remCheck sL).closedByMon) = true then x.lastCheck else x.tripFrom) + r
          ≤ (remCheck sL).closeT ∧ _ ∧ (remCheck sL).closeT ∈ _ ∧ ∀ a ∈ x.arrivals, ¬ (_ < a ∧ a < (remCheck sL).closeT)
      rw [hcond, f2, h4]
      exact ⟨t1, List.mem_cons_of_mem _ t2, List.mem_cons_of_mem _ t3, t4⟩
    · have hc' : x.s.closed = false := by rw [← h3]; exact g1
      have hcond : (!x.s.closed && (remCheck sL).closed && (remCheck sL).closedByMon) = true := by simp [hc', g3, g5]
      have hpf : x.s.rem.pinged = false := by rw [← h2]; exact g2
      have hne : x.remChecks ≠ [] := by
        intro he; have := h.first he; rw [hpf] at this; cases this
      show (if (!x.s.closed && (remCheck sL).closed && (remCheck sL).closedByMon) = true then x.lastCheck else x.tripFrom) + r
          ≤ (remCheck sL).closeT ∧ _ ∧ (remCheck sL).closeT ∈ _ ∧ ∀ a ∈ x.arrivals, ¬ (_ < a ∧ a < (remCheck sL).closeT)
      rw [hcond, g4]
      refine ⟨hlate, List.mem_cons_of_mem _ (lastCheck_mem x hne), ?_, ?_⟩
      · rw [hnow]; exact List.mem_cons_self
      · intro a ha hh
        have := h.quiet hpf hq a ha
        simp only [if_true] at hh; omega
  · show x.remChecks.headD 0 + r ≤ (remCheck sL).now ∧ Spaced r x.remChecks
    refine ⟨?_, h.spaced⟩
    have : x.lastCheck = x.remChecks.headD 0 := rfl
    omega


theorem remDue_congr (s s' : Sess) (b : Nat) (h : s'.rem = s.rem) : remDue s' b = remDue s b := by
  unfold remDue; rw [h]

theorem resume_held (x : LSess) : x.resume.held = false := by
  unfold LSess.resume
  split
  · rfl
  · next h => simpa using h

theorem invLate_fire (r : Nat) (x1 : LSess) (hf : InvLate r x1) (hq : x1.pending = []) :
    InvLate r (x1.noteCheck (remDue x1.s 0) (fireRemote (fireLocal x1.s))) := by
  obtain ⟨m, ws, e⟩ := fireLocal_frame x1.s
  rw [e]
  cases hd : remDue x1.s 0 with
  | false =>
    rw [fireRemote_idle { x1.s with loc := m, writes := ws } hd, noteCheck_false x1 { x1.s with loc := m, writes := ws } rfl]
    exact invLate_frame r x1 _ hf rfl rfl rfl rfl rfl
  | true =>
    rw [fireRemote_due { x1.s with loc := m, writes := ws } hd]
    have hd' := hd
    simp only [remDue, Nat.le_zero_eq, Bool.and_eq_true, decide_eq_true_eq] at hd'
    have hdue := hf.due hd'.1
    exact invLate_check r x1 _ hf (Nat.le_refl _) rfl rfl rfl rfl (by show _ ≤ x1.s.now; omega) hq

theorem invLate_resume (r : Nat) (x : LSess) (h : InvLate r x) : InvLate r x.resume := by
  unfold LSess.resume
  split
  · exact invLate_fire r _ (invLate_flush r x h) rfl
  · exact h

theorem invLate_baseStep (r : Nat) (x : LSess) (e : Ev) (h : InvLate r x) (hh : x.held = false) : InvLate r (x.baseStep e) := by
  cases e with
  | adv =>
    show InvLate r (x.noteCheck (remDue x.s 1) (x.s.bump.tickLocal.tickRemote))
    obtain ⟨m, ws, e⟩ := tickLocal_frame x.s.bump
    have hrem : x.s.bump.tickLocal.rem = x.s.rem := e ▸ rfl
    have hnow : x.s.bump.tickLocal.now = x.s.now + 1 := e ▸ rfl
    have hcl : x.s.bump.tickLocal.closed = x.s.closed := e ▸ rfl
    have hct : x.s.bump.tickLocal.closeT = x.s.closeT := e ▸ rfl
    have hcm : x.s.bump.tickLocal.closedByMon = x.s.closedByMon := e ▸ rfl
    cases hd : remDue x.s 1 with
    | true =>
      rw [tickRemote_due _ (by rw [remDue_congr _ _ _ hrem]; exact hd)]
      have hd' := hd
      simp only [remDue, Bool.and_eq_true, decide_eq_true_eq] at hd'
      have hdue := h.due hd'.1
      exact invLate_check r x _ h (by omega) hrem hcl hct hcm (by omega) (h.pend hh)
    | false =>
      rcases tickRemote_notdue _ (by rw [remDue_congr _ _ _ hrem]; exact hd) with e1 | ⟨e1, e2, e3⟩
      · rw [e1, noteCheck_false _ _ hcl]
        refine invLate_nocheck r x _ h (by omega) (by rw [hrem]) (by rw [hrem]) ?_ hcl hct hcm
        intro hr
        rw [hrem] at hr ⊢
        have := h.due hr
        have hl : 1 < x.s.rem.left := by
          simp only [remDue, hr, Bool.true_and, decide_eq_false_iff_not] at hd; omega
        omega
      · have hcl' : ({ x.s.bump.tickLocal with rem := { x.s.bump.tickLocal.rem with left := x.s.bump.tickLocal.rem.left - 1 } } : Sess).closed
            = x.s.closed := hcl
        rw [e3, noteCheck_false _ _ hcl']
        rw [hrem] at e1 e2
        refine invLate_nocheck r x _ h (by show x.s.now ≤ x.s.bump.tickLocal.now; omega) ?_ ?_ ?_ hcl hct hcm
        · show x.s.bump.tickLocal.rem.interval = _; rw [hrem]
        · show x.s.bump.tickLocal.rem.pinged = _; rw [hrem]
        · intro _
          show x.lastCheck + r ≤ x.s.bump.tickLocal.now + (x.s.bump.tickLocal.rem.left - 1)
          have := h.due e1
          rw [hrem, hnow]; omega
  | recv k => exact invLate_recv r x k h
  | send | sendHb | sendFailed => exact invLate_frame r x _ h rfl rfl rfl rfl rfl
  | close => exact invLate_appClose r x h

theorem step_base_cases (x : LSess) (e : Ev) :
    (∃ k, e = .recv k ∧ x.held = true ∧
      x.step (.base e) = { x with pending := x.pending ++ [k], arrivals := x.s.now :: x.arrivals }) ∨
    x.step (.base e) = x.resume.baseStep e := by
  cases e with
  | recv k =>
    cases hh : x.held with
    | true => left; exact ⟨k, rfl, rfl, by simp [LSess.step, recvKind?, hh]⟩
    | false => right; simp [LSess.step, recvKind?, hh]
  | adv | send | sendHb | sendFailed | close => right; simp [LSess.step, recvKind?]

theorem invLate_step (r : Nat) (x : LSess) (e : LEv) (h : InvLate r x) : InvLate r (x.step e) := by
  cases e with
  | hold => exact invLate_hold r x h
  | resume => exact invLate_resume r x h
  | base e =>
    rcases step_base_cases x e with ⟨k, _, hheld, he⟩ | he
    · rw [he]; exact invLate_buffer r x k h hheld
    · rw [he]; exact invLate_baseStep r x.resume e (invLate_resume r x h) (resume_held x)

theorem runL_nil (x : LSess) : x.run [] = x := rfl
theorem runL_cons (x : LSess) (e : LEv) (evs : List LEv) : x.run (e :: evs) = (x.step e).run evs := rfl

theorem invLate_run (l r tl n : Nat) (evs : List LEv) : InvLate r ((startWithL l r tl n).run evs) := by
  suffices h : ∀ x, InvLate r x → InvLate r (x.run evs) from h _ (invLate_start l r tl n)
  induction evs with
  | nil => intro x h; exact h
  | cons e evs ih => intro x h; rw [runL_cons]; exact ih _ (invLate_step r x e h)

theorem run_base_s (evs : List Ev) (x : LSess) (hh : x.held = false) :
    (x.run (evs.map LEv.base)).s = x.s.run evs ∧ (x.run (evs.map LEv.base)).held = false := by
  induction evs generalizing x with
  | nil => exact ⟨rfl, hh⟩
  | cons e evs ih =>
    have hres : x.resume = x := by unfold LSess.resume; simp [hh]
    have hstep : (x.step (.base e)).s = x.s.step e ∧ (x.step (.base e)).held = false := by
      rcases step_base_cases x e with ⟨k, _, hheld, _⟩ | he
      · rw [hh] at hheld; cases hheld
      · rw [he, hres]; cases e <;> exact ⟨rfl, hh⟩
    rw [List.map_cons, runL_cons, run_cons]
    have := ih (x.step (.base e)) hstep.2
    rw [hstep.1] at this
    exact this

end NasdaqModel.MonitorLate
