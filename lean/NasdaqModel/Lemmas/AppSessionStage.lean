import NasdaqModel.Lemmas.AppSessionInv
import NasdaqModel.Lemmas.MonitorLemmas
/-
The position inside `_on_soup_close` follows the inner close stage (`InvY`): what a piece of `_on_soup_close` leaves behind
(`Keeps`, `SeqOut`), facts about the inner state from its reachability, and every event keeps `InvY`.
-/
namespace NasdaqModel.App
open NasdaqModel

/-- what a piece of the application layer's work leaves alone: the inner state; an existing close event stays; a dispatcher that
    is inside `soup_session.close()` stays there -/
structure Keeps (s s' : St) : Prop where
  inner : s'.inner = s.inner
  evt : s.evt ≠ none → s'.evt ≠ none
  d2 : s.astatus .D2 = .inSoup → s'.astatus .D2 = .inSoup

theorem Keeps.same {s s' : St} (hi : s'.inner = s.inner) (he : s'.evt = s.evt) (hd : s'.astatus .D2 = s.astatus .D2) :
    Keeps s s' :=
  ⟨hi, fun h => by rw [he]; exact h, fun h => by rw [hd]; exact h⟩

theorem Keeps.refl (s : St) : Keeps s s := Keeps.same rfl rfl rfl

theorem Keeps.trans {s1 s2 s3 : St} (h1 : Keeps s1 s2) (h2 : Keeps s2 s3) : Keeps s1 s3 :=
  ⟨by rw [h2.inner, h1.inner], fun h => h2.evt (h1.evt h), fun h => h2.d2 (h1.d2 h)⟩

theorem keeps_setA_of (s : St) (t : ATid) (x : AStatus) (hne : s.astatus t ≠ .inSoup) : Keeps s (s.setA t x) := by
  refine ⟨rfl, fun h => h, fun hD => ?_⟩
  show (if ATid.D2 = t then x else s.astatus .D2) = .inSoup
  rw [if_neg (by rintro rfl; exact hne hD)]; exact hD

theorem keeps_setEvent (s : St) : Keeps s s.setEvent := by
  unfold St.setEvent
  split
  · refine ⟨rfl, fun _ => by simp, fun hD => ?_⟩
    show (if s.astatus .D2 = .waitE then AStatus.ready else s.astatus .D2) = .inSoup
    rw [hD]; simp
  · exact Keeps.refl s

theorem keeps_cancel2 (s : St) (t : ATid) : Keeps s (s.cancel2 t) := by
  unfold St.cancel2
  split
  · rename_i hs; exact keeps_setA_of s t _ (by rw [hs]; simp)
  · rename_i hs; exact keeps_setA_of s t _ (by rw [hs]; simp)
  · rename_i hs; exact keeps_setA_of s t _ (by rw [hs]; simp)
  · split
    · rename_i hs; exact keeps_setA_of s .V2 _ (by rw [hs]; simp)
    · rename_i hs; exact keeps_setA_of s .V2 _ (by rw [hs]; simp)
    · exact Keeps.refl s
  · exact Keeps.refl s

theorem construct_cpc (a : ACfg) (s : St) : (construct a s).cpc = s.cpc := by
  unfold construct
  split
  · simp only; split <;> rfl
  · rfl

@[simp] theorem cpc_d2Return (s : St) : (d2Return s).cpc = s.cpc := by
  rcases d2Return_cases s with h | ⟨v, h⟩ | ⟨v, h⟩ | ⟨v, h⟩ <;> simp only [h, St.emit2, St.setA, St.setP, St.finish2]

/-- what one run of (a piece of) `_on_soup_close` by closer `t` leaves behind: still inside (`Keeps`), or returned — the closer's
    inner step has happened -/
def SeqOut (a : ACfg) (s : St) (t : Sess.Tid) (s' : St) : Prop :=
  (Keeps s s' ∧ midStage s'.cpc = true) ∨
  (s'.inner = Sess.step (innerCfg a) s.inner (.run t) ∧ s'.cpc = .finished)

theorem finishClose_out (a : ACfg) (s : St) (t : Sess.Tid) : SeqOut a s t (finishClose a s t) := by
  refine Or.inr ⟨?_, ?_⟩
  · unfold finishClose; rw [inner_d2Return, innerStep_inner]
  · unfold finishClose; rw [cpc_d2Return, innerStep_cpc]

theorem SeqOut.pre {a : ACfg} {s s0 s' : St} {t : Sess.Tid} (k : Keeps s s0) (h : SeqOut a s0 t s') : SeqOut a s t s' := by
  rcases h with ⟨k', hm⟩ | ⟨hi, hc⟩
  · exact Or.inl ⟨k.trans k', hm⟩
  · exact Or.inr ⟨by rw [hi, k.inner], hc⟩

theorem endCb_out (a : ACfg) (s : St) (t : Sess.Tid) : SeqOut a s t (endCb a s t) :=
  SeqOut.pre (s0 := (s.emit2 .cbExit).setEvent) (Keeps.trans (s2 := s.emit2 .cbExit) (Keeps.same rfl rfl rfl) (keeps_setEvent _))
    (finishClose_out a _ t)

theorem afterStop_out (a : ACfg) (s : St) (t : Sess.Tid) : SeqOut a s t (afterStop a s t) := by
  unfold afterStop
  simp only
  split
  · exact SeqOut.pre (Keeps.trans (s2 := { s with appClosed := true }) (Keeps.same rfl rfl rfl) (keeps_setEvent _)) (finishClose_out a _ t)
  · split
    · exact Or.inl ⟨(Keeps.same rfl rfl rfl), rfl⟩
    · exact SeqOut.pre (s0 := (({ s with appClosed := true } : St).emit2 .cbEnter).emit2 (.closeRet .closeCb .ok)) (Keeps.same rfl rfl rfl)
        (endCb_out a _ t)
    · exact SeqOut.pre (s0 := ({ s with appClosed := true } : St).emit2 .cbEnter) (Keeps.same rfl rfl rfl) (endCb_out a _ t)

theorem stopV2_out (a : ACfg) (s : St) (t : Sess.Tid) : SeqOut a s t (stopV2 a s t) := by
  unfold stopV2
  split
  · exact Or.inl ⟨(keeps_cancel2 s .V2).trans (Keeps.same rfl rfl rfl), rfl⟩
  · exact afterStop_out a s t

theorem stopD2_out (a : ACfg) (s : St) (t : Sess.Tid) : SeqOut a s t (stopD2 a s t) := by
  unfold stopD2
  split
  · exact Or.inl ⟨(keeps_cancel2 s .D2).trans (Keeps.same rfl rfl rfl), rfl⟩
  · exact SeqOut.pre (s0 := { s with disp2Set := false }) (Keeps.same rfl rfl rfl) (stopV2_out a _ t)

theorem onSoupClose_out (a : ACfg) (s : St) (t : Sess.Tid) : SeqOut a s t (onSoupClose a s t) := by
  unfold onSoupClose
  split
  · exact finishClose_out a s t
  · have key : ∀ s1 : St, Keeps s s1 →
        SeqOut a s t (if s1.q2Closed = true then afterStop a s1 t else stopD2 a { s1 with q2Closed := true } t) := by
      intro s1 h1
      split
      · exact SeqOut.pre h1 (afterStop_out a _ t)
      · exact SeqOut.pre (s0 := { s1 with q2Closed := true }) (h1.trans (Keeps.same rfl rfl rfl)) (stopD2_out a _ t)
    exact key _ (by split <;> exact (Keeps.same rfl rfl rfl))

theorem resumeSoupClose_out (a : ACfg) (s : St) (t : Sess.Tid) (hm : midStage s.cpc = true) :
    SeqOut a s t (resumeSoupClose a s t) ∨
    (s.inner.status t = .cancelled ∧ (resumeSoupClose a s t).inner = Sess.step (innerCfg a) s.inner (.run t) ∧
      (resumeSoupClose a s t).cpc = .aborted) := by
  unfold resumeSoupClose
  split
  · exact Or.inl (SeqOut.pre (s0 := { s with disp2Set := false }) (Keeps.same rfl rfl rfl) (stopV2_out a _ t))
  · exact Or.inl (afterStop_out a s t)
  · split
    · rename_i hc
      refine Or.inr ⟨hc, ?_, ?_⟩
      · rw [innerStep_inner]
      · rw [innerStep_cpc]
    · split
      · exact Or.inl (endCb_out a s t)
      · exact Or.inl (Or.inl ⟨(Keeps.same rfl rfl rfl), rfl⟩)
  · exact Or.inl (Or.inl ⟨Keeps.refl s, hm⟩)

def IReachable (a : ACfg) (i : Sess.St) : Prop := ∃ es, i = Sess.runEvs (innerCfg a) {} es

theorem IReachable.step {a : ACfg} {i : Sess.St} (h : IReachable a i) (e : Sess.Ev) :
    IReachable a (Sess.step (innerCfg a) i e) := by
  obtain ⟨es, h⟩ := h
  exact ⟨es ++ [e], by rw [h]; simp [Sess.runEvs, List.foldl_append]⟩

theorem IReachable.invs {a : ACfg} {i : Sess.St} (h : IReachable a i) :
    Sess.InvA (innerCfg a) i ∧ Sess.InvR i ∧ Sess.InvB i := by
  obtain ⟨es, h⟩ := h
  rw [h]; exact Sess.runEvs_InvARB _ es

theorem cb_facts {a : ACfg} {i : Sess.St} (h : IReachable a i) {t : Sess.Tid} {k : Nat} {c : Sess.Cont}
    (hs : i.cstage = .cb t k c) :
    i.closed = true ∧ Sess.Obs.tclose ∈ i.trace ∧ i.prog t = .inClose ∧ (i.status t = .ready ∨ i.status t = .cancelled) := by
  obtain ⟨ia, _, ibb⟩ := h.invs
  have hne : i.cstage ≠ .idle := by rw [hs]; simp
  have hph : Sess.monRun i.trace = 2 := by rw [ia.phase, hs]; rfl
  obtain ⟨hp, hst, _⟩ := ibb.cb t k c hs
  refine ⟨ia.closed_iff.mpr hne, ?_, hp, hst⟩
  apply Sess.tclose_mem_of_phase
  · show Sess.monRun i.trace ≠ 9; rw [hph]; simp
  · show 1 ≤ Sess.monRun i.trace; rw [hph]; simp

theorem closer_step_final {a : ACfg} {i : Sess.St} (h : IReachable a i) {t : Sess.Tid} {c : Sess.Cont}
    (hs : i.cstage = .cb t 0 c) :
    (i.status t = .ready → (Sess.step (innerCfg a) i (.run t)).cstage = .finished) ∧
    (i.status t = .cancelled → (Sess.step (innerCfg a) i (.run t)).cstage = .aborted) := by
  obtain ⟨_, _, hp, _⟩ := cb_facts h hs
  exact ⟨fun hst => Sess.step_closer_ready _ i t c hs hp hst, fun hst => Sess.step_closer_cancelled _ i t c hs hp hst⟩

/-- `InvY` without its reachability part, as one relation between the inner close stage and the position `cpc` -/
def stageOk : Sess.CStage → CPc → Prop
  | .cb _ k _, c => k = 0 ∧ midStage c = true
  | .finished, c => c = .finished
  | .aborted, c => c = .finished ∨ c = .aborted
  | _, c => c = .idle

theorem InvY.stage {a : ACfg} {s : St} (i : InvY a s) : stageOk s.inner.cstage s.cpc := by
  cases e : s.inner.cstage with
  | idle => exact i.s1 (Or.inl e)
  | body t pc c => exact i.s1 (Or.inr ⟨_, _, _, e⟩)
  | cb t k c => exact i.s2 t k c e
  | finished => exact i.s3 e
  | aborted => exact i.s4 e

theorem InvY.of_stage {a : ACfg} {s : St} (hr : IReachable a s.inner) (h : stageOk s.inner.cstage s.cpc) : InvY a s := by
  refine ⟨hr, ?_, ?_, ?_, ?_⟩
  · rintro (e | ⟨t, pc, c, e⟩) <;> rw [e] at h <;> exact h
  · intro t k c e; rw [e] at h; exact h
  · intro e; rw [e] at h; exact h
  · intro e; rw [e] at h; exact h

theorem InvY.of_cstage {a : ACfg} {s s' : St} (i : InvY a s) (hr : IReachable a s'.inner)
    (h1 : s'.inner.cstage = s.inner.cstage) (h2 : s'.cpc = s.cpc) : InvY a s' :=
  InvY.of_stage hr (by rw [h1, h2]; exact i.stage)

theorem InvY.frame {a : ACfg} {s s' : St} (i : InvY a s) (h1 : s'.inner = s.inner) (h2 : s'.cpc = s.cpc) : InvY a s' :=
  i.of_cstage (by rw [h1]; exact i.reach) (by rw [h1]) h2

theorem InvY.reachable {a : ACfg} {s : St} (i : InvY a s) : IReachable a s.inner := i.reach

theorem InvY.of_out {a : ACfg} {s s' : St} {t : Sess.Tid} {c : Sess.Cont} (hr : IReachable a s.inner)
    (hs : s.inner.cstage = .cb t 0 c) (h : SeqOut a s t s') : InvY a s' := by
  rcases h with ⟨⟨h1, _, _⟩, h2⟩ | ⟨h1, h2⟩
  · exact InvY.of_stage (by rw [h1]; exact hr) (by rw [h1, hs]; exact ⟨rfl, h2⟩)
  · refine InvY.of_stage (by rw [h1]; exact hr.step _) ?_
    rw [h1, h2]
    obtain ⟨_, _, _, hst⟩ := cb_facts hr hs
    obtain ⟨f1, f2⟩ := closer_step_final hr hs
    rcases hst with hst | hst
    · rw [f1 hst]; rfl
    · rw [f2 hst]; exact Or.inl rfl

theorem passInner_inner_pre (a : ACfg) (s : St) (e : Sess.Ev) :
    (construct a (innerStep a s e)).inner = Sess.step (innerCfg a) s.inner e ∧
    (construct a (innerStep a s e)).cpc = s.cpc := by
  rw [construct_inner, innerStep_inner, construct_cpc, innerStep_cpc]
  exact ⟨rfl, rfl⟩

theorem passInner_Y {a : ACfg} {s : St} (i : InvY a s) (e : Sess.Ev)
    (hne : ∀ t, closerOf s.inner = some t → e ≠ .run t) : InvY a (passInner a s e) := by
  obtain ⟨hi, hc⟩ := passInner_inner_pre a s e
  have hr' : IReachable a (Sess.step (innerCfg a) s.inner e) := i.reachable.step e
  obtain ⟨ia, _, _⟩ := i.reachable.invs
  unfold passInner
  simp only
  generalize construct a (innerStep a s e) = s2 at hi hc
  cases hst : s.inner.cstage with
  | cb t k c =>
    obtain ⟨hk, hm⟩ := i.s2 t k c hst
    have hcl : s.inner.closed = true := ia.closed_iff.mpr (by rw [hst]; simp)
    have hfr : (Sess.step (innerCfg a) s.inner e).cstage = .cb t k c :=
      Sess.step_cb_frame _ _ t k c e hcl hst (hne t (by simp [closerOf, hst]))
    have hcpc : s2.cpc ≠ .idle := by rw [hc]; intro h; rw [h] at hm; simp [midStage] at hm
    have hres : InvY a s2 := InvY.of_stage (by rw [hi]; exact hr') (by rw [hi, hfr, hc]; exact ⟨hk, hm⟩)
    split
    · rename_i h2; exact absurd h2 hcpc
    · exact hres
  | finished =>
    have hcl : s.inner.closed = true := ia.closed_iff.mpr (by rw [hst]; simp)
    have hfin := Sess.step_finished_final (innerCfg a) s.inner e hcl hst
    have hcf : s2.cpc = .finished := by rw [hc]; exact i.s3 hst
    split
    · rename_i h2; rw [hcf] at h2; contradiction
    · exact InvY.of_stage (by rw [hi]; exact hr') (by rw [hi, hfin]; exact hcf)
  | aborted =>
    have hcl : s.inner.closed = true := ia.closed_iff.mpr (by rw [hst]; simp)
    have hfin := Sess.step_aborted_final (innerCfg a) s.inner e hcl hst
    have hcf : s2.cpc = .finished ∨ s2.cpc = .aborted := by rw [hc]; exact i.s4 hst
    split
    · rename_i h2; rcases hcf with h | h <;> rw [h] at h2 <;> contradiction
    · exact InvY.of_stage (by rw [hi]; exact hr') (by rw [hi, hfin]; exact hcf)
  | _ =>
    -- idle / body: the callback has not been entered
    all_goals
      have hpre : Sess.preCb s.inner := by
        first
          | exact Or.inl hst
          | exact Or.inr ⟨_, _, _, hst⟩
      have hidle : s2.cpc = .idle := by rw [hc]; exact i.s1 hpre
      have hpost := Sess.step_postCb (innerCfg a) rfl rfl s.inner e ia hpre
      rcases hpost with hp | ⟨t, c, hcb⟩
      · have hcl : closerOf s2.inner = none := by
          rw [hi]; unfold closerOf
          rcases hp with h | ⟨t', pc, c', h⟩ <;> rw [h]
        split
        · rename_i h1 _; rw [hcl] at h1; contradiction
        · refine InvY.of_stage (by rw [hi]; exact hr') ?_
          rw [hi]
          rcases hp with h | ⟨t', pc, c', h⟩ <;> rw [h] <;> exact hidle
      · have hcl : closerOf s2.inner = some t := by rw [hi]; unfold closerOf; rw [hcb]
        split
        · rename_i t' h1 _
          rw [hcl] at h1; cases h1
          exact InvY.of_out (s := s2) (by rw [hi]; exact hr') (by rw [hi]; exact hcb) (onSoupClose_out a s2 t)
        · rename_i hno
          exact absurd hidle (hno t hcl)

theorem resumeSoupClose_Y {a : ACfg} {s : St} (i : InvY a s) {t : Sess.Tid} (hcl : closerOf s.inner = some t) :
    InvY a (resumeSoupClose a s t) := by
  obtain ⟨k, c, hs⟩ := closerOf_some hcl
  obtain ⟨hk, hm⟩ := i.s2 t k c hs
  subst hk
  rcases resumeSoupClose_out a s t hm with h | ⟨hst, h1, h2⟩
  · exact InvY.of_out i.reachable hs h
  · have hfin := (closer_step_final i.reachable hs).2 hst
    exact InvY.of_stage (by rw [h1]; exact i.reachable.step _) (by rw [h1, hfin]; exact Or.inr h2)

theorem stepInner_Y {a : ACfg} {s : St} (i : InvY a s) (e : Sess.Ev) : InvY a (stepInner a s e) := by
  have hmid : ∀ t, closerOf s.inner = some t → s.cpc ≠ .idle := by
    intro t hcl hh
    obtain ⟨k, c, h⟩ := closerOf_some hcl
    have := (i.s2 t k c h).2
    rw [hh] at this; simp [midStage] at this
  unfold stepInner
  split
  · rename_i t
    split
    · rename_i h
      split
      · exact resumeSoupClose_Y i h.1
      · exact i
    · rename_i h
      apply passInner_Y i
      intro t' hcl heq
      have ht : t' = t := by cases heq; rfl
      subst ht
      exact h ⟨hcl, hmid _ hcl⟩
  · split
    · exact i.frame (by simp) (by simp)
    · split
      · exact i.frame (by simp) (by simp)
      · exact passInner_Y i _ (fun _ _ h => by cases h)
  · rename_i hnr hnc
    apply passInner_Y i
    intro t' _ heq
    exact hnr t' heq

theorem startClose_Y {a : ACfg} {s : St} (i : InvY a s) (t : ATid) (p : AProg) : InvY a (startClose a s t p) := by
  have hcore := Sess.step_initiateClose_core (innerCfg a) s.inner
  simp only [Sess.core, Prod.mk.injEq] at hcore
  have h1 : (startClose a s t p).inner = Sess.step (innerCfg a) s.inner .callInitiateClose := innerStep_inner a _ _
  exact i.of_cstage (by rw [h1]; exact i.reachable.step _) (by rw [h1]; exact hcore.2.1) (innerStep_cpc a _ _)

theorem closeOnD2_Y {a : ACfg} {s : St} (i : InvY a s) (p : AProg) : InvY a (closeOnD2 a s p) := by
  unfold closeOnD2
  simp only
  split
  · exact i.frame (by simp) (by simp [St.setA, St.setP])
  · exact passInner_Y (s := (({ s with evt := some false } : St).setA .D2 .inSoup).setP .D2 p) (i.frame rfl rfl) _
      (fun _ _ h => by cases h)

theorem dispHandle2_Y {a : ACfg} {s : St} (i : InvY a s) (v : Nat) : InvY a (dispHandle2 a s v) := by
  unfold dispHandle2
  split
  · exact i.frame rfl rfl
  · exact i.frame rfl rfl
  · exact i.frame rfl rfl
  · split
    · exact i.frame rfl rfl
    · exact closeOnD2_Y i _
  · exact i.frame rfl rfl
  · exact i.frame rfl rfl

theorem handlerDone_Y {a : ACfg} {s : St} (i : InvY a s) (t : ATid) (v : Nat) : InvY a (handlerDone a s t v) := by
  unfold handlerDone
  split
  · split
    · exact i.frame rfl rfl
    · exact closeOnD2_Y i _
  · exact i.frame rfl rfl

theorem stepDisp2_Y {a : ACfg} {s : St} (i : InvY a s) : InvY a (stepDisp2 a s) := by
  unfold stepDisp2
  split
  · exact i.frame rfl rfl
  · split
    · exact i
    · split
      · exact i.frame rfl rfl
      · rename_i v q _
        exact dispHandle2_Y (s := ({ s with q2 := q, gone2 := s.gone2 ++ [(v, true)] } : St).emit2 (.msgEnter v)) (i.frame rfl rfl) v

theorem stepRun2_Y {a : ACfg} {s : St} (i : InvY a s) (t : ATid) : InvY a (stepRun2 a s t) := by
  unfold stepRun2
  have i0 : InvY a { s with imm2 := false } := i.frame rfl rfl
  generalize ({ s with imm2 := false } : St) = s0 at i0
  simp only
  split
  · split
    · exact i0.frame rfl rfl
    · split
      · exact i0.frame rfl rfl
      · exact closeOnD2_Y i0 _
    · split <;> exact i0.frame rfl rfl
    · exact i0.frame rfl rfl
    · exact i0.frame rfl rfl
  · split
    · split
      · exact stepDisp2_Y i0
      · exact i0
    · split
      · exact handlerDone_Y i0 _ _
      · exact i0.frame rfl rfl
    · split <;> exact i0.frame rfl rfl
    · split
      · exact i0.frame rfl rfl
      · split
        · exact i0
        · exact i0.frame rfl rfl
    · split
      · exact i0.frame rfl rfl
      · split <;> exact i0.frame rfl rfl
    · exact i0.frame rfl rfl
    · exact i0
  · exact i0

theorem startRecv2_Y {a : ACfg} {s : St} (i : InvY a s) (u : Nat) : InvY a (startRecv2 s u) := by
  unfold startRecv2
  split
  · exact i
  · split
    · exact i.frame rfl rfl
    · split
      · exact i.frame rfl rfl
      · split
        · exact i.frame rfl rfl
        · exact i.frame (by simp only [St.spawn2, St.setA, St.setP]) (by simp only [St.spawn2, St.setA, St.setP])

theorem step_Y {a : ACfg} {s : St} (i : InvY a s) (ev : Ev) : InvY a (step a s ev) := by
  cases ev with
  | inner e =>
    simp only [step]
    split
    · exact i
    · exact stepInner_Y i e
  | run t =>
    simp only [step]
    split
    · exact stepRun2_Y i t
    · split
      · exact stepInner_Y (s := { s with imm2 := false }) (i.frame rfl rfl) _
      · exact i
  | appClose u =>
    simp only [step]
    split
    · exact i
    · split
      · exact i.frame rfl rfl
      · exact startClose_Y i _ _
  | appRecv u =>
    simp only [step]
    split
    · exact i
    · exact startRecv2_Y i u
  | appCancel u => exact i.frame (by simp [step]) (by simp [step])

end NasdaqModel.App
