import NasdaqModel.Lemmas.AppSessionLink
import NasdaqModel.Lemmas.AppSessionFlow
/-
The close of the soup session hands no message to the application queue.

A message callback of the application session that awaits `app.close()` carries out `soup_session.close()` within the very step
of the second dispatcher that entered it (`closeOnD2`): the inner event `callClose d2u` and — if the close body does not suspend —
`_on_soup_close` with the closer's inner step out of the callback stage (`finishClose`).  Neither of them enters an inner message
callback:

* `Sess.step_callClose_entered` — `callClose u` runs the close body (`enterClose`), which emits `tclose`, `cbEnter`, `cbExit`, `ret`;
* `Sess.step_entered_qClosed` — *no* event enters a message callback once the inner queue is stopped (`qClosed`): the dispatcher
  loop tests the flag before it takes a message (`stepDisp`); the closer inside `_on_soup_close` is past `queue.stop()`
  (`InvA.qclosed`).

So `_on_soup_message` is not run in such a step and the second queue is left as it is (`closeOnD2_q2`, `dispHandle2_q2`).
-/
namespace NasdaqModel.Sess
open NasdaqModel App

theorem entered_snoc (tr : List Obs) (o : Obs) (h : ∀ n, o ≠ .msgEnter n) : entered (tr ++ [o]) = entered tr := by
  cases o <;> simp_all [entered, List.filterMap_append]

theorem neutral_not_msgEnter {o : Obs} (h : neutral o = true) : ∀ n, o ≠ .msgEnter n := by
  intro n e; subst e; simp [neutral] at h

theorem runCont_entered (s : St) (t : Tid) (c : Cont) : entered (runCont s t c).trace = entered s.trace := by
  cases c with
  | readerTail => rfl
  | handlerTail n => exact entered_snoc s.trace (.msgExit n) (by simp)
  | monitorTail => rfl
  | closingTail => rfl
  | userTail u r => exact entered_snoc s.trace (.ret u r.toRes) (by simp)

theorem closeTail_entered (cfg : Cfg) (s : St) (t : Tid) (c : Cont) :
    entered (closeTail cfg s t c).trace = entered s.trace := by
  have e1 : entered (s.emit .tclose).trace = entered s.trace := entered_snoc s.trace .tclose (by simp)
  have e2 : entered ((s.emit .tclose).emit .cbEnter).trace = entered s.trace :=
    (entered_snoc (s.emit .tclose).trace .cbEnter (by simp)).trans e1
  unfold closeTail
  simp only
  split
  · rw [runCont_entered]; exact e1
  · split
    · exact e2
    · rw [runCont_entered]
      exact (entered_snoc ((s.emit .tclose).emit .cbEnter).trace .cbExit (by simp)).trans e2

theorem execClose_entered (cfg : Cfg) (t : Tid) (c : Cont) (l : List Nat) (pc : Nat) (s : St) (h : entered s.trace = l) :
    entered (execClose cfg s t c pc).trace = l := by
  refine execClose_rule cfg t c (fun s => entered s.trace = l) (fun s => entered s.trace = l) ?_ ?_ ?_ ?_ pc s h
  · intro s p; exact p
  · intro s p; exact p
  · intro s x pc p _ _ _
    simp only [suspendOn, St.setStatus, St.setProg]
    rw [cancelTask_trace]; exact p
  · intro s p; rw [closeTail_entered]; exact p

theorem enterClose_entered (cfg : Cfg) (s : St) (t : Tid) (c : Cont) :
    entered (enterClose cfg s t c).trace = entered s.trace := by
  unfold enterClose
  split
  · exact runCont_entered s t c
  · exact execClose_entered cfg t c _ 0 _ rfl

theorem enteredHoare (cfg : Cfg) (l : List Nat) :
    CoreHoare cfg (fun _ => True) (fun s => s.qClosed = true ∧ entered s.trace = l) (fun s => entered s.trace = l) where
  of_core := by
    intro s s' hc h
    simp only [core, Prod.mk.injEq] at hc
    rw [hc.2.2.1, hc.2.2.2]; exact h
  emit_neutral := by
    intro s o hn h
    exact ⟨h.1, (entered_snoc s.trace o (neutral_not_msgEnter hn)).trans h.2⟩
  emit_msgEnter := by
    intro s n hq h
    have := h.1
    rw [hq] at this
    cases this
  weaken := fun h => h.2
  enterClose' := by
    intro s h t c
    rw [enterClose_entered]; exact h.2
  stepInClose' := by
    intro s h t b _
    unfold stepInClose
    split
    · split
      · unfold resumeClose
        apply execClose_entered
        split <;> exact h.2
      · exact h.2
    · split
      · split
        · split
          · exact (entered_snoc s.trace _ (by simp)).trans h.2
          · exact h.2
        · split
          · rw [runCont_entered]
            exact (entered_snoc s.trace .cbExit (by simp)).trans h.2
          · exact h.2
      · exact h.2
    · exact h.2

/-- **once the inner queue is stopped no event enters an inner message callback** -/
theorem step_entered_qClosed (cfg : Cfg) (s : St) (ev : Ev) (hq : s.qClosed = true) :
    entered (step cfg s ev).trace = entered s.trace :=
  step_H (enteredHoare cfg (entered s.trace)) ⟨hq, rfl⟩ ev (fun _ _ => trivial)

/-- **`soup_session.close()` called by a fresh task enters no inner message callback**, whatever the state -/
theorem step_callClose_entered (cfg : Cfg) (s : St) (u : Nat) :
    entered (step cfg s (.callClose u)).trace = entered s.trace := by
  simp only [step]
  split
  · rfl
  · rw [enterClose_entered]; rfl

end NasdaqModel.Sess

namespace NasdaqModel.App
open NasdaqModel

theorem innerStep_q2_silent (a : ACfg) (s : St) (e : Sess.Ev)
    (h : entered (Sess.step (innerCfg a) s.inner e).trace = entered s.inner.trace) : (innerStep a s e).q2 = s.q2 := by
  rw [(innerStep_fields a s e).2.2]
  have htr := Sess.step_trace_eq (innerCfg a) s.inner e
  generalize (Sess.step (innerCfg a) s.inner e).trace.drop s.inner.trace.length = d at htr ⊢
  rw [htr, entered_append] at h
  have hd : entered d = [] := by simpa using h
  rw [hd]; simp

/-- the closer `t` is inside the inner close callback of a legal soup session -/
def InCb (a : ACfg) (s : St) (t : Sess.Tid) : Prop := IReachable a s.inner ∧ closerOf s.inner = some t

theorem InCb.silent {a : ACfg} {s : St} {t : Sess.Tid} (h : InCb a s t) (e : Sess.Ev) :
    entered (Sess.step (innerCfg a) s.inner e).trace = entered s.inner.trace := by
  obtain ⟨k, c, hcs⟩ := closerOf_some h.2
  obtain ⟨ia, _, _⟩ := h.1.invs
  exact Sess.step_entered_qClosed _ _ _ (ia.qclosed (by rw [hcs]; simp))

@[simp] theorem q2_setEvent (s : St) : s.setEvent.q2 = s.q2 := by unfold St.setEvent; split <;> rfl
@[simp] theorem q2_cancel2 (s : St) (t : ATid) : (s.cancel2 t).q2 = s.q2 := by
  unfold St.cancel2; split <;> try rfl
  split <;> rfl

theorem d2Return_q2 (s : St) : (d2Return s).q2 = s.q2 := by
  rcases d2Return_cases s with h | ⟨v, h⟩ | ⟨v, h⟩ | ⟨v, h⟩ <;> simp only [h, St.emit2, St.setA, St.setP, St.finish2]

/-- once a legal soup session reports closed nothing reaches the second queue any more: its queue is stopped, so no inner step
    enters a message callback -/
theorem q2_close (a : ACfg) (g : List Nat) :
    CloseInv a (fun s => (IReachable a s.inner ∧ s.inner.closed = true) ∧ s.q2 = g) where
  frame := by
    intro s s' e p
    have e1 : s'.inner = s.inner := congrArg (·.1) e
    have e3 : s'.q2 = s.q2 := congrArg (·.2.2.1) e
    rw [e1, e3]; exact p
  emit := fun _ p => p
  inner := by
    intro s e ⟨⟨hr, hc⟩, hq⟩
    obtain ⟨ia, _, _⟩ := hr.invs
    rw [innerStep_inner]
    refine ⟨⟨hr.step e, Sess.step_closed_mono _ _ e hc⟩, ?_⟩
    rw [innerStep_q2_silent a s e (Sess.step_entered_qClosed _ _ _ (ia.qclosed (ia.closed_iff.mp hc)))]
    exact hq

theorem construct_q2 (a : ACfg) (s : St) : (construct a s).q2 = s.q2 := by
  unfold construct
  split
  · simp only; split <;> rfl
  · rfl

/-- **`soup_session.close()` carried out by the second dispatcher puts nothing on the second queue**: neither the inner event
    `callClose d2u` nor — if the close body runs through without suspending — `_on_soup_close` and the closer's step out of it -/
theorem passInner_callClose_q2 {a : ACfg} {s : St} (hr : IReachable a s.inner) (u : Nat) :
    (passInner a s (.callClose u)).q2 = s.q2 := by
  have h0 : (innerStep a s (.callClose u)).q2 = s.q2 :=
    innerStep_q2_silent a s _ (Sess.step_callClose_entered _ _ _)
  unfold passInner
  simp only
  split
  · rename_i t hc _
    have hr2 : IReachable a (construct a (innerStep a s (.callClose u))).inner := by
      rw [construct_inner, innerStep_inner]; exact hr.step _
    obtain ⟨k, c, hcs⟩ := closerOf_some hc
    have hcl := (hr2.invs.1.closed_iff).mpr (by rw [hcs]; simp)
    exact ((q2_close a s.q2).onSoupClose ⟨⟨hr2, hcl⟩, by rw [construct_q2, h0]⟩ t).2
  · rw [construct_q2, h0]

theorem closeOnD2_q2 {a : ACfg} {s : St} (hr : IReachable a s.inner) (p : AProg) : (closeOnD2 a s p).q2 = s.q2 := by
  unfold closeOnD2
  simp only
  split
  · rw [d2Return_q2]; rfl
  · rw [passInner_callClose_q2 (by exact hr)]; rfl

/-- entering the application message callback moves nothing else off or onto the second queue — a callback that closes the
    session from inside included -/
theorem dispHandle2_q2 {a : ACfg} {s : St} (hr : IReachable a s.inner) (v : Nat) : (dispHandle2 a s v).q2 = s.q2 := by
  unfold dispHandle2
  split
  · rfl
  · rfl
  · rfl
  · split
    · rfl
    · exact closeOnD2_q2 hr _
  · rfl
  · rfl

end NasdaqModel.App
