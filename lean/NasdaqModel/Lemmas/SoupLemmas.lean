import NasdaqModel.Model.SoupVia
/-
Lemmas about the SoupBinTCP packet codec (`Model/Soup.lean`, `Model/SoupVia.lean`): the dispatch table, `decode` as the dispatch on the
type character followed by the selected class's `unpack`, the header and the length field, the fixed-width login fields.
-/
namespace NasdaqModel.Soup
open NasdaqModel Py

theorem classByIndicator_ind (k : Kind) : classByIndicator k.ind = some k := by
  cases k <;> rfl

theorem ite_some_inv {α : Type} {c : Prop} [Decidable c] {a b : α} {r : Option α}
    (h : (if c then some a else r) = some b) : (c ∧ a = b) ∨ (¬ c ∧ r = some b) := by
  by_cases hc : c
  · rw [if_pos hc] at h
    exact Or.inl ⟨hc, Option.some.inj h⟩
  · rw [if_neg hc] at h
    exact Or.inr ⟨hc, h⟩

theorem classByIndicator_some {t : Nat} {k : Kind} (h : classByIndicator t = some k) : t = k.ind := by
  unfold classByIndicator at h
  -- one entry of the chain per registered class
  iterate 10
    rcases ite_some_inv h with ⟨rfl, rfl⟩ | ⟨_, h⟩
    · rfl
  cases h


theorem Pkt.ty_eq (p : Pkt) : p.ty = p.kind.ind := by
  cases p <;> rfl

theorem unpackLength_of_getElem? {b : Bytes} {t : Nat} (h : b[2]? = some t) : unpackLength b = .ok (lenField b) := by
  have hl : ¬ b.length < 3 := fun hl => by
    rw [List.getElem?_eq_none (by omega)] at h
    cases h
  rw [unpackLength, if_neg hl]

theorem decode_eq_unpackAs {b : Bytes} {t : Nat} (h : b[2]? = some t) :
    decode b = match classByIndicator t with
      | none => .error .invalidSoup
      | some k => unpackAs k b := by
  have hlen := unpackLength_of_getElem? h
  unfold decode
  rw [h]
  cases hk : classByIndicator t with
  | some k =>
    obtain rfl := classByIndicator_some hk
    cases k
    case seqData =>
      simp only [unpackAs, hlen, ok_bind]
      rfl
    case unseqData =>
      simp only [unpackAs, hlen, ok_bind]
      rfl
    case debug =>
      simp only [unpackAs, hlen, ok_bind]
      rfl
    all_goals rfl
  | none =>
    have hne : ∀ k : Kind, t ≠ k.ind := fun k e => by
      rw [e, classByIndicator_ind] at hk
      cases hk
    have h76 : t ≠ 76 := hne .loginReq
    have h65 : t ≠ 65 := hne .loginAcc
    have h74 : t ≠ 74 := hne .loginRej
    have h83 : t ≠ 83 := hne .seqData
    have h85 : t ≠ 85 := hne .unseqData
    have h43 : t ≠ 43 := hne .debug
    have h82 : t ≠ 82 := hne .clientHb
    have h72 : t ≠ 72 := hne .serverHb
    have h90 : t ≠ 90 := hne .endOfSession
    have h79 : t ≠ 79 := hne .logoutReq
    simp only [if_neg h76, if_neg h65, if_neg h74, if_neg h83, if_neg h85, if_neg h43]
    rw [if_neg (by omega)]


theorem unpackAs_kind {k : Kind} {b : Bytes} {p : Pkt} (h : unpackAs k b = .ok p) : p.kind = k := by
  cases k <;> simp only [unpackAs, bind_eq_ok, pure_eq_ok, Except.ok.injEq] at h
  case loginReq =>
    obtain ⟨_, _, _, _, _, _, _, _, _, _, rfl⟩ := h
    rfl
  case loginAcc =>
    obtain ⟨_, _, _, _, _, _, rfl⟩ := h
    rfl
  case loginRej =>
    obtain ⟨_, _, _, _, h⟩ := h
    split at h
    · cases h
      rfl
    · split at h
      · cases h
        rfl
      · cases h
  case seqData =>
    obtain ⟨_, _, rfl⟩ := h
    rfl
  case unseqData =>
    obtain ⟨_, _, rfl⟩ := h
    rfl
  case debug =>
    obtain ⟨_, _, h⟩ := h
    split at h
    · obtain ⟨_, _, h⟩ := bind_eq_ok.mp h
      cases h
      rfl
    · cases h
      rfl
  all_goals
    split at h
    · cases h
      rfl
    · cases h

theorem decode_type_byte {bs : Bytes} {p : Pkt} (h : decode bs = .ok p) : bs[2]? = some p.ty := by
  cases ht : bs[2]? with
  | none =>
    unfold decode at h
    rw [ht] at h
    cases h
  | some t =>
    rw [decode_eq_unpackAs ht] at h
    cases hk : classByIndicator t with
    | none =>
      rw [hk] at h
      cases h
    | some k =>
      rw [hk] at h
      rw [Pkt.ty_eq, unpackAs_kind h, classByIndicator_some hk]


/-- `struct.pack('!h c', n, t)` for a non-negative `n` -/
theorem header_natCast (n t : Nat) :
    header (n : Int) t = if n ≤ 32767 then .ok [n / 256, n % 256, t] else .error .struct := by
  unfold header packBE16s
  by_cases hn : n ≤ 32767
  · have h1 : (-32768 : Int) ≤ (n : Int) ∧ (n : Int) ≤ 32767 := by omega
    have h2 : ((n : Int) % 65536).toNat = n := by omega
    rw [if_pos h1, if_pos hn, h2]
    rfl
  · have h1 : ¬ ((-32768 : Int) ≤ (n : Int) ∧ (n : Int) ≤ 32767) := by omega
    rw [if_neg h1, if_neg hn]
    rfl

theorem header_succ (n t : Nat) :
    header ((n : Int) + 1) t = if n ≤ 32766 then .ok [(n + 1) / 256, (n + 1) % 256, t] else .error .struct := by
  have h := header_natCast (n + 1) t
  rw [Int.natCast_succ] at h
  rw [h]
  by_cases hn : n ≤ 32766
  · rw [if_pos hn, if_pos (by omega)]
  · rw [if_neg hn, if_neg (by omega)]

theorem packNs_length (n : Nat) (v : Bytes) : (packNs n v).length = n := by
  unfold packNs
  simp only [List.length_append, List.length_take, List.length_replicate]
  omega

theorem encodeAscii_inv {s : Str} {b : Bytes} (h : encodeAscii s = .ok b) : b = s := by
  unfold encodeAscii at h
  split at h
  · exact (Except.ok.inj h).symm
  · cases h

theorem encode_inv (p : Pkt) (bs : Bytes) (h : encode p = .ok bs) :
    ∃ hb rest, bs = hb ++ rest ∧ header ((rest.length : Int) + 1) p.ty = .ok hb := by
  cases p <;> simp only [encode, bind_eq_ok, pure_eq_ok, Except.ok.injEq] at h
  case loginReq u pw s q =>
    obtain ⟨hb, hh, u', _, p', _, s', _, q', _, rfl⟩ := h
    exact ⟨hb, packNs 6 u' ++ packNs 10 p' ++ packNs 10 s' ++ packNs 20 q', by simp only [List.append_assoc],
      by simpa [packNs_length, Pkt.ty] using hh⟩
  case loginAcc s q =>
    obtain ⟨hb, hh, s', _, q', _, rfl⟩ := h
    exact ⟨hb, packNs 10 s' ++ packNs 20 q', by simp only [List.append_assoc], by simpa [packNs_length, Pkt.ty] using hh⟩
  case loginRej r =>
    obtain ⟨hb, hh, r', hr, rfl⟩ := h
    rw [encodeAscii_inv hr]
    exact ⟨hb, [r], rfl, hh⟩
  case seqData d =>
    obtain ⟨hb, hh, rfl⟩ := h
    exact ⟨hb, d, rfl, hh⟩
  case unseqData d =>
    obtain ⟨hb, hh, rfl⟩ := h
    exact ⟨hb, d, rfl, hh⟩
  case debug t =>
    obtain ⟨hb, hh, t', ht, rfl⟩ := h
    rw [encodeAscii_inv ht]
    exact ⟨hb, t, rfl, hh⟩
  all_goals exact ⟨bs, [], (List.append_nil bs).symm, h⟩

theorem lenField_cons (n t : Nat) (rest : Bytes) : lenField (n / 256 :: n % 256 :: t :: rest) = (n : Int) := by
  have e : n / 256 * 256 + n % 256 = n := by omega
  show ((n / 256 * 256 + n % 256 : Nat) : Int) = n
  rw [e]

theorem data_tail (d : Bytes) (t : Nat) :
    (if lenField ((1 + d.length) / 256 :: (1 + d.length) % 256 :: t :: d) > 1
      then ((1 + d.length) / 256 :: (1 + d.length) % 256 :: t :: d).drop 3 else []) = d := by
  rw [lenField_cons]
  split
  · rfl
  · have : d.length = 0 := by omega
    exact (List.eq_nil_of_length_eq_zero this).symm


theorem decode_seqData (d : Bytes) :
    decode ((1 + d.length) / 256 :: (1 + d.length) % 256 :: 83 :: d) = .ok (.seqData d) := by
  simp only [decode, List.getElem?_cons_succ, List.getElem?_cons_zero, Nat.reduceEqDiff, if_false, if_true, pure_eq_ok, data_tail]

theorem decode_unseqData (d : Bytes) :
    decode ((1 + d.length) / 256 :: (1 + d.length) % 256 :: 85 :: d) = .ok (.unseqData d) := by
  simp only [decode, List.getElem?_cons_succ, List.getElem?_cons_zero, Nat.reduceEqDiff, if_false, if_true, pure_eq_ok, data_tail]

theorem decode_debug (t : Str) (ha : t.all (· < 128) = true) :
    decode ((1 + t.length) / 256 :: (1 + t.length) % 256 :: 43 :: t) = .ok (.debug t) := by
  simp only [decode, List.getElem?_cons_succ, List.getElem?_cons_zero, Nat.reduceEqDiff, if_false, if_true, lenField_cons]
  split
  · show (decodeAscii t >>= fun s => pure (Pkt.debug s)) = _
    rw [decodeAscii, if_pos ha]
    rfl
  · have : t.length = 0 := by omega
    rw [List.eq_nil_of_length_eq_zero this]
    rfl

theorem sliceRange_append (a m c : Bytes) : sliceRange (a ++ (m ++ c)) a.length (a.length + m.length) = m := by
  unfold sliceRange
  rw [← List.append_assoc, List.take_append_of_le_length (by simp), List.take_of_length_le (by simp)]
  simp

theorem decode_loginReq_fields {u p s q : Bytes} (hu : u.length = 6) (hp : p.length = 10) (hs : s.length = 10)
    (hq : q.length = 20) :
    decode ([0, 47, 76] ++ u ++ p ++ s ++ q) = (do
      let u' ← unpackString u
      let p' ← unpackString p
      let s' ← unpackString s
      let q' ← unpackInt q
      pure (.loginReq u' p' s' (intStr q'))) := by
  have s1 := sliceRange_append [0, 47, 76] u (p ++ s ++ q)
  have s2 := sliceRange_append ([0, 47, 76] ++ u) p (s ++ q)
  have s3 := sliceRange_append ([0, 47, 76] ++ u ++ p) s q
  have s4 := sliceRange_append ([0, 47, 76] ++ u ++ p ++ s) q []
  simp only [List.length_append, List.length_cons, List.length_nil, hu, hp, hs, hq, List.append_nil,
    ← List.append_assoc] at s1 s2 s3 s4
  have h2 : ([0, 47, 76] ++ u ++ p ++ s ++ q)[2]? = some 76 := by simp
  have hlen : ([0, 47, 76] ++ u ++ p ++ s ++ q).length = 49 := by simp [hu, hp, hs, hq]
  unfold decode
  rw [h2]
  simp only [if_true, exactSize, hlen, s1, s2, s3, s4, ok_bind]

theorem decode_loginAcc_fields {s q : Bytes} (hs : s.length = 10) (hq : q.length = 20) :
    decode ([0, 31, 65] ++ s ++ q) = (do
      let s' ← unpackString s
      let q' ← unpackInt q
      pure (.loginAcc s' q')) := by
  have s1 := sliceRange_append [0, 31, 65] s q
  have s2 := sliceRange_append ([0, 31, 65] ++ s) q []
  simp only [List.length_append, List.length_cons, List.length_nil, hs, hq, List.append_nil, ← List.append_assoc] at s1 s2
  have h2 : ([0, 31, 65] ++ s ++ q)[2]? = some 65 := by simp
  have hlen : ([0, 31, 65] ++ s ++ q).length = 33 := by simp [hs, hq]
  unfold decode
  rw [h2]
  simp only [exactSize, hlen, s1, s2]
  rfl

end NasdaqModel.Soup
