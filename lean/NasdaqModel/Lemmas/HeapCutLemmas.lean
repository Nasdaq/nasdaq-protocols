import NasdaqModel.Model.HeapCut
import NasdaqModel.Lemmas.HeapDLemmas
/-
Lemmas for `Model/HeapCut.lean` (C18, short frames).

Part 1: one operation of `HeapCut.stepC` does nothing, adds a buffer of the caller, or is an operation of `Model/Heap.lean`
(`stepC_cases`, over `HeapD.stepD_cases`); hence invariant and frame for one step.

Part 2: what a NEWLY BUILT object graph reads does not depend on the heap it was built in (`allocTree_obs`): it is `treeObs` of the
pure tree it was built from — the fact behind "a fresh instance / a decoded message reads the same after any history".
-/
namespace NasdaqModel.HeapCut
open NasdaqModel Heap HeapD

/-! ## part 1: one step -/

/-- what `stepC` can do: nothing, add a buffer of the caller (`mkbuf`, `cut`), or an operation of `Model/Heap.lean` -/
theorem stepC_cases {S : Schema} {D : Defaults} {H H' : Heap} {op : OpC} (hs : stepC S D H op = .ok H') :
    H' = H ∨ (∃ bs, H' = addBuf H bs) ∨ (∃ o, op = .op o ∧ step S H o = .ok H') := by
  cases op with
  | op o =>
    simp only [stepC] at hs
    rcases stepD_cases hs with h | h | h
    · exact Or.inl h
    · exact Or.inr (Or.inl h)
    · exact Or.inr (Or.inr ⟨o, rfl, h⟩)
  | cut b n =>
    simp only [stepC] at hs
    split at hs
    · simp at hs
    · split at hs
      · injection hs with hs; exact Or.inr (Or.inl ⟨_, hs.symm⟩)
      · simp at hs

theorem stepC_grows {S : Schema} {D : Defaults} {H H' : Heap} {op : OpC} (hs : stepC S D H op = .ok H') :
    Grows S H H' (op.target H) := by
  rcases stepC_cases hs with h | h | ⟨o, rfl, h⟩
  · exact .inl h
  · exact .inr (.inl h)
  · exact .inr (.inr ⟨o, rfl, h⟩)

theorem stepC_inv {S : Schema} (hS : S.freshArrayDefault = true) {D : Defaults} {H H' : Heap} {op : OpC} (hi : Inv H)
    (hs : stepC S D H op = .ok H') : Inv H' :=
  (stepC_grows hs).inv hS hi

theorem stepC_frame_core {S : Schema} (hS : S.freshArrayDefault = true) {D : Defaults} {H H' : Heap} {op : OpC}
    (hi : Inv H) (hs : stepC S D H op = .ok H') {b : Nat} (hb : b ≠ op.target H) :
    H'.insts[b]? = H.insts[b]? ∧
    ∀ (n : Nat) (cr : Nat × Addr), H.insts[b]? = some cr → deref S n H'.cells (.ref cr.2) = deref S n H.cells (.ref cr.2) :=
  (stepC_grows hs).frame_core hS hi hb

theorem stepKC_inv {S : Schema} (hS : S.freshArrayDefault = true) {D : Defaults} {H : Heap} (op : OpC) (hi : Inv H) :
    Inv (stepKC S D H op) := by
  unfold stepKC
  cases hs : stepC S D H op with
  | ok H' => exact stepC_inv hS hi hs
  | error e => exact hi

theorem runC_inv {S : Schema} (hS : S.freshArrayDefault = true) (D : Defaults) :
    ∀ (ops : List OpC) (H : Heap), Inv H → Inv (runC S D H ops)
  | [], _, hi => hi
  | op :: ops, _, hi => runC_inv hS D ops _ (stepKC_inv hS op hi)

theorem runC_append (S : Schema) (D : Defaults) (H : Heap) (ops : List OpC) (op : OpC) :
    runC S D H (ops ++ [op]) = stepKC S D (runC S D H ops) op := by
  simp [runC, List.foldl_append]

/-! ## part 2: what a newly built object graph reads -/

/-- the declared keys of class `c` that are not among `keys`, with what they read as -/
def unassignedK (S : Schema) (c : Nat) (keys : List Key) : List (Key × Val) :=
  (S.declared c).filter (fun kd => !(keys.any (fun k => k == kd.1)))

/-- what an object graph built from the pure tree `t` reads, to depth `n` (`deref` on the graph `allocTree` builds) -/
def treeObs (S : Schema) : Nat → Tree → DVal
  | _, .int i => .int i
  | _, .str s => .str s
  | _, .none => .none
  | 0, .list _ => .cut
  | 0, .obj _ _ _ => .cut
  | n + 1, .list xs => .list (xs.map (treeObs S n))
  | n + 1, .obj c ks ts =>
    .obj c ((ks.zip ts).map (·.1)) ((ks.zip ts).map (fun kt => treeObs S n kt.2))
      ((unassignedK S c ((ks.zip ts).map (·.1))).map (·.1))
      ((unassignedK S c ((ks.zip ts).map (·.1))).map (fun kd => deref S n [] kd.2))

theorem unassigned_eq (S : Schema) (c : Nat) (st : List (Key × Val)) :
    unassigned S c st = unassignedK S c (st.map (·.1)) := by
  simp [unassigned, unassignedK, List.any_map, Function.comp_def]

theorem deref_noRefs (S : Schema) (n : Nat) (h h' : Cells) (v : Val) (hv : v.refs = []) :
    deref S n h v = deref S n h' v := by
  cases v with
  | ref a => simp [Val.refs] at hv
  | int i | str s | none | elist => cases n <;> rfl

theorem deref_append (S : Schema) {h : Cells} (e : Cells) (hcl : Closed h) (h0 : ∃ c, h[0]? = some c) (n : Nat) (v : Val)
    (hv : RefsIn (fun _ => True) h v.refs) : deref S n (h ++ e) v = deref S n h v := by
  apply deref_agree S (fun _ => True) h (h ++ e) ?_ hcl ?_ n v hv
  · intro a c hc _
    rw [List.getElem?_append_left (getElem?_lt hc)]; exact hc
  · intro r hr
    simp at hr; subst hr
    obtain ⟨c, hc⟩ := h0
    exact ⟨c, hc, trivial⟩

theorem allocList_length (o : Owner) : ∀ (ts : List Tree) (h : Cells), (allocList o ts h).2.length = ts.length
  | [], _ => by simp [allocList]
  | t :: ts, h => by simp [allocList, allocList_length o ts]

theorem zip_fst_of_length {α β γ : Type} : ∀ (ks : List α) (vs : List β) (ts : List γ), vs.length = ts.length →
    (ks.zip vs).map (·.1) = (ks.zip ts).map (·.1)
  | [], _, _, _ => by simp
  | _ :: _, [], [], _ => by simp
  | _ :: _, [], _ :: _, h => by simp at h
  | _ :: _, _ :: _, [], h => by simp at h
  | k :: ks, v :: vs, t :: ts, h => by
      simp only [List.zip_cons_cons, List.map_cons]
      rw [zip_fst_of_length ks vs ts (by simpa using h)]

theorem zip_snd_map {α β γ δ : Type} (f : β → δ) (g : γ → δ) : ∀ (ks : List α) (vs : List β) (ts : List γ),
    vs.map f = ts.map g → (ks.zip vs).map (fun kv => f kv.2) = (ks.zip ts).map (fun kt => g kt.2)
  | [], _, _, _ => by simp
  | _ :: _, [], [], _ => by simp
  | _ :: _, [], _ :: _, h => by simp at h
  | _ :: _, _ :: _, [], h => by simp at h
  | k :: ks, v :: vs, t :: ts, h => by
      simp only [List.map_cons, List.cons.injEq] at h
      simp only [List.zip_cons_cons, List.map_cons, h.1]
      rw [zip_snd_map f g ks vs ts h.2]

private theorem cell0_append {h e : Cells} (h0 : ∃ c, h[0]? = some c) : ∃ c, (h ++ e)[0]? = some c := by
  obtain ⟨c, hc⟩ := h0
  exact ⟨c, by rw [List.getElem?_append_left (getElem?_lt hc)]; exact hc⟩

theorem allocList_obs (S : Schema) (o : Owner) (n : Nat)
    (ih : ∀ (t : Tree) (h : Cells), Closed h → (∃ c, h[0]? = some c) →
      deref S n (allocTree o t h).1 (allocTree o t h).2 = treeObs S n t) :
    ∀ (ts : List Tree) (h e : Cells), Closed h → (∃ c, h[0]? = some c) →
      (allocList o ts h).2.map (deref S n ((allocList o ts h).1 ++ e)) = ts.map (treeObs S n)
  | [], _, _, _, _ => by simp [allocList]
  | t :: ts, h, e, hcl, h0 => by
      have a1 := allocTree_ok o t h
      have hcl1 : Closed (allocTree o t h).1 := a1.1.closed hcl
      have h01 : ∃ c, (allocTree o t h).1[0]? = some c := by
        obtain ⟨e1, he1, _⟩ := a1.1
        rw [he1]; exact cell0_append h0
      obtain ⟨e2, he2, _⟩ := (allocList_ok o ts (allocTree o t h).1).1
      have hhead : deref S n ((allocList o ts (allocTree o t h).1).1 ++ e) (allocTree o t h).2 = treeObs S n t := by
        rw [he2, List.append_assoc]
        rw [deref_append S (e2 ++ e) hcl1 h01 n _ ?_]
        · exact ih t h hcl h0
        · intro r hr
          obtain ⟨c, hc, _⟩ := a1.2 r hr
          exact ⟨c, hc, trivial⟩
      simp only [allocList, List.map_cons, hhead]
      rw [allocList_obs S o n ih ts (allocTree o t h).1 e hcl1 h01]

/-- **what a newly built object graph reads is a function of the tree it was built from** (`freshArrayDefault = true`: no declared
    default is a reference): independent of the heap it was built in and of its owner -/
theorem allocTree_obs (S : Schema) (hS : S.freshArrayDefault = true) (o : Owner) :
    ∀ (n : Nat) (t : Tree) (h : Cells), Closed h → (∃ c, h[0]? = some c) →
      deref S n (allocTree o t h).1 (allocTree o t h).2 = treeObs S n t := by
  intro n
  induction n with
  | zero =>
    intro t h _ _
    cases t <;> simp [allocTree, deref, treeObs]
  | succ n ih =>
    intro t h hcl h0
    cases t with
    | int i | str s | none => simp [allocTree, deref, treeObs]
    | list xs =>
      have hl := allocList_obs S o n ih xs h [⟨o, .list (allocList o xs h).2⟩] hcl h0
      simp only [allocTree, deref, treeObs, List.getElem?_concat_length]
      rw [hl]
    | obj c ks ts =>
      have hl := allocList_obs S o n ih ts h [⟨o, .obj c (ks.zip (allocList o ts h).2)⟩] hcl h0
      have hlen := allocList_length o ts h
      simp only [allocTree, deref, treeObs, List.getElem?_concat_length]
      rw [unassigned_eq, zip_fst_of_length ks _ ts hlen]
      congr 1
      · exact zip_snd_map _ _ ks _ ts hl
      · apply List.map_congr_left
        intro kd hkd
        apply deref_noRefs
        exact declared_refs_fresh S hS c kd (List.mem_filter.mp hkd).1

end NasdaqModel.HeapCut
