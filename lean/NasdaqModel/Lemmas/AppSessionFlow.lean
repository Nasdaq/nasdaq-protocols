import NasdaqModel.Lemmas.AppSessionStepRule
/-
The flow of messages through the second stage of the application-session product machine (C04App): `InvF`, an instance of the
step rule `DataInv`.

  fed       = decode (inner messages whose callback `_on_soup_message` was entered)      what was put on the second queue
  fed       = gone2 ++ vres2 ++ q2          every value put on the second queue is, in order: gone for good (handed to the application
                                            consumer; nothing is dropped: `InvF.lost`), held for the pending `receive_message()`, or still queued
  delivered(trace2) = taken2                the observable deliveries are exactly the `gone2` entries marked delivered
-/
namespace NasdaqModel.App
open NasdaqModel

/-- the decoded value of inner message `n`, if `_on_soup_message` puts one on the second queue -/
def valOf (a : ACfg) (n : Nat) : Option Nat :=
  match a.dec n with
  | .val v => some v
  | _ => none

/-- the value an application-level observable hands to the application consumer, if any -/
def deliveredA : AObs → Option Nat
  | .msgEnter v => some v
  | .ret _ (.msg v) => some v
  | _ => none

def appDelivered (l : List AObs) : List Nat := l.filterMap deliveredA

structure InvF (a : ACfg) (s : St) : Prop where
  fed_eq : s.fed = (entered s.inner.trace).filterMap (valOf a)
  flow : s.gone2.map (·.1) ++ s.vres2.toList ++ s.q2 = s.fed
  deliv : appDelivered s.trace2 = s.taken2
  lost : s.lost2 = []

def fcore (s : St) : List Sess.Obs × List Nat × List (Nat × Bool) × Option Nat × List Nat × List Nat :=
  (s.inner.trace, s.fed, s.gone2, s.vres2, s.q2, appDelivered s.trace2)

theorem InvF.of_fcore {a : ACfg} {s s' : St} (h : fcore s' = fcore s) (i : InvF a s) : InvF a s' := by
  simp only [fcore, Prod.mk.injEq] at h
  obtain ⟨h1, h2, h3, h4, h5, h6⟩ := h
  exact ⟨by rw [h2, h1]; exact i.fed_eq, by rw [h3, h4, h5, h2]; exact i.flow,
    by rw [h6]; unfold St.taken2; rw [h3]; exact i.deliv, by unfold St.lost2; rw [h3]; exact i.lost⟩

theorem trace2_emit2 (s : St) (o : AObs) : (s.emit2 o).trace2 = s.trace2 ++ [o] := by
  simp [St.trace2, St.emit2, List.filterMap_append, PObs.appOf]

theorem trace2_tr_inner (s : St) (d : List Sess.Obs) :
    ({ s with tr := s.tr ++ d.map .inner } : St).trace2 = s.trace2 := by
  simp only [St.trace2, List.filterMap_append]
  have : (d.map PObs.inner).filterMap PObs.appOf = [] := by
    induction d with
    | nil => rfl
    | cons x d ih => simp [List.filterMap_cons, PObs.appOf, ih]
  rw [this]; simp

@[simp] theorem fcore_setA (s : St) (t : ATid) (x : AStatus) : fcore (s.setA t x) = fcore s := rfl
@[simp] theorem fcore_setP (s : St) (t : ATid) (p : AProg) : fcore (s.setP t p) = fcore s := rfl
@[simp] theorem fcore_spawn2 (s : St) (t : ATid) (p : AProg) : fcore (s.spawn2 t p) = fcore s := rfl
@[simp] theorem fcore_finish2 (s : St) (t : ATid) : fcore (s.finish2 t) = fcore s := rfl
@[simp] theorem fcore_cancel2 (s : St) (t : ATid) : fcore (s.cancel2 t) = fcore s := by
  unfold St.cancel2; split <;> try rfl
  split <;> rfl
@[simp] theorem fcore_wake2 (s : St) (t : ATid) : fcore (s.wake2 t) = fcore s := by
  unfold St.wake2; split <;> rfl
@[simp] theorem fcore_setEvent (s : St) : fcore s.setEvent = fcore s := by
  unfold St.setEvent; split <;> rfl

theorem fcore_emit2 (s : St) (o : AObs) (h : deliveredA o = none) : fcore (s.emit2 o) = fcore s := by
  simp only [fcore, trace2_emit2, appDelivered, List.filterMap_append, List.filterMap_cons, h, List.filterMap_nil,
    List.append_nil]
  rfl

theorem InvF.emit2 {a : ACfg} {s : St} {o : AObs} (h : deliveredA o = none) (i : InvF a s) : InvF a (s.emit2 o) :=
  InvF.of_fcore (fcore_emit2 s o h) i

theorem put2_fields (s : St) (v : Nat) :
    (s.put2 v).fed = s.fed ++ [v] ∧ (s.put2 v).q2 = s.q2 ++ [v] ∧ (s.put2 v).gone2 = s.gone2 ∧
    (s.put2 v).vres2 = s.vres2 ∧ (s.put2 v).tr = s.tr ∧ (s.put2 v).inner = s.inner := by
  unfold St.put2 St.wake2
  split <;> split <;> simp [St.setA]

theorem feed1_fields (a : ACfg) (s : St) (n : Nat) :
    (feed1 a s n).fed = s.fed ++ (valOf a n).toList ∧ (feed1 a s n).q2 = s.q2 ++ (valOf a n).toList ∧
    (feed1 a s n).gone2 = s.gone2 ∧ (feed1 a s n).vres2 = s.vres2 ∧ (feed1 a s n).tr = s.tr ∧
    (feed1 a s n).inner = s.inner := by
  cases hd : a.dec n with
  | val v =>
    have e : feed1 a s n = s.put2 v := by simp [feed1, hd]
    have e2 : valOf a n = some v := by simp [valOf, hd]
    rw [e, e2]
    exact put2_fields s v
  | skip =>
    have e : feed1 a s n = s := by simp [feed1, hd]
    have e2 : valOf a n = none := by simp [valOf, hd]
    rw [e, e2]; simp
  | fail =>
    have e : feed1 a s n = s := by simp [feed1, hd]
    have e2 : valOf a n = none := by simp [valOf, hd]
    rw [e, e2]; simp

theorem feed_fields (a : ACfg) (ns : List Nat) (s : St) :
    (feed a s ns).fed = s.fed ++ ns.filterMap (valOf a) ∧ (feed a s ns).q2 = s.q2 ++ ns.filterMap (valOf a) ∧
    (feed a s ns).gone2 = s.gone2 ∧ (feed a s ns).vres2 = s.vres2 ∧ (feed a s ns).tr = s.tr ∧
    (feed a s ns).inner = s.inner := by
  induction ns generalizing s with
  | nil => simp [feed]
  | cons n ns ih =>
    have h1 := feed1_fields a s n
    have h2 := ih (feed1 a s n)
    have e : feed a s (n :: ns) = feed a (feed1 a s n) ns := rfl
    rw [e]
    obtain ⟨a1, a2, a3, a4, a5, a6⟩ := h1
    obtain ⟨b1, b2, b3, b4, b5, b6⟩ := h2
    refine ⟨?_, ?_, by rw [b3, a3], by rw [b4, a4], by rw [b5, a5], by rw [b6, a6]⟩
    · rw [b1, a1]; cases h : valOf a n <;> simp [h]
    · rw [b2, a2]; cases h : valOf a n <;> simp [h]

theorem entered_append (l1 l2 : List Sess.Obs) : entered (l1 ++ l2) = entered l1 ++ entered l2 := by
  simp [entered, List.filterMap_append]

theorem innerStep_InvF {a : ACfg} {s : St} (i : InvF a s) (e : Sess.Ev) : InvF a (innerStep a s e) := by
  unfold innerStep
  simp only
  generalize hd : (Sess.step (innerCfg a) s.inner e).trace.drop s.inner.trace.length = d
  have htr : (Sess.step (innerCfg a) s.inner e).trace = s.inner.trace ++ d := by
    rw [← hd]; exact Sess.step_trace_eq _ _ _
  obtain ⟨f1, f2, f3, f4, f5, f6⟩ := feed_fields a (entered d)
    { s with inner := Sess.step (innerCfg a) s.inner e, tr := s.tr ++ d.map .inner }
  refine ⟨?_, ?_, ?_, by unfold St.lost2; rw [f3]; exact i.lost⟩
  · rw [f1, f6]
    show s.fed ++ _ = _
    rw [htr, entered_append, List.filterMap_append, i.fed_eq]
  · rw [f3, f4, f2, f1]
    show s.gone2.map (·.1) ++ s.vres2.toList ++ (s.q2 ++ _) = s.fed ++ _
    rw [← List.append_assoc, i.flow]
  · have ht : (feed a { s with inner := Sess.step (innerCfg a) s.inner e, tr := s.tr ++ d.map .inner } (entered d)).trace2
        = s.trace2 := by
      unfold St.trace2
      rw [f5]
      exact trace2_tr_inner s d
    rw [ht]
    unfold St.taken2
    rw [f3]
    exact i.deliv

theorem innerStep_trace2 (a : ACfg) (s : St) (e : Sess.Ev) : (innerStep a s e).trace2 = s.trace2 := by
  unfold innerStep
  simp only
  obtain ⟨_, _, _, _, f5, _⟩ := feed_fields a
    (entered ((Sess.step (innerCfg a) s.inner e).trace.drop s.inner.trace.length))
    { s with inner := Sess.step (innerCfg a) s.inner e,
             tr := s.tr ++ ((Sess.step (innerCfg a) s.inner e).trace.drop s.inner.trace.length).map .inner }
  unfold St.trace2
  rw [f5]
  exact trace2_tr_inner s _

theorem innerStep_fields (a : ACfg) (s : St) (e : Sess.Ev) :
    (innerStep a s e).gone2 = s.gone2 ∧ (innerStep a s e).vres2 = s.vres2 ∧
    (innerStep a s e).q2 = s.q2 ++
      (entered ((Sess.step (innerCfg a) s.inner e).trace.drop s.inner.trace.length)).filterMap (valOf a) := by
  unfold innerStep
  simp only
  obtain ⟨_, f2, f3, f4, _, _⟩ := feed_fields a
    (entered ((Sess.step (innerCfg a) s.inner e).trace.drop s.inner.trace.length))
    { s with inner := Sess.step (innerCfg a) s.inner e,
             tr := s.tr ++ ((Sess.step (innerCfg a) s.inner e).trace.drop s.inner.trace.length).map .inner }
  exact ⟨f3, f4, f2⟩

theorem startClose_q2_gone2 (a : ACfg) (s : St) (t : ATid) (p : AProg) :
    (startClose a s t p).q2 = s.q2 ∧ (startClose a s t p).gone2 = s.gone2 := by
  unfold startClose
  obtain ⟨h1, _, h3⟩ := innerStep_fields a { s with evt := some false } .callInitiateClose
  have hcore := Sess.step_initiateClose_core (innerCfg a) s.inner
  simp only [Sess.core, Prod.mk.injEq] at hcore
  have hd : (Sess.step (innerCfg a) s.inner .callInitiateClose).trace.drop s.inner.trace.length = [] := by
    rw [hcore.2.2.2]; simp
  constructor
  · show (innerStep a { s with evt := some false } .callInitiateClose).q2 = s.q2
    rw [h3]
    show s.q2 ++ (entered ((Sess.step (innerCfg a) s.inner .callInitiateClose).trace.drop s.inner.trace.length)).filterMap (valOf a) = s.q2
    rw [hd]; simp [entered]
  · show (innerStep a { s with evt := some false } .callInitiateClose).gone2 = s.gone2
    rw [h1]


theorem taken2_append_true (g : List (Nat × Bool)) (v : Nat) :
    ((g ++ [(v, true)]).filter (·.2)).map (·.1) = (g.filter (·.2)).map (·.1) ++ [v] := by
  simp [List.filter_append]

theorem lost2_append_true {s : St} (h : s.lost2 = []) (v : Nat) :
    ((s.gone2 ++ [(v, true)]).filter (fun p => !p.2)).map (·.1) = [] := by
  have : ((s.gone2 ++ [(v, true)]).filter (fun p => !p.2)).map (·.1) = (s.gone2.filter (fun p => !p.2)).map (·.1) := by
    simp [List.filter_append]
  rw [this]; exact h

theorem taken2_append_false (g : List (Nat × Bool)) (l : List Nat) :
    ((g ++ l.map (fun v => (v, false))).filter (·.2)).map (·.1) = (g.filter (·.2)).map (·.1) := by
  simp [List.filter_append, List.filter_map]

theorem InvF.deliver_head {a : ACfg} {s : St} (i : InvF a s) {v : Nat} {q : List Nat} {o : AObs}
    (hq : s.q2 = v :: q) (hv : s.vres2 = none) (ho : deliveredA o = some v) :
    InvF a (({ s with q2 := q, gone2 := s.gone2 ++ [(v, true)] } : St).emit2 o) := by
  refine ⟨i.fed_eq, ?_, ?_, lost2_append_true i.lost v⟩
  · show (s.gone2 ++ [(v, true)]).map (·.1) ++ s.vres2.toList ++ q = s.fed
    rw [← i.flow, hq, hv]; simp
  · rw [trace2_emit2]
    show appDelivered (s.trace2 ++ [o]) = ((s.gone2 ++ [(v, true)]).filter (·.2)).map (·.1)
    rw [taken2_append_true]
    simp only [appDelivered, List.filterMap_append, List.filterMap_cons, ho, List.filterMap_nil]
    have := i.deliv
    simp only [appDelivered, St.taken2] at this
    rw [this]

theorem deliveredA_silent {o : AObs} (h : silentObs o = true) : deliveredA o = none := by
  cases o with
  | ret u r => cases r <;> simp_all [silentObs, deliveredA]
  | _ => simp_all [silentObs, deliveredA]

theorem InvF.data (a : ACfg) : DataInv a (InvF a) where
  frame := by
    intro s s' e i
    simp only [dview, Prod.mk.injEq] at e
    obtain ⟨e1, e2, e3, e4, e5, e6⟩ := e
    exact InvF.of_fcore (by simp only [fcore, St.trace2, e1, e2, e3, e4, e5, e6]) i
  emit := fun ho i => i.emit2 (deliveredA_silent ho)
  inner := fun e i => innerStep_InvF i e
  deliver := by
    intro s v q o hq hv ho i
    refine i.deliver_head hq hv ?_
    rcases ho with rfl | ⟨u, rfl⟩ <;> rfl
  hold := by
    intro s v q hq hv i
    refine ⟨i.fed_eq, ?_, i.deliv, i.lost⟩
    show s.gone2.map (·.1) ++ [v] ++ q = s.fed
    rw [← i.flow, hq, hv]; simp
  unhold := by
    -- a cancelled receive puts whatever the helper task held back in front of the queue
    intro s i
    refine ⟨i.fed_eq, ?_, i.deliv, i.lost⟩
    show s.gone2.map (·.1) ++ [] ++ (s.vres2.toList ++ s.q2) = s.fed
    rw [← i.flow]
    simp
  handOver := by
    intro s v u hv i
    refine ⟨i.fed_eq, ?_, ?_, lost2_append_true i.lost v⟩
    · show (s.gone2 ++ [(v, true)]).map (·.1) ++ [] ++ s.q2 = s.fed
      rw [← i.flow, hv]; simp
    · rw [trace2_emit2]
      show appDelivered (s.trace2 ++ [.ret u (.msg v)]) = ((s.gone2 ++ [(v, true)]).filter (·.2)).map (·.1)
      rw [taken2_append_true]
      simp only [appDelivered, List.filterMap_append, List.filterMap_cons, deliveredA, List.filterMap_nil]
      have := i.deliv
      simp only [appDelivered, St.taken2] at this
      rw [this]

theorem step_InvF {a : ACfg} {s : St} (i : InvF a s) (ev : Ev) : InvF a (step a s ev) := (InvF.data a).step i ev

theorem InvF.init (a : ACfg) : InvF a {} := ⟨rfl, rfl, rfl, rfl⟩

theorem runEvs_InvF (a : ACfg) (evs : List Ev) : InvF a (runEvs a {} evs) := (InvF.data a).runEvs evs (InvF.init a)

theorem gone2_close (a : ACfg) (g : List (Nat × Bool)) : CloseInv a (fun s => s.gone2 = g) where
  frame := fun e p => (congrArg (·.2.2.2.2.1) e).trans p
  emit := fun _ p => p
  inner := fun e p => (innerStep_fields a _ e).1.trans p

/-- entering the message callback moves nothing else off the second queue (a callback that closes the session from inside runs the
    close of the soup session in this very step: for it only `gone2` is stated here) -/
theorem dispHandle2_q2_gone2 (a : ACfg) (s : St) (v : Nat) :
    (a.msgBeh v ≠ .close → (dispHandle2 a s v).q2 = s.q2) ∧ (dispHandle2 a s v).gone2 = s.gone2 := by
  refine ⟨?_, (gone2_close a s.gone2).dispHandle2 rfl v⟩
  unfold dispHandle2
  split
  · exact fun _ => rfl
  · exact fun _ => rfl
  · exact fun _ => rfl
  · rename_i hb
    exact fun h => absurd hb h
  · exact fun _ => rfl
  · exact fun _ => rfl

end NasdaqModel.App
