import NasdaqModel.Lemmas.SessionDrainSim
import NasdaqModel.Lemmas.LoginTraceW
/-
Three facts about open sessions, for every reachable state (`InvP`), that the progress theorems of C04 need:

  d   callback mode is on  ⇒  the dispatcher task is in working order (`DOk`): runnable in its loop or inside a handler, or asleep
      in `queue.get()` on an empty queue — never cancelled, ended or inside `close()` while the session is open;
  v   the receive helper task is alive only while a user call awaits it inside a receive (so, with `InvW.busy`: no receive
      pending ⇒ no helper that could take a message from the queue);
  j   no receive is pending while the dispatcher sleeps in `queue.get()`.

Only steps from an open state to an open state matter (the facts are conditional on `closed = false`), so the close machinery
never has to be traversed: every branch that enters `close()` ends closed.

`Reached` bundles `InvP` with the other session invariants (`reached`: every reachable state has them); `stash_no_getter` is the
consequence the model's treatment of a late-cancelled receive rests on (`Model/Session.lean`, `stepRun`).
-/
namespace NasdaqModel.Sess

/-- the receive helper is alive only while a user call awaits it inside a receive -/
def VWit (s : St) : Prop :=
  alive (s.status .V) = true →
    ∃ a, s.status (.U a) = .waitT .V ∧ (s.prog (.U a) = .loginWait a ∨ s.prog (.U a) = .recvWait a)

/-- no receive is pending while the dispatcher sleeps in `queue.get()`: a receive only starts while `_dispatcher_task is None`,
    and a dispatcher created next to a pending receive takes no step before the receive has ended.  Hence, when the late cancel
    of a receive stashes the held message (`Model/Session.lean`, `stepRun`, cancelled `recvWait` / `loginWait`), no dispatcher is
    suspended on the asyncio queue: "stash in front of the queue" and "re-insert at the head of the queue" cannot be told apart. -/
def JB (s : St) : Prop := s.status .D = .waitQ → s.rcvBusy = false

def PB (s : St) : Prop := (s.dispSet = true → DOk s) ∧ VWit s ∧ JB s

theorem PB.disp {s : St} (p : PB s) : s.dispSet = true → DOk s := p.1
theorem PB.helper {s : St} (p : PB s) : VWit s := p.2.1
theorem PB.asleep {s : St} (p : PB s) : JB s := p.2.2

theorem JB.of_frame {s s' : St} (j : JB s) (h1 : s'.status .D = .waitQ → s.status .D = .waitQ)
    (h2 : s'.rcvBusy = true → s.rcvBusy = true) : JB s' := by
  intro hd
  have := j (h1 hd)
  cases h : s'.rcvBusy with
  | false => rfl
  | true => rw [h2 h] at this; cases this

/-- discharges `s'.rcvBusy = true → s.rcvBusy = true` when the flag is unchanged or cleared -/
macro "jb_auto" : tactic => `(tactic| first
  | exact fun h => h
  | exact fun h => (Bool.false_ne_true h).elim)

def InvP (s : St) : Prop := s.closed = false → PB s

theorem VWit.of_frame {s s' : St} (w : VWit s)
    (h : alive (s'.status .V) = true → alive (s.status .V) = true ∧
      ∀ a, s.status (.U a) = .waitT .V → s'.status (.U a) = .waitT .V ∧ s'.prog (.U a) = s.prog (.U a)) : VWit s' := by
  intro hal
  obtain ⟨h1, h2⟩ := h hal
  obtain ⟨a, ha, hp⟩ := w h1
  obtain ⟨h3, h4⟩ := h2 a ha
  exact ⟨a, h3, by rw [h4]; exact hp⟩

theorem DOk.of_frame {s s' : St} (d : DOk s) (h2 : s'.status .D = s.status .D) (h3 : s'.prog .D = s.prog .D)
    (h4 : s.queue = [] → s'.queue = []) : DOk s' := by
  unfold DOk at *
  rw [h2, h3]
  rcases d with d | ⟨d1, d2, d3⟩
  · exact Or.inl d
  · exact Or.inr ⟨d1, d2, h4 d3⟩

theorem PB.of_frame {s s' : St} (p : PB s) (h1 : s'.dispSet = s.dispSet) (h2 : s'.status .D = s.status .D)
    (h3 : s'.prog .D = s.prog .D) (h4 : s.queue = [] → s'.queue = [])
    (h : alive (s'.status .V) = true → alive (s.status .V) = true ∧
      ∀ a, s.status (.U a) = .waitT .V → s'.status (.U a) = .waitT .V ∧ s'.prog (.U a) = s.prog (.U a))
    (h5 : s'.rcvBusy = true → s.rcvBusy = true := by jb_auto) : PB s' :=
  ⟨fun hd => (p.disp (by rw [← h1]; exact hd)).of_frame h2 h3 h4, p.helper.of_frame h, p.asleep.of_frame (by rw [h2]; exact id) h5⟩

/-- a change outside everything `PB` reads (by default: the fields are the same terms, the queue may only shrink to empty) -/
theorem PB.same {s s' : St} (p : PB s) (h1 : s'.dispSet = s.dispSet := by rfl) (h2 : s'.status = s.status := by rfl)
    (h3 : s'.prog = s.prog := by rfl) (h4 : s.queue = [] → s'.queue = [] := by exact id)
    (h5 : s'.rcvBusy = true → s.rcvBusy = true := by jb_auto) : PB s' :=
  p.of_frame h1 (by rw [h2]) (by rw [h3]) h4 (fun h => ⟨by rw [h2] at h; exact h, fun a ha => ⟨by rw [h2]; exact ha, by rw [h3]⟩⟩) h5

theorem DOk.put {s : St} (d : DOk s) (m : Nat) : DOk (s.put m) := by
  rw [St.put_eq]
  rcases d with ⟨h1, h2⟩ | ⟨h1, h2, _⟩
  · exact Or.inl ⟨by simp [h1], h2⟩
  · exact Or.inl ⟨by simp [h1], Or.inl h2⟩

theorem PB.put {s : St} (p : PB s) (m : Nat) : PB (s.put m) := by
  have d : (s.put m).dispSet = true → DOk (s.put m) := fun hd => (p.disp (by rw [St.put_eq] at hd; exact hd)).put m
  rw [St.put_eq] at d ⊢
  refine ⟨d, p.helper.of_frame (fun hal => ⟨?_, fun a ha => ⟨by simp [ha], rfl⟩⟩), p.asleep.of_frame (fun h => ?_) id⟩
  · -- the receive helper, if woken, was asleep: alive before
    show alive (s.status .V) = true
    by_cases hV : s.status .V = .waitQ
    · rw [hV]; rfl
    · simpa [hV] using hal
  · -- a dispatcher still asleep was asleep before
    by_cases hD : s.status .D = .waitQ
    · exact hD
    · simp [hD] at h

structure OpenFacts (s : St) : Prop where
  idle : s.cstage = .idle
  qc : s.qClosed = false
  dw : ∀ y, s.status .D ≠ .waitT y
  vw : ∀ y, s.status .V ≠ .waitT y
  wv : ∀ x y, s.status x = .waitT y → y = .V
  rs : s.rStopped = false
  dal : alive (s.status .D) = true → s.dispSet = true

theorem OpenFacts.imm {s : St} (o : OpenFacts s) : OpenFacts ({ s with imm := none } : St) :=
  ⟨o.idle, o.qc, o.dw, o.vw, o.wv, o.rs, o.dal⟩

theorem OpenFacts.of_inv {cfg : Cfg} {s : St} (a : InvA cfg s) (r : InvR s) (b : InvB s) (w : InvW s) (hc : s.closed = false) :
    OpenFacts s := by
  have hidle := idle_of_open a hc
  obtain ⟨hrs, _, hwv⟩ := r hc
  refine ⟨hidle, ?_, ?_, ?_, hwv, hrs, ?_⟩
  · cases h : s.qClosed with
    | false => rfl
    | true => have := w.qc h; rw [hc] at this; cases this
  · intro y hy
    rcases b.waitt _ _ hy with ⟨pc, c, hb⟩ | ⟨u, hu, _⟩
    · rw [hidle] at hb; cases hb
    · cases hu
  · intro y hy
    rcases b.waitt _ _ hy with ⟨pc, c, hb⟩ | ⟨u, hu, _⟩
    · rw [hidle] at hb; cases hb
    · cases hu
  · intro h
    rcases w.dalive h with h | h
    · exact h
    · rw [hc] at h; cases h

theorem PB.finish {s : St} (p : PB s) {t : Tid} (hdw : s.status .D ≠ .waitT t) (hvw : s.status .V ≠ .waitT t) (htD : t ≠ .D)
    (hrun : s.status t = .ready ∨ s.status t = .cancelled) : PB (s.finish t) := by
  refine p.of_frame rfl ?_ rfl (fun h => h) ?_
  · rw [finish_status]; simp [Ne.symm htD, hdw]
  · intro hal
    have htV : t ≠ .V := by
      intro e; subst e; rw [finish_status] at hal; simp [alive] at hal
    refine ⟨?_, ?_⟩
    · rw [finish_status] at hal; simpa [Ne.symm htV, hvw] using hal
    · intro a ha
      refine ⟨?_, rfl⟩
      rw [finish_status]
      have hne : Tid.U a ≠ t := by
        intro e; rw [← e, ha] at hrun; rcases hrun with h | h <;> cases h
      simp [hne, ha, Ne.symm htV]

theorem PB.ends {s s1 : St} (p : PB s) {t : Tid} (hdw : s.status .D ≠ .waitT t) (hvw : s.status .V ≠ .waitT t) (htD : t ≠ .D)
    (hrun : s.status t = .ready ∨ s.status t = .cancelled) (h1 : s1.dispSet = s.dispSet := by rfl)
    (h2 : s1.status = s.status := by rfl)
    (h3 : s1.prog = s.prog := by rfl) (h4 : s.queue = [] → s1.queue = [] := by exact id)
    (h5 : s1.rcvBusy = true → s.rcvBusy = true := by jb_auto) :
    PB (s1.finish t) :=
  (p.same h1 h2 h3 h4 h5).finish (by rw [h2]; exact hdw) (by rw [h2]; exact hvw) htD (by rw [h2]; exact hrun)

theorem PB.restatus {s : St} (p : PB s) {t : Tid} (htD : t ≠ .D) (htV : t ≠ .V)
    (hrun : s.status t = .ready ∨ s.status t = .cancelled) (x : Status) : PB (s.setStatus t x) := by
  refine p.of_frame rfl (by simp [St.setStatus, Ne.symm htD]) rfl (fun h => h) ?_
  intro hal
  refine ⟨by simpa [St.setStatus, Ne.symm htV] using hal, fun a ha => ⟨?_, rfl⟩⟩
  have hne : Tid.U a ≠ t := by
    intro e; rw [← e, ha] at hrun; rcases hrun with h | h <;> cases h
  simp [St.setStatus, hne, ha]

theorem PB.reprog {s : St} (p : PB s) {t : Tid} (htD : t ≠ .D)
    (hrun : s.status t = .ready ∨ s.status t = .cancelled) (x : Prog) : PB (s.setProg t x) := by
  refine p.of_frame rfl rfl (by simp [St.setProg, Ne.symm htD]) (fun h => h) ?_
  intro hal
  refine ⟨hal, fun a ha => ⟨ha, ?_⟩⟩
  have hne : Tid.U a ≠ t := by
    intro e; rw [← e, ha] at hrun; rcases hrun with h | h <;> cases h
  simp [St.setProg, hne]

theorem PB.spawnLib {s : St} (p : PB s) {t : Tid} (htD : t ≠ .D) (htV : t ≠ .V) (htU : ∀ a, t ≠ .U a) (x : Prog) :
    PB (s.spawn t x) := by
  refine p.of_frame rfl (by simp [St.spawn, St.setStatus, St.setProg, Ne.symm htD])
    (by simp [St.spawn, St.setStatus, St.setProg, Ne.symm htD]) (fun h => h) ?_
  intro hal
  refine ⟨by simpa [St.spawn, St.setStatus, St.setProg, Ne.symm htV] using hal, fun a ha => ?_⟩
  simp [St.spawn, St.setStatus, St.setProg, Ne.symm (htU a), ha]

theorem PB.initiateClose {s : St} (p : PB s) : PB s.initiateClose := by
  unfold St.initiateClose
  split
  · exact p
  · exact PB.spawnLib (s := { s with closingTask := true }) (p.same) (by simp) (by simp) (by simp) _

theorem PB.startHeartbeats {s : St} (p : PB s) : PB s.startHeartbeats := by
  unfold St.startHeartbeats
  exact PB.spawnLib (PB.spawnLib (s := { s with pingL := true, pingM := true }) (p.same)
    (by simp) (by simp) (by simp) _) (by simp) (by simp) (by simp) _

theorem closed_elim {P : Prop} {cfg : Cfg} {s : St} {t : Tid} {c : Cont} (h : (enterClose cfg s t c).closed = false) : P := by
  rw [enterClose_closed] at h; cases h


theorem stepReader_P {cfg : Cfg} {s : St} (p : PB s) (o : OpenFacts s) :
    (stepReader cfg s).closed = false → PB (stepReader cfg s) := by
  unfold stepReader
  rw [if_neg (by simp [o.rs])]
  split
  · intro _; exact p
  · rename_i f rest _
    cases f with
    | msg n =>
      simp only; intro _
      refine PB.put ?_ n
      exact p.same
    | hb => simp only; intro _; exact p.same
    | logout => simp only; intro h; exact closed_elim h
    | bad => simp only; intro h; exact closed_elim h

theorem dispHandle_P {cfg : Cfg} {s : St} (v : VWit s) (hst : s.status .D = .ready) (hpr : s.prog .D = .dispLoop) (n : Nat) :
    (dispHandle cfg s n).closed = false → PB (dispHandle cfg s n) := by
  have jb : JB s := fun h => by rw [hst] at h; cases h
  have p : PB s := ⟨fun _ => Or.inl ⟨hst, Or.inl hpr⟩, v, jb⟩
  unfold dispHandle
  split
  · intro _; exact p.same
  · rename_i k _
    intro _
    refine ⟨fun _ => Or.inl ⟨hst, Or.inr ⟨n, k, by simp [St.setProg]⟩⟩, v.of_frame (fun hal => ⟨hal, fun a ha => ⟨ha, by simp [St.setProg]⟩⟩),
      jb.of_frame id id⟩
  · intro h; exact closed_elim h
  · intro _; exact (PB.initiateClose p).same
  · intro _; exact p.same
  · intro _
    exact (PB.startHeartbeats (p.same (s' := s.emit (.write .reply)))).same
  · intro h; exact closed_elim h

theorem stepDisp_P {cfg : Cfg} {s : St} (p : PB s) (o : OpenFacts s) (hst : s.status .D = .ready) (hpr : s.prog .D = .dispLoop) :
    (stepDisp cfg s).closed = false → PB (stepDisp cfg s) := by
  unfold stepDisp
  rw [if_neg (by simp [o.qc])]
  split
  · intro _; exact p
  · rename_i hbusy
    split
    · rename_i hq
      intro _
      refine ⟨fun _ => Or.inr ⟨by simp [St.setStatus], hpr, hq⟩, p.helper.of_frame (fun hal => ⟨by simpa [St.setStatus] using hal, fun a ha => ⟨by simp [St.setStatus, ha], rfl⟩⟩), ?_⟩
      intro _
      show s.rcvBusy = false
      cases h : s.rcvBusy with
      | false => rfl
      | true => rw [h] at hbusy; simp at hbusy
    · rename_i n q hq
      refine dispHandle_P ?_ ?_ ?_ n
      · exact p.helper.of_frame (fun hal => ⟨hal, fun a ha => ⟨ha, rfl⟩⟩)
      · exact hst
      · exact hpr

theorem stepMon_P {cfg : Cfg} {s : St} (p : PB s) (isLocal : Bool) :
    (stepMon cfg s isLocal).closed = false → PB (stepMon cfg s isLocal) := by
  unfold stepMon
  split
  · split
    · intro _; exact p.same
    · intro _; exact p.same
  · split
    · intro _; exact p.same
    · intro h; exact closed_elim h

theorem PB.startDispatching {s : St} (p : PB s) (cfg : Cfg) : PB (s.startDispatching cfg) := by
  unfold St.startDispatching
  split
  · refine ⟨fun _ => Or.inl ⟨by simp [St.spawn, St.setStatus, St.setProg], Or.inl (by simp [St.spawn, St.setStatus, St.setProg])⟩, p.helper.of_frame ?_,
      fun h => by simp [St.spawn, St.setStatus, St.setProg] at h⟩
    intro hal
    exact ⟨by simpa [St.spawn, St.setStatus, St.setProg] using hal, fun a ha => by simp [St.spawn, St.setStatus, St.setProg, ha]⟩
  · exact p

theorem loginResume_P {cfg : Cfg} {s : St} (p : PB s) (o : OpenFacts s) (a : Nat) (hst : s.status (.U a) = .ready) :
    (loginResume cfg s (.U a) a).closed = false → PB (loginResume cfg s (.U a) a) := by
  unfold loginResume
  split
  · rename_i n _
    simp only
    split
    · intro _
      generalize hs1 : (({ s with vres := none, rcvBusy := false, gone := s.gone ++ [(n, true)] } : St).emit (.loginReply n)) = s1
      have p1 : PB s1 := by rw [← hs1]; exact p.same
      have st1 : s1.status = s.status := by rw [← hs1]; rfl
      have p2 : PB ((s1.startHeartbeats.startDispatching cfg).emit (.ret a .ok)) :=
        (PB.startDispatching (PB.startHeartbeats p1) cfg).same
      obtain ⟨hb1, _⟩ := startHeartbeats_spec s1
      obtain ⟨fd1, _, _, _, _, _, _, _, fd9⟩ := startDispatching_frame s1.startHeartbeats cfg
      have hsd : ∀ y, y ≠ .L → y ≠ .M → y ≠ .D → (s1.startHeartbeats.startDispatching cfg).status y = s.status y := fun y h1 h2 h3 => by
        rw [(fd1 y h3).1, (hb1 y h1 h2).1, st1]
      refine p2.finish ?_ ?_ (by simp) ?_
      · show (s1.startHeartbeats.startDispatching cfg).status .D ≠ _
        rcases fd9 with ⟨_, h, _⟩ | ⟨_, h⟩
        · rw [h]; simp
        · rw [h, (hb1 _ (by simp) (by simp)).1, st1]; exact o.dw _
      · show (s1.startHeartbeats.startDispatching cfg).status .V ≠ _
        rw [hsd _ (by simp) (by simp) (by simp)]; exact o.vw _
      · left
        show (s1.startHeartbeats.startDispatching cfg).status (.U a) = _
        rw [hsd _ (by simp) (by simp) (by simp)]; exact hst
    · intro h; exact closed_elim h
  · split
    · intro _
      exact p.ends (o.dw _) (o.vw _) (by simp) (Or.inl hst)
    · intro h; exact closed_elim h


theorem notD_of_cancelled {s : St} (p : PB s) (o : OpenFacts s) {t : Tid} (hst : s.status t = .cancelled) : t ≠ .D := by
  intro e; subst e
  have hd := o.dal (by rw [hst]; rfl)
  rcases p.disp hd with ⟨h, _⟩ | ⟨h, _⟩ <;> rw [hst] at h <;> cases h

/-- a late cancel puts the held message back in front of the queue: a receive is pending, so the dispatcher is not asleep on it -/
theorem PB.unhold {s : St} (p : PB s) (hb : s.rcvBusy = true) :
    PB { s with vres := none, rcvBusy := false, queue := s.vres.toList ++ s.queue } := by
  have hD : s.status .D ≠ .waitQ := fun h => by have := p.asleep h; rw [hb] at this; cases this
  refine ⟨fun hd => ?_, p.helper.of_frame (fun hal => ⟨hal, fun a ha => ⟨ha, rfl⟩⟩), p.asleep.of_frame id (fun h => (Bool.false_ne_true h).elim)⟩
  rcases p.disp hd with d | ⟨d1, _, _⟩
  · exact Or.inl d
  · exact absurd d1 hD

/-- what `stepRun_P` knows of the open state in which the task runs -/
structure OpenPB (cfg : Cfg) (s : St) : Prop where
  a : InvA cfg s
  b : InvB s
  w : InvW s
  p : PB s
  o : OpenFacts s
  op : s.closed = false

theorem stepRun_P {cfg : Cfg} {s : St} (a : InvA cfg s) (b : InvB s) (w : InvW s) (p : PB s) (o : OpenFacts s) (hc : s.closed = false) (t : Tid) :
    (stepRun cfg s t).closed = false → PB (stepRun cfg s t) := by
  have q0 : OpenPB cfg ({ s with imm := none } : St) :=
    ⟨InvA.of_core (s := s) rfl a, InvB.of_bcore (s := s) rfl b, w.of_view rfl, p.same, o.imm, hc⟩
  refine stepRun_rule (OpenPB cfg) (fun _ s' => s'.closed = false → PB s') q0
    (fun s0 q hal => .of_allowed (q.b.typ t hal)) (fun s0 q _ => q.p)
    ?cHandler ?cVget ?cRecv ?cLoginEoq ?cLoginClose ?cInClose ?cOther ?rReader ?rDisp ?rHandler ?rHandlerAwait ?rMonStart ?rMonL ?rMonM
    ?rEntry ?rInClose ?rVgetWait ?rVget ?rRecv ?rRecvNone ?rLogin
  case cHandler =>
    -- a cancellation is not delivered to the dispatcher of an open session
    exact fun s0 n k q _ hst _ => absurd rfl (notD_of_cancelled q.p q.o hst)
  case cVget => exact fun s0 q _ hst _ _ => q.p.finish (q.o.dw _) (q.o.vw _) (by simp) (Or.inr hst)
  case cRecv =>
    intro s0 u r q _ hst hp _ _
    have hb : s0.rcvBusy = true := q.w.busy u ⟨by rw [hst]; rfl, Or.inr hp⟩
    exact (q.p.unhold hb).ends (q.o.dw _) (q.o.vw _) (by simp) (Or.inr hst)
  case cLoginEoq =>
    intro s0 u q _ hst hp _ _
    have hb : s0.rcvBusy = true := q.w.busy u ⟨by rw [hst]; rfl, Or.inl hp⟩
    exact (q.p.unhold hb).ends (q.o.dw _) (q.o.vw _) (by simp) (Or.inr hst)
  case cLoginClose => exact fun _ _ _ _ _ _ _ h => closed_elim h
  case cInClose =>
    intro s0 q _ _
    rw [stepInClose_open q.a q.op]
    exact fun _ => q.p
  case cOther =>
    exact fun s0 q hst _ _ _ _ => q.p.finish (q.o.dw t) (q.o.vw t) (notD_of_cancelled q.p q.o hst) (Or.inr hst)
  case rReader => exact fun s0 q _ _ _ => stepReader_P q.p q.o
  case rDisp => exact fun s0 q _ hst hp => stepDisp_P q.p q.o hst hp
  case rHandler =>
    intro s0 n q _ hst _ _
    exact ⟨fun _ => Or.inl ⟨hst, Or.inl (by simp [St.setProg])⟩,
      q.p.helper.of_frame (fun hal => ⟨hal, fun a ha => ⟨ha, by simp [St.setProg, St.emit]⟩⟩), q.p.asleep.of_frame id id⟩
  case rHandlerAwait =>
    intro s0 n k q _ hst _ _
    exact ⟨fun _ => Or.inl ⟨hst, Or.inr ⟨n, k, by simp [St.setProg]⟩⟩,
      q.p.helper.of_frame (fun hal => ⟨hal, fun a ha => ⟨ha, by simp [St.setProg]⟩⟩), q.p.asleep.of_frame id id⟩
  case rMonStart =>
    intro s0 q ht hst _ _
    exact q.p.reprog (by rcases ht with rfl | rfl <;> simp) (Or.inl hst) _
  case rMonL => exact fun s0 q _ _ _ => stepMon_P q.p _
  case rMonM => exact fun s0 q _ _ _ => stepMon_P q.p _
  case rEntry => exact fun _ _ _ _ _ h => closed_elim h
  case rInClose =>
    intro s0 q _ _
    rw [stepInClose_open q.a q.op]
    exact fun _ => q.p
  case rVgetWait =>
    intro s0 q _ hst _ _ _
    exact q.p.of_frame rfl (by simp [St.setStatus]) rfl (fun h => h)
      (fun _ => ⟨by rw [hst]; rfl, fun a ha => ⟨by simp [St.setStatus, ha], rfl⟩⟩)
  case rVget =>
    intro s0 n q' q _ hst _ hq _ _
    exact q.p.ends (q.o.dw _) (q.o.vw _) (by simp) (Or.inl hst) (h4 := fun h => by rw [hq] at h; cases h)
  case rRecv => exact fun s0 u n q _ hst _ _ _ => q.p.ends (q.o.dw _) (q.o.vw _) (by simp) (Or.inl hst)
  case rRecvNone => exact fun s0 u r q _ hst _ _ _ _ => q.p.ends (q.o.dw _) (q.o.vw _) (by simp) (Or.inl hst)
  case rLogin => exact fun s0 u q _ hst _ => loginResume_P q.p q.o u hst

theorem PB.setStatus_user {s : St} (p : PB s) {u : Nat} (h : s.status (.U u) ≠ .waitT .V) (x : Status) : PB (s.setStatus (.U u) x) := by
  refine p.of_frame rfl (by simp [St.setStatus]) rfl (fun h => h) ?_
  intro hal
  refine ⟨by simpa [St.setStatus] using hal, fun a ha => ⟨?_, rfl⟩⟩
  have hne : a ≠ u := by intro e; subst e; exact h ha
  simp [St.setStatus, hne, ha]

theorem PB.setProg_user {s : St} (p : PB s) {u : Nat} (h : s.status (.U u) ≠ .waitT .V) (x : Prog) : PB (s.setProg (.U u) x) := by
  refine p.of_frame rfl rfl (by simp [St.setProg]) (fun h => h) ?_
  intro hal
  refine ⟨hal, fun a ha => ⟨ha, ?_⟩⟩
  have hne : a ≠ u := by intro e; subst e; exact h ha
  simp [St.setProg, hne]

theorem startRecv_P {s : St} (p : PB s) (u : Nat) (isLogin : Bool) (hu : s.status (.U u) = .absent)
    (hdal : alive (s.status .D) = true → s.dispSet = true) : PB (startRecv s u isLogin) := by
  have hnw : s.status (.U u) ≠ .waitT .V := by rw [hu]; simp
  -- the call fails at once: only the caller's own task changes
  have fails : ∀ r : Res, PB ((s.emit (.ret u r)).setStatus (.U u) .done) := fun r =>
    PB.setStatus_user (p.same (s' := s.emit (.ret u r))) hnw _
  unfold startRecv
  split
  · exact p
  · split
    · exact fails _
    · rename_i hnd
      -- a receive starts only while `_dispatcher_task is None`: no dispatcher sleeps in `queue.get()`
      have hDq : s.status .D ≠ .waitQ := fun h => hnd (hdal (by rw [h]; rfl))
      split
      · rename_i n q hq
        have p1 : PB { s with queue := q, vres := some n, rcvBusy := true, imm := some (.U u) } :=
          ⟨fun hd => absurd hd hnd, p.helper.of_frame (fun hal => ⟨hal, fun a ha => ⟨ha, rfl⟩⟩), fun h => absurd h hDq⟩
        refine PB.setProg_user (PB.setStatus_user p1 hnw _) ?_ _
        simp [St.setStatus]
      · split
        · split
          · exact fails _
          · exact fails _
        · -- the helper task is spawned and the caller awaits it: the caller is the witness
          refine ⟨fun hd => ?_, fun _ => ⟨u, by simp [St.setProg, St.setStatus], ?_⟩, fun h => ?_⟩
          · have hd' : s.dispSet = true := by simpa [St.setProg, St.setStatus, St.spawn] using hd
            exact (p.disp hd').of_frame (by simp [St.setProg, St.setStatus, St.spawn]) (by simp [St.setProg, St.setStatus, St.spawn])
              (by simp [St.setProg, St.setStatus, St.spawn])
          · cases isLogin <;> simp [St.setProg]
          · exact absurd (by simpa [St.setProg, St.setStatus, St.spawn] using h) hDq

theorem step_P {cfg : Cfg} {s : St} (a : InvA cfg s) (r : InvR s) (b : InvB s) (w : InvW s) (p : InvP s) (ev : Ev) :
    InvP (step cfg s ev) := by
  intro hc'
  have hc : s.closed = false := by
    cases h : s.closed with
    | false => rfl
    | true => rw [step_closed_mono cfg s ev h] at hc'; cases hc'
  have o := OpenFacts.of_inv a r b w hc
  have pb := p hc
  revert hc'
  cases ev with
  | connect =>
    simp only [step]
    split
    · intro _; exact pb
    · split
      · intro _; exact PB.startDispatching (PB.spawnLib pb (by simp) (by simp) (by simp) _) cfg
      · intro _; exact PB.spawnLib pb (by simp) (by simp) (by simp) _
  | data fs => intro _; exact pb.same
  | eof => intro _; exact pb.initiateClose
  | run t =>
    simp only [step]
    split
    · exact stepRun_P a b w pb o hc t
    · intro _; exact pb
  | callClose u =>
    simp only [step]
    split
    · intro _; exact pb
    · intro h; exact closed_elim h
  | callInitiateClose => intro _; exact pb.initiateClose
  | callLogout => intro _; exact PB.initiateClose (s := { (s.emit (.write .logout)) with pingL := true }) (pb.same)
  | callRecv u =>
    simp only [step]
    split
    · intro _; exact pb
    · rename_i hab
      intro _; exact startRecv_P pb u false (by simpa using hab) o.dal
  | callRecvNowait u =>
    simp only [step]
    split
    · intro _; exact pb
    · split
      · intro _; exact pb.same
      · split
        · rename_i n q hq
          intro _; exact pb.same (h4 := fun h => by rw [hq] at h; cases h)
        · split <;> (intro _; exact pb.same)
  | callLogin u =>
    simp only [step]
    split
    · intro _; exact pb
    · rename_i hab
      have hab' : s.status (.U u) = .absent := by
        simp only [Bool.or_eq_true, not_or] at hab
        simpa using hab.1.1
      intro _
      exact startRecv_P (s := { (s.emit (.write .login)) with pingL := true }) (pb.same) u true hab' o.dal
  | callSend => intro _; exact pb.same
  | cancel u =>
    intro _
    simp only [step]
    rcases cancelTask_setStatus s (.U u) with h | ⟨y, hy, hst, h⟩
    · rw [h]; exact pb
    · rw [h]
      rcases hy with rfl | hy
      · exact pb.setStatus_user (by rcases hst with h | h <;> rw [h] <;> simp) _
      · have hV : y = .V := o.wv _ _ hy
        subst hV
        exact pb.of_frame rfl (by simp [St.setStatus]) rfl (fun h => h)
          (fun _ => ⟨by rcases hst with h | h <;> rw [h] <;> rfl, fun a ha => ⟨by simp [St.setStatus, ha], rfl⟩⟩)

theorem InvP.init : InvP {} := by
  intro _
  exact ⟨fun h => by simp at h, fun h => by simp [alive] at h, fun h => by simp at h⟩

/-- the invariants of the session machine, together: what is known of a reachable state -/
structure Reached (cfg : Cfg) (s : St) : Prop where
  a : InvA cfg s
  r : InvR s
  b : InvB s
  w : InvW s
  p : InvP s

theorem Reached.step {cfg : Cfg} {s : St} (x : Reached cfg s) (ev : Ev) : Reached cfg (step cfg s ev) :=
  ⟨step_InvA x.a ev, step_InvR x.a x.r ev, step_InvB x.a x.r x.b ev, step_W x.a x.r x.b x.w ev, step_P x.a x.r x.b x.w x.p ev⟩

theorem Reached.run {cfg : Cfg} : ∀ (evs : List Ev) {s : St}, Reached cfg s → Reached cfg (runEvs cfg s evs)
  | [], _, x => x
  | ev :: evs, _, x => Reached.run evs (x.step ev)

theorem reached (cfg : Cfg) (evs : List Ev) : Reached cfg (runEvs cfg {} evs) :=
  Reached.run evs ⟨InvA.init cfg, InvR.init, InvB.init, InvW.init, InvP.init⟩

theorem runEvs_InvP (cfg : Cfg) (evs : List Ev) : InvP (runEvs cfg {} evs) := (reached cfg evs).p

/-- **When a cancellation is delivered inside a receive of an open session — the moment the model puts a held message back
    at the head of the queue, i.e. the code appends it to `_unclaimed` — nothing is suspended on the asyncio queue**: the
    dispatcher is not asleep in `queue.get()` and the receive helper has ended.  So no getter could have been served from the
    asyncio queue behind the stash: the stash in front of the queue and the queue with the message re-inserted at its head are
    the same thing to every later reader (`get_nowait()` and the dispatcher loop read the stash first). -/
theorem stash_no_getter (cfg : Cfg) (evs : List Ev) (u : Nat) (hc : (runEvs cfg {} evs).closed = false)
    (hst : (runEvs cfg {} evs).status (.U u) = .cancelled)
    (hp : (runEvs cfg {} evs).prog (.U u) = .loginWait u ∨ (runEvs cfg {} evs).prog (.U u) = .recvWait u) :
    (runEvs cfg {} evs).status .D ≠ .waitQ ∧ alive ((runEvs cfg {} evs).status .V) = false := by
  have w := (reached cfg evs).w
  have p := runEvs_InvP cfg evs hc
  have hr : rcving (runEvs cfg {} evs) u := ⟨by rw [hst]; rfl, hp⟩
  have hb := w.busy u hr
  refine ⟨fun h => ?_, ?_⟩
  · have := p.asleep h; rw [hb] at this; cases this
  · cases hal : alive ((runEvs cfg {} evs).status .V) with
    | false => rfl
    | true =>
      obtain ⟨a, ha, hpa⟩ := p.helper hal
      have hra : rcving (runEvs cfg {} evs) a := ⟨by rw [ha]; rfl, hpa⟩
      have := w.uniq a u hra hr
      subst this
      rw [hst] at ha; cases ha

end NasdaqModel.Sess
