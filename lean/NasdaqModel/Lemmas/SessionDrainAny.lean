import NasdaqModel.Lemmas.SessionDrainInv
/-
The session machine refines the abstract pipeline — part 2: **every** event.  From a reachable state of an open session in callback
mode with no receive pending (`CbLive`), any event that leaves the session open is a reader tick, a dispatcher step or a data
arrival of the pipeline, or does not touch the pipeline at all (`sim_any`); hence along any run that ends open (`sim_run_open`).
-/
namespace NasdaqModel.Sess

/-- open, connected, in callback mode, no receive pending -/
structure CbLive (s : St) : Prop where
  op : s.closed = false
  conn : s.status .R ≠ .absent
  disp : s.dispSet = true
  busy : s.rcvBusy = false
  vres : s.vres = none

/-- the structural facts follow from the invariants -/
theorem CbLive.live {cfg : Cfg} {s : St} (c : CbLive s) (x : Reached cfg s) : Live s := by
  obtain ⟨hrs, hR, _⟩ := x.r c.op
  have hR' := hR.resolve_left c.conn
  refine ⟨hR'.1, hR'.2, hrs, ?_, c.busy, c.vres, (x.p c.op).disp c.disp⟩
  cases h : s.qClosed with
  | false => rfl
  | true => have := x.w.qc h; rw [c.op] at this; cases this

theorem CbLive.vdead {cfg : Cfg} {s : St} (c : CbLive s) (x : Reached cfg s) : alive (s.status .V) = false := by
  cases h : alive (s.status .V) with
  | false => rfl
  | true =>
    obtain ⟨a, ha, hp⟩ := (x.p c.op).helper h
    have := x.w.busy a ⟨by rw [ha]; rfl, hp⟩
    rw [c.busy] at this; cases this

/-- the pipeline view, the flags and the pending-receive slots are the same; a connected session stays connected -/
def Same (s s' : St) : Prop :=
  pcore s' = pcore s ∧ s'.rcvBusy = s.rcvBusy ∧ s'.vres = s.vres ∧ (s.status .R ≠ .absent → s'.status .R ≠ .absent)

theorem Same.refl (s : St) : Same s s := ⟨rfl, rfl, rfl, id⟩

theorem Same.trans {s s1 s2 : St} (h1 : Same s s1) (h2 : Same s1 s2) : Same s s2 := by
  obtain ⟨p1, b1, v1, c1⟩ := h1
  obtain ⟨p2, b2, v2, c2⟩ := h2
  exact ⟨p2.trans p1, b2.trans b1, v2.trans v1, fun h => c2 (c1 h)⟩

/-- a change outside everything `Same` reads (by default: the fields are the same terms) -/
theorem Same.of_eq {s s' : St} (h1 : s'.buf = s.buf := by rfl) (h2 : s'.queue = s.queue := by rfl) (h3 : s'.prog = s.prog := by rfl)
    (h4 : s'.status = s.status := by rfl) (h5 : s'.trace = s.trace := by rfl) (h6 : s'.closed = s.closed := by rfl)
    (h7 : s'.dispSet = s.dispSet := by rfl) (h8 : s'.rcvBusy = s.rcvBusy := by rfl) (h9 : s'.vres = s.vres := by rfl)
    (h10 : s'.gone = s.gone := by rfl) : Same s s' :=
  ⟨by simp only [pcore, h1, h2, h3, h4, h5, h6, h7, lost_of_gone h10], h8, h9, by rw [h4]; exact id⟩

theorem Same.emit (s : St) (o : Obs) (h : deliveredObs o = none) : Same s (s.emit o) :=
  ⟨pcore_emit s o h, rfl, rfl, id⟩

theorem Same.setStatus (s : St) {t : Tid} (htD : t ≠ .D) (x : Status) (hR : t = .R → x ≠ .absent) : Same s (s.setStatus t x) := by
  refine ⟨by simp [pcore, St.setStatus, Ne.symm htD, St.lost], rfl, rfl, ?_⟩
  intro h
  simp only [St.setStatus]
  split
  · rename_i e; exact hR e.symm
  · exact h

theorem Same.setProg (s : St) {t : Tid} (htD : t ≠ .D) (x : Prog) : Same s (s.setProg t x) :=
  ⟨by simp [pcore, St.setProg, Ne.symm htD, St.lost], rfl, rfl, id⟩

theorem Same.spawn (s : St) {t : Tid} (htD : t ≠ .D) (x : Prog) : Same s (s.spawn t x) :=
  (Same.setStatus s htD .ready (by simp)).trans (Same.setProg _ htD x)

theorem Same.finish (s : St) {t : Tid} (htD : t ≠ .D) (hdw : s.status .D ≠ .waitT t) : Same s (s.finish t) := by
  refine ⟨by simp [pcore, St.finish, Ne.symm htD, hdw, St.lost], rfl, rfl, ?_⟩
  intro h
  rw [finish_status]
  split
  · simp
  · split
    · simp
    · exact h

theorem Same.initiateClose (s : St) : Same s s.initiateClose := by
  unfold St.initiateClose
  split
  · exact Same.refl s
  · exact (Same.of_eq (s := s) (s' := { s with closingTask := true })).trans (Same.spawn _ (by simp) _)

theorem Same.cancelUser {s : St} (u : Nat) (hwv : ∀ x y, s.status x = .waitT y → y = .V) : Same s (s.cancelTask (.U u)) := by
  rcases cancelTask_setStatus s (.U u) with h | ⟨y, hy, _, h⟩
  · rw [h]; exact Same.refl s
  · rw [h]
    -- the task that becomes cancelled is `U u` or the receive helper
    rcases hy with rfl | hy
    · exact Same.setStatus s (by simp) _ (by simp)
    · rw [hwv _ _ hy]; exact Same.setStatus s (by simp) _ (by simp)


theorem stepMon_same {cfg : Cfg} {s : St} (isLocal : Bool) :
    (stepMon cfg s isLocal).closed = false → Same s (stepMon cfg s isLocal) := by
  unfold stepMon
  split
  · split
    · intro _; exact Same.of_eq
    · intro _; exact Same.emit s _ rfl
  · split
    · intro _; exact Same.of_eq
    · intro h; exact closed_elim h

/-- what `stepRun_other` knows of the state in which the task runs: open, no receive pending, the receive helper dead -/
structure Quiet (cfg : Cfg) (s : St) : Prop where
  a : InvA cfg s
  b : InvB s
  w : InvW s
  o : OpenFacts s
  op : s.closed = false
  busy : s.rcvBusy = false
  vdead : alive (s.status .V) = false

/-- a task inside a receive contradicts `rcvBusy = false` -/
theorem Quiet.norecv {cfg : Cfg} {s : St} (q : Quiet cfg s) {u : Nat} {x : Status} (hst : s.status (.U u) = x)
    (hx : alive x = true) (hp : s.prog (.U u) = .loginWait u ∨ s.prog (.U u) = .recvWait u) : False := by
  have := q.w.busy u ⟨by rw [hst]; exact hx, hp⟩
  rw [q.busy] at this
  cases this

theorem stepRun_other {cfg : Cfg} {s : St} (a : InvA cfg s) (b : InvB s) (w : InvW s) (o : OpenFacts s)
    (hc : s.closed = false) (hbusy : s.rcvBusy = false) (hvd : alive (s.status .V) = false) (t : Tid) (htR : t ≠ .R) (htD : t ≠ .D) :
    (stepRun cfg s t).closed = false → Same s (stepRun cfg s t) := by
  have e0 : Same s ({ s with imm := none } : St) := Same.of_eq
  have q0 : Quiet cfg ({ s with imm := none } : St) :=
    ⟨InvA.of_core (s := s) rfl a, InvB.of_bcore (s := s) rfl b, w.of_view rfl, o.imm, hc, hbusy, hvd⟩
  intro hc'
  refine e0.trans (stepRun_rule (Quiet cfg) (fun s0 s' => s'.closed = false → Same s0 s') q0
    (fun s0 q hal => .of_allowed (q.b.typ t hal)) (fun s0 _ _ => Same.refl s0)
    ?cHandler ?cVget ?cRecv ?cLoginEoq ?cLoginClose ?cInClose ?cOther ?rReader ?rDisp ?rHandler ?rHandlerAwait ?rMonStart ?rMonL ?rMonM
    ?rEntry ?rInClose ?rVgetWait ?rVget ?rRecv ?rRecvNone ?rLogin hc')
  case cHandler => exact fun _ _ _ _ ht => absurd ht htD
  case cVget =>
    intro s0 q _ hst
    have := q.vdead
    rw [hst] at this
    cases this
  case cRecv => exact fun s0 u _ q _ hst hp => (q.norecv hst rfl (Or.inr hp)).elim
  case cLoginEoq => exact fun s0 u q _ hst hp => (q.norecv hst rfl (Or.inl hp)).elim
  case cLoginClose => exact fun s0 u q _ hst hp => (q.norecv hst rfl (Or.inl hp)).elim
  case cInClose =>
    intro s0 q _ _
    rw [stepInClose_open q.a q.op]
    exact fun _ => Same.refl s0
  case cOther => exact fun s0 q _ _ _ _ _ => Same.finish s0 htD (q.o.dw t)
  case rReader => exact fun _ _ ht => absurd ht htR
  case rDisp => exact fun _ _ ht => absurd ht htD
  case rHandler => exact fun _ _ _ ht => absurd ht htD
  case rHandlerAwait => exact fun _ _ _ _ ht => absurd ht htD
  case rMonStart => exact fun s0 _ _ _ _ _ => Same.setProg s0 htD _
  case rMonL => exact fun _ _ _ _ _ h => stepMon_same _ h
  case rMonM => exact fun _ _ _ _ _ h => stepMon_same _ h
  case rEntry => exact fun _ _ _ _ _ h => closed_elim h
  case rInClose =>
    intro s0 q _ _
    rw [stepInClose_open q.a q.op]
    exact fun _ => Same.refl s0
  case rVgetWait =>
    intro s0 q _ hst
    have := q.vdead
    rw [hst] at this
    cases this
  case rVget =>
    intro s0 _ _ q _ hst
    have := q.vdead
    rw [hst] at this
    cases this
  case rRecv => exact fun s0 u _ q _ hst hp => (q.norecv hst rfl (Or.inr hp)).elim
  case rRecvNone => exact fun s0 u _ q _ hst hp => (q.norecv hst rfl (Or.inr hp)).elim
  case rLogin => exact fun s0 u q _ hst hp => (q.norecv hst rfl (Or.inl hp)).elim

/-- a user call that starts a receive on a session in callback mode fails at once with `StateError` -/
theorem startRecv_same {s : St} (u : Nat) (isLogin : Bool) (hd : s.dispSet = true) : Same s (startRecv s u isLogin) := by
  unfold startRecv
  split
  · exact Same.refl s
  · exact (Same.emit s _ rfl).trans (Same.setStatus _ (by simp) _ (by simp))

/-- **Every event that is not a reader tick, a dispatcher step or a data arrival leaves the pipeline alone** (as long as the
    session stays open). -/
theorem step_other {cfg : Cfg} {s : St} (x : Reached cfg s) (c : CbLive s)
    (ev : Ev) (hev : absEv ev = .nop) : (step cfg s ev).closed = false → Same s (step cfg s ev) := by
  have o := OpenFacts.of_inv x.a x.r x.b x.w c.op
  have hvd := c.vdead x
  cases ev with
  | connect =>
    simp only [step]
    rw [if_pos (by simp [c.conn])]
    intro _; exact Same.refl s
  | data fs => simp [absEv] at hev
  | eof => intro _; exact Same.initiateClose s
  | run t =>
    have htR : t ≠ .R := by intro e; subst e; simp [absEv] at hev
    have htD : t ≠ .D := by intro e; subst e; simp [absEv] at hev
    simp only [step]
    split
    · exact stepRun_other x.a x.b x.w o c.op c.busy hvd t htR htD
    · intro _; exact Same.refl s
  | callClose u =>
    simp only [step]
    split
    · intro _; exact Same.refl s
    · intro h; exact closed_elim h
  | callInitiateClose => intro _; exact Same.initiateClose s
  | callLogout =>
    intro _
    exact ((Same.emit s (.write .logout) rfl).trans
      (Same.of_eq (s := s.emit (.write .logout)) (s' := { (s.emit (.write .logout)) with pingL := true }))).trans
      (Same.initiateClose _)
  | callRecv u =>
    simp only [step]
    split
    · intro _; exact Same.refl s
    · intro _; exact startRecv_same u false c.disp
  | callRecvNowait u =>
    simp only [step]
    split
    · intro _; exact Same.refl s
    · rw [if_pos c.disp]; intro _; exact Same.emit s _ rfl
  | callLogin u =>
    simp only [step]
    split
    · intro _; exact Same.refl s
    · intro _
      exact ((Same.emit s (.write .login) rfl).trans
        (Same.of_eq (s := s.emit (.write .login)) (s' := { (s.emit (.write .login)) with pingL := true }))).trans
        (startRecv_same u true c.disp)
  | callSend =>
    intro _
    exact (Same.emit s (.write .data) rfl).trans
      (Same.of_eq (s := s.emit (.write .data)) (s' := { (s.emit (.write .data)) with pingL := true }))
  | cancel u => intro _; exact Same.cancelUser u o.wv


theorem CbLive.of_live {s s' : St} (c : CbLive s) (l' : Live s') (f : flags s' = flags s) : CbLive s' ∧ s'.lost = s.lost := by
  simp only [flags, Prod.mk.injEq] at f
  obtain ⟨hclosed, hdisp, hlost⟩ := f
  exact ⟨⟨by rw [hclosed]; exact c.op, by rw [l'.rst]; simp, by rw [hdisp]; exact c.disp, l'.busy, l'.vres⟩, hlost⟩

theorem CbLive.of_same {s s' : St} (c : CbLive s) (h : Same s s') : CbLive s' ∧ pipeOf s' = pipeOf s ∧ s'.lost = s.lost := by
  obtain ⟨h1, hbusy, hvres, hconn⟩ := h
  have := pipeOf_of_pcore h1
  simp only [pcore, Prod.mk.injEq] at h1
  obtain ⟨_, _, _, _, _, hclosed, hdisp, hlost⟩ := h1
  exact ⟨⟨by rw [hclosed]; exact c.op, hconn c.conn, by rw [hdisp]; exact c.disp, by rw [hbusy]; exact c.busy,
    by rw [hvres]; exact c.vres⟩, this.1, hlost⟩

/-- **One event of a session in callback mode that stays open is one step of the pipeline.** -/
theorem sim_any {cfg : Cfg} {s : St} (x : Reached cfg s) (c : CbLive s) (ev : Ev) (hc' : (step cfg s ev).closed = false) :
    CbLive (step cfg s ev) ∧ pipeOf (step cfg s ev) = astep cfg.msgBeh (pipeOf s) (absEv ev) ∧ (step cfg s ev).lost = s.lost := by
  have l := c.live x
  have other : absEv ev = .nop →
      CbLive (step cfg s ev) ∧ pipeOf (step cfg s ev) = astep cfg.msgBeh (pipeOf s) (absEv ev) ∧ (step cfg s ev).lost = s.lost := by
    intro hev
    obtain ⟨c', p', g'⟩ := c.of_same (step_other x c ev hev hc')
    exact ⟨c', by rw [p', hev]; rfl, g'⟩
  cases ev with
  | data fs =>
    obtain ⟨l', p', f'⟩ := sim_data (cfg := cfg) l fs
    exact ⟨(c.of_live l' f').1, p', (c.of_live l' f').2⟩
  | run t =>
    cases t with
    | R =>
      -- a logout or malformed frame at the head of the buffer would have closed the session
      have hg : ∀ f ∈ s.buf.take 1, goodFrame f = true := by
        intro f hf
        cases hb : s.buf with
        | nil => rw [hb] at hf; simp at hf
        | cons f0 rest =>
          rw [hb] at hf
          simp at hf
          subst hf
          cases f with
          | msg n => rfl
          | hb => rfl
          | logout =>
            rw [poll_eq_stop cfg s ⟨l.rst, l.rpr⟩ l.rs hb (Or.inl rfl)] at hc'
            exact closed_elim hc'
          | bad =>
            rw [poll_eq_stop cfg s ⟨l.rst, l.rpr⟩ l.rs hb (Or.inr rfl)] at hc'
            exact closed_elim hc'
      obtain ⟨l', p', f'⟩ := sim_runR (cfg := cfg) l hg
      exact ⟨(c.of_live l' f').1, p', (c.of_live l' f').2⟩
    | D =>
      -- a callback that closes the session would have closed it
      have hg : ∀ n q, s.queue = n :: q → s.prog .D = .dispLoop → (cfg.msgBeh n).closes = false := by
        intro n q hq hpr
        have hst : s.status .D = .ready := by
          rcases l.dok with ⟨h, _⟩ | ⟨_, _, h⟩
          · exact h
          · rw [hq] at h; cases h
        rw [disp_eq_take cfg s hst hpr l.qc l.busy l.vres hq] at hc'
        unfold dispHandle at hc'
        cases hb : cfg.msgBeh n with
        | close => rw [hb] at hc'; exact closed_elim hc'
        | reject => rw [hb] at hc'; exact closed_elim hc'
        | _ => rfl
      obtain ⟨l', p', f'⟩ := sim_runD (cfg := cfg) l hg
      exact ⟨(c.of_live l' f').1, p', (c.of_live l' f').2⟩
    | L => exact other rfl
    | M => exact other rfl
    | C => exact other rfl
    | V => exact other rfl
    | U i => exact other rfl
  | connect => exact other rfl
  | eof => exact other rfl
  | callClose u => exact other rfl
  | callInitiateClose => exact other rfl
  | callLogout => exact other rfl
  | callRecv u => exact other rfl
  | callRecvNowait u => exact other rfl
  | callLogin u => exact other rfl
  | callSend => exact other rfl
  | cancel u => exact other rfl

/-- **Along any run that ends open**, from a reachable state in callback mode: the session machine follows the pipeline, event by
    event. -/
theorem sim_run_open (cfg : Cfg) : ∀ (evs : List Ev) (s : St), Reached cfg s → CbLive s → (runEvs cfg s evs).closed = false →
    CbLive (runEvs cfg s evs) ∧ pipeOf (runEvs cfg s evs) = arun cfg.msgBeh (pipeOf s) (evs.map absEv) ∧
    (runEvs cfg s evs).lost = s.lost := by
  intro evs
  induction evs with
  | nil => intro s _ c _; exact ⟨c, rfl, rfl⟩
  | cons ev evs ih =>
    intro s x c hopen
    rw [runEvs_cons] at hopen ⊢
    -- a closed session stays closed: the step leaves it open
    have hc1 : (step cfg s ev).closed = false := by
      cases h : (step cfg s ev).closed with
      | false => rfl
      | true => rw [runEvs_closed_mono cfg evs _ h] at hopen; cases hopen
    obtain ⟨c1, p1, g1⟩ := sim_any x c ev hc1
    obtain ⟨c2, p2, g2⟩ := ih _ (x.step ev) c1 hopen
    exact ⟨c2, by rw [p2, p1]; rfl, by rw [g2, g1]⟩

theorem map_absEv_sched (k m : Nat) :
    (List.replicate k (Ev.run .R) ++ List.replicate m (Ev.run .D)).map absEv = List.replicate k AEv.r ++ List.replicate m AEv.d := by
  simp [absEv]

/-- **Callback mode, any continuation.** From a reachable state in callback mode, along *any* events after which the session is
    still open and which contain — in this order, interleaved with anything — `k` reader ticks and then `drainCost` dispatcher
    steps: the queued messages and the messages among the first `k` buffered frames have been delivered, in order, right after
    what had been delivered before. -/
theorem drain_any (cfg : Cfg) (s : St) (evs : List Ev) (k m : Nat) (x : Reached cfg s) (c : CbLive s)
    (hopen : (runEvs cfg s evs).closed = false)
    (hsub : (List.replicate k (Ev.run .R) ++ List.replicate m (Ev.run .D)).Sublist evs)
    (hm : drainCost cfg s k ≤ m) :
    delivered s.trace ++ s.queue ++ msgsOf (s.buf.take k) <+: delivered (runEvs cfg s evs).trace ∧
    CbLive (runEvs cfg s evs) ∧ (runEvs cfg s evs).lost = s.lost := by
  obtain ⟨c', p', g'⟩ := sim_run_open cfg evs s x c hopen
  have l := c.live x
  have hd := arun_delivers cfg.msgBeh (evs.map absEv) (pipeOf s) k (s.queue.length + (msgsOf (s.buf.take k)).length) m
    ⟨pipeOf_ok l.dok, Nat.le_refl _, Or.inr (by
      have := take_pend (pipeOf s) k
      simp only [pipeOf] at this ⊢
      rw [this]; exact hm)⟩
    (by rw [← map_absEv_sched]; exact hsub.map absEv)
  rw [← p'] at hd
  have ht : target (pipeOf s) (s.queue.length + (msgsOf (s.buf.take k)).length) =
      delivered s.trace ++ s.queue ++ msgsOf (s.buf.take k) := by
    have := take_pend (pipeOf s) k
    simp only [pipeOf] at this
    simp only [target, pipeOf, this, List.append_assoc]
  rw [ht] at hd
  exact ⟨hd, c', g'⟩

end NasdaqModel.Sess
