import NasdaqModel.Lemmas.PyLemmas
import NasdaqModel.Model.Fix
/-
The FIX codec model (`Model/Fix.lean`): the domain of the C13 theorems (`wfVal` … `wfMsg`, `wfDef`), what decoding yields (`canonVal` …
`canonMsg`), and the lemmas that do not depend on the shape of the dictionary: bytes (`find`, digits, `SOH.join`), primitive values and
single fields, one iteration of the decoding loops on an encoded field.  What needs the entries of a level to have distinct tags is in
`Lemmas/FixShared.lean` and `Lemmas/FixMessage.lean`.
-/
namespace NasdaqModel.Fix
open NasdaqModel Py

theorem findSub_one_cons (c b : Nat) (bs : Bytes) :
    findSub [c] (b :: bs) = if c = b then some 0 else (findSub [c] bs).map (· + 1) := by
  simp [findSub, List.isPrefixOf]

theorem findSub_one_nil (c : Nat) : findSub [c] [] = none := by
  simp [findSub]

theorem findSub_one_append (c : Nat) (a r : Bytes) (h : c ∉ a) :
    findSub [c] (a ++ c :: r) = some a.length := by
  induction a with
  | nil => simp [findSub_one_cons]
  | cons x a ih =>
    have hx : c ≠ x := by intro e; exact h (by simp [e])
    have ha : c ∉ a := by intro e; exact h (by simp [e])
    simp [findSub_one_cons, hx, ih ha]

theorem findSub_one_none (c : Nat) (a : Bytes) (h : c ∉ a) : findSub [c] a = none := by
  induction a with
  | nil => simp [findSub_one_nil]
  | cons x a ih =>
    have hx : c ≠ x := by intro e; exact h (by simp [e])
    have ha : c ∉ a := by intro e; exact h (by simp [e])
    simp [findSub_one_cons, hx, ih ha]

theorem natDigits_no (t c : Nat) (hc : isDigit c = false) : c ∉ natDigits t := by
  intro h
  have := natDigits_all_digit t c h
  rw [hc] at this
  exact absurd this (by simp)

theorem intStr_natCast (t : Nat) : intStr (t : Int) = natDigits t := by
  unfold intStr
  have : ¬ ((t : Int) < 0) := by omega
  simp [this]

theorem parseIntAscii_intStr (i : Int) : parseIntAscii (intStr i) = .ok i := parseIntBytes_intStr i

theorem parseIntAscii_natDigits (t : Nat) : parseIntAscii (natDigits t) = .ok (t : Int) := by
  rw [← intStr_natCast]
  exact parseIntAscii_intStr _

theorem natDigits_all_lt (t : Nat) : (natDigits t).all (· < 128) = true := by
  simp only [List.all_eq_true, decide_eq_true_eq]
  intro c hc
  have := natDigits_all_digit t c hc
  simp [isDigit] at this
  omega

theorem decodeAscii_natDigits (t : Nat) : decodeAscii (natDigits t) = .ok (natDigits t) := by
  unfold decodeAscii
  rw [natDigits_all_lt]
  rfl

theorem intStr_no_soh (i : Int) : 1 ∉ intStr i := by
  intro h
  unfold intStr at h
  split at h
  · simp at h
    exact natDigits_no _ 1 (by decide) h
  · exact natDigits_no _ 1 (by decide) h

def termAll (l : List Bytes) : Bytes := (l.map (· ++ [1])).flatten

theorem joinSOH_term : ∀ (a : Bytes) (l : List Bytes), joinSOH (a :: l) ++ [1] = termAll (a :: l)
  | a, [] => by simp [joinSOH, termAll]
  | a, b :: l => by
    have ih := joinSOH_term b l
    simp only [joinSOH, termAll, List.map_cons, List.flatten_cons, List.append_assoc, List.cons_append] at ih ⊢
    rw [ih]
    simp

theorem termAll_nil : termAll [] = [] := rfl
theorem termAll_cons (a : Bytes) (l : List Bytes) : termAll (a :: l) = a ++ 1 :: termAll l := by
  simp [termAll]
theorem termAll_append (l₁ l₂ : List Bytes) : termAll (l₁ ++ l₂) = termAll l₁ ++ termAll l₂ := by
  simp [termAll]

theorem joinSOH_cons_append (a : Bytes) (l : List Bytes) (rest : Bytes) :
    joinSOH (a :: l) ++ 1 :: rest = a ++ 1 :: (termAll l ++ rest) := by
  rw [show joinSOH (a :: l) ++ 1 :: rest = (joinSOH (a :: l) ++ [1]) ++ rest by simp, joinSOH_term, termAll_cons]
  simp

theorem joinSOH_cons_length (a : Bytes) (l : List Bytes) :
    (joinSOH (a :: l)).length + 1 = a.length + 1 + (termAll l).length := by
  have := congrArg List.length (joinSOH_term a l)
  rw [termAll_cons] at this
  simp only [List.length_append, List.length_cons, List.length_nil] at this
  omega

def GoodEnd (b : Bytes) : Prop := b ≠ [] ∧ b.getLast? ≠ some 1

theorem goodEnd_append_right (a : Bytes) {b : Bytes} (h : GoodEnd b) : GoodEnd (a ++ b) := by
  obtain ⟨hne, hl⟩ := h
  refine ⟨by simp [hne], ?_⟩
  have e : (a ++ b).getLast? = b.getLast? := by
    rw [List.getLast?_append]
    cases h : b.getLast? with
    | none => simp [List.getLast?_eq_none_iff] at h; exact absurd h hne
    | some x => simp
  rw [e]
  exact hl

theorem goodEnd_joinSOH : ∀ (l : List Bytes), l ≠ [] → (∀ x ∈ l, GoodEnd x) → GoodEnd (joinSOH l)
  | [], h, _ => absurd rfl h
  | [a], _, h => by simpa [joinSOH] using h a (by simp)
  | a :: b :: l, _, h => by
    have ih := goodEnd_joinSOH (b :: l) (by simp) (fun x hx => h x (by simp [hx]))
    simp only [joinSOH]
    have : a ++ 1 :: joinSOH (b :: l) = (a ++ [1]) ++ joinSOH (b :: l) := by simp
    rw [this]
    exact goodEnd_append_right _ ih

theorem joinSOH_eq_nil_iff (l : List Bytes) (h : ∀ x ∈ l, x ≠ []) : joinSOH l = [] ↔ l = [] := by
  cases l with
  | nil => simp [joinSOH]
  | cons a l =>
    cases l with
    | nil => simpa [joinSOH] using h a (by simp)
    | cons b l => simp [joinSOH]

mutual
def deepTags : Entry → List Nat
  | .field t _ _ => [t]
  | .group t sub _ => t :: deepTagsL sub
def deepTagsL : List Entry → List Nat
  | [] => []
  | e :: es => deepTags e ++ deepTagsL es
end

def innerTags : Entry → List Nat
  | .field .. => []
  | .group _ sub _ => deepTagsL sub

def tagsOf (es : List Entry) : List Nat := es.map Entry.tag

def wfText (s : Str) : Bool := s.all (fun c => decide (c < 128) && decide (c ≠ 1))

def wfPrim : FTy → Val → Bool
  | .int, .int _ => true
  | .float, .flt t => wfText t
  | .bool, .bool _ => true
  | .char, .str s => wfText s
  | .string, .str s => wfText s
  | _, _ => false

def keysOf (s : Seg) : List Nat := s.map Prod.fst

def firstPresent : List Entry → Seg → Bool
  | [], _ => false
  | e :: _, inst => hasKey inst e.tag

mutual
/-- the value is one the entry's class accepts and can carry: right Python type, text ASCII without SOH,
    every group instance has distinct keys known to the group and contains the group's first entry -/
def wfVal : Entry → Val → Bool
  | .field _ ty _, v => wfPrim ty v
  | .group _ sub _, .grp insts => wfInsts sub insts
  | .group .., _ => false
def wfInsts : List Entry → List (List (Nat × Val)) → Bool
  | _, [] => true
  | sub, i :: is => wfFields sub i && firstPresent sub i && decide (keysOf i).Nodup && wfInsts sub is
def wfFields : List Entry → List (Nat × Val) → Bool
  | _, [] => true
  | es, (t, v) :: rest => (match lookupE es t with
                           | some e => wfVal e v
                           | none => false) && wfFields es rest
end

def wfSeg (es : List Entry) (s : Seg) : Bool := wfFields es s && decide (keysOf s).Nodup

mutual
/-- what decoding yields: group instances list their fields in dictionary order -/
def canonVal : Entry → Val → Val
  | .group _ sub _, .grp insts => .grp (insts.map (fun i => canonFields sub i))
  | _, v => v
def canonFields : List Entry → Seg → Seg
  | [], _ => []
  | e :: es, inst =>
      match lookupV inst e.tag with
      | some v => (e.tag, canonVal e v) :: canonFields es inst
      | none => canonFields es inst
end

theorem canonVal_field (t : Nat) (ty : FTy) (r : Bool) (v : Val) : canonVal (.field t ty r) v = v := by
  cases v <;> rfl

/-- a top-level segment keeps its (insertion = wire) order -/
def canonSeg (es : List Entry) (s : Seg) : Seg :=
  s.map (fun p => (p.1, match lookupE es p.1 with
                        | some e => canonVal e p.2
                        | none => p.2))

theorem ascii_no_soh_of_wfText {s : Str} (h : wfText s = true) : s.all (· < 128) = true ∧ 1 ∉ s := by
  unfold wfText at h
  simp only [List.all_eq_true, Bool.and_eq_true, decide_eq_true_eq] at h
  constructor
  · simp only [List.all_eq_true, decide_eq_true_eq]
    intro c hc; exact (h c hc).1
  · intro h1; exact (h 1 h1).2 rfl

theorem text_roundtrip {t : Str} {b : Bytes} (hw : wfText t = true) (he : encodeAscii t = .ok b) :
    1 ∉ b ∧ decodeAscii b = .ok t := by
  obtain ⟨ha, h1⟩ := ascii_no_soh_of_wfText hw
  simp only [encodeAscii, ha, if_true] at he
  obtain rfl := Except.ok.inj he
  exact ⟨h1, by simp only [decodeAscii, ha, if_true]⟩

theorem prim_roundtrip {ty : FTy} {v : Val} {b : Bytes} (hw : wfPrim ty v = true) (he : tyToBytes ty v = .ok b) :
    1 ∉ b ∧ tyFromBytes ty b = .ok v := by
  cases ty <;> cases v <;> simp [wfPrim] at hw
  case int.int i =>
    simp only [tyToBytes, encodeAscii, intStr_ascii i, if_true] at he
    obtain rfl := Except.ok.inj he
    refine ⟨intStr_no_soh i, ?_⟩
    simp only [tyFromBytes, decodeAscii, intStr_ascii i, if_true, ok_bind, parseIntAscii_intStr, pure_eq_ok]
  case float.flt t =>
    obtain ⟨h1, hd⟩ := text_roundtrip hw he
    exact ⟨h1, by simp only [tyFromBytes, hd, ok_bind, pure_eq_ok]⟩
  case bool.bool x =>
    obtain rfl := Except.ok.inj he
    cases x <;> simp [tyFromBytes]
  case char.str t =>
    obtain ⟨h1, hd⟩ := text_roundtrip hw he
    exact ⟨h1, by simp only [tyFromBytes, hd, ok_bind, pure_eq_ok]⟩
  case string.str t =>
    obtain ⟨h1, hd⟩ := text_roundtrip hw he
    exact ⟨h1, by simp only [tyFromBytes, hd, ok_bind, pure_eq_ok]⟩

theorem fieldFromBytes_field (ty : FTy) (t : Nat) (vb rest : Bytes) (v : Val)
    (h1 : 1 ∉ vb) (hv : tyFromBytes ty vb = .ok v) :
    fieldFromBytes ty (fieldBytes t vb ++ 1 :: rest) = .ok ((fieldBytes t vb).length + 1, v) := by
  have e61 : findSub [61] (fieldBytes t vb ++ 1 :: rest) = some (natDigits t).length := by
    have : fieldBytes t vb ++ 1 :: rest = natDigits t ++ 61 :: (vb ++ 1 :: rest) := by simp [fieldBytes]
    rw [this]
    exact findSub_one_append 61 _ _ (natDigits_no t 61 (by decide))
  have e1 : findSub [1] (fieldBytes t vb ++ 1 :: rest) = some (fieldBytes t vb).length := by
    apply findSub_one_append
    intro h
    simp only [fieldBytes, List.mem_append, List.mem_cons] at h
    rcases h with h | h | h
    · exact natDigits_no t 1 (by decide) h
    · exact absurd h (by decide)
    · exact h1 h
  unfold fieldFromBytes
  rw [e61]
  simp only [e1]
  have hs : (List.take (fieldBytes t vb).length (fieldBytes t vb ++ 1 :: rest)).drop ((natDigits t).length + 1) = vb := by
    rw [List.take_left']
    · simp [fieldBytes]
    · rfl
  rw [hs, hv]
  rfl

theorem fieldFromBytes_count (t n : Nat) (rest : Bytes) :
    fieldFromBytes .int (fieldBytes t (intStr (n : Int)) ++ 1 :: rest)
      = .ok ((fieldBytes t (intStr (n : Int))).length + 1, .int (n : Int)) := by
  apply fieldFromBytes_field
  · exact intStr_no_soh _
  · simp only [tyFromBytes, decodeAscii, intStr_ascii, if_true, ok_bind, parseIntAscii_intStr, pure_eq_ok]

theorem wfPrim_not_grp {ty : FTy} {v : Val} (h : wfPrim ty v = true) : ∀ insts, v ≠ .grp insts := by
  intro insts hv
  subst hv
  cases ty <;> simp [wfPrim] at h

theorem valEqD_self_of_wfPrim {ty : FTy} {v : Val} (h : wfPrim ty v = true) : valEqD v v = true := by
  cases v with
  | grp insts => exact absurd rfl (wfPrim_not_grp h insts)
  | _ => simp [valEqD, primEq]

theorem mapE_cons_ok {α β : Type} {f : α → Except Err β} {a : α} {as : List α} {r : List β}
    (h : mapE f (a :: as) = .ok r) : ∃ b bs, f a = .ok b ∧ mapE f as = .ok bs ∧ r = b :: bs := by
  simp only [mapE] at h
  obtain ⟨b, hb, h⟩ := bind_ok_inv h
  obtain ⟨bs, hbs, h⟩ := bind_ok_inv h
  simp only [pure_eq_ok] at h
  injection h with h
  exact ⟨b, bs, hb, hbs, h.symm⟩

theorem mapE_nil_ok {α β : Type} {f : α → Except Err β} {r : List β} (h : mapE f [] = .ok r) : r = [] := by
  simp only [mapE] at h
  injection h with h
  exact h.symm

theorem mapE_append_ok {α β : Type} {f : α → Except Err β} : ∀ {l₁ l₂ : List α} {r : List β},
    mapE f (l₁ ++ l₂) = .ok r → ∃ r₁ r₂, mapE f l₁ = .ok r₁ ∧ mapE f l₂ = .ok r₂ ∧ r = r₁ ++ r₂
  | [], _, r, h => ⟨[], r, rfl, by simpa using h, rfl⟩
  | a :: as, l₂, r, h => by
    obtain ⟨b, bs, hb, hbs, rfl⟩ := mapE_cons_ok (show mapE f (a :: (as ++ l₂)) = .ok r from h)
    obtain ⟨r₁, r₂, h1, h2, rfl⟩ := mapE_append_ok hbs
    exact ⟨b :: r₁, r₂, by simp only [mapE, hb, h1, ok_bind, pure_eq_ok], h2, rfl⟩

theorem mapE_append {α β : Type} {f : α → Except Err β} : ∀ {l₁ l₂ : List α} {r₁ r₂ : List β},
    mapE f l₁ = .ok r₁ → mapE f l₂ = .ok r₂ → mapE f (l₁ ++ l₂) = .ok (r₁ ++ r₂)
  | [], _, r₁, _, h1, h2 => by rw [mapE_nil_ok h1]; simpa using h2
  | a :: as, l₂, r₁, r₂, h1, h2 => by
    obtain ⟨b, bs, hb, hbs, rfl⟩ := mapE_cons_ok h1
    have := mapE_append hbs h2
    simp only [List.cons_append, mapE, hb, this, ok_bind, pure_eq_ok]

theorem drop_append_cons {α : Type} (a : List α) (x : α) (X : List α) : (a ++ x :: X).drop (a.length + 1) = X := by
  rw [show a ++ x :: X = (a ++ [x]) ++ X by simp, List.drop_left' (by simp)]

inductive All₂ {α β : Type} (R : α → β → Prop) : List α → List β → Prop
  | nil : All₂ R [] []
  | cons {a : α} {b : β} {as : List α} {bs : List β} : R a b → All₂ R as bs → All₂ R (a :: as) (b :: bs)

theorem All₂.imp {α β : Type} {R S : α → β → Prop} {l : List α} {r : List β} (h : All₂ R l r)
    (hrs : ∀ a b, R a b → S a b) : All₂ S l r := by
  induction h with
  | nil => exact .nil
  | cons hab _ ih => exact .cons (hrs _ _ hab) ih

theorem All₂.mem_right {α β : Type} {R : α → β → Prop} {l : List α} {r : List β} (h : All₂ R l r) {b : β} (hb : b ∈ r) :
    ∃ a ∈ l, R a b := by
  induction h with
  | nil => simp at hb
  | @cons a b' _ _ hab _ ih =>
    rcases List.mem_cons.mp hb with rfl | hb
    · exact ⟨a, by simp, hab⟩
    · obtain ⟨a', ha', hr⟩ := ih hb
      exact ⟨a', by simp [ha'], hr⟩

theorem mapE_all₂ {α β : Type} {f : α → Except Err β} : ∀ {l : List α} {r : List β}, mapE f l = .ok r →
    All₂ (fun a b => f a = .ok b) l r
  | [], r, h => by rw [mapE_nil_ok h]; exact .nil
  | a :: as, r, h => by
    have h' := mapE_cons_ok h
    obtain ⟨b, bs, hb, hbs, rfl⟩ := h'
    exact .cons hb (mapE_all₂ hbs)

mutual
theorem entry_ind {P : Entry → Prop} (hf : ∀ t ty r, P (.field t ty r))
    (hg : ∀ t sub r, (∀ e ∈ sub, P e) → P (.group t sub r)) : (e : Entry) → P e
  | .field t ty r => hf t ty r
  | .group t sub r => hg t sub r (entries_ind hf hg sub)
theorem entries_ind {P : Entry → Prop} (hf : ∀ t ty r, P (.field t ty r))
    (hg : ∀ t sub r, (∀ e ∈ sub, P e) → P (.group t sub r)) : (es : List Entry) → ∀ e ∈ es, P e
  | [] => fun _ h => absurd h (by simp)
  | x :: xs => fun e h => by
    rcases List.mem_cons.mp h with h | h
    · rw [h]; exact entry_ind hf hg x
    · exact entries_ind hf hg xs e h
end

theorem tag_mem_deepTags (e : Entry) : e.tag ∈ deepTags e := by
  cases e <;> simp [deepTags, Entry.tag]

theorem innerTags_sub_deepTags (e : Entry) : ∀ t ∈ innerTags e, t ∈ deepTags e := by
  cases e <;> simp [deepTags, innerTags]
  intro t h; exact Or.inr h

theorem deepTags_sub_deepTagsL {e : Entry} {es : List Entry} (h : e ∈ es) : ∀ t ∈ deepTags e, t ∈ deepTagsL es := by
  induction es with
  | nil => simp at h
  | cons x xs ih =>
    intro t ht
    simp only [deepTagsL, List.mem_append]
    rcases List.mem_cons.mp h with h | h
    · subst h; exact Or.inl ht
    · exact Or.inr (ih h t ht)

theorem tagsOf_sub_deepTagsL (es : List Entry) : ∀ t ∈ tagsOf es, t ∈ deepTagsL es := by
  intro t ht
  simp only [tagsOf, List.mem_map] at ht
  obtain ⟨e, he, rfl⟩ := ht
  exact deepTags_sub_deepTagsL he _ (tag_mem_deepTags e)

theorem nodup_tagsOf {es : List Entry} (h : (deepTagsL es).Nodup) : (tagsOf es).Nodup := by
  induction es with
  | nil => simp [tagsOf]
  | cons x xs ih =>
    simp only [deepTagsL] at h
    rw [List.nodup_append] at h
    obtain ⟨_, h2, h3⟩ := h
    simp only [tagsOf, List.map_cons, List.nodup_cons]
    refine ⟨?_, ih h2⟩
    intro hm
    exact h3 _ (tag_mem_deepTags x) _ (tagsOf_sub_deepTagsL xs _ hm) rfl

theorem nodup_deepTags_of_mem {e : Entry} {es : List Entry} (he : e ∈ es) (h : (deepTagsL es).Nodup) :
    (deepTags e).Nodup := by
  induction es with
  | nil => simp at he
  | cons x xs ih =>
    simp only [deepTagsL] at h
    rw [List.nodup_append] at h
    rcases List.mem_cons.mp he with he | he
    · subst he; exact h.1
    · exact ih he h.2.1

theorem tag_not_inner {es : List Entry} (h : (deepTagsL es).Nodup) :
    ∀ e ∈ es, ∀ e' ∈ es, e'.tag ∉ innerTags e := by
  induction es with
  | nil => intro e he; simp at he
  | cons x xs ih =>
    simp only [deepTagsL] at h
    rw [List.nodup_append] at h
    obtain ⟨h1, h2, h3⟩ := h
    intro e he e' he' hin
    rcases List.mem_cons.mp he with ha | ha <;> rcases List.mem_cons.mp he' with hb | hb
    · rw [ha] at hin; rw [hb] at hin
      cases x with
      | field => simp [innerTags] at hin
      | group t sub r =>
        simp only [deepTags, List.nodup_cons] at h1
        exact h1.1 (by simpa [innerTags, Entry.tag] using hin)
    · rw [ha] at hin
      exact h3 _ (innerTags_sub_deepTags _ _ hin) _ (tagsOf_sub_deepTagsL xs _ (List.mem_map.mpr ⟨e', hb, rfl⟩)) rfl
    · rw [hb] at hin
      exact h3 _ (tag_mem_deepTags _) _ (deepTags_sub_deepTagsL ha _ (innerTags_sub_deepTags _ _ hin)) rfl
    · exact ih h2 e ha e' hb hin

theorem lookupE_some {es : List Entry} {t : Nat} {e : Entry} (h : lookupE es t = some e) : e ∈ es ∧ e.tag = t := by
  induction es with
  | nil => simp [lookupE] at h
  | cons x xs ih =>
    simp only [lookupE] at h
    split at h
    · injection h with h; subst h; exact ⟨by simp, by assumption⟩
    · obtain ⟨h1, h2⟩ := ih h; exact ⟨by simp [h1], h2⟩

theorem lookupE_mem {es : List Entry} (hnd : (tagsOf es).Nodup) {e : Entry} (he : e ∈ es) : lookupE es e.tag = some e := by
  induction es with
  | nil => simp at he
  | cons x xs ih =>
    simp only [tagsOf, List.map_cons, List.nodup_cons] at hnd
    simp only [lookupE]
    rcases List.mem_cons.mp he with he | he
    · subst he; simp
    · have : x.tag ≠ e.tag := by
        intro hx; exact hnd.1 (by rw [hx]; exact List.mem_map.mpr ⟨e, he, rfl⟩)
      simp [this, ih hnd.2 he]

theorem lookupT_tableOf {es : List Entry} (hnd : (tagsOf es).Nodup) {e : Entry} (he : e ∈ es) :
    lookupT (tableOf es) (e.tag : Int) = some (fun bs => entryDec e bs) := by
  induction es with
  | nil => simp at he
  | cons x xs ih =>
    simp only [tagsOf, List.map_cons, List.nodup_cons] at hnd
    simp only [tableOf, lookupT]
    rcases List.mem_cons.mp he with he | he
    · subst he; simp
    · have : x.tag ≠ e.tag := by
        intro hx; exact hnd.1 (by rw [hx]; exact List.mem_map.mpr ⟨e, he, rfl⟩)
      have : ¬ ((x.tag : Int) = (e.tag : Int)) := by omega
      simp [this, ih hnd.2 he]

theorem lookupT_tableOf_none {es : List Entry} {t : Nat} (h : t ∉ tagsOf es) : lookupT (tableOf es) (t : Int) = none := by
  induction es with
  | nil => simp [tableOf, lookupT]
  | cons x xs ih =>
    simp only [tagsOf, List.map_cons, List.mem_cons, not_or] at h
    simp only [tableOf, lookupT]
    have : ¬ ((x.tag : Int) = (t : Int)) := by omega
    simp only [this, if_false]
    exact ih h.2

theorem hasKey_iff {s : Seg} {t : Nat} : hasKey s t = true ↔ t ∈ keysOf s := by
  induction s with
  | nil => simp [hasKey, lookupV, keysOf]
  | cons p s ih =>
    obtain ⟨k, v⟩ := p
    simp only [hasKey, lookupV, keysOf, List.map_cons, List.mem_cons] at ih ⊢
    by_cases hk : k = t
    · simp [hk]
    · have : ¬ t = k := fun h => hk h.symm
      simp [hk, this, ih]

theorem hasKey_false {s : Seg} {t : Nat} (h : t ∉ keysOf s) : hasKey s t = false := by
  cases hh : hasKey s t with
  | false => rfl
  | true => exact absurd (hasKey_iff.mp hh) h

theorem lookupV_mem {s : Seg} {t : Nat} {v : Val} (h : lookupV s t = some v) : (t, v) ∈ s := by
  induction s with
  | nil => simp [lookupV] at h
  | cons p s ih =>
    obtain ⟨k, w⟩ := p
    simp only [lookupV] at h
    split at h
    · injection h with h; subst h; rename_i hk; subst hk; simp
    · simp [ih h]

theorem joinSOH_cons_head (a : Bytes) (l : List Bytes) : ∃ tail, joinSOH (a :: l) = a ++ tail := by
  cases l with
  | nil => exact ⟨[], by simp [joinSOH]⟩
  | cons b l => exact ⟨1 :: joinSOH (b :: l), by simp [joinSOH]⟩

theorem encEntry_field_ok {t : Nat} {ty : FTy} {r : Bool} {v : Val} {b : Bytes} (h : encEntry (.field t ty r) v = .ok b) :
    ∃ vb, tyToBytes ty v = .ok vb ∧ b = fieldBytes t vb := by
  simp only [encEntry] at h
  obtain ⟨vb, hvb, h⟩ := bind_ok_inv h
  exact ⟨vb, hvb, (Except.ok.inj h).symm⟩

theorem encEntry_group_ok {t : Nat} {sub : List Entry} {r : Bool} {insts : List Seg} {b : Bytes}
    (h : encEntry (.group t sub r) (.grp insts) = .ok b) :
    ∃ gs, All₂ (fun inst g => ∃ fbs, encGroupFields sub inst = .ok fbs ∧ g = joinSOH fbs) insts gs ∧
      b = joinSOH (fieldBytes t (intStr (insts.length : Int)) :: gs) := by
  simp only [encEntry] at h
  obtain ⟨gs, hgs, h⟩ := bind_ok_inv h
  refine ⟨gs, (mapE_all₂ hgs).imp ?_, (Except.ok.inj h).symm⟩
  intro inst g hg
  obtain ⟨fbs, hf, hg⟩ := bind_ok_inv hg
  exact ⟨fbs, hf, (Except.ok.inj hg).symm⟩

theorem enc_head {e : Entry} {v : Val} {b : Bytes} (h : encEntry e v = .ok b) :
    ∃ tail, b = natDigits e.tag ++ 61 :: tail := by
  cases e with
  | field t ty r =>
    obtain ⟨vb, _, rfl⟩ := encEntry_field_ok h
    exact ⟨vb, rfl⟩
  | group t sub r =>
    cases v with
    | grp insts =>
      obtain ⟨gs, _, rfl⟩ := encEntry_group_ok h
      obtain ⟨tail, ht⟩ := joinSOH_cons_head (fieldBytes t (intStr (insts.length : Int))) gs
      exact ⟨intStr (insts.length : Int) ++ tail, by rw [ht]; simp [fieldBytes, Entry.tag]⟩
    | _ => simp [encEntry] at h

/-- the head of a segment loop iteration: reading the tag in front of `<tag>=…` -/
theorem tag_read (t : Nat) (tail : Bytes) :
    (match findSub [61] (natDigits t ++ 61 :: tail) with
      | some p => (natDigits t ++ 61 :: tail).take p
      | none => (natDigits t ++ 61 :: tail).dropLast) = natDigits t := by
  rw [findSub_one_append 61 _ _ (natDigits_no t 61 (by decide))]
  simp

theorem segLoop_step (tbl : Table) (fuel t : Nat) (tail : Bytes) (c : Nat) (acc : Seg) :
    segLoop tbl (fuel + 1) (natDigits t ++ 61 :: tail) c acc =
      if hasKey acc t = true then .ok (c, acc) else
      match lookupT tbl (t : Int) with
      | none => .ok (c, acc)
      | some dec => (dec (natDigits t ++ 61 :: tail)) >>= fun r =>
          segLoop tbl fuel ((natDigits t ++ 61 :: tail).drop r.1) (c + r.1) (acc ++ [(t, r.2)]) := by
  rw [segLoop, show (natDigits t ++ 61 :: tail).isEmpty = false by simp]
  have e := findSub_one_append 61 (natDigits t) tail (natDigits_no t 61 (by decide))
  have h0 : (0 : Int) ≤ (t : Int) := by omega
  simp only [Bool.false_eq_true, if_false, e, List.take_left', decodeAscii_natDigits, ok_bind, parseIntAscii_natDigits,
    h0, true_and, Int.toNat_natCast]
  by_cases hk : hasKey acc t = true
  · simp only [hk, if_true]
  · simp only [hk]
    cases lookupT tbl (t : Int) <;> rfl

/-- one field on the wire: the entry it belongs to (`x.1`), the value the segment or instance holds for it (`x.2.1`), and the bytes
    `encEntry x.1 x.2.1` wrote (`x.2.2`) -/
abbrev Item := Entry × Val × Bytes
def itemTags (fs : List Item) : List Nat := fs.map (fun x => x.1.tag)
def wireItems (fs : List Item) : Bytes := termAll (fs.map (fun x => x.2.2))
def canonItems (fs : List Item) : Seg := fs.map (fun x => (x.1.tag, canonVal x.1 x.2.1))

theorem wireItems_cons (x : Item) (fs : List Item) : wireItems (x :: fs) = x.2.2 ++ 1 :: wireItems fs := by
  simp [wireItems, termAll_cons]

theorem wireItems_length_ge (fs : List Item) : fs.length ≤ (wireItems fs).length := by
  induction fs with
  | nil => simp
  | cons x fs ih =>
    rw [wireItems_cons]
    simp
    omega

theorem segLoop_item {es : List Entry} (htn : (tagsOf es).Nodup) {x : Item} (hx : x.1 ∈ es)
    (henc : encEntry x.1 x.2.1 = .ok x.2.2) {acc : Seg} (hk : x.1.tag ∉ keysOf acc) (fuel c : Nat) (X : Bytes) :
    segLoop (tableOf es) (fuel + 1) (x.2.2 ++ 1 :: X) c acc =
      entryDec x.1 (x.2.2 ++ 1 :: X) >>= fun r =>
        segLoop (tableOf es) fuel ((x.2.2 ++ 1 :: X).drop r.1) (c + r.1) (acc ++ [(x.1.tag, r.2)]) := by
  obtain ⟨tl, htl⟩ := enc_head henc
  have hform : x.2.2 ++ 1 :: X = natDigits x.1.tag ++ 61 :: (tl ++ 1 :: X) := by rw [htl]; simp
  rw [hform, segLoop_step, hasKey_false hk, lookupT_tableOf htn hx]
  rfl

theorem containerFromBytes_enc (tbl : Table) (t n : Nat) (gs : List Bytes) (rest : Bytes) :
    containerFromBytes tbl (joinSOH (fieldBytes t (intStr (n : Int)) :: gs) ++ 1 :: rest) =
      (grpLoop tbl n (termAll gs ++ rest) ((fieldBytes t (intStr (n : Int))).length + 1) []) >>= fun r =>
        if (r.2.length : Int) ≠ (n : Int) then .error .value else pure (r.1, .grp r.2) := by
  simp only [containerFromBytes]
  rw [joinSOH_cons_append, fieldFromBytes_count]
  simp only [ok_bind, Int.toNat_natCast, drop_append_cons]

theorem wfFields_mem {es : List Entry} {s : Seg} (h : wfFields es s = true) {t : Nat} {v : Val} (hm : (t, v) ∈ s) :
    ∃ e, lookupE es t = some e ∧ wfVal e v = true := by
  induction s with
  | nil => simp at hm
  | cons p s ih =>
    obtain ⟨k, w⟩ := p
    simp only [wfFields, Bool.and_eq_true] at h
    rcases List.mem_cons.mp hm with hm | hm
    · injection hm with h1 h2
      subst h1; subst h2
      cases hl : lookupE es t with
      | none => rw [hl] at h; simp at h
      | some e => rw [hl] at h; exact ⟨e, rfl, h.1⟩
    · exact ih h.2 hm

theorem wfFields_append (es : List Entry) : ∀ (a b : Seg), wfFields es (a ++ b) = (wfFields es a && wfFields es b)
  | [], _ => by simp [wfFields]
  | (t, v) :: a, b => by simp only [List.cons_append, wfFields, wfFields_append es a b, Bool.and_assoc]

theorem canonSeg_append (es : List Entry) (a b : Seg) : canonSeg es (a ++ b) = canonSeg es a ++ canonSeg es b := by
  simp [canonSeg]

theorem wfVal_of_lookupV {sub : List Entry} (hnd : (tagsOf sub).Nodup) {inst : Seg} (hwf : wfFields sub inst = true)
    {e : Entry} (he : e ∈ sub) {v : Val} (hl : lookupV inst e.tag = some v) : wfVal e v = true := by
  obtain ⟨e', hle, hwv⟩ := wfFields_mem hwf (lookupV_mem hl)
  rw [lookupE_mem hnd he] at hle
  obtain rfl := Option.some.inj hle
  exact hwv

theorem wfVal_group {t : Nat} {sub : List Entry} {r : Bool} {v : Val} (h : wfVal (.group t sub r) v = true) :
    ∃ insts, v = .grp insts ∧ wfInsts sub insts = true := by
  cases v with
  | grp insts => exact ⟨insts, rfl, by simpa only [wfVal] using h⟩
  | _ => simp [wfVal] at h

theorem wfInsts_mem {sub : List Entry} {insts : List Seg} (h : wfInsts sub insts = true) :
    ∀ i ∈ insts, wfFields sub i = true ∧ firstPresent sub i = true ∧ (keysOf i).Nodup := by
  induction insts with
  | nil => intro _ hi; simp at hi
  | cons a as ih =>
    simp only [wfInsts, Bool.and_eq_true, decide_eq_true_eq] at h
    intro i hi
    rcases List.mem_cons.mp hi with rfl | hi
    · exact ⟨h.1.1.1, h.1.1.2, h.1.2⟩
    · exact ih h.2 i hi

/-- a well-formed instance holds the group's first entry, so its first item is that entry -/
theorem items_first {sub : List Entry} {inst : Seg} {fs : List Item}
    (h3 : itemTags fs = (sub.filter (fun e => hasKey inst e.tag)).map Entry.tag) (hfirst : firstPresent sub inst = true) :
    ∃ x fs', fs = x :: fs' ∧ sub.head?.map Entry.tag = some x.1.tag := by
  cases sub with
  | nil => simp [firstPresent] at hfirst
  | cons e1 sub' =>
    simp only [firstPresent] at hfirst
    simp only [List.filter_cons, hfirst, if_true, List.map_cons] at h3
    cases fs with
    | nil => simp [itemTags] at h3
    | cons x fs' =>
      simp only [itemTags, List.map_cons, List.cons.injEq] at h3
      exact ⟨x, fs', rfl, by simp [h3.1]⟩

theorem joinSOH_items (x : Item) (fs : List Item) : joinSOH ((x :: fs).map (fun y => y.2.2)) ++ [1] = wireItems (x :: fs) := by
  rw [List.map_cons, joinSOH_term]
  simp [wireItems]

theorem keys_snoc_items (acc : Seg) (x : Item) (v : Val) (fs : List Item) :
    keysOf (acc ++ [(x.1.tag, v)]) ++ itemTags fs = keysOf acc ++ itemTags (x :: fs) := by
  simp [keysOf, itemTags]

theorem deepTagsL_inner {sub : List Entry} {e : Entry} (he : e ∈ sub) : ∀ t ∈ innerTags e, t ∈ deepTagsL sub :=
  fun t ht => deepTags_sub_deepTagsL he t (innerTags_sub_deepTags e t ht)

theorem goodEnd_of_no_soh {l : Bytes} (hne : l ≠ []) (h : 1 ∉ l) : GoodEnd l := by
  refine ⟨hne, ?_⟩
  intro hl
  rw [List.getLast?_eq_some_iff] at hl
  obtain ⟨ys, rfl⟩ := hl
  exact h (by simp)

theorem goodEnd_fieldBytes (t : Nat) {vb : Bytes} (h : 1 ∉ vb) : GoodEnd (fieldBytes t vb) := by
  unfold fieldBytes
  apply goodEnd_append_right
  apply goodEnd_of_no_soh (by simp)
  intro hm
  rcases List.mem_cons.mp hm with hm | hm
  · exact absurd hm (by decide)
  · exact h hm

theorem deepTagsL_append (a b : List Entry) : deepTagsL (a ++ b) = deepTagsL a ++ deepTagsL b := by
  induction a with
  | nil => simp [deepTagsL]
  | cons x xs ih => simp [deepTagsL, ih]

def termSeg (x : Bytes) : Bytes := if x.isEmpty then [] else x ++ [1]

theorem endsWithSOH_false {b : Bytes} (h : GoodEnd b) : endsWithSOH b = false := by
  unfold endsWithSOH
  cases hb : b.getLast? with
  | none => rfl
  | some x =>
    have : x ≠ 1 := by intro hx; subst hx; exact h.2 hb
    simp [this]

theorem termSeg_nil : termSeg [] = [] := rfl
theorem termSeg_good {b : Bytes} (h : GoodEnd b) : termSeg b = b ++ [1] := by
  unfold termSeg
  have : b.isEmpty = false := by
    cases b with
    | nil => exact absurd rfl h.1
    | cons _ _ => rfl
  simp [this]

theorem termAll_filter (l : List Bytes) : termAll (l.filter (fun x => !x.isEmpty)) = (l.map termSeg).flatten := by
  induction l with
  | nil => rfl
  | cons x l ih =>
    cases hx : x.isEmpty with
    | true => simp [hx, termSeg, ih]
    | false => simp [hx, termSeg, termAll_cons, ih]

/-- `Message.to_bytes`: join of the non-empty segments, then the closing SOH -/
theorem assemble (l : List Bytes) (hl : ∀ x ∈ l, x = [] ∨ GoodEnd x) (hne : ¬ ∀ x ∈ l, x = []) :
    (if endsWithSOH (joinSOH (l.filter (fun x => !x.isEmpty))) = true
      then joinSOH (l.filter (fun x => !x.isEmpty))
      else joinSOH (l.filter (fun x => !x.isEmpty)) ++ [1]) = (l.map termSeg).flatten := by
  rw [← termAll_filter]
  have hg : ∀ x ∈ l.filter (fun x => !x.isEmpty), GoodEnd x := by
    intro x hx
    obtain ⟨hxl, hxe⟩ := List.mem_filter.mp hx
    rcases hl x hxl with rfl | h
    · simp at hxe
    · exact h
  cases hf : l.filter (fun x => !x.isEmpty) with
  | nil =>
    refine absurd (fun x hx => ?_) hne
    cases x with
    | nil => rfl
    | cons c x =>
      have : (c :: x) ∈ l.filter (fun x => !x.isEmpty) := List.mem_filter.mpr ⟨hx, rfl⟩
      rw [hf] at this
      simp at this
  | cons a fl =>
    rw [hf] at hg
    rw [endsWithSOH_false (goodEnd_joinSOH _ (by simp) hg), if_neg (by simp), joinSOH_term]

theorem termSeg_joinSOH (fbs : List Bytes) (h : ∀ x ∈ fbs, GoodEnd x) : termSeg (joinSOH fbs) = termAll fbs := by
  cases fbs with
  | nil => rfl
  | cons a l =>
    rw [termSeg_good (goodEnd_joinSOH _ (by simp) h), joinSOH_term]

theorem joinSOH_nil_or_good (fbs : List Bytes) (h : ∀ x ∈ fbs, GoodEnd x) : joinSOH fbs = [] ∨ GoodEnd (joinSOH fbs) := by
  cases fbs with
  | nil => exact Or.inl rfl
  | cons a l => exact Or.inr (goodEnd_joinSOH _ (by simp) h)

theorem keys_canonFields_eq (es : List Entry) (inst : Seg) :
    keysOf (canonFields es inst) = (es.filter (fun e => hasKey inst e.tag)).map Entry.tag := by
  induction es with
  | nil => simp [canonFields, keysOf]
  | cons x xs ih =>
    simp only [canonFields]
    cases hl : lookupV inst x.tag with
    | none =>
      have hk : hasKey inst x.tag = false := by simp [hasKey, hl]
      simp [hk, ih]
    | some v =>
      have hk : hasKey inst x.tag = true := by simp [hasKey, hl]
      simp only [keysOf, List.map_cons, List.filter_cons, hk, if_true] at ih ⊢
      rw [ih]

theorem keys_canonFields (es : List Entry) (inst : Seg) : ∀ t ∈ keysOf (canonFields es inst), t ∈ tagsOf es := by
  intro t ht
  rw [keys_canonFields_eq] at ht
  obtain ⟨e, he, rfl⟩ := List.mem_map.mp ht
  exact List.mem_map.mpr ⟨e, (List.mem_filter.mp he).1, rfl⟩

theorem lookupV_none_of_not_key {s : Seg} {t : Nat} (h : t ∉ keysOf s) : lookupV s t = none := by
  simpa [hasKey] using hasKey_false h

theorem lookupV_canonFields {sub : List Entry} (hnd : (tagsOf sub).Nodup) (inst : Seg) {e : Entry} (he : e ∈ sub) :
    lookupV (canonFields sub inst) e.tag = (lookupV inst e.tag).map (canonVal e) := by
  induction sub with
  | nil => simp at he
  | cons x xs ih =>
    simp only [tagsOf, List.map_cons, List.nodup_cons] at hnd
    simp only [canonFields]
    rcases List.mem_cons.mp he with hx | hx
    · subst hx
      cases hl : lookupV inst e.tag with
      | none =>
        simp only [Option.map_none]
        apply lookupV_none_of_not_key
        intro hk
        exact hnd.1 (keys_canonFields xs inst _ hk)
      | some v => simp [lookupV]
    · have hne : x.tag ≠ e.tag := by
        intro hh; exact hnd.1 (by rw [hh]; exact List.mem_map.mpr ⟨e, hx, rfl⟩)
      cases hl : lookupV inst x.tag with
      | none => exact ih hnd.2 hx
      | some v =>
        simp only [lookupV, hne, if_false]
        exact ih hnd.2 hx

theorem mapE_congr {α β : Type} {f g : α → Except Err β} : ∀ (l : List α), (∀ a ∈ l, f a = g a) → mapE f l = mapE g l
  | [], _ => rfl
  | a :: as, h => by
    simp only [mapE]
    rw [h a (by simp), mapE_congr as (fun x hx => h x (by simp [hx]))]

theorem mapE_map {α β γ : Type} (f : β → Except Err γ) (g : α → β) : ∀ (l : List α), mapE f (l.map g) = mapE (fun a => f (g a)) l
  | [] => rfl
  | a :: as => by simp only [List.map_cons, mapE]; rw [mapE_map f g as]

mutual
theorem valEq_refl : (v : Val) → valEq v v = true
  | .int _ => by simp [valEq, primEq]
  | .flt _ => by simp [valEq, primEq]
  | .bool _ => by simp [valEq, primEq]
  | .str _ => by simp [valEq, primEq]
  | .grp is => by simp only [valEq]; exact instsEq_refl is
theorem instsEq_refl : (is : List (List (Nat × Val))) → instsEq is is = true
  | [] => by simp [instsEq]
  | i :: is => by simp only [instsEq, Bool.and_eq_true]; exact ⟨segEq_refl i, instsEq_refl is⟩
theorem segEq_refl : (s : List (Nat × Val)) → segEq s s = true
  | [] => by simp [segEq]
  | (k, v) :: s => by
    simp only [segEq, Bool.and_eq_true, beq_self_eq_true, true_and]
    exact ⟨valEq_refl v, segEq_refl s⟩
end

theorem pyEq_refl (m : Msg) : pyEq m m = true := by
  simp [pyEq, segEq_refl]

theorem findFrom_eq (pat bs : Bytes) (start : Nat) (h : start ≤ bs.length) :
    findFrom pat bs start = (findSub pat (bs.drop start)).map (· + start) := by
  unfold findFrom
  have : ¬ start > bs.length := by omega
  simp [this]

theorem value_slice (P ty rest : Bytes) (h1 : 1 ∉ ty) (k : Nat) (hk : k = P.length) :
    findFrom [1] (P ++ 61 :: (ty ++ 1 :: rest)) k = some (k + 1 + ty.length) ∧
    ((P ++ 61 :: (ty ++ 1 :: rest)).take (k + 1 + ty.length)).drop (k + 1) = ty := by
  subst hk
  constructor
  · rw [findFrom_eq _ _ _ (by simp), List.drop_left' rfl,
      show 61 :: (ty ++ 1 :: rest) = (61 :: ty) ++ 1 :: rest by simp,
      findSub_one_append 1 (61 :: ty) rest (by
        intro hm
        rcases List.mem_cons.mp hm with hm | hm
        · exact absurd hm (by decide)
        · exact h1 hm)]
    simp
    omega
  · rw [show P ++ 61 :: (ty ++ 1 :: rest) = ((P ++ [61]) ++ ty) ++ 1 :: rest by simp, List.take_left' (by simp; omega),
      List.drop_left' (by simp)]

theorem getMsgType_first (ty rest : Bytes) (h1 : 1 ∉ ty) (ha : ty.all (· < 128) = true) :
    getMsgType ([51, 53, 61] ++ ty ++ 1 :: rest) = .ok ty := by
  obtain ⟨e1, e2⟩ := value_slice [51, 53] ty rest h1 2 rfl
  rw [show [51, 53, 61] ++ ty ++ 1 :: rest = [51, 53] ++ 61 :: (ty ++ 1 :: rest) by simp]
  have e0 : List.isPrefixOf [51, 53, 61] ([51, 53] ++ 61 :: (ty ++ 1 :: rest)) = true := by
    simp [List.isPrefixOf]
  unfold getMsgType
  simp only [e0, if_true, e1, e2]
  unfold decodeAscii
  rw [if_pos ha]

theorem mapE_ok_of_forall {α β : Type} {f : α → Except Err β} : ∀ (l : List α), (∀ a ∈ l, ∃ b, f a = .ok b) →
    ∃ r, mapE f l = .ok r
  | [], _ => ⟨[], rfl⟩
  | a :: as, h => by
    obtain ⟨b, hb⟩ := h a (by simp)
    obtain ⟨r, hr⟩ := mapE_ok_of_forall as (fun x hx => h x (by simp [hx]))
    exact ⟨b :: r, by simp [mapE, hb, hr]⟩

theorem tyToBytes_ok {ty : FTy} {v : Val} (hw : wfPrim ty v = true) : ∃ b, tyToBytes ty v = .ok b := by
  cases ty <;> cases v <;> simp [wfPrim] at hw
  case int.int i => exact ⟨intStr i, by simp [tyToBytes, encodeAscii, intStr_ascii]⟩
  case float.flt t => exact ⟨t, by simp [tyToBytes, encodeAscii, (ascii_no_soh_of_wfText hw).1]⟩
  case bool.bool x => exact ⟨_, rfl⟩
  case char.str t => exact ⟨t, by simp [tyToBytes, encodeAscii, (ascii_no_soh_of_wfText hw).1]⟩
  case string.str t => exact ⟨t, by simp [tyToBytes, encodeAscii, (ascii_no_soh_of_wfText hw).1]⟩

theorem lookupV_eq_some_iff {s : Seg} (hnd : (keysOf s).Nodup) {t : Nat} {v : Val} : lookupV s t = some v ↔ (t, v) ∈ s := by
  constructor
  · exact lookupV_mem
  · intro hm
    induction s with
    | nil => simp at hm
    | cons p s ih =>
      obtain ⟨k, w⟩ := p
      simp only [keysOf, List.map_cons, List.nodup_cons] at hnd
      simp only [lookupV]
      rcases List.mem_cons.mp hm with hm | hm
      · injection hm with h1 h2; subst h1; subst h2; simp
      · have : k ≠ t := by
          intro hk; subst hk
          exact hnd.1 (List.mem_map.mpr ⟨(k, v), hm, rfl⟩)
        simp only [this, if_false]
        exact ih hnd.2 hm

theorem lookupV_perm {s s' : Seg} (hp : s'.Perm s) (hnd : (keysOf s).Nodup) (t : Nat) : lookupV s' t = lookupV s t := by
  have hnd' : (keysOf s').Nodup := (hp.map Prod.fst).nodup_iff.mpr hnd
  cases h : lookupV s t with
  | some v =>
    rw [lookupV_eq_some_iff hnd] at h
    rw [lookupV_eq_some_iff hnd']
    exact hp.mem_iff.mpr h
  | none =>
    cases h' : lookupV s' t with
    | none => rfl
    | some v =>
      rw [lookupV_eq_some_iff hnd'] at h'
      have := (lookupV_eq_some_iff hnd).mpr (hp.mem_iff.mp h')
      rw [h] at this
      exact absurd this (by simp)

theorem encGroupFields_perm (es : List Entry) {s s' : Seg} (hp : s'.Perm s) (hnd : (keysOf s).Nodup) :
    encGroupFields es s' = encGroupFields es s := by
  induction es with
  | nil => rfl
  | cons x xs ih => simp only [encGroupFields, lookupV_perm hp hnd, ih]

/-- the dictionary of a message class: all tags of header, body and trailer (nested groups included) pairwise distinct -/
def wfDef (d : MsgDef) : Bool := decide (deepTagsL (d.hdr ++ d.body ++ d.trl)).Nodup

/-- a message built from valid values: every segment holds values its entries accept (text ASCII without SOH,
    group instances with distinct known keys that contain the group's first entry), at least one field is set -/
def wfMsg (d : MsgDef) (m : Msg) : Bool :=
  wfSeg d.hdr m.hdr && wfSeg d.body m.body && wfSeg d.trl m.trl &&
  !(m.hdr.isEmpty && m.body.isEmpty && m.trl.isEmpty)

/-- the decoded form of `m`: top-level segments in wire (= assignment) order, group instances in dictionary order -/
def canonMsg (d : MsgDef) (m : Msg) : Msg :=
  { hdr := canonSeg d.hdr m.hdr, body := canonSeg d.body m.body, trl := canonSeg d.trl m.trl }

theorem wfDef_parts {d : MsgDef} (h : wfDef d = true) :
    (deepTagsL d.hdr).Nodup ∧ (deepTagsL d.body).Nodup ∧ (deepTagsL d.trl).Nodup ∧
    (∀ t ∈ deepTagsL d.body, t ∉ deepTagsL d.hdr) ∧ (∀ t ∈ deepTagsL d.trl, t ∉ deepTagsL d.hdr) ∧
    (∀ t ∈ deepTagsL d.trl, t ∉ deepTagsL d.body) := by
  simp only [wfDef, decide_eq_true_eq, deepTagsL_append] at h
  rw [List.nodup_append] at h
  obtain ⟨h1, h2, h3⟩ := h
  rw [List.nodup_append] at h1
  obtain ⟨h11, h12, h13⟩ := h1
  refine ⟨h11, h12, h2, ?_, ?_, ?_⟩
  · intro t ht hh; exact h13 t hh t ht rfl
  · intro t ht hh; exact h3 t (by simp [hh]) t ht rfl
  · intro t ht hh; exact h3 t (by simp [hh]) t ht rfl

theorem valEqDAux_eq (a b : Val) : valEqDAux a b = valEqD a b := by
  cases a <;> cases b <;> simp [valEqDAux, valEqD]

theorem wfFields_keys {es : List Entry} {s : Seg} (h : wfFields es s = true) : ∀ t ∈ keysOf s, t ∈ tagsOf es := by
  intro t ht
  simp only [keysOf, List.mem_map] at ht
  obtain ⟨p, hp, rfl⟩ := ht
  obtain ⟨e, hle, _⟩ := wfFields_mem h (show (p.1, p.2) ∈ s from hp)
  obtain ⟨hm, htag⟩ := lookupE_some hle
  exact List.mem_map.mpr ⟨e, hm, htag⟩

theorem canonFields_length {sub : List Entry} (hnd : (tagsOf sub).Nodup) {inst : Seg} (hwf : wfFields sub inst = true)
    (hk : (keysOf inst).Nodup) : (canonFields sub inst).length = inst.length := by
  have h1 : (keysOf (canonFields sub inst)).Nodup := by
    rw [keys_canonFields_eq]
    exact (List.filter_sublist.map Entry.tag).nodup hnd
  have hperm : (keysOf (canonFields sub inst)).Perm (keysOf inst) := by
    rw [List.perm_ext_iff_of_nodup h1 hk]
    intro t
    rw [keys_canonFields_eq]
    constructor
    · intro ht
      obtain ⟨e, he, rfl⟩ := List.mem_map.mp ht
      simp only [List.mem_filter] at he
      exact hasKey_iff.mp he.2
    · intro ht
      obtain ⟨e, he, rfl⟩ := List.mem_map.mp (wfFields_keys hwf t ht)
      exact List.mem_map.mpr ⟨e, List.mem_filter.mpr ⟨he, hasKey_iff.mpr ht⟩, rfl⟩
  have := hperm.length_eq
  simpa [keysOf] using this

end NasdaqModel.Fix
