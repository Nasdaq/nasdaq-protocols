import NasdaqModel.Model.GenHistory
/-
Lemmas for Props/C17*.lean: the file-system algebra (`read` after `set` / `write` / `wipe`); what a list of truncating writes
leaves in a directory (`lastByName`); the facts about `planGen` that hold for every state; a generator invocation, and
`generate()` of a generator object, expressed through the plan — under truncate-and-reset semantics (`pureGen`) the plan
computed from the initial process state, so that outcome, written files and directory are functions of the invocation alone.
-/
namespace NasdaqModel.GenHistory
open NasdaqModel

@[simp] theorem read_nil (p : Path) : read [] p = none := rfl

theorem read_set_same (fs : FS) (p : Path) (v : List Chunk) : read (set fs p v) p = some v := by
  induction fs with
  | nil => simp [set, read]
  | cons e rest ih =>
    obtain ⟨q, w⟩ := e
    by_cases h : q = p
    · simp [set, read, h]
    · simp [set, read, h, ih]

theorem read_set_other (fs : FS) (p q : Path) (v : List Chunk) (h : q ≠ p) : read (set fs p v) q = read fs q := by
  induction fs with
  | nil =>
    have : p ≠ q := fun e => h e.symm
    simp [set, read, this]
  | cons e rest ih =>
    obtain ⟨r, w⟩ := e
    by_cases h1 : r = p
    · subst h1
      have : r ≠ q := fun e => h e.symm
      simp [set, read, this]
    · by_cases h2 : r = q
      · subst h2
        simp [set, read, h]
      · simp [set, read, h1, h2, ih]

theorem read_write_other (m : Mode) (fs : FS) (p q : Path) (cs : List Chunk) (h : q ≠ p) :
    read (write m fs p cs) q = read fs q := by
  unfold write
  split <;> first | rfl | exact read_set_other _ _ _ _ h

theorem read_write_truncate (fs : FS) (p q : Path) (cs : List Chunk) :
    read (write .truncate fs p cs) q = if q = p then some cs else read fs q := by
  by_cases h : q = p
  · subst h
    simp [write, read_set_same]
  · simp [h, read_write_other _ _ _ _ _ h]

theorem read_write_absent (m : Mode) (fs : FS) (p : Path) (cs : List Chunk) (h : read fs p = none) :
    read (write m fs p cs) p = some cs := by
  unfold write
  cases m <;> simp [h, read_set_same]

theorem read_write_congr (m : Mode) {fs fs' : FS} (p : Path) (cs : List Chunk) (h : read fs p = read fs' p) :
    read (write m fs p cs) p = read (write m fs' p cs) p := by
  unfold write
  rw [h]
  cases m <;> cases h' : read fs' p <;> simp only [read_set_same]
  rw [h, h']

/-- `if f.exists(): return` … `open(f, 'w')`: the file keeps what it held, or gets the new text -/
theorem read_write_ifAbsent (fs : FS) (p : Path) (cs : List Chunk) :
    read (write .ifAbsent fs p cs) p = some ((read fs p).getD cs) := by
  unfold write
  cases h : read fs p with
  | none => simp only [read_set_same, Option.getD_none]
  | some v => simp only [h, Option.getD_some]

theorem read_applyActs_notin (acts : List Action) (fs : FS) (p : Path) (h : ∀ a, a ∈ acts → a.path ≠ p) :
    read (applyActs fs acts) p = read fs p := by
  induction acts generalizing fs with
  | nil => rfl
  | cons a rest ih =>
    simp only [applyActs, List.foldl_cons] at ih ⊢
    rw [ih _ (fun b hb => h b (by simp [hb]))]
    exact read_write_other _ _ _ _ _ (fun e => h a (by simp) e.symm)

theorem read_wipe (fs : FS) (d : Dir) (p : Path) :
    read (wipe fs d) p = if p.1.under d then none else read fs p := by
  induction fs with
  | nil => simp [wipe]
  | cons e rest ih =>
    obtain ⟨q, w⟩ := e
    unfold wipe at ih ⊢
    by_cases hq : q.1.under d = true
    · by_cases hp : q = p
      · subst hp
        simp [List.filter, hq, ih]
      · simp [List.filter, hq, ih, read, hp]
    · have hq' : q.1.under d = false := by simpa using hq
      by_cases hp : q = p
      · subst hp
        simp [List.filter, hq', read]
      · simp [List.filter, hq', read, hp, ih]

theorem under_self (d : Dir) : d.under d = true := by simp [Dir.under]

theorem read_none_of_dirOnly (fs : FS) (d : Dir) (names : List Str) (h : dirOnly fs d names = true) (n : Str)
    (hn : n ∉ names) : read fs (d, n) = none := by
  induction fs with
  | nil => rfl
  | cons e rest ih =>
    obtain ⟨q, w⟩ := e
    simp only [dirOnly, List.all_cons, Bool.and_eq_true] at h
    have ih' := ih (by simpa [dirOnly] using h.2)
    by_cases hq : q = (d, n)
    · subst hq
      simp at h
      exact absurd h.1 hn
    · simp [read, hq, ih']

theorem dirOnly_nil {fs : FS} {d : Dir} (h : dirOnly fs d [] = true) (names : List Str) : dirOnly fs d names = true := by
  simp only [dirOnly, List.all_eq_true, Bool.or_eq_true] at h ⊢
  intro e he
  rcases h e he with h | h
  · exact Or.inl h
  · cases h

def truncOnly (acts : List RelAction) : Bool := acts.all fun a => a.mode = .truncate

theorem lastByName_cons (a : RelAction) (rest : List RelAction) (n : Str) :
    lastByName (a :: rest) n =
      match lastByName rest n with
      | some cs => some cs
      | none => if a.name = n then some a.chunks else none := rfl

theorem lastByName_none (acts : List RelAction) (n : Str) (h : n ∉ acts.map (·.name)) : lastByName acts n = none := by
  induction acts with
  | nil => rfl
  | cons a rest ih =>
    simp only [List.map_cons, List.mem_cons, not_or] at h
    have hne : a.name ≠ n := fun e => h.1 e.symm
    simp [lastByName, ih h.2, hne]

theorem lastByName_some (acts : List RelAction) (n : Str) (h : n ∈ acts.map (·.name)) : (lastByName acts n).isSome = true := by
  induction acts with
  | nil => simp at h
  | cons a rest ih =>
    simp only [List.map_cons, List.mem_cons] at h
    rw [lastByName_cons]
    cases hr : lastByName rest n with
    | some cs => rfl
    | none =>
      rcases h with h | h
      · simp [h]
      · have := ih h
        simp [hr] at this

/-- a list of truncating writes into directory `d`: each file ends up with what the last write to it wrote -/
theorem read_applyActs_trunc (d : Dir) (acts : List RelAction) (ht : truncOnly acts = true) (fs : FS) (n : Str) :
    read (applyActs fs (acts.map (RelAction.at d))) (d, n) =
      match lastByName acts n with
      | some cs => some cs
      | none => read fs (d, n) := by
  induction acts generalizing fs with
  | nil => rfl
  | cons a rest ih =>
    simp only [truncOnly, List.all_cons, Bool.and_eq_true, decide_eq_true_eq] at ht
    have ih' := ih (by simpa [truncOnly] using ht.2) (write a.mode fs (d, a.name) a.chunks)
    simp only [List.map_cons, applyActs, List.foldl_cons, RelAction.at] at ih' ⊢
    rw [ih', lastByName_cons]
    cases hl : lastByName rest n with
    | some cs => rfl
    | none =>
      simp only []
      rw [ht.1, read_write_truncate]
      by_cases h : a.name = n
      · subst h; simp
      · have : (d, n) ≠ (d, a.name) := fun e => h (by injection e with _ e2; exact e2.symm)
        simp [h, this]

theorem read_applyActs_trunc_mem (d : Dir) (acts : List RelAction) (ht : truncOnly acts = true) (fs : FS) (n : Str)
    (hn : n ∈ acts.map (·.name)) : read (applyActs fs (acts.map (RelAction.at d))) (d, n) = lastByName acts n := by
  rw [read_applyActs_trunc d acts ht]
  cases hl : lastByName acts n with
  | some cs => rfl
  | none =>
    have := lastByName_some acts n hn
    rw [hl] at this
    cases this

theorem dirView_applyActs_trunc (d : Dir) (acts : List RelAction) (ht : truncOnly acts = true) (fs : FS)
    (hd : dirOnly fs d (acts.map (·.name)) = true) :
    dirView (applyActs fs (acts.map (RelAction.at d))) d = lastByName acts := by
  funext n
  simp only [dirView]
  rw [read_applyActs_trunc d acts ht]
  cases hl : lastByName acts n with
  | some cs => rfl
  | none =>
    refine read_none_of_dirOnly fs d _ hd n (fun hin => ?_)
    have := lastByName_some acts n hin
    rw [hl] at this
    cases this

theorem dirOnly_wipe (fs : FS) (d : Dir) (names : List Str) : dirOnly (wipe fs d) d names = true := by
  simp only [dirOnly, wipe, List.all_eq_true, List.mem_filter]
  intro e he
  have hu : e.1.1 ≠ d := fun h => by simp [h, under_self] at he
  simp [hu]

theorem dirView_applyPlan_trunc (rp : RelPlan) (d : Dir) (ht : truncOnly rp.acts = true) (fs : FS)
    (hd : rp.wipe = true ∨ dirOnly fs d (rp.acts.map (·.name)) = true) :
    dirView (applyPlan fs (rp.at d)) d = lastByName rp.acts := by
  simp only [applyPlan, RelPlan.at]
  cases hw : rp.wipe with
  | true => exact dirView_applyActs_trunc d rp.acts ht _ (dirOnly_wipe fs d _)
  | false =>
    rcases hd with hd | hd
    · rw [hw] at hd
      cases hd
    · exact dirView_applyActs_trunc d rp.acts ht _ hd

theorem read_applyActs_other (d : Dir) (acts : List RelAction) (fs : FS) (p : Path) (h : p.1 ≠ d) :
    read (applyActs fs (acts.map (RelAction.at d))) p = read fs p := by
  induction acts generalizing fs with
  | nil => rfl
  | cons a rest ih =>
    simp only [List.map_cons, applyActs, List.foldl_cons, RelAction.at] at ih ⊢
    rw [ih]
    apply read_write_other
    intro e
    exact h (by rw [e])

/-- writes into an empty directory: every mode behaves like truncation when no file is written twice -/
theorem read_applyActs_absent (d : Dir) (acts : List RelAction) (hnd : (acts.map (·.name)).Nodup) (fs : FS)
    (hempty : ∀ n, n ∈ acts.map (·.name) → read fs (d, n) = none) (n : Str) :
    read (applyActs fs (acts.map (RelAction.at d))) (d, n) =
      match lastByName acts n with
      | some cs => some cs
      | none => read fs (d, n) := by
  induction acts generalizing fs with
  | nil => rfl
  | cons a rest ih =>
    simp only [List.map_cons, List.nodup_cons] at hnd
    have hfs : ∀ m, m ∈ rest.map (·.name) → read (write a.mode fs (d, a.name) a.chunks) (d, m) = none := by
      intro m hm
      have hne : (d, m) ≠ (d, a.name) := by
        intro e
        injection e with _ e2
        exact hnd.1 (e2 ▸ hm)
      rw [read_write_other _ _ _ _ _ hne]
      exact hempty m (by simp [hm])
    have ih' := ih hnd.2 (write a.mode fs (d, a.name) a.chunks) hfs
    simp only [List.map_cons, applyActs, List.foldl_cons, RelAction.at] at ih' ⊢
    rw [ih', lastByName_cons]
    cases hl : lastByName rest n with
    | some cs => rfl
    | none =>
      simp only []
      by_cases h : a.name = n
      · subst h
        simp [read_write_absent _ _ _ _ (hempty a.name (by simp))]
      · have : (d, n) ≠ (d, a.name) := fun e => h (by injection e with _ e2; exact e2.symm)
        simp [h, read_write_other _ _ _ _ _ this]

theorem pure_flags {sem : Semantics} (hp : pureGen sem = true) :
    sem.genMode = .truncate ∧ sem.resetFieldDefs = true ∧ sem.resetContexts = true ∧ sem.resetCounter = true
      ∧ sem.rebindContexts = true ∧ sem.freshTypeTables = true := by
  simp [pureGen] at hp
  obtain ⟨⟨⟨⟨⟨h1, h2⟩, h3⟩, h4⟩, h5⟩, h6⟩ := hp
  exact ⟨h1, h2, h3, h4, h5, h6⟩

theorem planGen_snd_indep (sem : Semantics) (hp : pureGen sem = true) (st : ProcState) (i : Inv) :
    (planGen sem st i).2 = (planGen sem st0 i).2 := by
  obtain ⟨_, h2, h3, h4, _, h6⟩ := pure_flags hp
  cases i with
  | soup impl spec o =>
    simp only [planGen, planSoup, h2, if_true]
    split
    · rfl
    · split <;> rfl
  | fix spec o =>
    simp only [planGen, planFix, typesFor, h3, h4, h6, if_true]
    cases tableOf spec.version with
    | error e => rfl
    | ok tbl =>
      simp only []
      cases resolveTypes tbl (declared spec) with
      | error e => rfl
      | ok resolved =>
        simp only []
        split <;> rfl
  | asn1 spec pdu pk o => rfl
  | newProject t n a => rfl
  | userEdit p n => rfl

theorem planGen_gens (sem : Semantics) (st : ProcState) (i : Inv) : (planGen sem st i).1.gens = st.gens := by
  cases i with
  | soup impl spec o =>
    simp only [planGen, planSoup]
    split
    · rfl
    · split <;> rfl
  | fix spec o =>
    simp only [planGen, planFix]
    split
    · rfl
    · split
      · rfl
      · split <;> rfl
  | asn1 spec pdu pk o => rfl
  | newProject t n a => rfl
  | userEdit p n => rfl

/-- The actions of a generator's plan, read off `planGen` once: every file is opened in the semantics' `genMode` (the copies
    of the ASN.1 input files with 'w'), and the files are the syntactic `targetNames` (for every semantics and state). -/
theorem planGen_acts (sem : Semantics) (st : ProcState) (i : Inv) (rp : RelPlan) (h : (planGen sem st i).2 = .ok rp) :
    (rp.acts.all fun a => decide (a.mode = sem.genMode) || decide (a.mode = .truncate)) = true ∧
      (i.isGen = true → rp.acts.map (·.name) = targetNames i) := by
  cases i with
  | soup impl spec o =>
    obtain ⟨app, pfx, init, dir, ov⟩ := o
    simp only [planGen, planSoup] at h
    split at h
    · cases h
    · split at h
      · cases h
      · injection h with h; subst h
        cases init <;> simp [targetNames]
  | fix spec o =>
    obtain ⟨app, pfx, init, dir, ov⟩ := o
    simp only [planGen, planFix] at h
    split at h
    · cases h
    · split at h
      · cases h
      · split at h
        · cases h
        · injection h with h; subst h
          cases init <;> simp [targetNames]
  | asn1 spec pdu pk o =>
    obtain ⟨app, pfx, init, dir, ov⟩ := o
    simp only [planGen, planAsn1] at h
    injection h with h; subst h
    cases init <;> simp [targetNames, Function.comp_def, List.all_map]
  | newProject t n a =>
    simp only [planGen] at h
    injection h with h; subst h
    exact ⟨rfl, fun hg => by cases hg⟩
  | userEdit p n =>
    simp only [planGen] at h
    injection h with h; subst h
    exact ⟨rfl, fun hg => by cases hg⟩

/-- A successful FIX plan, read off `planFix` once: the version's table and the resolved types exist, the fields module holds the
    resolved classes, and the groups module — the one file `GenObj.actsNow` replaces — already holds the contexts of the
    resulting state.  (The six file names are told apart by their suffixes, `app.py` / `__init__.py` by their length.) -/
theorem planFix_ok (sem : Semantics) (st : ProcState) (spec : FixSpec) (o : GenOpts) (rp : RelPlan)
    (h : (planFix sem st spec o).2 = .ok rp) :
    ∃ tbl resolved, (typesFor sem st.types spec.version).2 = .ok tbl ∧ resolveTypes tbl (declared spec) = .ok resolved
      ∧ lastByName rp.acts (prefix_ o.pfx ++ sFix ++ o.app ++ sFields ++ sPy)
          = some [.fixFields spec.id spec.fields spec.counts resolved]
      ∧ rp.acts.map (fun a => if a.name = prefix_ o.pfx ++ sFix ++ o.app ++ sGroups ++ sPy
          then { a with chunks := [.fixGroups (prefix_ o.pfx ++ sFix ++ o.app) (planFix sem st spec o).1.contexts] } else a)
          = rp.acts := by
  have hlen : ∀ (x suf : Str), x.length < 12 → suf.length = 7 → ¬ (x = prefix_ o.pfx ++ (sFix ++ (o.app ++ (suf ++ sPy)))) := by
    intro x suf hx hs e
    have := congrArg List.length e
    simp [sFix, sPy, hs] at this
    omega
  have e1 : ¬ (sGroups = sFields) := by decide
  have e2 : ¬ (sBodies = sFields) := by decide
  have e3 : ¬ (sBodies = sGroups) := by decide
  have e4 : ¬ (sMessages = sFields) := by decide
  have e5 : ¬ (sMessages = sGroups) := by decide
  have e6 : ¬ (sFields = sGroups) := by decide
  simp only [planFix] at h ⊢
  split at h
  · cases h
  · split at h
    · cases h
    · split at h
      · cases h
      · rename_i t1 tbl ht t2 resolved hr hv
        injection h with h
        subst h
        refine ⟨tbl, resolved, ht, hr, ?_, ?_⟩
        · cases o.init <;>
            simp [lastByName, e1, e2, e4, hlen (sApp ++ sPy) sFields (by decide) rfl, hlen (sInit ++ sPy) sFields (by decide) rfl]
        · simp only [hv]
          cases o.init <;>
            simp [e3, e5, e6, hlen (sApp ++ sPy) sGroups (by decide) rfl, hlen (sInit ++ sPy) sGroups (by decide) rfl]

theorem planGen_acts_trunc (sem : Semantics) (hp : pureGen sem = true) (st : ProcState) (i : Inv) (rp : RelPlan)
    (h : (planGen sem st i).2 = .ok rp) : truncOnly rp.acts = true := by
  simpa [truncOnly, (pure_flags hp).1] using (planGen_acts sem st i rp h).1

theorem planGen_acts_names (sem : Semantics) (st : ProcState) (i : Inv) (hg : i.isGen = true) (rp : RelPlan)
    (h : (planGen sem st i).2 = .ok rp) : rp.acts.map (·.name) = targetNames i :=
  (planGen_acts sem st i rp h).2 hg

theorem plan_gen (sem : Semantics) (st : ProcState) (i : Inv) (hg : i.isGen = true) :
    plan sem st i =
      ((planGen sem st i).1,
        match (planGen sem st i).2 with
        | .ok rp => .ok (rp.at i.dir)
        | .error e => .error e) := by
  cases i with
  | soup impl spec o =>
    simp only [plan]
    cases (planGen sem st _).2 <;> rfl
  | fix spec o =>
    simp only [plan]
    cases (planGen sem st _).2 <;> rfl
  | asn1 spec pdu pk o =>
    simp only [plan]
    cases (planGen sem st _).2 <;> rfl
  | newProject t n a => cases hg
  | userEdit p n => cases hg

theorem invoke_gen (sem : Semantics) (w : World) (i : Inv) (hg : i.isGen = true) :
    invoke sem w i =
      match (planGen sem w.st i).2 with
      | .ok rp => (⟨(planGen sem w.st i).1, applyPlan w.fs (rp.at i.dir)⟩, .ok ())
      | .error e => (⟨(planGen sem w.st i).1, w.fs⟩, .error e) := by
  simp only [invoke, plan_gen sem w.st i hg]
  cases (planGen sem w.st i).2 <;> rfl

theorem pureGen_current : pureGen current = true := by decide

theorem sharedGroupsOf_pure (sem : Semantics) (hp : pureGen sem = true) (i : Inv) : sharedGroupsOf sem i = none := by
  obtain ⟨_, _, h3, _, h5, _⟩ := pure_flags hp
  cases i <;> simp [sharedGroupsOf, h3, h5]

theorem invoke_pure (sem : Semantics) (hp : pureGen sem = true) (w : World) (i : Inv) (hg : i.isGen = true) (rp : RelPlan)
    (hrp : (planGen sem st0 i).2 = .ok rp) :
    invoke sem w i = (⟨(planGen sem w.st i).1, applyPlan w.fs (rp.at i.dir)⟩, .ok ()) := by
  rw [invoke_gen sem w i hg, planGen_snd_indep sem hp w.st i, hrp]

theorem invoke_outcome_pure (sem : Semantics) (hp : pureGen sem = true) (w : World) (i : Inv) (hg : i.isGen = true) :
    (invoke sem w i).2 =
      match (planGen sem st0 i).2 with
      | .ok _ => .ok ()
      | .error e => .error e := by
  rw [invoke_gen sem w i hg, planGen_snd_indep sem hp w.st i]
  cases (planGen sem st0 i).2 <;> rfl

theorem read_acts_pure (sem : Semantics) (hp : pureGen sem = true) (i : Inv) (hg : i.isGen = true) (rp : RelPlan)
    (hrp : (planGen sem st0 i).2 = .ok rp) (d : Dir) (fs : FS) (n : Str) (hn : n ∈ targetNames i) :
    read (applyActs fs (rp.acts.map (RelAction.at d))) (d, n) = lastByName rp.acts n :=
  read_applyActs_trunc_mem d rp.acts (planGen_acts_trunc sem hp st0 i rp hrp) fs n
    (by rw [planGen_acts_names sem st0 i hg rp hrp]; exact hn)

theorem dirView_acts_pure (sem : Semantics) (hp : pureGen sem = true) (i : Inv) (hg : i.isGen = true) (rp : RelPlan)
    (hrp : (planGen sem st0 i).2 = .ok rp) (d : Dir) (fs : FS) (hd : dirOnly fs d (targetNames i) = true) :
    dirView (applyActs fs (rp.acts.map (RelAction.at d))) d = lastByName rp.acts :=
  dirView_applyActs_trunc d rp.acts (planGen_acts_trunc sem hp st0 i rp hrp) fs
    (by rw [planGen_acts_names sem st0 i hg rp hrp]; exact hd)

theorem read_invoke_pure (sem : Semantics) (hp : pureGen sem = true) (w : World) (i : Inv) (hg : i.isGen = true) (rp : RelPlan)
    (hrp : (planGen sem st0 i).2 = .ok rp) (n : Str) (hn : n ∈ targetNames i) :
    read (invoke sem w i).1.fs (i.dir, n) = lastByName rp.acts n := by
  rw [invoke_pure sem hp w i hg rp hrp]
  exact read_acts_pure sem hp i hg rp hrp i.dir _ n hn

/-- **Key lemma.**  After a successful generator invocation into a directory that held nothing but (possibly) files of the
    same target, or that the plan wipes, the directory is a function of the invocation alone. -/
theorem dirView_invoke_pure (sem : Semantics) (hp : pureGen sem = true) (w : World) (i : Inv)
    (hg : i.isGen = true) (rp : RelPlan) (hrp : (planGen sem st0 i).2 = .ok rp)
    (hd : rp.wipe = true ∨ dirOnly w.fs i.dir (targetNames i) = true) :
    dirView (invoke sem w i).1.fs i.dir = lastByName rp.acts := by
  rw [invoke_pure sem hp w i hg rp hrp]
  apply dirView_applyPlan_trunc rp i.dir (planGen_acts_trunc sem hp st0 i rp hrp)
  rw [planGen_acts_names sem st0 i hg rp hrp]
  exact hd

theorem importAfter_pure (sem : Semantics) (hp : pureGen sem = true) (w : World) (i : Inv) (hg : i.isGen = true) :
    importAfter sem w i =
      match (planGen sem st0 i).2 with
      | .ok rp => importPkg (dirView (invoke sem w i).1.fs i.dir) rp.modules
      | .error e => .error e := by
  simp only [importAfter, plan_gen sem w.st i hg, planGen_snd_indep sem hp w.st i]
  cases (planGen sem st0 i).2 <;> rfl

theorem planGen_ok_of_invoke (sem : Semantics) (hp : pureGen sem = true) (w : World) (i : Inv) (hg : i.isGen = true)
    (hok : (invoke sem w i).2 = .ok ()) : ∃ rp, (planGen sem st0 i).2 = .ok rp := by
  rw [invoke_outcome_pure sem hp w i hg] at hok
  cases hrp : (planGen sem st0 i).2 with
  | error e => rw [hrp] at hok; cases hok
  | ok rp => exact ⟨rp, rfl⟩

theorem planGen_retarget (sem : Semantics) (st : ProcState) (i : Inv) (d : Dir) :
    planGen sem st (i.retarget d) = planGen sem st i := by
  cases i <;> rfl

theorem retarget_isGen (i : Inv) (d : Dir) : (i.retarget d).isGen = i.isGen := by
  cases i <;> rfl

theorem retarget_dir (i : Inv) (d : Dir) (hg : i.isGen = true) : (i.retarget d).dir = d := by
  cases i with
  | newProject t n a => cases hg
  | userEdit p n => cases hg
  | _ => rfl

theorem foldl_keeps {σ ε β : Type} (step : σ → ε → σ) (obs : σ → β) (ok : ε → Bool)
    (h : ∀ s e, ok e = true → obs (step s e) = obs s) :
    ∀ (evs : List ε) (s : σ), evs.all ok = true → obs (evs.foldl step s) = obs s
  | [], _, _ => rfl
  | e :: rest, s, hall => by
    simp only [List.all_cons, Bool.and_eq_true] at hall
    rw [List.foldl_cons, foldl_keeps step obs ok h rest _ hall.2, h s e hall.1]

theorem getGen_setGen_same (l : List (Nat × GenObj)) (k : Nat) (g : GenObj) : getGen (setGen l k g) k = some g := by
  induction l with
  | nil => simp [setGen, getGen]
  | cons e rest ih =>
    obtain ⟨j, h⟩ := e
    by_cases hj : j = k
    · simp [setGen, getGen, hj]
    · simp [setGen, getGen, hj, ih]

theorem getGen_setGen_other (l : List (Nat × GenObj)) (j k : Nat) (g : GenObj) (h : j ≠ k) :
    getGen (setGen l j g) k = getGen l k := by
  induction l with
  | nil => simp [setGen, getGen, h]
  | cons e rest ih =>
    obtain ⟨m, x⟩ := e
    by_cases hm : m = j
    · subst hm
      simp [setGen, getGen, h]
    · by_cases hk : m = k
      · subst hk
        simp [setGen, getGen, hm]
      · simp [setGen, getGen, hm, hk, ih]

theorem gens_invoke (sem : Semantics) (w : World) (i : Inv) : (invoke sem w i).1.st.gens = w.st.gens := by
  have hpl : (plan sem w.st i).1.gens = w.st.gens := by
    cases hg : i.isGen with
    | true => rw [plan_gen sem w.st i hg]; exact planGen_gens sem w.st i
    | false =>
      cases i with
      | newProject t n a => simp only [plan, planNewProject]; split <;> rfl
      | userEdit p n => rfl
      | _ => cases hg
  simp only [invoke]
  cases (plan sem w.st i).2 <;> exact hpl

theorem getGen_construct (sem : Semantics) (w : World) (j k : Nat) (i : Inv) (h : j ≠ k) :
    getGen (construct sem w j i).1.st.gens k = getGen w.st.gens k := by
  simp only [construct]
  cases (planGen sem w.st i).2 with
  | error e => simp only [planGen_gens]
  | ok rp => simp only [getGen_setGen_other _ _ _ _ h, planGen_gens]

theorem st_generate (sem : Semantics) (w : World) (k : Nat) : (generate sem w k).1.st = w.st := by
  simp only [generate]
  cases getGen w.st.gens k <;> rfl

theorem getGen_construct_pure (sem : Semantics) (hp : pureGen sem = true) (w : World) (k : Nat) (i : Inv) (rp : RelPlan)
    (hrp : (planGen sem st0 i).2 = .ok rp) :
    getGen (construct sem w k i).1.st.gens k = some ⟨i.dir, rp.acts, rp.modules, none⟩ := by
  simp only [construct, planGen_snd_indep sem hp w.st i, hrp, sharedGroupsOf_pure sem hp, getGen_setGen_same]

theorem generate_unshared (sem : Semantics) (w : World) (k : Nat) (d : Dir) (acts : List RelAction) (mods : List Str)
    (hobj : getGen w.st.gens k = some ⟨d, acts, mods, none⟩) :
    generate sem w k = (⟨w.st, applyActs w.fs (acts.map (RelAction.at d))⟩, .ok ()) := by
  simp only [generate, hobj, GenObj.actsNow]

/-- `generate()` of an object that holds the plan of `i` and shares nothing, in ANY world: it succeeds, as `i` alone does, and
    every file it writes is the file `i` alone writes. -/
theorem generate_pure_obj (sem : Semantics) (hp : pureGen sem = true) (i : Inv) (hg : i.isGen = true) (rp : RelPlan)
    (hrp : (planGen sem st0 i).2 = .ok rp) (w : World) (k : Nat)
    (hobj : getGen w.st.gens k = some ⟨i.dir, rp.acts, rp.modules, none⟩) :
    (generate sem w k).2 = .ok () ∧ (invoke sem w0 i).2 = .ok ()
    ∧ ∀ n, n ∈ targetNames i → read (generate sem w k).1.fs (i.dir, n) = read (invoke sem w0 i).1.fs (i.dir, n) := by
  rw [generate_unshared sem w k _ _ _ hobj, invoke_pure sem hp w0 i hg rp hrp]
  refine ⟨rfl, rfl, fun n hn => ?_⟩
  rw [← invoke_pure sem hp w0 i hg rp hrp, read_invoke_pure sem hp w0 i hg rp hrp n hn]
  exact read_acts_pure sem hp i hg rp hrp i.dir _ n hn

theorem generate_pure_obj_dir (sem : Semantics) (hp : pureGen sem = true) (i : Inv) (hg : i.isGen = true) (rp : RelPlan)
    (hrp : (planGen sem st0 i).2 = .ok rp) (w : World) (k : Nat)
    (hobj : getGen w.st.gens k = some ⟨i.dir, rp.acts, rp.modules, none⟩)
    (hdir : dirOnly w.fs i.dir (targetNames i) = true) :
    dirView (generate sem w k).1.fs i.dir = dirView (invoke sem w0 i).1.fs i.dir
    ∧ importAfterGenerate sem w k = importAfter sem w0 i := by
  have v1 : dirView (generate sem w k).1.fs i.dir = lastByName rp.acts := by
    rw [generate_unshared sem w k _ _ _ hobj]
    exact dirView_acts_pure sem hp i hg rp hrp i.dir _ hdir
  have v0 := dirView_invoke_pure sem hp w0 i hg rp hrp (Or.inr rfl)
  refine ⟨by rw [v1, v0], ?_⟩
  rw [importAfter_pure sem hp w0 i hg, hrp, v0]
  simp only [importAfterGenerate, hobj, v1]

end NasdaqModel.GenHistory
