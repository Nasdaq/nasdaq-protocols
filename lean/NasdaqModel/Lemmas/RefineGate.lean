import NasdaqModel.Lemmas.RefineRun
import NasdaqModel.Lemmas.RefineReader
/-
`Refine.bstep` gives the byte-level reader a `tick` exactly when the reader task runs its loop body (`polls`: runnable at the top
of `_process`, `_stopped` false) — the condition under which the real reader calls `deserialize()`.  The C03 machine
additionally ignores ticks once ITS `stopped` flag is set (set when `stop()` is entered, earlier than `_stopped`).  This file
shows the two never disagree: in every reachable state, a byte-level reader that has stopped is never polled again — its task is
inside `close()` until `_stopped` is set.
-/
namespace NasdaqModel.Refine
open NasdaqModel Py
open NasdaqModel.Framing (Proto R Consuming Settled)
open NasdaqModel.Sess (St Cfg Frame Tid msgsOf rcore atLoop RGone RFrame polls_iff)

variable {μ : Type}

theorem RGone.not_polls {s : St} (h : RGone s) : polls s = false := by
  cases hp : polls s with
  | false => rfl
  | true =>
    obtain ⟨⟨_, h2⟩, h3⟩ := (polls_iff s).1 hp
    rcases h with h | h
    · rw [h3] at h; cases h
    · rw [h2] at h; cases h

/-- the gate: a stopped byte-level reader's task is on its way through `close()` -/
def Gate (b : BSt μ) : Prop := b.r.stopped = true → RGone b.s

theorem Gate.step {P : Proto μ} {st : Bytes → Bool} (F : Framer P st) (num : μ → Nat) (cfg : Cfg) {b : BSt μ}
    (h : PInv P num st b) (hB : Sess.InvB b.s) (g : Gate b) (e : BEv) : Gate (bstep P num cfg b e) := by
  intro hst'
  cases e with
  | bytes seg =>
    rw [bstep_bytes] at hst' ⊢
    simp only [Framing.step_data_stopped] at hst'
    exact RGone.of_frame (Sess.rf_step cfg b.s (.data (newFrames P num b.r seg)) (by simp) (by simp)) (g hst')
  | ev e =>
    by_cases hd : ∃ fs, e = .data fs
    · obtain ⟨fs, rfl⟩ := hd
      rw [bstep_data] at hst' ⊢
      exact g hst'
    · have hd' : ∀ fs, e ≠ .data fs := fun fs he => hd ⟨fs, he⟩
      rw [bstep_ev_s P num cfg b e hd']
      cases hst : b.r.stopped with
      | true => exact Sess.rg_step cfg b.s hB (h.rel.dead hst).2 (g hst) e
      | false =>
        -- the byte-level reader stops in this very step: it is the poll that meets the logout / malformed frame
        by_cases hR : e = .run .R ∧ polls b.s = true
        · obtain ⟨rfl, hp⟩ := hR
          rw [bstep_run_R, hp] at hst'
          simp only [if_true] at hst'
          obtain ⟨hl, hrs⟩ := (polls_iff _).1 hp
          rcases tick_toks P F.consuming b.r hst with i | ⟨k, t⟩ | ⟨m, rest, t⟩
          · rw [i.step, hst] at hst'; cases hst'
          · have hb : b.s.buf = [k.frame num] := by rw [h.rel.live hst, Toks.frames, t.toks]; rfl
            have hf : k.frame num = .logout ∨ k.frame num = .bad := by
              rcases t.kind with rfl | rfl
              · exact Or.inr rfl
              · exact Or.inl rfl
            rw [Sess.poll_eq_stop cfg b.s hl hrs hb hf]
            exact Sess.rg_enterClose cfg _
          · rw [t.running] at hst'; cases hst'
        · exfalso
          have : (bstep P num cfg b (.ev e)).r = b.r := by
            by_cases he : e = .run .R
            · subst he
              have hp : polls b.s = false := by
                cases hp : polls b.s with
                | false => rfl
                | true => exact absurd ⟨rfl, hp⟩ hR
              rw [bstep_run_R, hp]; rfl
            · exact bstep_ev_r P num cfg b e he
          rw [this, hst] at hst'; cases hst'

theorem gate_fold {P : Proto μ} {st : Bytes → Bool} (F : Framer P st) (num : μ → Nat) (cfg : Cfg) :
    ∀ (evs : List BEv) (b : BSt μ), PInv P num st b → Sess.InvA cfg b.s → Sess.InvR b.s → Sess.InvB b.s → Gate b →
      stable P st (b.all ++ bytesOf evs) = true → Gate (bfold P num cfg b evs) := by
  intro evs
  induction evs with
  | nil => intro b _ _ _ _ g _; exact g
  | cons e es ih =>
    intro b h ha hr hB g hs
    rw [bfold_cons]
    have hall : (bstep P num cfg b e).all ++ bytesOf es = b.all ++ bytesOf (e :: es) := by
      cases e with
      | bytes seg => simp [bstep_bytes, bytesOf]
      | ev e => rw [bstep_ev_all]; rfl
    have h1 : PInv P num st (bstep P num cfg b e) :=
      h.step F num cfg e (stable_prefix F _ (bytesOf es) (by rw [hall]; exact hs))
    have inv : Sess.InvA cfg (bstep P num cfg b e).s ∧ Sess.InvR (bstep P num cfg b e).s ∧ Sess.InvB (bstep P num cfg b e).s := by
      cases e with
      | bytes seg =>
        rw [bstep_bytes]
        exact ⟨Sess.step_InvA ha (.data (newFrames P num b.r seg)), Sess.step_InvR ha hr (.data (newFrames P num b.r seg)),
          Sess.step_InvB ha hr hB (.data (newFrames P num b.r seg))⟩
      | ev e =>
        by_cases hd : ∃ fs, e = .data fs
        · obtain ⟨fs, rfl⟩ := hd
          rw [bstep_data]; exact ⟨ha, hr, hB⟩
        · rw [bstep_ev_s P num cfg b e (fun fs he => hd ⟨fs, he⟩)]
          exact ⟨Sess.step_InvA ha _, Sess.step_InvR ha hr _, Sess.step_InvB ha hr hB _⟩
    exact ih _ h1 inv.1 inv.2.1 inv.2.2 (g.step F num cfg h hB e) (by rw [hall]; exact hs)

/-- **a byte-level reader that has stopped is never polled again**: in every reachable state of every byte-level history the
    tick gate of `bstep` (`polls`) and the C03 machine's own `stopped` check agree -/
theorem stopped_never_polls {P : Proto μ} {st : Bytes → Bool} (F : Framer P st) (num : μ → Nat) (cfg : Cfg) (evs : List BEv)
    (hs : stable P st (bytesOf evs) = true) (h : (brun P num cfg evs).r.stopped = true) :
    polls (brun P num cfg evs).s = false := by
  have g := gate_fold F num cfg evs {} (PInv.init P num st) (Sess.InvA.init cfg) Sess.InvR.init Sess.InvB.init
    (fun h0 => by cases h0) (by simpa using hs)
  exact RGone.not_polls (g h)

end NasdaqModel.Refine
