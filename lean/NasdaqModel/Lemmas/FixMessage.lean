import NasdaqModel.Lemmas.FixShared
/-
What else holds of every entry of a level-distinct dictionary (`ldEntry`, induction `ld_ind`): the last byte of an encoding (`EndOK`),
encoding never raises (`EncOK`), re-encoding the canonical form (`ReOK`), `==` with group instances compared as dicts (`EqDOK`); then
whole messages: `encMsg_wire`, `msgFromBytes_iff` (the class decodes the bytes to the canonical form exactly under `countEndsS`), the
round trip `decodeMsg_shared`, and the special case of pairwise distinct tags (`wfDef`), where `countEndsS` holds of every well-formed
message.
-/
namespace NasdaqModel.Fix
open NasdaqModel Py

def EndOK (e : Entry) : Prop := ∀ v b, wfVal e v = true → encEntry e v = .ok b → GoodEnd b

theorem endOK_all : ∀ e : Entry, ldEntry e = true → EndOK e := by
  apply ld_ind
  · intro t ty r v b hwf henc
    obtain ⟨vb, hvb, rfl⟩ := encEntry_field_ok henc
    exact goodEnd_fieldBytes t (prim_roundtrip (by simpa only [wfVal] using hwf) hvb).1
  · intro t sub r htn _ ih v b hwf henc
    obtain ⟨insts, rfl, hwf⟩ := wfVal_group hwf
    obtain ⟨gs, hgs, rfl⟩ := encEntry_group_ok henc
    apply goodEnd_joinSOH _ (by simp)
    intro g hg
    rcases List.mem_cons.mp hg with rfl | hg
    · exact goodEnd_fieldBytes t (intStr_no_soh _)
    · -- an instance: the join of its items, and there is at least one
      obtain ⟨inst, hinst, fbs, hf, rfl⟩ := hgs.mem_right hg
      obtain ⟨hwff, hfirst, _⟩ := wfInsts_mem hwf inst hinst
      obtain ⟨fs, h1, h2, h3, _, _⟩ := encGroupFields_items sub htn inst hwff fbs hf
      obtain ⟨x, fs', rfl, _⟩ := items_first h3 hfirst
      rw [← h1]
      apply goodEnd_joinSOH _ (by simp)
      intro y hy
      obtain ⟨it, hit, rfl⟩ := List.mem_map.mp hy
      obtain ⟨hm, hw, he⟩ := h2 it hit
      exact ih it.1 hm it.2.1 it.2.2 hw he

theorem encSegFields_good (es : List Entry) (hld : ∀ e ∈ es, ldEntry e = true) (s : Seg) (fbs : List Bytes)
    (hwf : wfSeg es s = true) (henc : encSegFields es s = .ok fbs) :
    (∀ x ∈ fbs, GoodEnd x) ∧ (fbs = [] ↔ s = []) := by
  simp only [wfSeg, Bool.and_eq_true, decide_eq_true_eq] at hwf
  obtain ⟨fs, h1, h2, h3, _, _⟩ := encSegFields_items es s fbs hwf.1 henc
  constructor
  · intro x hx
    rw [← h1] at hx
    obtain ⟨it, hit, rfl⟩ := List.mem_map.mp hx
    obtain ⟨hm, hw, he⟩ := h2 it hit
    exact endOK_all it.1 (hld _ hm) it.2.1 it.2.2 hw he
  · have hl : fbs.length = s.length := by
      rw [← h1, List.length_map]
      have := congrArg List.length h3
      simpa [itemTags, keysOf] using this
    constructor
    · intro h; rw [h] at hl; exact List.eq_nil_of_length_eq_zero hl.symm
    · intro h; rw [h] at hl; exact List.eq_nil_of_length_eq_zero hl

def ReOK (e : Entry) : Prop := ∀ v, encEntry e (canonVal e v) = encEntry e v

theorem reOK_all : ∀ e : Entry, ldEntry e = true → ReOK e := by
  apply ld_ind
  · intro t ty r v
    rw [canonVal_field]
  · intro t sub r htn _ ih v
    cases v with
    | grp insts =>
      -- the walk is over a tail `es'` of the group's entries while lookups go on in all of `sub`: induct on `es'` with `sub` fixed, then
      -- take `es' := sub` (the same generalisation in `encOK_all`, `eqDOK_all`, `ceOK_all`, `canonVal_idem`, `ce_fields_iff`)
      have hfields : ∀ (inst : Seg) (es' : List Entry), (∀ e ∈ es', e ∈ sub) →
          encGroupFields es' (canonFields sub inst) = encGroupFields es' inst := by
        intro inst es'
        induction es' with
        | nil => intro _; simp [encGroupFields]
        | cons x xs ihx =>
          intro hsub
          have hx : x ∈ sub := hsub x (by simp)
          simp only [encGroupFields]
          rw [lookupV_canonFields htn inst hx, ihx (fun e he => hsub e (by simp [he]))]
          cases hl : lookupV inst x.tag with
          | none => simp
          | some v =>
            simp only [Option.map_some]
            rw [ih x hx v]
      simp only [canonVal, encEntry, List.length_map]
      rw [mapE_map]
      rw [mapE_congr insts (g := fun inst => do let fs ← encGroupFields sub inst; pure (joinSOH fs))]
      intro inst _
      simp only [hfields inst sub (fun e he => he)]
    | _ => simp [canonVal]

theorem encSegFields_canon (es : List Entry) (hld : ∀ e ∈ es, ldEntry e = true) (s : Seg) :
    encSegFields es (canonSeg es s) = encSegFields es s := by
  simp only [encSegFields, canonSeg]
  rw [mapE_map]
  apply mapE_congr
  intro p _
  simp only
  cases hl : lookupE es p.1 with
  | none => rfl
  | some e =>
    simp only
    exact reOK_all e (hld _ (lookupE_some hl).1) p.2

def EncOK (e : Entry) : Prop := ∀ v, wfVal e v = true → ∃ b, encEntry e v = .ok b

theorem encOK_all : ∀ e : Entry, ldEntry e = true → EncOK e := by
  apply ld_ind
  · intro t ty r v hwf
    obtain ⟨b, hb⟩ := tyToBytes_ok (by simpa only [wfVal] using hwf)
    exact ⟨fieldBytes t b, by simp [encEntry, hb]⟩
  · intro t sub r htn _ ih v hwf
    obtain ⟨insts, rfl, hwf⟩ := wfVal_group hwf
    have hfields : ∀ (inst : Seg), wfFields sub inst = true → ∀ (es' : List Entry), (∀ e ∈ es', e ∈ sub) →
        ∃ fbs, encGroupFields es' inst = .ok fbs := by
      intro inst hwff es'
      induction es' with
      | nil => intro _; exact ⟨[], rfl⟩
      | cons x xs ihx =>
        intro hsub
        have hx : x ∈ sub := hsub x (by simp)
        obtain ⟨r', hr'⟩ := ihx (fun e he => hsub e (by simp [he]))
        simp only [encGroupFields]
        cases hl : lookupV inst x.tag with
        | none => exact ⟨r', hr'⟩
        | some v =>
          obtain ⟨b, hb⟩ := ih x hx v (wfVal_of_lookupV htn hwff hx hl)
          exact ⟨b :: r', by simp [hb, hr']⟩
    obtain ⟨gs, hgs⟩ := mapE_ok_of_forall (f := fun inst => do let fs ← encGroupFields sub inst; pure (joinSOH fs)) insts
      (by
        intro inst hin
        obtain ⟨fbs, hf⟩ := hfields inst (wfInsts_mem hwf inst hin).1 sub (fun e he => he)
        exact ⟨joinSOH fbs, by simp [hf]⟩)
    exact ⟨joinSOH (fieldBytes t (intStr (insts.length : Int)) :: gs), by simp only [encEntry]; rw [hgs]; rfl⟩

theorem encSegFields_ok (es : List Entry) (hld : ∀ e ∈ es, ldEntry e = true) (s : Seg) (hwf : wfFields es s = true) :
    ∃ fbs, encSegFields es s = .ok fbs := by
  apply mapE_ok_of_forall
  intro p hp
  obtain ⟨e, hle, hwv⟩ := wfFields_mem hwf (show (p.1, p.2) ∈ s from hp)
  simp only [hle]
  exact encOK_all e (hld _ (lookupE_some hle).1) p.2 hwv

def EqDOK (e : Entry) : Prop := ∀ v, wfVal e v = true → valEqD (canonVal e v) v = true

theorem eqDOK_all : ∀ e : Entry, ldEntry e = true → EqDOK e := by
  apply ld_ind
  · intro t ty r v hwf
    rw [canonVal_field]
    exact valEqD_self_of_wfPrim (by simpa only [wfVal] using hwf)
  · intro t sub r htn _ ih v hwf
    obtain ⟨insts, rfl, hwi⟩ := wfVal_group hwf
    clear hwf
    simp only [canonVal, valEqD]
    induction insts with
    | nil => simp [instsEqD]
    | cons inst insts ihi =>
      simp only [wfInsts, Bool.and_eq_true, decide_eq_true_eq] at hwi
      obtain ⟨⟨⟨hwff, _⟩, hkeys⟩, hwf'⟩ := hwi
      simp only [List.map_cons, instsEqD, Bool.and_eq_true, decide_eq_true_eq]
      refine ⟨⟨canonFields_length htn hwff hkeys, ?_⟩, ihi hwf'⟩
      have key : ∀ es' : List Entry, (∀ e ∈ es', e ∈ sub) → subDictD (canonFields es' inst) inst = true := by
        intro es'
        induction es' with
        | nil => intro _; simp [canonFields, subDictD]
        | cons x xs ihx =>
          intro hsub
          have hx : x ∈ sub := hsub x (by simp)
          simp only [canonFields]
          cases hl : lookupV inst x.tag with
          | none => exact ihx (fun e he => hsub e (by simp [he]))
          | some v =>
            simp only [subDictD, hl, Bool.and_eq_true]
            refine ⟨?_, ihx (fun e he => hsub e (by simp [he]))⟩
            rw [valEqDAux_eq]
            exact ih x hx v (wfVal_of_lookupV htn hwff hx hl)
      exact key sub (fun e he => he)

theorem segEqTop_canon (es : List Entry) (hld : ∀ e ∈ es, ldEntry e = true) :
    ∀ (s : Seg), wfFields es s = true → segEqTop (canonSeg es s) s = true
  | [], _ => by simp [canonSeg, segEqTop]
  | (k, v) :: s, hwf => by
    simp only [wfFields, Bool.and_eq_true] at hwf
    cases hl : lookupE es k with
    | none => rw [hl] at hwf; simp at hwf
    | some e =>
      rw [hl] at hwf
      have ih := segEqTop_canon es hld s hwf.2
      simp only [canonSeg, List.map_cons, hl, segEqTop, beq_self_eq_true, Bool.true_and, Bool.and_eq_true] at ih ⊢
      exact ⟨eqDOK_all e (hld _ (lookupE_some hl).1) v hwf.1, ih⟩

/-- every segment of the message class is level-distinct (tags may recur at different levels and in different groups) -/
def wfDefLevels (d : MsgDef) : Bool := ldLevel d.hdr && ldLevel d.body && ldLevel d.trl

theorem wfDefLevels_parts {d : MsgDef} (h : wfDefLevels d = true) :
    ldLevel d.hdr = true ∧ ldLevel d.body = true ∧ ldLevel d.trl = true := by
  simp only [wfDefLevels, Bool.and_eq_true] at h
  exact ⟨h.1.1, h.1.2, h.2⟩

theorem wfDefLevels_of_wfDef {d : MsgDef} (hd : wfDef d = true) : wfDefLevels d = true := by
  obtain ⟨nh, nb, nt, _, _, _⟩ := wfDef_parts hd
  simp only [wfDefLevels, Bool.and_eq_true]
  exact ⟨⟨ldLevel_of_nodup nh, ldLevel_of_nodup nb⟩, ldLevel_of_nodup nt⟩

theorem encSeg_ok {es : List Entry} {s : Seg} {b : Bytes} (h : encSeg es s = .ok b) :
    ∃ fbs, encSegFields es s = .ok fbs ∧ b = joinSOH fbs := by
  simp only [encSeg] at h
  obtain ⟨fbs, hf, h⟩ := bind_ok_inv h
  exact ⟨fbs, hf, (Except.ok.inj h).symm⟩

theorem encMsg_wire {d : MsgDef} {m : Msg} {bs : Bytes} (hd : wfDefLevels d = true) (hm : wfMsg d m = true)
    (henc : encMsg d m = .ok bs) :
    ∃ fh fb ft, encSegFields d.hdr m.hdr = .ok fh ∧ encSegFields d.body m.body = .ok fb ∧
      encSegFields d.trl m.trl = .ok ft ∧ bs = termAll fh ++ termAll fb ++ termAll ft := by
  obtain ⟨lh, lb, lt⟩ := wfDefLevels_parts hd
  have nh := (ldLevel_parts lh).2
  have nb := (ldLevel_parts lb).2
  have nt := (ldLevel_parts lt).2
  simp only [wfMsg, Bool.and_eq_true, Bool.not_eq_true', Bool.and_eq_false_iff] at hm
  obtain ⟨⟨⟨wh, wb⟩, wt⟩, hne⟩ := hm
  simp only [encMsg] at henc
  obtain ⟨h, hh, henc⟩ := bind_ok_inv henc
  obtain ⟨b, hb, henc⟩ := bind_ok_inv henc
  obtain ⟨t, ht, henc⟩ := bind_ok_inv henc
  obtain ⟨fh, hfh, rfl⟩ := encSeg_ok hh
  obtain ⟨fb, hfb, rfl⟩ := encSeg_ok hb
  obtain ⟨ft, hft, rfl⟩ := encSeg_ok ht
  have henc := Except.ok.inj henc
  obtain ⟨gh, eh⟩ := encSegFields_good d.hdr nh m.hdr fh wh hfh
  obtain ⟨gb, eb⟩ := encSegFields_good d.body nb m.body fb wb hfb
  obtain ⟨gt, et⟩ := encSegFields_good d.trl nt m.trl ft wt hft
  refine ⟨fh, fb, ft, hfh, hfb, hft, ?_⟩
  rw [← henc, assemble [joinSOH fh, joinSOH fb, joinSOH ft]]
  · simp [termSeg_joinSOH fh gh, termSeg_joinSOH fb gb, termSeg_joinSOH ft gt]
  · simp only [List.mem_cons, List.mem_nil_iff, or_false, forall_eq_or_imp, forall_eq]
    exact ⟨joinSOH_nil_or_good fh gh, joinSOH_nil_or_good fb gb, joinSOH_nil_or_good ft gt⟩
  · intro hall
    have e1 : m.hdr = [] := eh.mp ((joinSOH_eq_nil_iff fh (fun x hx => (gh x hx).1)).mp (hall _ (by simp)))
    have e2 : m.body = [] := eb.mp ((joinSOH_eq_nil_iff fb (fun x hx => (gb x hx).1)).mp (hall _ (by simp)))
    have e3 : m.trl = [] := et.mp ((joinSOH_eq_nil_iff ft (fun x hx => (gt x hx).1)).mp (hall _ (by simp)))
    simp [e1, e2, e3] at hne

def firstKey (s : Seg) : Option Nat := s.head?.map Prod.fst

def ceSeg (es : List Entry) (s : Seg) (follow : Option Nat) : Bool := levelOK es s follow && ceTop es s follow

/-- **the count is what ends every group of the message** (any depth): the fuel-free form of `Props.C13Shared.countEnds` -/
def countEndsS (d : MsgDef) (m : Msg) : Bool :=
  ceSeg d.hdr m.hdr ((firstKey m.body).orElse fun _ => firstKey m.trl) &&
  ceSeg d.body m.body (firstKey m.trl) && ceSeg d.trl m.trl none

theorem firstKey_orElse (s : Seg) (follow : Option Nat) : ((firstKey s).orElse fun _ => follow) = tagOr (keysOf s) follow := by
  cases s with
  | nil => simp [firstKey, keysOf, tagOr]
  | cons p s => simp [firstKey, keysOf, tagOr]

theorem next_of_fields {es : List Entry} {s : Seg} {fbs : List Bytes} {rest : Bytes} {follow : Option Nat}
    (hwf : wfFields es s = true) (henc : encSegFields es s = .ok fbs) (h : Next follow rest) :
    Next ((firstKey s).orElse fun _ => follow) (termAll fbs ++ rest) := by
  obtain ⟨fs, h1, h2, h3, _, _⟩ := encSegFields_items es s fbs hwf henc
  have hw : termAll fbs = wireItems fs := by simp [wireItems, h1]
  rw [hw, firstKey_orElse, ← h3, ← headTag_eq]
  exact next_wireItems fs rest follow (fun x hx => (h2 x hx).2.2) h

theorem msgFromBytes_iff (d : MsgDef) (m : Msg) (bs : Bytes) (n : Nat)
    (hd : wfDefLevels d = true) (hm : wfMsg d m = true) (henc : encMsg d m = .ok bs) :
    msgFromBytes d bs = .ok (n, canonMsg d m) ↔ n = bs.length ∧ countEndsS d m = true := by
  obtain ⟨fh, fb, ft, hfh, hfb, hft, rfl⟩ := encMsg_wire hd hm henc
  obtain ⟨lh, lb, lt⟩ := wfDefLevels_parts hd
  simp only [wfMsg, Bool.and_eq_true] at hm
  obtain ⟨⟨⟨wh, wb⟩, wt⟩, _⟩ := hm
  have wb' := wb; have wt' := wt
  simp only [wfSeg, Bool.and_eq_true] at wb' wt'
  have n3 : Next (firstKey m.trl) (termAll ft) := by
    have := next_of_fields (rest := []) (follow := none) wt'.1 hft rfl
    simpa using this
  have n2 : Next ((firstKey m.body).orElse fun _ => firstKey m.trl) (termAll fb ++ termAll ft) :=
    next_of_fields wb'.1 hfb n3
  have s1 := fun k => segFromBytes_seg_iff d.hdr lh m.hdr fh wh hfh (termAll fb ++ termAll ft) _ n2 k
  have s2 := fun k => segFromBytes_seg_iff d.body lb m.body fb wb hfb (termAll ft) _ n3 k
  have s3 := fun k => segFromBytes_seg_iff d.trl lt m.trl ft wt hft [] none rfl k
  simp only [List.append_nil] at s3
  rw [List.append_assoc]
  simp only [msgFromBytes, countEndsS, ceSeg, Bool.and_eq_true, canonMsg]
  constructor
  · intro h
    obtain ⟨rh, hrh, h⟩ := bind_ok_inv h
    obtain ⟨rb, hrb, h⟩ := bind_ok_inv h
    obtain ⟨rt, hrt, h⟩ := bind_ok_inv h
    obtain ⟨hn, hmsg⟩ := Prod.mk.inj (Except.ok.inj h)
    obtain ⟨e1, e2, e3⟩ := Msg.mk.inj hmsg
    obtain ⟨a1, c1⟩ := (s1 rh.1).mp (by rw [hrh, ← e1])
    rw [a1, List.drop_left' rfl] at hrb hrt
    obtain ⟨a2, c2⟩ := (s2 rb.1).mp (by rw [hrb, ← e2])
    rw [a2, List.drop_left' rfl] at hrt
    obtain ⟨a3, c3⟩ := (s3 rt.1).mp (by rw [hrt, ← e3])
    refine ⟨?_, ⟨c1, c2⟩, c3⟩
    rw [← hn, a1, a2, a3]
    simp [Nat.add_assoc]
  · intro ⟨hn, ⟨c1, c2⟩, c3⟩
    rw [(s1 _).mpr ⟨rfl, c1⟩]
    simp only [ok_bind, List.drop_left', (s2 _).mpr ⟨rfl, c2⟩, (s3 _).mpr ⟨rfl, c3⟩, pure_eq_ok, hn, List.length_append,
      Nat.add_assoc]

theorem decodeMsg_shared (reg : List MsgDef) (d : MsgDef) (m : Msg) (bs : Bytes)
    (hd : wfDefLevels d = true) (hm : wfMsg d m = true) (hc : countEndsS d m = true) (henc : encMsg d m = .ok bs)
    (hty : getMsgType bs = .ok d.type) (hreg : lookupReg reg d.type = some d) :
    decodeMsg reg bs = .ok (bs.length, d, canonMsg d m) := by
  simp only [decodeMsg, hty, ok_bind, hreg, (msgFromBytes_iff d m bs _ hd hm henc).mpr ⟨rfl, hc⟩, pure_eq_ok]

theorem countEndsS_of_decode (reg : List MsgDef) (d : MsgDef) (m : Msg) (bs : Bytes) (n : Nat)
    (hd : wfDefLevels d = true) (hm : wfMsg d m = true) (henc : encMsg d m = .ok bs)
    (hty : getMsgType bs = .ok d.type) (hreg : lookupReg reg d.type = some d)
    (h : decodeMsg reg bs = .ok (n, d, canonMsg d m)) : countEndsS d m = true := by
  simp only [decodeMsg, hty, ok_bind, hreg] at h
  obtain ⟨r, hr, h⟩ := bind_ok_inv h
  have h2 := (Prod.mk.inj (Prod.mk.inj (Except.ok.inj h)).2).2
  exact ((msgFromBytes_iff d m bs r.1 hd hm henc).mp (by rw [hr, ← h2])).2

theorem encMsg_canon (d : MsgDef) (m : Msg) (hd : wfDefLevels d = true) : encMsg d (canonMsg d m) = encMsg d m := by
  obtain ⟨lh, lb, lt⟩ := wfDefLevels_parts hd
  simp only [encMsg, encSeg, canonMsg, encSegFields_canon _ (ldLevel_parts lh).2, encSegFields_canon _ (ldLevel_parts lb).2,
    encSegFields_canon _ (ldLevel_parts lt).2]

theorem pyEqDict_canon (d : MsgDef) (m : Msg) (hd : wfDefLevels d = true) (hm : wfMsg d m = true) :
    pyEqDict (canonMsg d m) m = true := by
  obtain ⟨lh, lb, lt⟩ := wfDefLevels_parts hd
  simp only [wfMsg, wfSeg, Bool.and_eq_true] at hm
  obtain ⟨⟨⟨wh, wb⟩, wt⟩, _⟩ := hm
  simp only [pyEqDict, canonMsg, segEqTop_canon _ (ldLevel_parts lh).2 _ wh.1, segEqTop_canon _ (ldLevel_parts lb).2 _ wb.1,
    segEqTop_canon _ (ldLevel_parts lt).2 _ wt.1, Bool.and_self]

theorem encMsg_ok (d : MsgDef) (m : Msg) (hd : wfDefLevels d = true) (hm : wfMsg d m = true) : ∃ bs, encMsg d m = .ok bs := by
  obtain ⟨lh, lb, lt⟩ := wfDefLevels_parts hd
  simp only [wfMsg, wfSeg, Bool.and_eq_true] at hm
  obtain ⟨⟨⟨wh, wb⟩, wt⟩, _⟩ := hm
  obtain ⟨fh, hfh⟩ := encSegFields_ok d.hdr (ldLevel_parts lh).2 m.hdr wh.1
  obtain ⟨fb, hfb⟩ := encSegFields_ok d.body (ldLevel_parts lb).2 m.body wb.1
  obtain ⟨ft, hft⟩ := encSegFields_ok d.trl (ldLevel_parts lt).2 m.trl wt.1
  exact ⟨_, by simp only [encMsg, encSeg, hfh, hfb, hft, ok_bind, pure_eq_ok]; rfl⟩

/-- the property in one piece: the message encodes; the bytes decode to the registered class, every byte consumed, to the canonical form;
    that form re-encodes to the same bytes and compares `==` to the original -/
theorem roundtrip_statement (reg : List MsgDef) (d : MsgDef) (m : Msg) (hd : wfDefLevels d = true) (hm : wfMsg d m = true)
    (hc : countEndsS d m = true) (hty : ∀ bs, encMsg d m = .ok bs → getMsgType bs = .ok d.type)
    (hreg : lookupReg reg d.type = some d) :
    ∃ bs, encMsg d m = .ok bs ∧ decodeMsg reg bs = .ok (bs.length, d, canonMsg d m) ∧
      encMsg d (canonMsg d m) = .ok bs ∧ pyEqDict (canonMsg d m) m = true := by
  obtain ⟨bs, henc⟩ := encMsg_ok d m hd hm
  exact ⟨bs, henc, decodeMsg_shared reg d m bs hd hm hc henc (hty bs henc) hreg,
    by rw [encMsg_canon d m hd]; exact henc, pyEqDict_canon d m hd hm⟩

/-- whatever else `decodeMsg` is said to return for bytes that round-trip is that class and that length -/
theorem decodeMsg_class {reg : List MsgDef} {bs : Bytes} {d d' : MsgDef} {cm m' : Msg} {n : Nat}
    (h : decodeMsg reg bs = .ok (bs.length, d, cm)) (hdec : decodeMsg reg bs = .ok (n, d', m')) : d' = d ∧ n = bs.length := by
  rw [h] at hdec
  obtain ⟨h1, h2⟩ := Prod.mk.inj (Except.ok.inj hdec)
  exact ⟨(Prod.mk.inj h2).1.symm, h1.symm⟩

/-- with pairwise distinct tags a value is ended by any tag that is not nested in its entry -/
def CeOK (e : Entry) : Prop :=
  ∀ v nxt, wfVal e v = true → (∀ t, nxt = some t → t ∉ innerTags e) → ceVal e v nxt = true

theorem ceOK_all : ∀ e : Entry, (deepTags e).Nodup → CeOK e := by
  apply entry_ind
  · intro t ty r _ v nxt _ _
    simp [ceVal]
  · intro t sub r ih hnd v nxt hwf hn
    simp only [deepTags, List.nodup_cons] at hnd
    have htn := nodup_tagsOf hnd.2
    obtain ⟨insts, rfl, hwf⟩ := wfVal_group hwf
    simp only [ceVal, List.all_eq_true, Bool.and_eq_true]
    intro p hp
    obtain ⟨hmem, hf⟩ := mem_instFollows hp
    obtain ⟨hwff, hfirst, _⟩ := wfInsts_mem hwf p.1 hmem
    -- the tag that follows the instance: one the instance holds (the group's first) or one foreign to the group
    have hfol : ∀ t', p.2 = some t' → (hasKey p.1 t' = true ∨ t' ∉ tagsOf sub) ∧ ∀ e ∈ sub, t' ∉ innerTags e := by
      intro t' ht'
      rcases hf with hf | hf
      · cases sub with
        | nil => simp [hf] at ht'
        | cons e1 sub' =>
          rw [hf] at ht'
          simp only [List.head?_cons, Option.map_some, Option.some.injEq] at ht'
          subst ht'
          exact ⟨Or.inl hfirst, fun e he => tag_not_inner hnd.2 e he e1 (by simp)⟩
      · have := hn t' (hf ▸ ht')
        simp only [innerTags] at this
        exact ⟨Or.inr (fun hm => this (tagsOf_sub_deepTagsL sub t' hm)), fun e he hin => this (deepTagsL_inner he t' hin)⟩
    constructor
    · cases hp2 : p.2 with
      | none => rfl
      | some t' => exact levelOK_some.mpr ((hfol t' hp2).1.symm)
    · have key : ∀ es' : List Entry, (∀ e ∈ es', e ∈ sub) → ceFields es' p.1 p.2 = true := by
        intro es'
        induction es' with
        | nil => intro _; rfl
        | cons e es' ihe =>
          intro hsub
          have he : e ∈ sub := hsub e (by simp)
          have hrest := ihe (fun x hx => hsub x (by simp [hx]))
          simp only [ceFields]
          cases hl : lookupV p.1 e.tag with
          | none => exact hrest
          | some v =>
            simp only [Bool.and_eq_true]
            refine ⟨ih e he (nodup_deepTags_of_mem he hnd.2) v _ (wfVal_of_lookupV htn hwff he hl) ?_, hrest⟩
            intro t' ht'
            rcases nextTag_some ht' with hm | hm
            · obtain ⟨e', he', rfl⟩ := List.mem_map.mp hm
              exact tag_not_inner hnd.2 e he e' (hsub e' (by simp [he']))
            · exact (hfol t' hm).2 e he
      exact key sub (fun e he => he)

theorem ceSeg_of_nodup {es : List Entry} (hnd : (deepTagsL es).Nodup) {s : Seg} (hwf : wfFields es s = true)
    {follow : Option Nat} (hf : ∀ t, follow = some t → t ∉ deepTagsL es) : ceSeg es s follow = true := by
  simp only [ceSeg, Bool.and_eq_true]
  constructor
  · cases follow with
    | none => rfl
    | some t => exact levelOK_some.mpr (Or.inl (fun hm => hf t rfl (tagsOf_sub_deepTagsL es t hm)))
  · have key : ∀ s' : Seg, wfFields es s' = true → ceTop es s' follow = true := by
      intro s'
      induction s' with
      | nil => intro _; rfl
      | cons p s' ih =>
        obtain ⟨t, v⟩ := p
        intro hw
        simp only [wfFields, Bool.and_eq_true] at hw
        simp only [ceTop, Bool.and_eq_true]
        refine ⟨?_, ih hw.2⟩
        cases hl : lookupE es t with
        | none => rfl
        | some e =>
          have hwv := hw.1
          rw [hl] at hwv
          have he := (lookupE_some hl).1
          refine ceOK_all e (nodup_deepTags_of_mem he hnd) v _ hwv ?_
          intro t' ht'
          rcases tagOr_some ht' with hm | hm
          · obtain ⟨e', he', rfl⟩ := List.mem_map.mp (wfFields_keys hw.2 t' hm)
            exact tag_not_inner hnd e he e' he'
          · exact fun hin => hf t' hm (deepTagsL_inner he t' hin)
    exact key s hwf

theorem firstKey_mem {s : Seg} {t : Nat} (h : firstKey s = some t) : t ∈ keysOf s := by
  cases s with
  | nil => simp [firstKey] at h
  | cons p s => simp only [firstKey, List.head?_cons, Option.map_some, Option.some.injEq] at h; simp [keysOf, h]

theorem countEndsS_of_wfDef {d : MsgDef} {m : Msg} (hd : wfDef d = true) (hm : wfMsg d m = true) : countEndsS d m = true := by
  obtain ⟨nh, nb, nt, dbh, dth, dtb⟩ := wfDef_parts hd
  simp only [wfMsg, wfSeg, Bool.and_eq_true] at hm
  obtain ⟨⟨⟨wh, wb⟩, wt⟩, _⟩ := hm
  have kb : ∀ t, firstKey m.body = some t → t ∈ deepTagsL d.body :=
    fun t ht => tagsOf_sub_deepTagsL _ t (wfFields_keys wb.1 t (firstKey_mem ht))
  have kt : ∀ t, firstKey m.trl = some t → t ∈ deepTagsL d.trl :=
    fun t ht => tagsOf_sub_deepTagsL _ t (wfFields_keys wt.1 t (firstKey_mem ht))
  simp only [countEndsS, Bool.and_eq_true]
  refine ⟨⟨ceSeg_of_nodup nh wh.1 ?_, ceSeg_of_nodup nb wb.1 (fun t ht => dtb t (kt t ht))⟩,
    ceSeg_of_nodup nt wt.1 (fun t ht => by simp at ht)⟩
  intro t ht
  cases hb : firstKey m.body with
  | none => rw [hb] at ht; exact dth t (kt t ht)
  | some t' =>
    rw [hb] at ht
    obtain rfl : t' = t := by simpa using ht
    exact dbh t' (kb t' hb)

end NasdaqModel.Fix
