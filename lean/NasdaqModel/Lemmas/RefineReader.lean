import NasdaqModel.Lemmas.SessionLemmas4
import NasdaqModel.Lemmas.RefineSess
/-
The reader task and its `_stopped` flag in the session machine: no step of another task moves the reader task's program
counter, `_stopped` is never cleared, and a reader that has entered `close()` (logout / malformed frame) is inside the close
body until `_stopped` is set.  Hence: once the reader has met a logout / malformed frame it never runs its loop body again.
-/
namespace NasdaqModel.Sess

/-- the reader's program counter is where it was; a set `_stopped` flag is still set -/
def RFrame (s s' : St) : Prop := s'.prog .R = s.prog .R ∧ (s.rStopped = true → s'.rStopped = true)

theorem RFrame.refl (s : St) : RFrame s s := ⟨rfl, id⟩

theorem RFrame.trans {a b c : St} (h1 : RFrame a b) (h2 : RFrame b c) : RFrame a c :=
  ⟨h2.1.trans h1.1, fun h => h2.2 (h1.2 h)⟩

theorem RFrame.same {s s1 s2 : St} (h : RFrame s s1) (h1 : s2.prog .R = s1.prog .R := by rfl)
    (h2 : s2.rStopped = s1.rStopped := by rfl) :
    RFrame s s2 :=
  ⟨h1.trans h.1, fun h0 => by rw [h2]; exact h.2 h0⟩

section post
variable {s s1 : St} (h : RFrame s s1)
include h

theorem RFrame.on_setStatus (t : Tid) (x : Status) : RFrame s (s1.setStatus t x) := h.same
theorem RFrame.on_emit (o : Obs) : RFrame s (s1.emit o) := h.same
theorem RFrame.on_finish (t : Tid) : RFrame s (s1.finish t) := h.same

theorem RFrame.on_setProg {t : Tid} (p : Prog) (ht : t ≠ .R) : RFrame s (s1.setProg t p) :=
  h.same (by simp [St.setProg, Ne.symm ht]) rfl

theorem RFrame.on_spawn {t : Tid} (p : Prog) (ht : t ≠ .R) : RFrame s (s1.spawn t p) :=
  (h.on_setStatus t .ready).on_setProg p ht

theorem RFrame.on_cancelTask (t : Tid) : RFrame s (s1.cancelTask t) := by
  obtain ⟨f, e⟩ := cancelTask_eq s1 t
  rw [e]
  exact h.same

theorem RFrame.on_wakeGetter (t : Tid) : RFrame s (s1.wakeGetter t) := by
  unfold St.wakeGetter
  split
  · exact h.on_setStatus _ _
  · exact h

theorem RFrame.on_put (m : Nat) : RFrame s (s1.put m) := by
  unfold St.put
  exact ((h.same : RFrame s { s1 with queue := s1.queue ++ [m] }).on_wakeGetter .D).on_wakeGetter .V

theorem RFrame.on_initiateClose : RFrame s s1.initiateClose := by
  unfold St.initiateClose
  split
  · exact h
  · exact (h.same : RFrame s { s1 with closingTask := true }).on_spawn _ (by decide)

theorem RFrame.on_startDispatching (cfg : Cfg) : RFrame s (s1.startDispatching cfg) := by
  unfold St.startDispatching
  split
  · exact (h.same : RFrame s { s1 with dispSet := true }).on_spawn _ (by decide)
  · exact h

theorem RFrame.on_startHeartbeats : RFrame s s1.startHeartbeats := by
  unfold St.startHeartbeats
  exact ((h.same : RFrame s { s1 with pingL := true, pingM := true }).on_spawn _ (by decide)).on_spawn _ (by decide)

theorem RFrame.on_runCont {t : Tid} (c : Cont) (ht : t ≠ .R) : RFrame s (runCont s1 t c) := by
  cases c with
  | readerTail =>
    refine ⟨?_, fun _ => rfl⟩
    have : (runCont s1 t .readerTail).prog .R = s1.prog .R := by simp [runCont, St.setProg, St.setStatus, Ne.symm ht]
    exact this.trans h.1
  | handlerTail n =>
    have : RFrame s (((s1.emit (.msgExit n)).setStatus t .ready).setProg t .dispLoop) :=
      ((h.on_emit _).on_setStatus _ _).on_setProg _ ht
    exact this.same
  | monitorTail => exact h.on_finish t
  | closingTail => exact h.on_finish t
  | userTail u r => exact (h.on_emit _).on_finish t

theorem RFrame.on_closeTail (cfg : Cfg) {t : Tid} (c : Cont) (ht : t ≠ .R) : RFrame s (closeTail cfg s1 t c) := by
  unfold closeTail
  simp only
  split
  · exact ((h.on_emit .tclose).same : RFrame s { (s1.emit .tclose) with cstage := .finished }).on_runCont c ht
  · split
    · rename_i k _
      have : RFrame s ((((s1.emit .tclose).emit .cbEnter).setStatus t .ready).setProg t .inClose) :=
        (((h.on_emit _).on_emit _).on_setStatus _ _).on_setProg _ ht
      exact this.same
    · exact ((((h.on_emit .tclose).on_emit .cbEnter).on_emit .cbExit).same :
        RFrame s { (((s1.emit .tclose).emit .cbEnter).emit .cbExit) with cstage := .finished }).on_runCont c ht

theorem RFrame.on_suspendOn {t : Tid} (x : Tid) (pc : Nat) (c : Cont) (ht : t ≠ .R) : RFrame s (suspendOn s1 t x pc c) := by
  unfold suspendOn
  have : RFrame s (((s1.cancelTask x).setStatus t (.waitT x)).setProg t .inClose) :=
    ((h.on_cancelTask x).on_setStatus _ _).on_setProg _ ht
  exact this.same

theorem RFrame.on_execClose (cfg : Cfg) {t : Tid} (c : Cont) (ht : t ≠ .R) (pc : Nat) : RFrame s (execClose cfg s1 t c pc) := by
  refine execClose_rule cfg t c (fun s' => RFrame s s') (fun s' => RFrame s s') ?_ ?_ ?_ ?_ pc s1 h
  · intro s' h'; exact h'.same
  · intro s' h'; exact ⟨h'.1, fun _ => rfl⟩
  · intro s' x pc' h' _ _ _; exact h'.on_suspendOn x pc' c ht
  · intro s' h'; exact h'.on_closeTail cfg c ht

theorem RFrame.on_enterClose (cfg : Cfg) {t : Tid} (c : Cont) (ht : t ≠ .R) : RFrame s (enterClose cfg s1 t c) := by
  unfold enterClose
  split
  · exact h.on_runCont c ht
  · exact (h.same : RFrame s { s1 with closed := true, qClosed := true, cstage := .body t 0 c }).on_execClose cfg c ht 0

theorem RFrame.on_stepInClose (cfg : Cfg) {t : Tid} (b : Bool) (ht : t ≠ .R) : RFrame s (stepInClose cfg s1 t b) := by
  unfold stepInClose
  split
  · split
    · unfold resumeClose
      simp only
      split
      · exact ((h.on_setStatus t .ready).same : RFrame s { (s1.setStatus t .ready) with dispSet := false }).on_execClose cfg _ ht _
      · exact (h.on_setStatus t .ready).on_execClose cfg _ ht _
    · exact h
  · split
    · split
      · split
        · rename_i u _ _
          exact (((h.same : RFrame s { s1 with cstage := .aborted }).on_emit (.ret u .cancelled))).on_finish t
        · exact (h.same : RFrame s { s1 with cstage := .aborted }).on_finish t
      · split
        · exact ((h.on_emit .cbExit).same : RFrame s { (s1.emit .cbExit) with cstage := .finished }).on_runCont _ ht
        · exact h.same
    · exact h
  · exact h

theorem RFrame.on_stepMon (cfg : Cfg) (b : Bool) : RFrame s (stepMon cfg s1 b) := by
  unfold stepMon
  split
  · split
    · exact h.same
    · exact h.on_emit _
  · split
    · exact h.same
    · exact h.on_enterClose cfg _ (by decide)

theorem RFrame.on_dispHandle (cfg : Cfg) (n : Nat) : RFrame s (dispHandle cfg s1 n) := by
  unfold dispHandle
  split
  · exact (h.on_emit (.msgExit n)).same
  · exact h.on_setProg _ (by decide)
  · exact h.on_enterClose cfg _ (by decide)
  · exact ((h.on_initiateClose).on_emit (.msgExit n)).same
  · exact (h.on_emit (.msgRaise n)).same
  · exact (((h.on_emit (.write .reply)).on_startHeartbeats).on_emit (.msgExit n)).same
  · exact (h.on_emit (.write .reply)).on_enterClose cfg _ (by decide)

theorem RFrame.on_stepDisp (cfg : Cfg) : RFrame s (stepDisp cfg s1) := by
  unfold stepDisp
  split
  · exact h.on_finish _
  · split
    · exact h
    · split
      · exact h.on_setStatus _ _
      · rename_i n q _
        exact ((h.same : RFrame s { s1 with queue := q, gone := s1.gone ++ [(n, true)] }).on_emit (.msgEnter n)).on_dispHandle cfg n

theorem RFrame.on_loginResume (cfg : Cfg) {t : Tid} (u : Nat) (ht : t ≠ .R) : RFrame s (loginResume cfg s1 t u) := by
  unfold loginResume
  split
  · rename_i n _
    have h1 : RFrame s (({ s1 with vres := none, rcvBusy := false, gone := s1.gone ++ [(n, true)] } : St).emit (.loginReply n)) :=
      (h.same : RFrame s { s1 with vres := none, rcvBusy := false, gone := s1.gone ++ [(n, true)] }).on_emit _
    simp only
    split
    · exact (((h1.on_startHeartbeats).on_startDispatching cfg).on_emit (.ret u .ok)).on_finish t
    · exact h1.on_enterClose cfg _ ht
  · split
    · exact ((h.same : RFrame s { s1 with rcvBusy := false }).on_emit (.ret u .refused)).on_finish t
    · exact (h.same : RFrame s { s1 with rcvBusy := false }).on_enterClose cfg _ ht

theorem RFrame.on_startRecv (u : Nat) (b : Bool) : RFrame s (startRecv s1 u b) := by
  unfold startRecv
  split
  · exact h
  · split
    · exact (h.on_emit _).on_setStatus _ _
    · split
      · rename_i n q _
        exact ((h.same : RFrame s { s1 with queue := q, vres := some n, rcvBusy := true, imm := some (.U u) }).on_setStatus
          (.U u) .ready).on_setProg _ (by simp)
      · split
        · split
          · exact (h.on_emit _).on_setStatus _ _
          · exact (h.on_emit _).on_setStatus _ _
        · exact ((((h.same : RFrame s { s1 with rcvBusy := true }).on_spawn .vget (by decide : Tid.V ≠ .R))).on_setStatus
            (.U u) (.waitT .V)).on_setProg _ (by simp)

end post

theorem rf_stepRun (cfg : Cfg) (s : St) {t : Tid} (ht : t ≠ .R) : RFrame s (stepRun cfg s t) := by
  unfold stepRun
  have h : RFrame s { s with imm := none } := (RFrame.refl s).same
  generalize ({ s with imm := none } : St) = s0 at h
  simp only
  split
  · split
    · exact (h.on_emit _).on_finish t
    · exact h.on_finish t
    · split
      · exact ((h.same : RFrame s { s0 with vres := none, rcvBusy := false, queue := _ }).on_emit _).on_finish t
      · exact ((h.same : RFrame s { s0 with vres := none, rcvBusy := false, queue := _ }).on_emit _).on_finish t
    · split
      · exact ((h.same : RFrame s { s0 with vres := none, rcvBusy := false, queue := _ }).on_emit _).on_finish t
      · exact ((h.same : RFrame s { s0 with vres := none, rcvBusy := false, queue := _ }).on_setStatus t .ready).on_enterClose cfg _ ht
    · exact h.on_stepInClose cfg _ ht
    · exact h.on_finish t
  · split
    · split
      · rename_i h'; exact absurd h' ht
      · exact h
    · split
      · exact h.on_stepDisp cfg
      · exact h
    · split
      · exact ((h.on_emit _).on_setProg _ ht).same
      · exact h.on_setProg _ ht
    · exact h.on_setProg _ ht
    · split
      · exact h.on_stepMon cfg _
      · split
        · exact h.on_stepMon cfg _
        · exact h
    · exact h.on_enterClose cfg _ ht
    · exact h.on_stepInClose cfg _ ht
    · split
      · exact h.on_setStatus _ _
      · split
        · exact h
        · exact (h.same : RFrame s { s0 with queue := _, vres := _ }).on_finish t
    · split
      · exact ((h.same : RFrame s { s0 with vres := none, rcvBusy := false, gone := _ }).on_emit _).on_finish t
      · split
        · exact ((h.same : RFrame s { s0 with rcvBusy := false }).on_emit _).on_finish t
        · exact ((h.same : RFrame s { s0 with rcvBusy := false }).on_emit _).on_finish t
    · exact h.on_loginResume cfg _ ht
    · exact h
  · exact h

/-- **no event other than a step of the reader task moves the reader's program counter or clears `_stopped`** (a second
    `connection_made` is ignored once a reader exists or the session is closed) -/
theorem rf_step (cfg : Cfg) (s : St) (ev : Ev) (hr : ev ≠ .run .R) (hc : ev = .connect → (s.status .R ≠ .absent ∨ s.closed = true)) :
    RFrame s (step cfg s ev) := by
  have h := RFrame.refl s
  cases ev with
  | connect =>
    simp only [step]
    split
    · exact h
    · rename_i h'
      exfalso
      apply h'
      rcases hc rfl with h1 | h1
      · simp [h1]
      · simp [h1]
  | data fs => exact h.same
  | eof => exact h.on_initiateClose
  | run t =>
    have ht : t ≠ .R := fun h' => hr (by rw [h'])
    simp only [step]
    split
    · exact rf_stepRun cfg s ht
    · exact h
  | callClose u =>
    simp only [step]
    split
    · exact h
    · exact ((h.on_setStatus (.U u) .ready).on_setProg .idle (by simp)).on_enterClose cfg _ (by simp)
  | callInitiateClose => exact h.on_initiateClose
  | callLogout =>
    exact ((h.on_emit (.write .logout)).same : RFrame s { (s.emit (.write .logout)) with pingL := true }).on_initiateClose
  | callRecv u =>
    simp only [step]
    split
    · exact h
    · exact h.on_startRecv _ _
  | callRecvNowait u =>
    simp only [step]
    split
    · exact h
    · split
      · exact h.on_emit _
      · split
        · rename_i n q _
          exact (h.same : RFrame s { s with queue := q, gone := s.gone ++ [(n, true)] }).on_emit (.ret u (.msg n))
        · split <;> exact h.on_emit _
  | callLogin u =>
    simp only [step]
    split
    · exact h
    · exact ((h.on_emit (.write .login)).same : RFrame s { (s.emit (.write .login)) with pingL := true }).on_startRecv _ _
  | callSend => exact (h.on_emit (.write .data)).same
  | cancel u => exact h.on_cancelTask _

/-- the reader is on its way through `close()`: `_stopped` is already set or it is inside the close body / close callback -/
def RGone (s : St) : Prop := s.rStopped = true ∨ s.prog .R = .inClose

theorem RGone.of_frame {s s' : St} (f : RFrame s s') (h : RGone s) : RGone s' := by
  rcases h with h | h
  · exact Or.inl (f.2 h)
  · exact Or.inr (f.1.trans h)

theorem rg_runCont_reader (s : St) : RGone (runCont s .R .readerTail) := Or.inl rfl

theorem rg_closeTail (cfg : Cfg) (s : St) : RGone (closeTail cfg s .R .readerTail) := by
  unfold closeTail
  simp only
  split
  · exact rg_runCont_reader _
  · split
    · exact Or.inr (by simp [St.setProg])
    · exact rg_runCont_reader _

theorem rg_execClose (cfg : Cfg) (pc : Nat) (s : St) : RGone (execClose cfg s .R .readerTail pc) := by
  refine execClose_rule cfg .R .readerTail (fun _ => True) RGone ?_ ?_ ?_ ?_ pc s trivial
  · intro _ _; trivial
  · intro _ _; trivial
  · intro s' x pc' _ _ _ _
    exact Or.inr (by simp [suspendOn, St.setProg])
  · intro s' _; exact rg_closeTail cfg s'

/-- `Reader.stop()` called by the reader task itself -/
theorem rg_enterClose (cfg : Cfg) (s : St) : RGone (enterClose cfg s .R .readerTail) := by
  unfold enterClose
  split
  · exact rg_runCont_reader _
  · exact rg_execClose cfg 0 _

theorem contOk_R {c : Cont} (h : contOk .R c) : c = .readerTail := by
  cases c <;> simp [contOk] at h <;> rfl

/-- the reader task, resumed inside `close()`: it stays inside, or `close()` returns to it and `_stopped` is set -/
theorem rg_stepInClose (cfg : Cfg) (s : St) (i : InvB s) (hp : s.prog .R = .inClose) (b : Bool) :
    RGone (stepInClose cfg s .R b) := by
  refine stepInClose_rule cfg s .R b RGone (Or.inr hp) ?_ ?_ ?_ ?_ ?_
  · intro pc c hc
    have hcr : c = .readerTail := contOk_R (i.bst _ pc c hc).2.2.2.2.2
    subst hcr
    unfold resumeClose
    simp only
    split <;> exact rg_execClose cfg _ _
  · intro k u r _ _
    exact Or.inr hp
  · intro k c _ _ _
    exact Or.inr hp
  · intro c hc _
    have hcr : c = .readerTail := contOk_R (i.cb _ 0 c hc).2.2.1
    subst hcr
    exact rg_runCont_reader _
  · intro k c _ _
    exact Or.inr hp

theorem allowed_R {p : Prog} (h : allowed .R p = true) : p = .readerLoop ∨ p = .inClose := by
  cases p <;> simp [allowed] at h <;> simp

/-- **a reader that has entered `close()` never gets back to its loop body**: every later step of the reader task keeps it
    inside `close()` or finds `_stopped` set -/
theorem rg_stepRun (cfg : Cfg) (s : St) (i : InvB s) (h : RGone s) : RGone (stepRun cfg s .R) := by
  have i0 : InvB { s with imm := none } := InvB.of_bcore (s := s) rfl i
  have h0 : RGone ({ s with imm := none } : St) := h
  cases hs : s.status .R with
  | ready =>
    rcases allowed_R (i.typ .R (by rw [hs]; rfl)) with hp | hp
    · have : stepRun cfg s .R = stepReader cfg { s with imm := none } := by simp [stepRun, hs, hp]
      rw [this]
      rcases h with h | h
      · rw [stepReader_stopped cfg { s with imm := none } h]
        exact Or.inl h
      · rw [hp] at h; cases h
    · have : stepRun cfg s .R = stepInClose cfg { s with imm := none } .R false := by simp [stepRun, hs, hp]
      rw [this]; exact rg_stepInClose cfg _ i0 hp false
  | cancelled =>
    rcases allowed_R (i.typ .R (by rw [hs]; rfl)) with hp | hp
    · have : stepRun cfg s .R = ({ s with imm := none } : St).finish .R := by simp [stepRun, hs, hp]
      rw [this]
      rcases h with h | h
      · exact Or.inl h
      · rw [hp] at h; cases h
    · have : stepRun cfg s .R = stepInClose cfg { s with imm := none } .R true := by simp [stepRun, hs, hp]
      rw [this]; exact rg_stepInClose cfg _ i0 hp true
  | _ =>
    -- not runnable: nothing happens
    have : stepRun cfg s .R = { s with imm := none } := by simp [stepRun, hs]
    rw [this]
    exact h0

/-- every event keeps a reader that has entered `close()` there (the session is closed by then, so a second
    `connection_made` is ignored) -/
theorem rg_step (cfg : Cfg) (s : St) (i : InvB s) (hc : s.closed = true) (h : RGone s) (ev : Ev) : RGone (step cfg s ev) := by
  by_cases hr : ev = .run .R
  · subst hr
    simp only [step]
    split
    · exact rg_stepRun cfg s i h
    · exact h
  · exact RGone.of_frame (rf_step cfg s ev hr (fun _ => Or.inr hc)) h

end NasdaqModel.Sess
