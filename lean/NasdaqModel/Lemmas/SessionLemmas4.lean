import NasdaqModel.Lemmas.SessionLemmas3
/-
`InvB` — who is alive, who waits for whom, and how far the close body has come (C05 completion / deadlock freedom, C06 nothing
left running); `runEvs_InvARB` gives `InvA`, `InvR` and `InvB` together for every event sequence.
-/
namespace NasdaqModel.Sess

/-- the stage of the close body that stops task `x` -/
def stageOf : Tid → Option Nat
  | .D => some 0 | .V => some 1 | .L => some 2 | .M => some 3 | .R => some 4
  | _ => none

theorem stageOf_inj {x y : Tid} {j : Nat} (hx : stageOf x = some j) (hy : stageOf y = some j) : x = y := by
  cases x <;> cases y <;> simp_all [stageOf] <;> omega

theorem stageOf_user (u : Nat) (j : Nat) : stageOf (.U u) ≠ some j := by simp [stageOf]
theorem stageOf_C (j : Nat) : stageOf .C ≠ some j := by simp [stageOf]
theorem stageOf_le {x : Tid} {j : Nat} (h : stageOf x = some j) : j ≤ 4 := by
  cases x <;> simp [stageOf] at h <;> omega

def libTasks : List Tid := [.R, .D, .L, .M, .C, .V]

/-- which task may carry which continuation -/
def contOk (t : Tid) : Cont → Prop
  | .readerTail => t = .R
  | .handlerTail _ => t = .D
  | .monitorTail => t = .M
  | .closingTail => t = .C
  | .userTail u _ => t = .U u

theorem contOk_allowed {t : Tid} {c : Cont} (h : contOk t c) : allowed t .inClose = true := by
  cases c <;> simp [contOk] at h <;> subst h <;> rfl

/-- stop target `x` needs no more stopping by closer `t`: it is the closer itself, it has ended, or — the reader only —
    it stopped itself (`close()` returned to it while another task was closing) and is about to leave its loop -/
def okDone (s : St) (t x : Tid) : Prop :=
  x = t ∨ alive (s.status x) = false ∨ (x = .R ∧ s.status .R = .ready)

/-- the closer, if the close body or callback is in progress -/
def isCloser (s : St) (t : Tid) : Prop := (∃ pc c, s.cstage = .body t pc c) ∨ (∃ k c, s.cstage = .cb t k c)

structure InvB (s : St) : Prop where
  /-- a live task runs one of its own programs -/
  typ : ∀ t, alive (s.status t) = true → allowed t (s.prog t) = true
  /-- only the dispatcher and the receive helper ever wait on the queue -/
  waitq : ∀ t, s.status t = .waitQ → t = .D ∨ t = .V
  /-- a task waits for another task only as the closer or as a user call for the receive helper -/
  waitt : ∀ t y, s.status t = .waitT y → (∃ pc c, s.cstage = .body t pc c) ∨ (∃ u, t = .U u ∧ y = .V)
  /-- nobody cancels the closing task -/
  ccan : s.status .C ≠ .cancelled
  /-- close body in progress: the closer is alive and not in `queue.get()` -/
  bst : ∀ t pc c, s.cstage = .body t pc c →
    s.prog t = .inClose ∧ 1 ≤ pc ∧ pc ≤ 5 ∧ alive (s.status t) = true ∧ s.status t ≠ .waitQ ∧ contOk t c
  /-- the closer awaits the cancelled target of the previous stage -/
  bwait : ∀ t pc c x, s.cstage = .body t pc c → s.status t = .waitT x →
    stageOf x = some (pc - 1) ∧ s.status x = .cancelled
  /-- earlier targets need no more stopping; neither does the previous one once the closer is runnable again -/
  bdone : ∀ t pc c x j, s.cstage = .body t pc c → stageOf x = some j →
    (j + 1 < pc ∨ (j + 1 = pc ∧ ∀ y, s.status t ≠ .waitT y)) → okDone s t x
  /-- inside the close callback: the closer is runnable; no stop target needs stopping any more -/
  cb : ∀ t k c, s.cstage = .cb t k c →
    s.prog t = .inClose ∧ (s.status t = .ready ∨ s.status t = .cancelled) ∧ contOk t c ∧
    (∀ x j, stageOf x = some j → okDone s t x)
  /-- a stopped reader is the closer, has ended, or is about to leave its loop -/
  rs : s.rStopped = true → isCloser s .R ∨ alive (s.status .R) = false ∨ s.status .R = .ready
  /-- close complete: monitors and receive helper have ended; dispatcher / reader have ended or are runnable and about to end -/
  fin : (s.cstage = .finished ∨ s.cstage = .aborted) →
    alive (s.status .L) = false ∧ alive (s.status .M) = false ∧ alive (s.status .V) = false ∧
    (alive (s.status .D) = false ∨ s.status .D = .ready) ∧
    (alive (s.status .R) = false ∨ s.status .R = .ready)

/-- the part of the state `InvB` reads -/
def bcore (s : St) : (Tid → Status) × (Tid → Prog) × CStage × Bool := (s.status, s.prog, s.cstage, s.rStopped)

theorem InvB.of_bcore {s s' : St} (h : bcore s' = bcore s) (i : InvB s) : InvB s' := by
  simp only [bcore, Prod.mk.injEq] at h
  obtain ⟨h1, h2, h3, h4⟩ := h
  obtain ⟨typ, waitq, waitt, ccan, bst, bwait, bdone, cb, rs, fin⟩ := i
  refine ⟨?_, ?_, ?_, ?_, ?_, ?_, ?_, ?_, ?_, ?_⟩
  · rw [h1, h2]; exact typ
  · rw [h1]; exact waitq
  · rw [h1, h3]; exact waitt
  · rw [h1]; exact ccan
  · rw [h1, h2, h3]; exact bst
  · rw [h1, h3]; exact bwait
  · unfold okDone; rw [h1, h3]; exact bdone
  · unfold okDone; rw [h1, h2, h3]; exact cb
  · unfold isCloser; rw [h1, h3, h4]; exact rs
  · rw [h1, h3]; exact fin

macro "ib" i:ident : tactic => `(tactic| first | exact $i | (refine InvB.of_bcore ?_ $i; rfl))

theorem InvB.emit {s : St} {o : Obs} (i : InvB s) : InvB (s.emit o) := InvB.of_bcore (s := s) rfl i

theorem not_closer_of_prog {s : St} (i : InvB s) {t : Tid} (h : s.prog t ≠ .inClose) : ¬ isCloser s t := by
  rintro (⟨pc, c, hb⟩ | ⟨k, c, hc⟩)
  · exact h (i.bst t pc c hb).1
  · exact h (i.cb t k c hc).1

theorem not_closer_of_idle {s : St} (h : s.cstage = .idle) (t : Tid) : ¬ isCloser s t := by
  rintro (⟨pc, c, hb⟩ | ⟨k, c, hb⟩)
  · rw [h] at hb; contradiction
  · rw [h] at hb; contradiction

theorem okDone_finish {s : St} {t' x : Tid} (t : Tid) (h : okDone s t' x) : okDone (s.finish t) t' x := by
  rcases h with h | h | ⟨h1, h2⟩
  · exact Or.inl h
  · exact Or.inr (Or.inl (dead_finish t h))
  · subst h1
    rcases ready_finish t h2 with h | h
    · exact Or.inr (Or.inl h)
    · exact Or.inr (Or.inr ⟨rfl, h⟩)

theorem InvB.finish {s : St} (i : InvB s) (t : Tid) (hnc : ¬ isCloser s t) : InvB (s.finish t) := by
  have h1 : ∀ pc c, s.cstage ≠ .body t pc c := fun pc c h => hnc (Or.inl ⟨pc, c, h⟩)
  have h2 : ∀ k c, s.cstage ≠ .cb t k c := fun k c h => hnc (Or.inr ⟨k, c, h⟩)
  obtain ⟨typ, waitq, waitt, ccan, bst, bwait, bdone, cb, rs, fin⟩ := i
  refine ⟨?_, ?_, ?_, ?_, ?_, ?_, ?_, ?_, ?_, ?_⟩
  · intro x hx
    rw [finish_status] at hx
    show allowed x (s.prog x) = true
    by_cases hxt : x = t
    · simp [hxt, alive] at hx
    · by_cases hw : s.status x = .waitT t
      · exact typ x (by rw [hw]; rfl)
      · simp only [hxt, hw, if_false] at hx; exact typ x hx
  · intro x hx
    rw [finish_status] at hx
    by_cases hxt : x = t
    · simp [hxt] at hx
    · by_cases hw : s.status x = .waitT t
      · simp [hxt, hw] at hx
      · simp only [hxt, hw, if_false] at hx; exact waitq x hx
  · intro x y hx
    rw [finish_status] at hx
    show (∃ pc c, s.cstage = .body x pc c) ∨ _
    by_cases hxt : x = t
    · simp [hxt] at hx
    · by_cases hw : s.status x = .waitT t
      · simp [hxt, hw] at hx
      · simp only [hxt, hw, if_false] at hx; exact waitt x y hx
  · rw [finish_status]
    by_cases hxt : Tid.C = t
    · simp [hxt]
    · by_cases hw : s.status .C = .waitT t
      · simp [hxt, hw]
      · simp only [hxt, hw, if_false]; exact ccan
  · intro t' pc c hc
    have hc' : s.cstage = .body t' pc c := hc
    have hne : t' ≠ t := by intro e; subst e; exact h1 pc c hc'
    obtain ⟨a, b, c', d, e, f⟩ := bst t' pc c hc'
    refine ⟨a, b, c', ?_, ?_, f⟩
    · rw [finish_status]; simp only [hne, if_false]; split
      · rfl
      · exact d
    · rw [finish_status]; simp only [hne, if_false]; split
      · simp
      · exact e
  · intro t' pc c x hc hw
    have hc' : s.cstage = .body t' pc c := hc
    have hne : t' ≠ t := by intro e; subst e; exact h1 pc c hc'
    rw [finish_status] at hw
    simp only [hne, if_false] at hw
    by_cases hw' : s.status t' = .waitT t
    · simp [hw'] at hw
    · simp only [hw', if_false] at hw
      obtain ⟨a, b⟩ := bwait t' pc c x hc' hw
      have hxt : x ≠ t := by
        intro e; subst e; exact hw' hw
      refine ⟨a, ?_⟩
      rw [finish_status]; simp [hxt, b]
  · intro t' pc c x j hc hs hj
    have hc' : s.cstage = .body t' pc c := hc
    have hne : t' ≠ t := by intro e; subst e; exact h1 pc c hc'
    by_cases hxt : x = t
    · right; left; rw [finish_status]; simp [hxt, alive]
    · by_cases hxw : s.status x = .waitT t
      · rcases waitt x t hxw with ⟨pc', c', hb⟩ | ⟨u, hu, _⟩
        · left; rw [hc'] at hb; injection hb with e _ _; exact e.symm
        · subst hu; exact absurd hs (stageOf_user u j)
      · apply okDone_finish
        apply bdone t' pc c x j hc' hs
        rcases hj with hj | ⟨hj, hy⟩
        · exact Or.inl hj
        · right
          refine ⟨hj, ?_⟩
          by_cases hw : s.status t' = .waitT t
          · have := (bwait t' pc c t hc' hw).1
            have hjt : stageOf t = some j := by rw [this]; congr 1; omega
            exact absurd (stageOf_inj hs hjt) hxt
          · intro y
            have := hy y
            rw [finish_status] at this
            simpa [hne, hw] using this
  · intro t' k c hc
    have hc' : s.cstage = .cb t' k c := hc
    have hne : t' ≠ t := by intro e; subst e; exact h2 k c hc'
    obtain ⟨a, b, cok, d⟩ := cb t' k c hc'
    refine ⟨a, ?_, cok, fun x j hs => okDone_finish t (d x j hs)⟩
    rw [finish_status]; simp only [hne, if_false]
    have : s.status t' ≠ .waitT t := by rcases b with b | b <;> rw [b] <;> simp
    simp only [this, if_false]; exact b
  · intro hr
    rcases rs hr with h | h | h
    · exact Or.inl h
    · exact Or.inr (Or.inl (dead_finish t h))
    · exact Or.inr (ready_finish t h)
  · intro hc
    obtain ⟨a, b, c, d, e⟩ := fin hc
    have key2 : ∀ x, (alive (s.status x) = false ∨ s.status x = .ready) →
        (alive ((s.finish t).status x) = false ∨ (s.finish t).status x = .ready) := by
      intro x hx
      rcases hx with hx | hx
      · exact Or.inl (dead_finish t hx)
      · exact ready_finish t hx
    exact ⟨dead_finish t a, dead_finish t b, dead_finish t c, key2 _ d, key2 _ e⟩

theorem okDone_setStatus {s : St} {t' x0 t : Tid} {x : Status} {j : Nat} (hs : stageOf x0 = some j)
    (hdead : alive (s.status t) = false → alive x = false ∨ ∀ j, stageOf t ≠ some j)
    (hR : t = .R → s.status t = .ready → x = .ready) (h : okDone s t' x0) : okDone (s.setStatus t x) t' x0 := by
  rcases h with h | h | ⟨h1, h2⟩
  · exact Or.inl h
  · right; left
    rw [setStatus_status]
    by_cases hx0 : x0 = t
    · rw [if_pos hx0]
      rcases hdead (hx0 ▸ h) with h' | h'
      · exact h'
      · exact absurd (hx0 ▸ hs) (h' j)
    · rw [if_neg hx0]; exact h
  · right; right
    refine ⟨h1, ?_⟩
    rw [setStatus_status]
    by_cases hRt : Tid.R = t
    · rw [if_pos hRt]; exact hR hRt.symm (hRt ▸ h2)
    · rw [if_neg hRt]; exact h2

theorem InvB.closer_alive {s : St} (i : InvB s) {t : Tid} (h : isCloser s t) : alive (s.status t) = true := by
  rcases h with ⟨pc, c, hb⟩ | ⟨k, c, hb⟩
  · exact (i.bst t pc c hb).2.2.2.1
  · rcases (i.cb t k c hb).2.1 with e | e
    · rw [e]; rfl
    · rw [e]; rfl

/-- **One task takes another status.**  Each hypothesis is what one field of `InvB` asks of the new status `x` of `t`: typing,
    who may wait on the queue, who may wait for a task (here only a user call for the receive helper: the closer's waiting is set
    up by `suspendOn`), the closing task is never cancelled, the closer stays runnable, a cancelled stop target stays cancelled,
    a stop target that has ended stays ended, a runnable reader / (after the close) dispatcher stays runnable. -/
theorem InvB.setStatus {s : St} (i : InvB s) (t : Tid) (x : Status)
    (htyp : alive x = true → allowed t (s.prog t) = true)
    (hq : x = .waitQ → t = .D ∨ t = .V)
    (hw : ∀ z, x = .waitT z → (∃ u, t = .U u ∧ z = .V) ∧ ¬ isCloser s t)
    (hC : t = .C → x ≠ .cancelled)
    (hcl : isCloser s t → (x = .ready ∨ x = .cancelled) ∧ ∀ z, s.status t ≠ .waitT z)
    (hcan : s.status t = .cancelled → x = .cancelled ∨ ∀ j, stageOf t ≠ some j)
    (hdead : alive (s.status t) = false → alive x = false ∨ ∀ j, stageOf t ≠ some j)
    (hR : t = .R → s.status t = .ready → x = .ready)
    (hfin : (s.cstage = .finished ∨ s.cstage = .aborted) → t = .D → s.status t = .ready → x = .ready) :
    InvB (s.setStatus t x) := by
  obtain ⟨typ, waitq, waitt, ccan, bst, bwait, bdone, cb, rs, fin⟩ := i
  have dead : ∀ y j, stageOf y = some j → alive (s.status y) = false → alive ((s.setStatus t x).status y) = false := by
    intro y j hj hy
    rw [setStatus_status]
    by_cases hyt : y = t
    · rw [if_pos hyt]
      rcases hdead (hyt ▸ hy) with h | h
      · exact h
      · exact absurd (hyt ▸ hj) (h j)
    · rw [if_neg hyt]; exact hy
  have ready : ∀ y, (y = .R ∨ ((s.cstage = .finished ∨ s.cstage = .aborted) ∧ y = .D)) → s.status y = .ready →
      (s.setStatus t x).status y = .ready := by
    intro y hy hr
    rw [setStatus_status]
    by_cases hyt : y = t
    · rw [if_pos hyt]
      rcases hy with hy | ⟨ho, hy⟩
      · exact hR (hyt ▸ hy) (hyt ▸ hr)
      · exact hfin ho (hyt ▸ hy) (hyt ▸ hr)
    · rw [if_neg hyt]; exact hr
  refine ⟨?_, ?_, ?_, ?_, ?_, ?_, ?_, ?_, ?_, ?_⟩
  · intro y hy
    show allowed y (s.prog y) = true
    rw [setStatus_status] at hy
    by_cases hyt : y = t
    · rw [if_pos hyt] at hy; rw [hyt]; exact htyp hy
    · rw [if_neg hyt] at hy; exact typ y hy
  · intro y hy
    rw [setStatus_status] at hy
    by_cases hyt : y = t
    · rw [if_pos hyt] at hy; rw [hyt]; exact hq hy
    · rw [if_neg hyt] at hy; exact waitq y hy
  · intro y z hy
    show (∃ pc c, s.cstage = .body y pc c) ∨ _
    rw [setStatus_status] at hy
    by_cases hyt : y = t
    · rw [if_pos hyt] at hy; rw [hyt]; exact Or.inr (hw z hy).1
    · rw [if_neg hyt] at hy; exact waitt y z hy
  · rw [setStatus_status]
    by_cases hyt : Tid.C = t
    · rw [if_pos hyt]; exact hC hyt.symm
    · rw [if_neg hyt]; exact ccan
  · intro t' pc c hc
    have hc' : s.cstage = .body t' pc c := hc
    obtain ⟨a, b, c', d, e, f⟩ := bst t' pc c hc'
    refine ⟨a, b, c', ?_, ?_, f⟩
    · rw [setStatus_status]; split
      · rename_i h
        rcases (hcl (Or.inl ⟨pc, c, h ▸ hc'⟩)).1 with h' | h' <;> rw [h'] <;> rfl
      · exact d
    · rw [setStatus_status]; split
      · rename_i h
        rcases (hcl (Or.inl ⟨pc, c, h ▸ hc'⟩)).1 with h' | h' <;> rw [h'] <;> simp
      · exact e
  · intro t' pc c x0 hc hwt
    have hc' : s.cstage = .body t' pc c := hc
    rw [setStatus_status] at hwt
    by_cases ht : t' = t
    · rw [if_pos ht] at hwt
      exact absurd (Or.inl ⟨pc, c, ht ▸ hc'⟩) (hw x0 hwt).2
    · rw [if_neg ht] at hwt
      obtain ⟨a, b⟩ := bwait t' pc c x0 hc' hwt
      refine ⟨a, ?_⟩
      rw [setStatus_status]
      by_cases hx0 : x0 = t
      · rw [if_pos hx0]
        rcases hcan (hx0 ▸ b) with h | h
        · exact h
        · exact absurd (hx0 ▸ a) (h _)
      · rw [if_neg hx0]; exact b
  · intro t' pc c x0 j hc hs hj
    have hc' : s.cstage = .body t' pc c := hc
    have hj' : j + 1 < pc ∨ (j + 1 = pc ∧ ∀ y, s.status t' ≠ .waitT y) := by
      rcases hj with hj | ⟨hj, hy⟩
      · exact Or.inl hj
      · right
        refine ⟨hj, ?_⟩
        by_cases ht : t' = t
        · exact ht ▸ (hcl (Or.inl ⟨pc, c, ht ▸ hc'⟩)).2
        · intro y; have := hy y; rw [setStatus_status, if_neg ht] at this; exact this
    exact okDone_setStatus hs hdead hR (bdone t' pc c x0 j hc' hs hj')
  · intro t' k c hc
    have hc' : s.cstage = .cb t' k c := hc
    obtain ⟨a, b, cok, d⟩ := cb t' k c hc'
    refine ⟨a, ?_, cok, fun x0 j hs => okDone_setStatus hs hdead hR (d x0 j hs)⟩
    rw [setStatus_status]; split
    · rename_i h; exact (hcl (Or.inr ⟨k, c, h ▸ hc'⟩)).1
    · exact b
  · intro hr
    rcases rs hr with h | h | h
    · exact Or.inl h
    · exact Or.inr (Or.inl (dead .R 4 rfl h))
    · exact Or.inr (Or.inr (ready .R (Or.inl rfl) h))
  · intro hc
    have hc' : s.cstage = .finished ∨ s.cstage = .aborted := hc
    obtain ⟨a, b, c, d, e⟩ := fin hc'
    refine ⟨dead .L 2 rfl a, dead .M 3 rfl b, dead .V 1 rfl c, ?_, ?_⟩
    · rcases d with d | d
      · exact Or.inl (dead .D 0 rfl d)
      · exact Or.inr (ready .D (Or.inr ⟨hc', rfl⟩) d)
    · rcases e with e | e
      · exact Or.inl (dead .R 4 rfl e)
      · exact Or.inr (ready .R (Or.inl rfl) e)

theorem InvB.restatus {s : St} (i : InvB s) (t : Tid) (x : Status)
    (hold : alive (s.status t) = true) (hnw : ∀ y, s.status t ≠ .waitT y) (hxw : ∀ y, x ≠ .waitT y)
    (hq : x = .waitQ → t = .D ∨ t = .V) (hC : t = .C → x ≠ .cancelled)
    (hcl : isCloser s t → x = .ready ∨ x = .cancelled)
    (hcan : s.status t = .cancelled → x = .cancelled ∨ ∀ j, stageOf t ≠ some j)
    (hR : t = .R → x = .ready)
    (hfin : (s.cstage = .finished ∨ s.cstage = .aborted) → t = .D → x = .ready) : InvB (s.setStatus t x) :=
  i.setStatus t x (fun _ => i.typ t hold) hq (fun z e => absurd e (hxw z)) hC (fun h => ⟨hcl h, hnw⟩) hcan
    (fun h => by rw [hold] at h; contradiction) (fun e _ => hR e) (fun o e _ => hfin o e)

/-- a task's program changes (not the closer's, whose program is `inClose`) -/
theorem InvB.setProg {s : St} (i : InvB s) (t : Tid) (p : Prog)
    (hp : alive (s.status t) = true → allowed t p = true) (hnc : ¬ isCloser s t) : InvB (s.setProg t p) := by
  obtain ⟨typ, waitq, waitt, ccan, bst, bwait, bdone, cb, rs, fin⟩ := i
  refine ⟨?_, waitq, waitt, ccan, ?_, bwait, bdone, ?_, rs, fin⟩
  · intro y hy
    show allowed y (if y = t then p else s.prog y) = true
    by_cases hyt : y = t
    · subst hyt; simp only [if_true]; exact hp hy
    · simp only [hyt, if_false]; exact typ y hy
  · intro t' pc c hc
    have hne : t' ≠ t := by intro e; subst e; exact hnc (Or.inl ⟨pc, c, hc⟩)
    obtain ⟨a, b⟩ := bst t' pc c hc
    refine ⟨?_, b⟩
    show (if t' = t then p else s.prog t') = .inClose
    simp only [hne, if_false]; exact a
  · intro t' k c hc
    have hne : t' ≠ t := by intro e; subst e; exact hnc (Or.inr ⟨k, c, hc⟩)
    obtain ⟨a, b⟩ := cb t' k c hc
    refine ⟨?_, b⟩
    show (if t' = t then p else s.prog t') = .inClose
    simp only [hne, if_false]; exact a

/-- when no close is in progress only the first four fields (and the stopped-reader fact) matter -/
theorem InvB.of_idle {s : St} (h : s.cstage = .idle)
    (typ : ∀ t, alive (s.status t) = true → allowed t (s.prog t) = true)
    (waitq : ∀ t, s.status t = .waitQ → t = .D ∨ t = .V)
    (waitt : ∀ t y, s.status t = .waitT y → ∃ u, t = .U u ∧ y = .V)
    (ccan : s.status .C ≠ .cancelled) (hrs : s.rStopped = false) : InvB s :=
  ⟨typ, waitq, fun t y hy => Or.inr (waitt t y hy), ccan,
   by intro t pc c hc; rw [h] at hc; contradiction,
   by intro t pc c x hc; rw [h] at hc; contradiction,
   by intro t pc c x j hc; rw [h] at hc; contradiction,
   by intro t k c hc; rw [h] at hc; contradiction,
   by intro hr; rw [hrs] at hr; contradiction,
   by intro hc; rw [h] at hc; rcases hc with hc | hc <;> contradiction⟩

theorem InvB.idle_waitt {s : St} (i : InvB s) (h : s.cstage = .idle) :
    ∀ t y, s.status t = .waitT y → ∃ u, t = .U u ∧ y = .V := by
  intro t y hy
  rcases i.waitt t y hy with ⟨pc, c, hb⟩ | h'
  · rw [h] at hb; contradiction
  · exact h'

theorem InvB.spawn {s : St} (i : InvB s) (h : s.cstage = .idle) (hrs : s.rStopped = false) (t : Tid) (p : Prog)
    (hp : allowed t p = true) : InvB (s.spawn t p) := by
  have hw := i.idle_waitt h
  apply InvB.of_idle (by exact h) _ _ _ _ (by exact hrs)
  · intro y hy
    rw [spawn_prog]; rw [spawn_status] at hy
    by_cases hyt : y = t
    · subst hyt; simp only [if_true]; exact hp
    · simp only [hyt, if_false] at hy ⊢; exact i.typ y hy
  · intro y hy
    rw [spawn_status] at hy
    by_cases hyt : y = t
    · simp [hyt] at hy
    · simp only [hyt, if_false] at hy; exact i.waitq y hy
  · intro y z hy
    rw [spawn_status] at hy
    by_cases hyt : y = t
    · simp [hyt] at hy
    · simp only [hyt, if_false] at hy; exact hw y z hy
  · rw [spawn_status]
    split
    · simp
    · exact i.ccan

theorem InvB.setStatus_dead {s : St} (i : InvB s) (t : Tid) (x : Status) (h : alive (s.status t) = false)
    (hx : alive x = false) : InvB (s.setStatus t x) := by
  have hne : ∀ y, alive y = true → s.status t ≠ y := fun y hy e => by rw [e, hy] at h; contradiction
  refine i.setStatus t x (fun e => ?_) (fun e => ?_) (fun z e => ?_) (fun _ e => ?_) (fun hc => ?_) (fun e => ?_)
    (fun _ => Or.inl hx) (fun _ e => ?_) (fun _ _ e => ?_)
  · rw [hx] at e; contradiction
  · rw [e] at hx; contradiction
  · rw [e] at hx; contradiction
  · rw [e] at hx; contradiction
  · rw [i.closer_alive hc] at h; contradiction
  · exact absurd e (hne _ rfl)
  · exact absurd e (hne _ rfl)
  · exact absurd e (hne _ rfl)

/-- a user task that is not the closer takes a status and a program of its own (user tasks are not stop targets) -/
theorem InvB.setUser {s : St} (i : InvB s) (u : Nat) (x : Status) (p : Prog) (hnc : ¬ isCloser s (.U u))
    (hp : allowed (.U u) p = true) (hq : x ≠ .waitQ) (hw : ∀ z, x = .waitT z → z = .V) :
    InvB ((s.setStatus (.U u) x).setProg (.U u) p) := by
  have i1 : InvB (s.setProg (.U u) p) := i.setProg (.U u) p (fun _ => hp) hnc
  refine InvB.of_bcore (s := (s.setProg (.U u) p).setStatus (.U u) x) rfl ?_
  refine i1.setStatus (.U u) x (fun _ => ?_) (fun e => absurd e hq) (fun z e => ⟨⟨u, rfl, hw z e⟩, hnc⟩) (fun e => by cases e)
    (fun hc => absurd hc hnc) (fun _ => Or.inr (stageOf_user u)) (fun _ => Or.inr (stageOf_user u)) (fun e => by cases e)
    (fun _ e => by cases e)
  rw [setProg_prog, if_pos rfl]
  exact hp

theorem InvB.userStart {s : St} (i : InvB s) (u : Nat) (p : Prog) (h : s.status (.U u) = .absent)
    (hp : allowed (.U u) p = true) : InvB ((s.setStatus (.U u) .ready).setProg (.U u) p) :=
  i.setUser u .ready p (fun hc => by have := i.closer_alive hc; rw [h] at this; contradiction) hp (by simp) (by simp)

theorem InvB.userAwait {s : St} (i : InvB s) (hidle : s.cstage = .idle) (u : Nat) (p : Prog)
    (hp : allowed (.U u) p = true) : InvB ((s.setStatus (.U u) (.waitT .V)).setProg (.U u) p) :=
  i.setUser u (.waitT .V) p (not_closer_of_idle hidle _) hp (by simp) (fun z e => by injection e with e; exact e.symm)

/-- `Reader.stop()` marks the reader stopped -/
theorem InvB.setRStopped {s : St} (i : InvB s) (h : isCloser s .R ∨ alive (s.status .R) = false ∨ s.status .R = .ready) :
    InvB { s with rStopped := true } :=
  ⟨i.typ, i.waitq, i.waitt, i.ccan, i.bst, i.bwait, i.bdone, i.cb, fun _ => h, i.fin⟩

/-- `close()` returns at once to a task that is not the closer (the session was already closed) -/
theorem runCont_InvB_nonCloser {s : St} (i : InvB s) {t : Tid} {c : Cont} (hst : s.status t = .ready)
    (hp : s.prog t ≠ .inClose) (hc : contOk t c) : InvB (runCont s t c) := by
  have hnc := not_closer_of_prog i hp
  cases c with
  | readerTail =>
    simp only [contOk] at hc; subst hc
    have i1 : InvB ({ s with rStopped := true } : St) := i.setRStopped (Or.inr (Or.inr hst))
    have i2 := i1.restatus .R .ready (by show alive (s.status .R) = true; rw [hst]; rfl)
      (by intro y; show s.status .R ≠ _; rw [hst]; simp) (by simp) (by simp) (by simp) (fun _ => Or.inl rfl)
      (by show s.status .R = .cancelled → _; rw [hst]; simp) (fun _ => rfl) (by simp)
    exact i2.setProg .R .readerLoop (fun _ => rfl) hnc
  | handlerTail n =>
    simp only [contOk] at hc; subst hc
    have i1 : InvB (s.emit (.msgExit n)) := i.emit
    have i2 := i1.restatus .D .ready (by show alive (s.status .D) = true; rw [hst]; rfl)
      (by intro y; show s.status .D ≠ _; rw [hst]; simp) (by simp) (by simp) (by simp) (fun _ => Or.inl rfl)
      (by show s.status .D = .cancelled → _; rw [hst]; simp) (by simp) (fun _ _ => rfl)
    have i3 := i2.setProg .D .dispLoop (fun _ => rfl) hnc
    exact InvB.of_bcore (s := ((s.emit (.msgExit n)).setStatus .D .ready).setProg .D .dispLoop) rfl i3
  | monitorTail => exact i.finish t hnc
  | closingTail => exact i.finish t hnc
  | userTail u r => exact (i.emit (o := .ret u r.toRes)).finish t hnc

/-- the facts under which the closer `t` runs stage `j` of the close body -/
structure PreB (s : St) (t : Tid) (c : Cont) (j : Nat) : Prop where
  typ : ∀ y, alive (s.status y) = true → allowed y (s.prog y) = true
  waitq : ∀ y, s.status y = .waitQ → y = .D ∨ y = .V
  waitt : ∀ y z, s.status y = .waitT z → ∃ u, y = .U u ∧ z = .V
  ccan : s.status .C ≠ .cancelled
  st : s.status t = .ready
  cok : contOk t c
  done : ∀ x i, stageOf x = some i → i < j → okDone s t x
  rs : s.rStopped = true → t = .R ∨ alive (s.status .R) = false ∨ s.status .R = .ready

theorem PreB.next {s : St} {t : Tid} {c : Cont} {j : Nat} {x : Tid} (p : PreB s t c j) (hx : stageOf x = some j)
    (hd : okDone s t x) : PreB s t c (j + 1) :=
  ⟨p.typ, p.waitq, p.waitt, p.ccan, p.st, p.cok, by
    intro y i hy hi
    by_cases hij : i < j
    · exact p.done y i hy hij
    · have : i = j := by omega
      subst this
      have := stageOf_inj hy hx
      subst this; exact hd, p.rs⟩

theorem PreB.mono {s : St} {t : Tid} {c : Cont} {j k : Nat} (p : PreB s t c j) (h : k ≤ j) : PreB s t c k :=
  ⟨p.typ, p.waitq, p.waitt, p.ccan, p.st, p.cok, fun x i hx hi => p.done x i hx (by omega), p.rs⟩

theorem PreB.all {s : St} {t : Tid} {c : Cont} {j : Nat} (p : PreB s t c j) (h : 5 ≤ j) :
    ∀ x i, stageOf x = some i → okDone s t x :=
  fun x i hx => p.done x i hx (by have := stageOf_le hx; omega)

theorem suspendOn_InvB {s : St} {t x : Tid} {c : Cont} {j : Nat} (p : PreB s t c j)
    (hx : stageOf x = some j) (hne : x ≠ t) (ha : alive (s.status x) = true) (hxR : x = .R → s.rStopped = false) :
    InvB (suspendOn s t x j c) := by
  have hxw : ∀ z, s.status x ≠ .waitT z := by
    intro z hz
    obtain ⟨u, hu, _⟩ := p.waitt x z hz
    subst hu; exact stageOf_user u j hx
  have hj4 : j ≤ 4 := stageOf_le hx
  have hst : ∀ y, (suspendOn s t x j c).status y =
      if y = t then .waitT x else if y = x then .cancelled else s.status y := by
    intro y
    show (if y = t then Status.waitT x else (s.cancelTask x).status y) = _
    rw [cancelTask_status ha hxw]
  have hpr : ∀ y, (suspendOn s t x j c).prog y = if y = t then .inClose else s.prog y := by
    intro y
    show (if y = t then Prog.inClose else (s.cancelTask x).prog y) = _
    rw [cancelTask_prog]
  have hcs : (suspendOn s t x j c).cstage = .body t (j + 1) c := rfl
  have hrs : (suspendOn s t x j c).rStopped = s.rStopped := by
    simp only [suspendOn, St.setProg, St.setStatus]
    exact cancelTask_rStopped s x
  refine ⟨?_, ?_, ?_, ?_, ?_, ?_, ?_, ?_, ?_, ?_⟩
  · intro y hy
    rw [hst] at hy; rw [hpr]
    by_cases hyt : y = t
    · subst hyt; simp only [if_true]; exact contOk_allowed p.cok
    · simp only [hyt, if_false] at hy ⊢
      by_cases hyx : y = x
      · subst hyx; exact p.typ y ha
      · simp only [hyx, if_false] at hy; exact p.typ y hy
  · intro y hy
    rw [hst] at hy
    by_cases hyt : y = t
    · simp [hyt] at hy
    · by_cases hyx : y = x
      · subst hyx; simp [hyt] at hy
      · simp only [hyt, hyx, if_false] at hy; exact p.waitq y hy
  · intro y z hy
    rw [hst] at hy; rw [hcs]
    by_cases hyt : y = t
    · left; exact ⟨j + 1, c, by rw [hyt]⟩
    · by_cases hyx : y = x
      · subst hyx; simp [hyt] at hy
      · simp only [hyt, hyx, if_false] at hy; right; exact p.waitt y z hy
  · rw [hst]
    by_cases hCt : Tid.C = t
    · simp [hCt]
    · have hCx : Tid.C ≠ x := by intro e; rw [← e] at hx; exact stageOf_C j hx
      simp only [hCt, hCx, if_false]; exact p.ccan
  · intro t' pc c' hc
    rw [hcs] at hc; injection hc with e1 e2 e3; subst e1 e2 e3
    exact ⟨by rw [hpr]; simp, by omega, by omega, by rw [hst]; simp [alive], by rw [hst]; simp, p.cok⟩
  · intro t' pc c' x0 hc hw
    rw [hcs] at hc; injection hc with e1 e2 e3; subst e1 e2 e3
    rw [hst] at hw; simp only [if_true] at hw
    injection hw with hw; subst hw
    refine ⟨by simpa using hx, ?_⟩
    rw [hst]; simp [hne]
  · intro t' pc c' x0 i hc hs hi
    rw [hcs] at hc; injection hc with e1 e2 e3; subst e1 e2 e3
    rcases hi with hi | ⟨_, hy⟩
    · have hij : i < j := by omega
      have hx0 : x0 ≠ x := by intro e; subst e; rw [hs] at hx; injection hx with hx; omega
      rcases p.done x0 i hs hij with h | h | ⟨h1, h2⟩
      · exact Or.inl h
      · right; left
        rw [hst]
        by_cases hx0t : x0 = t
        · subst hx0t; rw [p.st] at h; simp [alive] at h
        · simp only [hx0t, hx0, if_false]; exact h
      · subst h1; simp [stageOf] at hs; omega
    · exact absurd (by rw [hst]; simp) (hy x)
  · intro t' k c' hc; rw [hcs] at hc; contradiction
  · intro hr
    rw [hrs] at hr
    have hxR' : x ≠ .R := by intro e; have := hxR e; rw [this] at hr; contradiction
    rcases p.rs hr with h | h | h
    · left; left; exact ⟨j + 1, c, by rw [hcs, h]⟩
    · right; left; rw [hst]
      by_cases hRt : Tid.R = t
      · rw [← hRt] at p; rw [p.st] at h; simp [alive] at h
      · simp only [hRt, Ne.symm hxR', if_false]; exact h
    · by_cases hRt : Tid.R = t
      · left; left; exact ⟨j + 1, c, by rw [hcs, hRt]⟩
      · right; right; rw [hst]; simp only [hRt, Ne.symm hxR', if_false]; exact h
  · intro hc; rw [hcs] at hc; rcases hc with hc | hc <;> contradiction

/-- facts at the last step of the closer (`t` is runnable, every target is done) -/
structure EndB (s : St) (t : Tid) : Prop where
  typ : ∀ y, alive (s.status y) = true → allowed y (s.prog y) = true
  waitq : ∀ y, s.status y = .waitQ → y = .D ∨ y = .V
  waitt : ∀ y z, s.status y = .waitT z → ∃ u, y = .U u ∧ z = .V
  ccan : s.status .C ≠ .cancelled
  st : s.status t = .ready ∨ s.status t = .cancelled
  tV : t ≠ .V
  all : ∀ x i, stageOf x = some i → okDone s t x

/-- **The closer leaves the close body**: it takes status `x` and program `p`, nobody else moves, and the stage becomes the close
    callback (the closer stays runnable, inside `close()`) or the close is over (the closer ends, or goes back to its loop as
    reader or dispatcher).  Every stop target is done already, so nothing of `InvB` is asked of another task. -/
theorem EndB.leave {s s1 : St} {t : Tid} (e : EndB s t) (x : Status) (p : Prog)
    (hs : ∀ y, s1.status y = if y = t then x else s.status y) (hp : ∀ y, s1.prog y = if y = t then p else s.prog y)
    (htyp : alive x = true → allowed t p = true) (hx : x = .done ∨ x = .ready ∨ x = .cancelled) (hC : t = .C → x ≠ .cancelled)
    (hstage : (∃ k c, s1.cstage = .cb t k c ∧ p = .inClose ∧ x ≠ .done ∧ contOk t c ∧
        (s1.rStopped = true → t = .R ∨ alive (s.status .R) = false ∨ s.status .R = .ready)) ∨
      ((s1.cstage = .finished ∨ s1.cstage = .aborted) ∧ (x = .done ∨ (x = .ready ∧ (t = .R ∨ t = .D))))) : InvB s1 := by
  have hni : s1.cstage ≠ .idle := by
    rcases hstage with ⟨k, c, h, _⟩ | ⟨h | h, _⟩ <;> rw [h] <;> simp
  have hnb : ∀ t' pc c, s1.cstage ≠ .body t' pc c := by
    intro t' pc c
    rcases hstage with ⟨k, c, h, _⟩ | ⟨h | h, _⟩ <;> rw [h] <;> simp
  have hcb : ∀ t' k c, s1.cstage = .cb t' k c → t' = t ∧ p = .inClose ∧ x ≠ .done ∧ contOk t c ∧
      (s1.rStopped = true → t = .R ∨ alive (s.status .R) = false ∨ s.status .R = .ready) := by
    intro t' k c hc
    rcases hstage with ⟨k', c', h, h'⟩ | ⟨h | h, _⟩
    · rw [h] at hc; injection hc with e1 _ e3; exact ⟨e1.symm, e3 ▸ h'⟩
    · rw [h] at hc; contradiction
    · rw [h] at hc; contradiction
  have hover : (s1.cstage = .finished ∨ s1.cstage = .aborted) → x = .done ∨ (x = .ready ∧ (t = .R ∨ t = .D)) := by
    intro ho
    rcases hstage with ⟨k, c, h, _⟩ | ⟨_, h⟩
    · rcases ho with ho | ho <;> rw [h] at ho <;> contradiction
    · exact h
  have other : ∀ {y}, y ≠ t → s1.status y = s.status y := fun h => by rw [hs, if_neg h]
  have self : s1.status t = x := by rw [hs, if_pos rfl]
  have okd : ∀ x0 i, stageOf x0 = some i → okDone s1 t x0 := by
    intro x0 i hx0
    by_cases h0 : x0 = t
    · exact Or.inl h0
    · rcases e.all x0 i hx0 with h | h | ⟨h1, h2⟩
      · exact Or.inl h
      · exact Or.inr (Or.inl (by rw [other h0]; exact h))
      · exact Or.inr (Or.inr ⟨h1, by rw [other (h1 ▸ h0)]; exact h1 ▸ h2⟩)
  -- once the close is over a stop target has ended, or is the closer back in its loop, or the reader about to leave its
  have fin : ∀ x0 i, stageOf x0 = some i → (s1.cstage = .finished ∨ s1.cstage = .aborted) →
      alive (s1.status x0) = false ∨ (s1.status x0 = .ready ∧ (x0 = .R ∨ x0 = .D)) := by
    intro x0 i hx0 ho
    rcases okd x0 i hx0 with h | h | ⟨h1, h2⟩
    · rw [h, self]
      rcases hover ho with h' | h'
      · rw [h']; exact Or.inl rfl
      · exact Or.inr (h ▸ h')
    · exact Or.inl h
    · exact Or.inr ⟨h1 ▸ h2, Or.inl h1⟩
  refine ⟨?_, ?_, ?_, ?_, ?_, ?_, ?_, ?_, ?_, ?_⟩
  · intro y hy
    rw [hp]
    by_cases hyt : y = t
    · rw [if_pos hyt, hyt]; rw [hyt, self] at hy; exact htyp hy
    · rw [if_neg hyt]; rw [other hyt] at hy; exact e.typ y hy
  · intro y hy
    by_cases hyt : y = t
    · rw [hyt, self] at hy; rcases hx with h | h | h <;> rw [h] at hy <;> contradiction
    · rw [other hyt] at hy; exact e.waitq y hy
  · intro y z hy
    by_cases hyt : y = t
    · rw [hyt, self] at hy; rcases hx with h | h | h <;> rw [h] at hy <;> contradiction
    · rw [other hyt] at hy; exact Or.inr (e.waitt y z hy)
  · by_cases hyt : Tid.C = t
    · rw [hyt, self]; exact hC hyt.symm
    · rw [other hyt]; exact e.ccan
  · intro t' pc c hc; exact absurd hc (hnb t' pc c)
  · intro t' pc c x0 hc; exact absurd hc (hnb t' pc c)
  · intro t' pc c x0 j hc; exact absurd hc (hnb t' pc c)
  · intro t' k c hc
    obtain ⟨ht, hp', hnd, cok, _⟩ := hcb t' k c hc
    subst ht
    refine ⟨by rw [hp, if_pos rfl]; exact hp', ?_, cok, okd⟩
    rw [self]
    rcases hx with h | h | h
    · exact absurd h hnd
    · exact Or.inl h
    · exact Or.inr h
  · intro hr
    cases hst : s1.cstage with
    | idle => exact absurd hst hni
    | body t' pc c => exact absurd hst (hnb t' pc c)
    | cb t' k c =>
      obtain ⟨ht, _, _, _, hrs⟩ := hcb t' k c hst
      rcases hrs hr with h | h | h
      · exact Or.inl (Or.inr ⟨k, c, by rw [hst, ht, h]⟩)
      · by_cases hRt : Tid.R = t
        · exact Or.inl (Or.inr ⟨k, c, by rw [hst, ht, hRt]⟩)
        · exact Or.inr (Or.inl (by rw [other hRt]; exact h))
      · by_cases hRt : Tid.R = t
        · exact Or.inl (Or.inr ⟨k, c, by rw [hst, ht, hRt]⟩)
        · exact Or.inr (Or.inr (by rw [other hRt]; exact h))
    | finished =>
      rcases fin .R 4 rfl (Or.inl hst) with h | h
      · exact Or.inr (Or.inl h)
      · exact Or.inr (Or.inr h.1)
    | aborted =>
      rcases fin .R 4 rfl (Or.inr hst) with h | h
      · exact Or.inr (Or.inl h)
      · exact Or.inr (Or.inr h.1)
  · intro ho
    have dead : ∀ x0 i, stageOf x0 = some i → x0 ≠ .R → x0 ≠ .D → alive (s1.status x0) = false := by
      intro x0 i hx0 hR hD
      rcases fin x0 i hx0 ho with h | ⟨_, h | h⟩
      · exact h
      · exact absurd h hR
      · exact absurd h hD
    refine ⟨dead .L 2 rfl (by simp) (by simp), dead .M 3 rfl (by simp) (by simp), dead .V 1 rfl (by simp) (by simp), ?_, ?_⟩
    · rcases fin .D 0 rfl ho with h | h
      · exact Or.inl h
      · exact Or.inr h.1
    · rcases fin .R 4 rfl ho with h | h
      · exact Or.inl h
      · exact Or.inr h.1

/-- the closer ends (closing task, monitor, user call; or a user call cancelled inside the close callback) -/
theorem EndB.finish {s : St} {t : Tid} (e : EndB s t) (s1 : St) (hb : s1.status = s.status ∧ s1.prog = s.prog)
    (hE : s1.cstage = .finished ∨ s1.cstage = .aborted) : InvB (s1.finish t) := by
  obtain ⟨hs1, hp1⟩ := hb
  -- nobody is waiting for the closer: a user call waits for the receive helper only
  have hnw : ∀ y, s.status y ≠ .waitT t := by
    intro y hy
    obtain ⟨u, _, hz⟩ := e.waitt y t hy
    exact e.tV hz
  refine e.leave .done (s.prog t) ?_ ?_ (fun h => by simp [alive] at h) (Or.inl rfl) (fun _ => by simp)
    (Or.inr ⟨hE, Or.inl rfl⟩)
  · intro y
    rw [finish_status, hs1]
    by_cases hyt : y = t
    · simp [hyt]
    · simp [hyt, hnw y]
  · intro y
    show s1.prog y = _
    rw [hp1]
    split
    · rename_i h; rw [h]
    · rfl

/-- the closer goes on after the close (reader back to its loop, dispatcher back to its loop) -/
theorem EndB.resume {s : St} {t : Tid} (e : EndB s t) (s1 : St) (p : Prog)
    (hb : s1.status = s.status ∧ s1.prog = s.prog) (hE : s1.cstage = .finished ∨ s1.cstage = .aborted)
    (ht : t = .R ∨ t = .D) (hp : allowed t p = true) : InvB ((s1.setStatus t .ready).setProg t p) := by
  obtain ⟨hs1, hp1⟩ := hb
  refine e.leave .ready p ?_ ?_ (fun _ => hp) (Or.inr (Or.inl rfl)) (fun _ => by simp) (Or.inr ⟨hE, Or.inr ⟨rfl, ht⟩⟩)
  · intro y
    rw [setProg_status, setStatus_status, hs1]
  · intro y
    rw [setProg_prog]
    show _ = if y = t then p else s.prog y
    rw [← hp1]
    rfl

theorem EndB.runCont {s : St} {t : Tid} {c : Cont} (e : EndB s t) (hc : contOk t c)
    (s1 : St) (hb : s1.status = s.status ∧ s1.prog = s.prog) (hE : s1.cstage = .finished) :
    InvB (runCont s1 t c) := by
  cases c with
  | readerTail =>
    simp only [contOk] at hc; subst hc
    exact e.resume { s1 with rStopped := true } .readerLoop hb (Or.inl hE) (Or.inl rfl) rfl
  | handlerTail n =>
    simp only [contOk] at hc; subst hc
    have := e.resume (s1.emit (.msgExit n)) .dispLoop hb (Or.inl hE) (Or.inr rfl) rfl
    exact InvB.of_bcore (s := ((s1.emit (.msgExit n)).setStatus .D .ready).setProg .D .dispLoop) rfl this
  | monitorTail => exact e.finish s1 hb (Or.inl hE)
  | closingTail => exact e.finish s1 hb (Or.inl hE)
  | userTail u r => exact e.finish (s1.emit (.ret u r.toRes)) hb (Or.inl hE)

theorem contOk_ne_V {t : Tid} {c : Cont} (h : contOk t c) : t ≠ .V := by
  cases c <;> simp [contOk] at h <;> subst h <;> simp

theorem PreB.toEnd {s : St} {t : Tid} {c : Cont} {j : Nat} (p : PreB s t c j) (h : 5 ≤ j) : EndB s t :=
  ⟨p.typ, p.waitq, p.waitt, p.ccan, Or.inl p.st, contOk_ne_V p.cok, p.all h⟩

theorem closeTail_InvB {cfg : Cfg} {s : St} {t : Tid} {c : Cont} {j : Nat} (p : PreB s t c j) (h : 5 ≤ j) :
    InvB (closeTail cfg s t c) := by
  have e := p.toEnd h
  unfold closeTail
  simp only
  split
  · exact e.runCont p.cok _ ⟨rfl, rfl⟩ rfl
  · split
    · -- inside the close callback
      rename_i k _
      refine e.leave .ready .inClose ?_ ?_ (fun _ => contOk_allowed p.cok) (Or.inr (Or.inl rfl))
        (fun _ => by simp) (Or.inl ⟨k, c, rfl, rfl, by simp, p.cok, fun hr => p.rs ?_⟩)
      · intro y
        simp only [St.setProg, St.setStatus, St.emit]
      · intro y
        simp only [St.setProg, St.setStatus, St.emit]
      · simpa only [St.setProg, St.setStatus, St.emit] using hr
    · exact e.runCont p.cok _ ⟨rfl, rfl⟩ rfl

theorem PreB.of_bcore {s s' : St} {t : Tid} {c : Cont} {j : Nat} (h : bcore s' = bcore s) (p : PreB s t c j) :
    PreB s' t c j := by
  simp only [bcore, Prod.mk.injEq] at h
  obtain ⟨h1, h2, _, h4⟩ := h
  obtain ⟨typ, waitq, waitt, ccan, st, cok, done, rs⟩ := p
  refine ⟨?_, ?_, ?_, ?_, ?_, cok, ?_, ?_⟩
  · rw [h1, h2]; exact typ
  · rw [h1]; exact waitq
  · rw [h1]; exact waitt
  · rw [h1]; exact ccan
  · rw [h1]; exact st
  · unfold okDone; rw [h1]; exact done
  · rw [h1, h4]; exact rs

theorem ec6_InvB {cfg : Cfg} {s : St} {t : Tid} {c : Cont} (p : PreB s t c 5) : InvB (ec6 cfg t c s) :=
  closeTail_InvB p (Nat.le_refl 5)

theorem ec5_InvB {cfg : Cfg} {s : St} {t : Tid} {c : Cont} (p : PreB s t c 5) : InvB (ec5 cfg t c s) := by
  unfold ec5
  apply ec6_InvB
  obtain ⟨typ, waitq, waitt, ccan, st, cok, done, rs⟩ := p
  exact ⟨typ, waitq, waitt, ccan, st, cok, done, fun _ => by
    rcases done .R 4 rfl (by omega) with h | h | ⟨_, h⟩
    · exact Or.inl h.symm
    · exact Or.inr (Or.inl h)
    · exact Or.inr (Or.inr h)⟩

theorem stopStage_InvB {s : St} {t : Tid} {c : Cont} {j : Nat} {x : Tid} {next : St → St} (p : PreB s t c j)
    (hx : stageOf x = some j) (hxR : x = .R → s.rStopped = false)
    (hn : PreB s t c (j + 1) → InvB (next s)) : InvB (stopStage s t c j x next) := by
  unfold stopStage
  split
  · rename_i h
    apply hn
    apply p.next hx
    simp only [Bool.or_eq_true, decide_eq_true_eq, Bool.not_eq_true'] at h
    rcases h with h | h
    · exact Or.inl h
    · exact Or.inr (Or.inl h)
  · rename_i h
    simp only [Bool.or_eq_true, decide_eq_true_eq, Bool.not_eq_true', not_or] at h
    exact suspendOn_InvB p hx h.1 (by simpa using h.2) hxR

theorem ec4_InvB {cfg : Cfg} {s : St} {t : Tid} {c : Cont} (p : PreB s t c 4) : InvB (ec4 cfg t c s) := by
  unfold ec4
  split
  · rename_i hr
    apply ec6_InvB
    apply p.next (x := .R) rfl
    rcases p.rs hr with h | h | h
    · exact Or.inl h.symm
    · exact Or.inr (Or.inl h)
    · exact Or.inr (Or.inr ⟨rfl, h⟩)
  · rename_i hr
    exact stopStage_InvB p rfl (fun _ => by simpa using hr) (fun p' => ec5_InvB p')

theorem ec3_InvB {cfg : Cfg} {s : St} {t : Tid} {c : Cont} (p : PreB s t c 3) : InvB (ec3 cfg t c s) :=
  stopStage_InvB p rfl (by simp) (fun p' => ec4_InvB p')

theorem ec2_InvB {cfg : Cfg} {s : St} {t : Tid} {c : Cont} (p : PreB s t c 2) : InvB (ec2 cfg t c s) :=
  stopStage_InvB p rfl (by simp) (fun p' => ec3_InvB p')

theorem ec1_InvB {cfg : Cfg} {s : St} {t : Tid} {c : Cont} (p : PreB s t c 1) : InvB (ec1 cfg t c s) :=
  stopStage_InvB p rfl (by simp) (fun p' => ec2_InvB p')

theorem ec0_InvB {cfg : Cfg} {s : St} {t : Tid} {c : Cont} (p : PreB s t c 0) : InvB (ec0 cfg t c s) :=
  stopStage_InvB p rfl (by simp) (fun p' => ec1_InvB (PreB.of_bcore (s := s) rfl p'))

theorem execClose_InvB {cfg : Cfg} {s : St} {t : Tid} {c : Cont} {pc : Nat} (p : PreB s t c pc) :
    InvB (execClose cfg s t c pc) := by
  unfold execClose
  split
  · exact ec0_InvB p
  · exact ec1_InvB p
  · exact ec2_InvB p
  · exact ec3_InvB p
  · exact ec4_InvB p
  · exact ec5_InvB p
  · rename_i h0 h1 h2 h3 h4 h5
    have : 5 ≤ pc := by
      simp only [imp_false] at h0 h1 h2 h3 h4
      omega
    exact ec6_InvB (p.mono this)

theorem enterClose_InvB {cfg : Cfg} {s : St} (a : InvA cfg s) (i : InvB s) {t : Tid} {c : Cont}
    (hst : s.status t = .ready) (hp : s.prog t ≠ .inClose) (hc : contOk t c) : InvB (enterClose cfg s t c) := by
  unfold enterClose
  split
  · exact runCont_InvB_nonCloser i hst hp hc
  · rename_i hcl
    have hidle : s.cstage = .idle := idle_of_open a (by simpa using hcl)
    apply execClose_InvB
    refine ⟨i.typ, i.waitq, i.idle_waitt hidle, i.ccan, hst, hc, ?_, ?_⟩
    · intro x j _ hj; omega
    · intro hr
      have hr' : s.rStopped = true := hr
      rcases i.rs hr' with h | h | h
      · rcases h with ⟨pc, c', hb⟩ | ⟨k, c', hb⟩ <;> rw [hidle] at hb <;> contradiction
      · exact Or.inr (Or.inl h)
      · exact Or.inr (Or.inr h)

theorem stepInClose_InvB {cfg : Cfg} {s : St} (i : InvB s) (t : Tid) (b : Bool)
    (hrun : s.status t = .ready ∨ s.status t = .cancelled) : InvB (stepInClose cfg s t b) := by
  -- inside the close callback every stop target is done
  have endB : ∀ k c, s.cstage = .cb t k c → EndB s t := by
    intro k c hs
    obtain ⟨_, hst, cok, hall⟩ := i.cb t k c hs
    refine ⟨i.typ, i.waitq, ?_, i.ccan, hst, contOk_ne_V cok, hall⟩
    intro y z hy
    rcases i.waitt y z hy with ⟨pc', c', hb⟩ | h
    · rw [hs] at hb; contradiction
    · exact h
  refine stepInClose_rule cfg s t b InvB i ?_ ?_ ?_ ?_ ?_
  · intro pc c hs
    obtain ⟨hprog, hpc1, hpc5, _, _, cok⟩ := i.bst t pc c hs
    have hnw : ∀ y, s.status t ≠ .waitT y := by
      intro y hy; rcases hrun with h | h <;> rw [h] at hy <;> simp at hy
    have halive : alive (s.status t) = true := by rcases hrun with h | h <;> rw [h] <;> rfl
    unfold resumeClose
    apply execClose_InvB
    -- the state in which the body resumes: the closer is running again
    have hst : ∀ y, (s.setStatus t .ready).status y = if y = t then .ready else s.status y := fun _ => rfl
    have base : PreB (s.setStatus t .ready) t c pc := by
      refine ⟨?_, ?_, ?_, ?_, by rw [hst]; simp, cok, ?_, ?_⟩
      · intro y hy
        show allowed y (s.prog y) = true
        rw [hst] at hy
        by_cases hyt : y = t
        · rw [hyt]; exact i.typ t halive
        · simp only [hyt, if_false] at hy; exact i.typ y hy
      · intro y hy; rw [hst] at hy
        by_cases hyt : y = t
        · simp [hyt] at hy
        · simp only [hyt, if_false] at hy; exact i.waitq y hy
      · intro y z hy; rw [hst] at hy
        by_cases hyt : y = t
        · simp [hyt] at hy
        · simp only [hyt, if_false] at hy
          rcases i.waitt y z hy with ⟨pc', c', hb⟩ | h
          · rw [hs] at hb; injection hb with e _ _; exact absurd e.symm hyt
          · exact h
      · rw [hst]; split
        · simp
        · exact i.ccan
      · intro x j hx hj
        have := i.bdone t pc c x j hs hx (by
          by_cases h : j + 1 < pc
          · exact Or.inl h
          · exact Or.inr ⟨by omega, hnw⟩)
        exact okDone_setStatus hx (fun h => by rw [halive] at h; contradiction) (fun _ _ => rfl) this
      · intro hr
        have hr' : s.rStopped = true := hr
        rcases i.rs hr' with h | h | h
        · rcases h with ⟨pc', c', hb⟩ | ⟨k, c', hb⟩
          · rw [hs] at hb; injection hb with e _ _; exact Or.inl e
          · rw [hs] at hb; contradiction
        · by_cases hRt : Tid.R = t
          · exact Or.inl hRt.symm
          · right; left; rw [hst]; simp only [hRt, if_false]; exact h
        · by_cases hRt : Tid.R = t
          · exact Or.inl hRt.symm
          · right; right; rw [hst]; simp only [hRt, if_false]; exact h
    split
    · exact PreB.of_bcore (s := s.setStatus t .ready) rfl base
    · exact base
  · -- cancelled by the user inside the user's own close callback
    intro k u r hs _
    exact (endB k _ hs).finish (({ s with cstage := .aborted } : St).emit _) ⟨rfl, rfl⟩ (Or.inr rfl)
  · intro k c hs _ _
    exact (endB k c hs).finish ({ s with cstage := .aborted } : St) ⟨rfl, rfl⟩ (Or.inr rfl)
  · -- the callback returns
    intro c hs hb
    exact (endB 0 c hs).runCont (i.cb t 0 c hs).2.2.1 _ ⟨rfl, rfl⟩ rfl
  · -- one more await inside the callback
    intro k c hs _
    obtain ⟨hprog, hst, cok, _⟩ := i.cb t (k + 1) c hs
    have hx : s.status t ≠ .done := by rcases hst with h | h <;> rw [h] <;> simp
    refine (endB (k + 1) c hs).leave (s.status t) (s.prog t) ?_ ?_ (i.typ t) (Or.inr hst) (fun h => h ▸ i.ccan)
      (Or.inl ⟨k, c, rfl, hprog, hx, cok, fun hr => ?_⟩)
    · intro y
      split
      · rename_i h; rw [h]
      · rfl
    · intro y
      split
      · rename_i h; rw [h]
      · rfl
    · rcases i.rs hr with h | h | h
      · rcases h with ⟨pc', c', hb'⟩ | ⟨k2, c', hb'⟩
        · rw [hs] at hb'; contradiction
        · rw [hs] at hb'; injection hb' with e1 _ _
          exact Or.inl e1
      · exact Or.inr (Or.inl h)
      · exact Or.inr (Or.inr h)

theorem InvB.wakeGetter {s : St} (i : InvB s) (t : Tid) (ht : t = .D ∨ t = .V) : InvB (s.wakeGetter t) := by
  unfold St.wakeGetter
  split
  · rename_i hw
    exact i.restatus t .ready (by rw [hw]; rfl) (by intro y; rw [hw]; simp) (by simp) (by simp)
      (by intro e; rcases ht with h | h <;> rw [h] at e <;> simp at e) (fun _ => Or.inl rfl)
      (by rw [hw]; simp) (by intro e; rcases ht with h | h <;> rw [h] at e <;> simp at e) (fun _ _ => rfl)
  · exact i

theorem InvB.put {s : St} (i : InvB s) (m : Nat) : InvB (s.put m) := by
  unfold St.put
  refine InvB.wakeGetter ?_ _ (Or.inr rfl)
  refine InvB.wakeGetter ?_ _ (Or.inl rfl)
  ib i

theorem InvB.initiateClose {cfg : Cfg} {s : St} (a : InvA cfg s) (r : InvR s) (i : InvB s) : InvB s.initiateClose := by
  unfold St.initiateClose
  split
  · exact i
  · rename_i h
    simp only [Bool.or_eq_true, not_or, Bool.not_eq_true] at h
    have hidle := idle_of_open a h.1
    have i1 : InvB ({ s with closingTask := true } : St) := InvB.of_bcore (s := s) rfl i
    exact i1.spawn hidle (r h.1).1 .C _ rfl

theorem InvB.startHeartbeats {s : St} (i : InvB s) (hidle : s.cstage = .idle) (hrs : s.rStopped = false) :
    InvB s.startHeartbeats := by
  unfold St.startHeartbeats
  have i1 : InvB ({ s with pingL := true, pingM := true } : St) := InvB.of_bcore (s := s) rfl i
  exact (i1.spawn hidle hrs .L .monStart rfl).spawn hidle hrs .M .monStart rfl

theorem InvB.startDispatching {s : St} (i : InvB s) (cfg : Cfg) (hidle : s.cstage = .idle) (hrs : s.rStopped = false) :
    InvB (s.startDispatching cfg) := by
  unfold St.startDispatching
  split
  · have i1 : InvB ({ s with dispSet := true } : St) := InvB.of_bcore (s := s) rfl i
    exact i1.spawn hidle hrs .D .dispLoop rfl
  · exact i

/-- `login()` accepted: heartbeats and dispatching start while no close is in progress, the call returns and its task ends -/
theorem InvB.startSession {s : St} (i : InvB s) (cfg : Cfg) (hidle : s.cstage = .idle) (hrs : s.rStopped = false)
    (o : Obs) (t : Tid) : InvB ((((s.startHeartbeats).startDispatching cfg).emit o).finish t) := by
  have hidle1 := (cstage_of_core (core_startHeartbeats s)).trans hidle
  have hidle2 := (cstage_of_core (core_startDispatching _ cfg)).trans hidle1
  have i2 := (i.startHeartbeats hidle hrs).startDispatching cfg hidle1 (by rw [St.startHeartbeats_eq]; exact hrs)
  exact i2.emit.finish t (not_closer_of_idle (s := St.emit _ o) hidle2 t)

theorem stepReader_InvB {cfg : Cfg} {s : St} (a : InvA cfg s) (i : InvB s)
    (hst : s.status .R = .ready) (hp : s.prog .R = .readerLoop) : InvB (stepReader cfg s) := by
  have hnc : ¬ isCloser s .R := not_closer_of_prog i (by rw [hp]; simp)
  unfold stepReader
  split
  · exact i.finish .R hnc
  · split
    · exact i
    · split
      · refine InvB.put ?_ _; ib i
      · ib i
      · refine enterClose_InvB ?_ ?_ (by exact hst) (by show s.prog .R ≠ _; rw [hp]; simp) rfl
        · exact InvA.of_core (s := s) rfl a
        · ib i
      · refine enterClose_InvB ?_ ?_ (by exact hst) (by show s.prog .R ≠ _; rw [hp]; simp) rfl
        · exact InvA.of_core (s := s) rfl a
        · ib i

theorem dispHandle_InvB {cfg : Cfg} {s : St} (a : InvA cfg s) (r : InvR s) (i : InvB s) (n : Nat)
    (hst : s.status .D = .ready) (hp : s.prog .D = .dispLoop) (hq : s.qClosed = false) :
    InvB (dispHandle cfg s n) := by
  have hnc : ¬ isCloser s .D := not_closer_of_prog i (by rw [hp]; simp)
  obtain ⟨hidle, hopen⟩ := open_of_not_qClosed a hq
  unfold dispHandle
  split
  · exact InvB.of_bcore (s := s.emit (.msgExit n)) rfl i.emit
  · exact i.setProg .D _ (fun _ => rfl) hnc
  · exact enterClose_InvB a i hst (by rw [hp]; simp) rfl
  · exact InvB.of_bcore (s := (s.initiateClose).emit (.msgExit n)) rfl (InvB.initiateClose a r i).emit
  · exact InvB.of_bcore (s := s.emit (.msgRaise n)) rfl i.emit
  · exact InvB.of_bcore (s := ((s.emit (.write .reply)).startHeartbeats).emit (.msgExit n)) rfl
      ((i.emit (o := .write .reply)).startHeartbeats hidle (r hopen).1).emit
  · exact enterClose_InvB (a.emit_neutral (o := .write .reply) rfl) (i.emit (o := .write .reply)) hst
      (by show s.prog .D ≠ _; rw [hp]; simp) rfl

theorem stepDisp_InvB {cfg : Cfg} {s : St} (a : InvA cfg s) (r : InvR s) (i : InvB s)
    (hst : s.status .D = .ready) (hp : s.prog .D = .dispLoop) : InvB (stepDisp cfg s) := by
  have hnc : ¬ isCloser s .D := not_closer_of_prog i (by rw [hp]; simp)
  unfold stepDisp
  split
  · exact i.finish .D hnc
  · rename_i hq
    have hq' : s.qClosed = false := by simpa using hq
    obtain ⟨hidle, hopen⟩ := open_of_not_qClosed a hq'
    split
    · exact i
    · split
      · exact i.restatus .D .waitQ (by rw [hst]; rfl) (by rw [hst]; simp) (by simp) (fun _ => Or.inl rfl) (by simp)
          (fun h => absurd h hnc) (by rw [hst]; simp) (by simp) (by intro h; rw [hidle] at h; rcases h with h | h <;> contradiction)
      · rename_i n q _
        have a1 : InvA cfg ((({ s with queue := q, gone := s.gone ++ [(n, true)] } : St)).emit (.msgEnter n)) :=
          InvA.of_core (s := s.emit (.msgEnter n)) rfl (a.emit_msgEnter hq' n)
        have r1 : InvR ((({ s with queue := q, gone := s.gone ++ [(n, true)] } : St)).emit (.msgEnter n)) := by
          apply InvR.emit; ir r
        exact dispHandle_InvB a1 r1 (InvB.of_bcore (s := s) rfl i) n hst hp hq'

/-- a monitor tick: the local monitor (`b = true`) only writes; the remote monitor, which may close, is running its loop -/
theorem stepMon_InvB {cfg : Cfg} {s : St} (a : InvA cfg s) (i : InvB s) (b : Bool)
    (hM : b = false → s.status .M = .ready ∧ s.prog .M = .monLoop) : InvB (stepMon cfg s b) := by
  unfold stepMon
  split
  · split
    · exact InvB.of_bcore (s := s) rfl i
    · exact i.emit
  · rename_i hb
    obtain ⟨hst, hp⟩ := hM (by simpa using hb)
    split
    · exact InvB.of_bcore (s := s) rfl i
    · exact enterClose_InvB a i hst (by rw [hp]; simp) rfl

theorem loginResume_InvB {cfg : Cfg} {s : St} (a : InvA cfg s) (r : InvR s) (i : InvB s) (u : Nat)
    (hst : s.status (.U u) = .ready) (hp : s.prog (.U u) = .loginWait u) : InvB (loginResume cfg s (.U u) u) := by
  have hnc : ¬ isCloser s (.U u) := not_closer_of_prog i (by rw [hp]; simp)
  unfold loginResume
  split
  · rename_i n _
    have a1 : InvA cfg ((({ s with vres := none, rcvBusy := false, gone := s.gone ++ [(n, true)] } : St)).emit (.loginReply n)) :=
      InvA.of_core (s := s.emit (.loginReply n)) rfl (a.emit_neutral rfl)
    have i1 : InvB ((({ s with vres := none, rcvBusy := false, gone := s.gone ++ [(n, true)] } : St)).emit (.loginReply n)) :=
      InvB.of_bcore (s := s) rfl i
    simp only
    split
    · rename_i hacc
      have hopen : s.closed = false := by
        simp only [Bool.and_eq_true, decide_eq_true_eq, Bool.not_eq_true', Bool.or_eq_false_iff] at hacc
        exact hacc.2.1
      have hidle := idle_of_open a hopen
      have hrs := (r hopen).1
      exact i1.startSession cfg hidle hrs _ _
    · exact enterClose_InvB a1 i1 hst (by show s.prog (.U u) ≠ _; rw [hp]; simp) rfl
  · split
    · have i1 : InvB ({ s with rcvBusy := false } : St) := InvB.of_bcore (s := s) rfl i
      exact (i1.emit (o := .ret u .refused)).finish _ hnc
    · refine enterClose_InvB ?_ ?_ (by exact hst) (by show s.prog (.U u) ≠ _; rw [hp]; simp) rfl
      · exact InvA.of_core (s := s) rfl a
      · ib i

theorem stepRun_InvB {cfg : Cfg} {s : St} (a : InvA cfg s) (r : InvR s) (i : InvB s) (t : Tid) :
    InvB (stepRun cfg s t) := by
  have p0 : InvA cfg { s with imm := none } ∧ InvR { s with imm := none } ∧ InvB { s with imm := none } :=
    ⟨InvA.of_core (s := s) rfl a, by ir r, InvB.of_bcore (s := s) rfl i⟩
  -- a task whose program is not `inClose` is not the closer
  have ncl : ∀ (s0 : St) {y : Tid} {p : Prog}, InvB s0 → s0.prog y = p → p ≠ .inClose → ¬ isCloser s0 y :=
    fun _ _ _ i0 hp hne => not_closer_of_prog i0 (by rw [hp]; exact hne)
  refine stepRun_rule (fun s0 => InvA cfg s0 ∧ InvR s0 ∧ InvB s0) (fun _ s' => InvB s') p0
    (fun s0 p hal => .of_allowed (p.2.2.typ t hal)) (fun s0 p => p.2.2)
    ?cHandler ?cVget ?cRecv ?cLoginEoq ?cLoginClose ?cInClose ?cOther ?rReader ?rDisp ?rHandler ?rHandlerAwait ?rMonStart ?rMonL ?rMonM
    ?rEntry ?rInClose ?rVgetWait ?rVget ?rRecv ?rRecvNone ?rLogin
  case cHandler =>
    intro s0 n k ⟨_, _, i0⟩ _ _ hp
    exact i0.emit.finish .D (ncl s0 i0 hp (by simp))
  case cVget =>
    intro s0 ⟨_, _, i0⟩ _ _ hp
    exact i0.finish .V (ncl s0 i0 hp (by simp))
  -- a late cancel puts the held message back: nothing `InvB` reads changes
  case cRecv =>
    intro s0 u r ⟨_, _, i0⟩ _ _ hp _
    refine InvB.finish ?_ _ (ncl s0 i0 hp (by simp))
    exact InvB.emit (InvB.of_bcore (s := s0) rfl i0)
  case cLoginEoq =>
    intro s0 u ⟨_, _, i0⟩ _ _ hp _
    refine InvB.finish ?_ _ (ncl s0 i0 hp (by simp))
    exact InvB.emit (InvB.of_bcore (s := s0) rfl i0)
  case cLoginClose =>
    intro s0 u ⟨a0, _, i0⟩ _ hst hp _
    have i1 : InvB ({ s0 with vres := none, rcvBusy := false, queue := s0.vres.toList ++ s0.queue } : St) :=
      InvB.of_bcore (s := s0) rfl i0
    have i2 := i1.restatus (.U u) .ready (by show alive (s0.status (.U u)) = true; rw [hst]; rfl)
      (by intro y; show s0.status (.U u) ≠ _; rw [hst]; simp) (by simp) (by simp) (by simp) (fun h => absurd h (ncl s0 i0 hp (by simp)))
      (fun _ => Or.inr (stageOf_user u)) (by simp) (by simp)
    apply enterClose_InvB
    · exact InvA.of_core (s := s0) rfl a0
    · exact i2
    · show (if Tid.U u = .U u then Status.ready else _) = _; simp
    · show s0.prog (.U u) ≠ _; rw [hp]; simp
    · rfl
  case cInClose =>
    intro s0 ⟨_, _, i0⟩ hst _
    exact stepInClose_InvB i0 t true (Or.inr hst)
  case cOther =>
    intro s0 ⟨_, _, i0⟩ _ _ _ h
    exact i0.finish t (not_closer_of_prog i0 h)
  case rReader =>
    intro s0 ⟨a0, _, i0⟩ _ hst hp
    exact stepReader_InvB a0 i0 hst hp
  case rDisp =>
    intro s0 ⟨a0, r0, i0⟩ _ hst hp
    exact stepDisp_InvB a0 r0 i0 hst hp
  case rHandler =>
    intro s0 n ⟨_, _, i0⟩ _ _ hp
    exact InvB.of_bcore (s := (s0.emit (.msgExit n)).setProg .D .dispLoop) rfl
      ((i0.emit (o := .msgExit n)).setProg .D .dispLoop (fun _ => rfl) (ncl s0 i0 hp (by simp)))
  case rHandlerAwait =>
    intro s0 n k ⟨_, _, i0⟩ _ _ hp
    exact i0.setProg .D _ (fun _ => rfl) (ncl s0 i0 hp (by simp))
  case rMonStart =>
    intro s0 ⟨_, _, i0⟩ ht _ hp
    exact i0.setProg t .monLoop (fun _ => by rcases ht with h | h <;> rw [h] <;> rfl) (ncl s0 i0 hp (by simp))
  case rMonL =>
    intro s0 ⟨a0, _, i0⟩ _ _ _
    exact stepMon_InvB a0 i0 true (by simp)
  case rMonM =>
    intro s0 ⟨a0, _, i0⟩ _ hst hp
    exact stepMon_InvB a0 i0 false (fun _ => ⟨hst, hp⟩)
  case rEntry =>
    intro s0 ⟨a0, _, i0⟩ _ hst hp
    exact enterClose_InvB a0 i0 hst (by rw [hp]; simp) rfl
  case rInClose =>
    intro s0 ⟨_, _, i0⟩ hst _
    exact stepInClose_InvB i0 t false (Or.inl hst)
  case rVgetWait =>
    intro s0 ⟨_, _, i0⟩ _ hst hp _
    exact i0.restatus .V .waitQ (by rw [hst]; rfl) (by rw [hst]; simp) (by simp) (fun _ => Or.inr rfl) (by simp)
      (fun h => absurd h (ncl s0 i0 hp (by simp))) (by rw [hst]; simp) (by simp) (by simp)
  case rVget =>
    intro s0 n q ⟨_, _, i0⟩ _ _ hp _ _
    refine InvB.finish ?_ .V (ncl s0 i0 hp (by simp))
    exact InvB.of_bcore (s := s0) rfl i0
  case rRecv =>
    intro s0 u n ⟨_, _, i0⟩ _ _ hp _
    refine InvB.finish ?_ _ (ncl s0 i0 hp (by simp))
    exact InvB.emit (InvB.of_bcore (s := s0) rfl i0)
  case rRecvNone =>
    intro s0 u r ⟨_, _, i0⟩ _ _ hp _ _
    refine InvB.finish ?_ _ (ncl s0 i0 hp (by simp))
    exact InvB.emit (InvB.of_bcore (s := s0) rfl i0)
  case rLogin =>
    intro s0 u ⟨a0, r0, i0⟩ _ hst hp
    exact loginResume_InvB a0 r0 i0 u hst hp

theorem startRecv_InvB {cfg : Cfg} {s : St} (a : InvA cfg s) (r : InvR s) (i : InvB s) (u : Nat) (b : Bool)
    (hu : s.status (.U u) = .absent) : InvB (startRecv s u b) := by
  have hdead : alive (s.status (.U u)) = false := by rw [hu]; rfl
  unfold startRecv
  split
  · exact i
  · split
    · exact (i.emit (o := .ret u .state)).setStatus_dead _ _ hdead rfl
    · split
      · refine InvB.userStart ?_ u _ (by exact hu) (by split <;> simp [allowed])
        ib i
      · split
        · split
          · exact (i.emit (o := .ret u .refused)).setStatus_dead _ _ hdead rfl
          · exact (i.emit (o := .ret u .eoq)).setStatus_dead _ _ hdead rfl
        · -- the caller waits for a fresh helper task (only possible while the queue is open: no close in progress)
          rename_i hq
          obtain ⟨hidle, hopen⟩ := open_of_not_qClosed a (by simpa using hq)
          have hrs := (r hopen).1
          have i1 : InvB (({ s with rcvBusy := true } : St).spawn .V .vget) :=
            (InvB.of_bcore (s := s) rfl i : InvB ({ s with rcvBusy := true } : St)).spawn hidle hrs .V .vget rfl
          exact i1.userAwait (s := St.spawn _ .V .vget) hidle u _ (by split <;> simp [allowed])

theorem step_InvB {cfg : Cfg} {s : St} (a : InvA cfg s) (r : InvR s) (i : InvB s) (ev : Ev) : InvB (step cfg s ev) := by
  cases ev with
  | connect =>
    simp only [step]
    split
    · exact i
    · rename_i h
      simp only [bne_iff_ne, ne_eq, Bool.or_eq_true, decide_eq_true_eq, not_or, Decidable.not_not, Bool.not_eq_true] at h
      have hidle := idle_of_open a h.2
      have hrs := (r h.2).1
      have i1 := i.spawn hidle hrs .R .readerLoop rfl
      split
      · exact i1.startDispatching cfg (by exact hidle) hrs
      · exact i1
  | data fs => ib i
  | eof => exact InvB.initiateClose a r i
  | run t =>
    simp only [step]
    split
    · exact stepRun_InvB a r i t
    · exact i
  | callClose u =>
    simp only [step]
    split
    · exact i
    · rename_i hu
      have hu' : s.status (.U u) = .absent := by simpa using hu
      have i1 := i.userStart u .idle hu' rfl
      apply enterClose_InvB
      · exact InvA.of_core (s := s) rfl a
      · exact i1
      · show (if Tid.U u = .U u then Status.ready else _) = _; simp
      · show (if Tid.U u = .U u then Prog.idle else _) ≠ _; simp
      · rfl
  | callInitiateClose => exact InvB.initiateClose a r i
  | callLogout =>
    simp only [step]
    refine InvB.initiateClose (cfg := cfg) ?_ ?_ ?_
    · exact InvA.of_core (s := s.emit (.write .logout)) rfl (a.emit_neutral rfl)
    · have := r.emit (o := .write .logout); ir this
    · exact InvB.of_bcore (s := s) rfl i
  | callRecv u =>
    simp only [step]
    split
    · exact i
    · rename_i hu
      exact startRecv_InvB a r i u false (by simpa using hu)
  | callRecvNowait u =>
    simp only [step]
    split
    · exact i
    · split
      · exact i.emit
      · split
        · exact InvB.of_bcore (s := s) rfl i
        · split <;> exact i.emit
  | callLogin u =>
    simp only [step]
    split
    · exact i
    · rename_i hu
      simp only [bne_iff_ne, ne_eq, Bool.or_eq_true, decide_eq_true_eq, not_or, Decidable.not_not] at hu
      refine startRecv_InvB (cfg := cfg) ?_ ?_ ?_ u true (by exact hu.1.1)
      · exact InvA.of_core (s := s.emit (.write .login)) rfl (a.emit_neutral rfl)
      · have := r.emit (o := .write .login); ir this
      · exact InvB.of_bcore (s := s) rfl i
  | callSend => exact InvB.of_bcore (s := s) rfl i
  | cancel u =>
    simp only [step]
    rcases cancelTask_setStatus s (.U u) with h | ⟨y, hy, hw, h⟩
    · rw [h]; exact i
    · rw [h]
      rcases hy with rfl | hst
      · rcases hw with hst | hst
        · exact i.restatus (.U u) .cancelled (by rw [hst]; rfl) (by rw [hst]; simp) (by simp) (by simp) (by simp)
            (fun _ => Or.inr rfl) (by rw [hst]; simp) (by simp) (by simp)
        · rcases i.waitq _ hst with h | h <;> simp at h
      · -- the awaited task, if it can still be cancelled, is the receive helper (a closer's target is cancelled already)
        have hV : y = .V := by
          rcases i.waitt _ _ hst with ⟨pc, c, hb⟩ | ⟨u', _, h⟩
          · have := (i.bwait _ pc c y hb hst).2
            rcases hw with hw | hw <;> rw [hw] at this <;> simp at this
          · exact h
        subst hV
        have hncV : ¬ isCloser s .V := by
          rintro (⟨pc, c, hb⟩ | ⟨k, c, hb⟩)
          · exact contOk_ne_V (i.bst _ pc c hb).2.2.2.2.2 rfl
          · exact contOk_ne_V (i.cb _ k c hb).2.2.1 rfl
        have hal : alive (s.status .V) = true := by rcases hw with hw | hw <;> rw [hw] <;> rfl
        exact i.restatus .V .cancelled hal (by rcases hw with hw | hw <;> rw [hw] <;> simp) (by simp) (by simp) (by simp)
          (fun h => absurd h hncV) (by rcases hw with hw | hw <;> rw [hw] <;> simp) (by simp) (by simp)

theorem InvB.init : InvB {} :=
  InvB.of_idle rfl (by intro t h; simp [alive] at h) (by intro t h; simp at h) (by intro t y h; simp at h) (by simp) rfl

theorem runEvs_InvARB (cfg : Cfg) (evs : List Ev) :
    InvA cfg (runEvs cfg {} evs) ∧ InvR (runEvs cfg {} evs) ∧ InvB (runEvs cfg {} evs) := by
  have : ∀ (s : St), InvA cfg s → InvR s → InvB s →
      InvA cfg (runEvs cfg s evs) ∧ InvR (runEvs cfg s evs) ∧ InvB (runEvs cfg s evs) := by
    induction evs with
    | nil => intro s a r i; exact ⟨a, r, i⟩
    | cons ev evs ih => intro s a r i; exact ih _ (step_InvA a ev) (step_InvR a r ev) (step_InvB a r i ev)
  exact this _ (InvA.init cfg) InvR.init InvB.init

end NasdaqModel.Sess
