import NasdaqModel.Lemmas.FixAnchor
import NasdaqModel.Lemmas.FixMessage
/-
The anchored `get_msg_type` finds the MsgType field of an encoded message wherever it stands in the header: every encoded value
is a sequence of atoms (`atomsOK_all`, level-distinct dictionaries), so `Lemmas/FixAnchor.lean` applies to the header fields assigned
before MsgType.  With tags shared between levels one hypothesis is needed, and it is a real one: tag 35 must not occur
INSIDE a group of the header (`35 ∉ innerTags e` for the header's entries) - a header group assigned before MsgType whose instances
hold a field 35 puts `SOH 35=` on the wire in front of the MsgType field (`Props/C13SharedGen.lean`, `C13Shared_msgtype_nested_35`).
With pairwise distinct tags it holds by itself (`getMsgType_encMsg`).
-/
namespace NasdaqModel.Fix
open NasdaqModel Py

theorem atomsOK_all : ∀ e : Entry, ldEntry e = true → AtomsOK e := by
  apply ld_ind
  · intro t ty r v b hwf henc
    obtain ⟨vb, hvb, rfl⟩ := encEntry_field_ok henc
    refine ⟨[(t, vb)], by simp [termAtoms_cons, termAtoms_nil], ?_⟩
    intro a ha
    obtain rfl := List.mem_singleton.mp ha
    exact ⟨by simp [deepTags], (prim_roundtrip (by simpa only [wfVal] using hwf) hvb).1⟩
  · intro t sub r htn _ ih v b hwf henc
    obtain ⟨insts, rfl, hwf⟩ := wfVal_group hwf
    obtain ⟨gs, hgs, rfl⟩ := encEntry_group_ok henc
    -- every instance is atoms: the join of its items, of which there is at least one
    obtain ⟨A, hA, tA⟩ := atoms_of_parts (· ∈ deepTagsL sub) gs (by
      intro g hg
      obtain ⟨inst, hinst, fbs, hf, rfl⟩ := hgs.mem_right hg
      obtain ⟨hwff, hfirst, _⟩ := wfInsts_mem hwf inst hinst
      obtain ⟨fs, h1, h2, h3, _, _⟩ := encGroupFields_items sub htn inst hwff fbs hf
      obtain ⟨x, fs', rfl, _⟩ := items_first h3 hfirst
      subst h1
      obtain ⟨A, hA, tA⟩ := atoms_of_parts (· ∈ deepTagsL sub) ((x :: fs').map (fun y => y.2.2)) (by
        intro y hy
        obtain ⟨it, hit, rfl⟩ := List.mem_map.mp hy
        obtain ⟨hm, hw, he⟩ := h2 it hit
        obtain ⟨A, hA, tA⟩ := ih it.1 hm it.2.1 it.2.2 hw he
        exact ⟨A, hA, tA.mono (fun t ht => deepTags_sub_deepTagsL hm t ht)⟩)
      exact ⟨A, by rw [← hA, List.map_cons, joinSOH_term], tA⟩)
    refine ⟨(t, intStr (insts.length : Int)) :: A, by rw [joinSOH_term, termAll_cons, termAtoms_cons, hA], ?_⟩
    intro a ha
    rcases List.mem_cons.mp ha with rfl | ha
    · exact ⟨by simp [deepTags], intStr_no_soh (insts.length : Int)⟩
    · exact ⟨by simp only [deepTags, List.mem_cons]; exact Or.inr (tA a ha).1, (tA a ha).2⟩

/-- the fields of a well-formed segment (a part of one, in assignment order), terminated, are atoms whose tags belong to
    the entries that were assigned -/
theorem seg_atoms (es : List Entry) (hld : ∀ e ∈ es, ldEntry e = true) (s : Seg) (fbs : List Bytes)
    (hwf : wfFields es s = true) (henc : encSegFields es s = .ok fbs) (T : Nat → Prop)
    (hT : ∀ e ∈ es, e.tag ∈ keysOf s → ∀ t ∈ deepTags e, T t) :
    ∃ A, termAll fbs = termAtoms A ∧ AtomsIn T A := by
  obtain ⟨fs, h1, h2, h3, _, _⟩ := encSegFields_items es s fbs hwf henc
  apply atoms_of_parts T fbs
  intro y hy
  rw [← h1] at hy
  obtain ⟨it, hit, rfl⟩ := List.mem_map.mp hy
  obtain ⟨hm, hw, he⟩ := h2 it hit
  obtain ⟨A, hA, tA⟩ := atomsOK_all it.1 (hld _ hm) it.2.1 it.2.2 hw he
  refine ⟨A, hA, tA.mono (hT it.1 hm ?_)⟩
  rw [← h3]
  exact List.mem_map.mpr ⟨it, hit, rfl⟩

/-- **`get_msg_type` on the bytes of a well-formed message**, level-distinct dictionary, tag 35 not nested inside a header group:
    the header holds `35 = <type>` at any position -/
theorem getMsgType_encMsg_levels {d : MsgDef} {m : Msg} {bs : Bytes} (hd : wfDefLevels d = true) (hm : wfMsg d m = true)
    (henc : encMsg d m = .ok bs) {ty : Str} (hmem : (35, Val.str ty) ∈ m.hdr) {r : Bool}
    (hentry : lookupE d.hdr 35 = some (.field 35 .string r)) (h35 : ∀ e ∈ d.hdr, 35 ∉ innerTags e) :
    getMsgType bs = .ok ty := by
  obtain ⟨fh, fb, ft, hfh, _, _, rfl⟩ := encMsg_wire hd hm henc
  obtain ⟨lh, _, _⟩ := wfDefLevels_parts hd
  simp only [wfMsg, Bool.and_eq_true] at hm
  obtain ⟨⟨⟨wh, _⟩, _⟩, _⟩ := hm
  simp only [wfSeg, Bool.and_eq_true, decide_eq_true_eq] at wh
  obtain ⟨wf, nk⟩ := wh
  obtain ⟨s1, s2, hs⟩ := List.append_of_mem hmem
  rw [hs] at wf nk hfh
  rw [wfFields_append, Bool.and_eq_true] at wf
  obtain ⟨w1, w2⟩ := wf
  obtain ⟨f1, f2', hf1, hf2, rfl⟩ := mapE_append_ok (show mapE _ (s1 ++ (35, Val.str ty) :: s2) = .ok fh from hfh)
  obtain ⟨b, f2, hb, _, rfl⟩ := mapE_cons_ok hf2
  simp only [wfFields, hentry, wfVal, wfPrim, Bool.and_eq_true] at w2
  obtain ⟨hta, ht1⟩ := ascii_no_soh_of_wfText w2.1
  simp only [hentry, encEntry, tyToBytes, encodeAscii, hta, if_true, ok_bind, pure_eq_ok] at hb
  obtain rfl := Except.ok.inj hb
  have hk : 35 ∉ keysOf s1 := by
    simp only [keysOf, List.map_append, List.map_cons] at nk
    rw [List.nodup_append] at nk
    intro h35
    exact nk.2.2 35 h35 35 (by simp) rfl
  obtain ⟨A, hA, tA⟩ := seg_atoms d.hdr (ldLevel_parts lh).2 s1 f1 w1 hf1 (· ≠ 35) (by
    intro e he hek t ht h35'
    subst h35'
    rw [deepTags_eq] at ht
    rcases List.mem_cons.mp ht with ht | ht
    · rw [← ht] at hek; exact hk hek
    · exact h35 e he ht)
  have hbytes : termAll (f1 ++ fieldBytes 35 ty :: f2) ++ termAll fb ++ termAll ft
      = termAtoms A ++ ([51, 53, 61] ++ ty ++ 1 :: (termAll f2 ++ termAll fb ++ termAll ft)) := by
    rw [termAll_append, termAll_cons, hA]
    simp [fieldBytes, natDigits_35]
  rw [hbytes]
  exact getMsgType_atoms A ty _ tA ht1 hta

/-- with pairwise distinct tags (`wfDef`) tag 35 cannot be nested inside a header group -/
theorem getMsgType_encMsg {d : MsgDef} {m : Msg} {bs : Bytes} (hd : wfDef d = true) (hm : wfMsg d m = true)
    (henc : encMsg d m = .ok bs) {ty : Str} (hmem : (35, Val.str ty) ∈ m.hdr) {r : Bool}
    (hentry : lookupE d.hdr 35 = some (.field 35 .string r)) :
    getMsgType bs = .ok ty :=
  getMsgType_encMsg_levels (wfDefLevels_of_wfDef hd) hm henc hmem hentry
    (fun e he => tag_not_inner (wfDef_parts hd).1 e he _ (lookupE_some hentry).1)

end NasdaqModel.Fix
