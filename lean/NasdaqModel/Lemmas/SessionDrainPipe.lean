import NasdaqModel.Lemmas.SessionLemmas3
/-
The reader → queue → dispatcher pipeline of a session in callback mode, abstracted (C04, "every fully received message is
delivered within a bounded number of reader ticks").

`Pipe` keeps what the progress argument needs: the frames buffered, the queue, the handler in progress, whether the dispatcher
sleeps in `queue.get()`, and the messages delivered so far.  `astep` is what a reader tick (`r`), a dispatcher step (`d`) and
arriving frames (`data`) do to it; every other event of the session machine is a `nop` (`Lemmas/SessionDrainSim.lean` proves
that the session machine, while the session stays open, refines this).  Everything here is pure list reasoning: first the
progress argument for any event list that contains the schedule as a sublist (`Owes`, `arun_delivers`), then the exact result of
the schedule itself (`sched_ind`, `arun_exact`).
-/
namespace NasdaqModel.Sess

structure Pipe where
  buf : List Frame
  queue : List Nat
  /-- handler in progress: the message and the number of awaits it still has to do -/
  ph : Option (Nat × Nat)
  /-- the dispatcher is suspended in `queue.get()` -/
  idle : Bool
  /-- messages for which the message callback was entered, oldest first -/
  out : List Nat
  deriving DecidableEq, Repr

inductive AEv where
  | r | d | data (fs : List Frame) | nop
  deriving DecidableEq, Repr

/-- dispatcher steps the callback for one message takes: one to take it and enter; `await j` needs `j` more wake-ups and one to return -/
def behCost : Beh → Nat
  | .await j => j + 2
  | _ => 1

/-- the handler left in progress after the entering step -/
def phOf (b : Beh) (n : Nat) : Option (Nat × Nat) :=
  match b with
  | .await j => some (n, j)
  | _ => none

/-- dispatcher steps the handler in progress still needs -/
def phCost : Option (Nat × Nat) → Nat
  | some (_, j) => j + 1
  | none => 0

theorem phCost_phOf (b : Beh) (n : Nat) : phCost (phOf b n) + 1 = behCost b := by
  cases b <;> simp [phOf, phCost, behCost]

def aR (p : Pipe) : Pipe :=
  match p.buf with
  | [] => p
  | .msg n :: rest => { p with buf := rest, queue := p.queue ++ [n], idle := false }
  | _ :: rest => { p with buf := rest }

def aD (beh : Nat → Beh) (p : Pipe) : Pipe :=
  match p.ph with
  | some (_, 0) => { p with ph := none }
  | some (n, j + 1) => { p with ph := some (n, j) }
  | none =>
    if p.idle then p
    else match p.queue with
      | [] => { p with idle := true }
      | n :: q => { p with queue := q, out := p.out ++ [n], ph := phOf (beh n) n }

def astep (beh : Nat → Beh) (p : Pipe) : AEv → Pipe
  | .r => aR p
  | .d => aD beh p
  | .data fs => { p with buf := p.buf ++ fs }
  | .nop => p

def arun (beh : Nat → Beh) (p : Pipe) (evs : List AEv) : Pipe := evs.foldl (astep beh) p

def PipeOk (p : Pipe) : Prop := p.idle = true → p.queue = [] ∧ p.ph = none

/-- the pending stream: what will be delivered next, in order -/
def pend (p : Pipe) : List Nat := p.queue ++ msgsOf p.buf

def cost (beh : Nat → Beh) (l : List Nat) : Nat := (l.map (fun n => behCost (beh n))).sum

theorem behCost_pos (b : Beh) : 1 ≤ behCost b := by cases b <;> simp [behCost]

theorem cost_nil (beh : Nat → Beh) : cost beh [] = 0 := rfl
theorem cost_cons (beh : Nat → Beh) (n : Nat) (l : List Nat) : cost beh (n :: l) = behCost (beh n) + cost beh l := by
  simp [cost]
theorem cost_append (beh : Nat → Beh) (a b : List Nat) : cost beh (a ++ b) = cost beh a + cost beh b := by
  simp [cost]
theorem length_le_cost (beh : Nat → Beh) (l : List Nat) : l.length ≤ cost beh l := by
  induction l with
  | nil => simp [cost]
  | cons n l ih => rw [cost_cons]; have := behCost_pos (beh n); simp; omega

theorem msgsOf_nil : msgsOf [] = [] := rfl
theorem msgsOf_cons_msg (n : Nat) (l : List Frame) : msgsOf (.msg n :: l) = n :: msgsOf l := by simp [msgsOf]
theorem msgsOf_cons_other {f : Frame} (l : List Frame) (h : ∀ n, f ≠ .msg n) : msgsOf (f :: l) = msgsOf l := by
  cases f with
  | msg n => exact absurd rfl (h n)
  | _ => simp [msgsOf]

theorem msgsOf_take_length_mono (l : List Frame) {i j : Nat} (h : i ≤ j) : (msgsOf (l.take i)).length ≤ (msgsOf (l.take j)).length :=
  ((List.take_prefix_take_left h).filterMap _).length_le

theorem msgsOf_take_length_le (l : List Frame) (k : Nat) : (msgsOf (l.take k)).length ≤ (msgsOf l).length :=
  ((List.take_prefix k l).filterMap _).length_le

theorem msgsOf_take_append_le (l fs : List Frame) (k : Nat) :
    (msgsOf (l.take k)).length ≤ (msgsOf ((l ++ fs).take k)).length := by
  rw [List.take_append, msgsOf_append, List.length_append]; omega


theorem aR_nil {p : Pipe} (h : p.buf = []) : aR p = p := by simp [aR, h]
theorem aR_msg {p : Pipe} {n : Nat} {rest : List Frame} (h : p.buf = .msg n :: rest) :
    aR p = { p with buf := rest, queue := p.queue ++ [n], idle := false } := by simp [aR, h]
theorem aR_other {p : Pipe} {f : Frame} {rest : List Frame} (h : p.buf = f :: rest) (hf : ∀ n, f ≠ .msg n) :
    aR p = { p with buf := rest } := by
  cases f with
  | msg n => exact absurd rfl (hf n)
  | hb => simp [aR, h]
  | logout => simp [aR, h]
  | bad => simp [aR, h]

theorem aD_ret {beh : Nat → Beh} {p : Pipe} {n : Nat} (h : p.ph = some (n, 0)) : aD beh p = { p with ph := none } := by
  simp [aD, h]
theorem aD_wait {beh : Nat → Beh} {p : Pipe} {n j : Nat} (h : p.ph = some (n, j + 1)) : aD beh p = { p with ph := some (n, j) } := by
  simp [aD, h]
theorem aD_idle {beh : Nat → Beh} {p : Pipe} (h : p.ph = none) (hi : p.idle = true) : aD beh p = p := by
  simp [aD, h, hi]
theorem aD_sleep {beh : Nat → Beh} {p : Pipe} (h : p.ph = none) (hi : p.idle = false) (hq : p.queue = []) :
    aD beh p = { p with idle := true } := by
  simp [aD, h, hi, hq]
theorem aD_take {beh : Nat → Beh} {p : Pipe} {n : Nat} {q : List Nat} (h : p.ph = none) (hi : p.idle = false) (hq : p.queue = n :: q) :
    aD beh p = { p with queue := q, out := p.out ++ [n], ph := phOf (beh n) n } := by
  simp [aD, h, hi, hq]

theorem aR_eq (p : Pipe) :
    aR p = { p with
      buf := p.buf.drop 1
      queue := p.queue ++ msgsOf (p.buf.take 1)
      idle := p.idle && (msgsOf (p.buf.take 1)).isEmpty } := by
  obtain ⟨buf, queue, ph, idle, out⟩ := p
  cases buf with
  | nil => simp [aR, msgsOf]
  | cons f rest => cases f <;> simp [aR, msgsOf]

theorem aR_buf (p : Pipe) : (aR p).buf = p.buf.drop 1 := by rw [aR_eq]
theorem aR_out (p : Pipe) : (aR p).out = p.out := by rw [aR_eq]
theorem aR_ph (p : Pipe) : (aR p).ph = p.ph := by rw [aR_eq]

/-- a reader tick, seen from `k` ticks later: the messages reachable by `k + 1` ticks before are those reachable by `k` ticks now -/
theorem aR_take_match (p : Pipe) (k : Nat) :
    (aR p).queue ++ msgsOf ((aR p).buf.take k) = p.queue ++ msgsOf (p.buf.take (k + 1)) := by
  rw [aR_eq, Nat.add_comm k 1, List.take_add, msgsOf_append, List.append_assoc]

theorem aR_pend (p : Pipe) : pend (aR p) = pend p := by
  have := aR_take_match p p.buf.length
  rwa [List.take_of_length_le (by rw [aR_buf, List.length_drop]; omega), List.take_of_length_le (by omega)] at this

theorem aR_ok {p : Pipe} (h : PipeOk p) : PipeOk (aR p) := by
  rw [aR_eq]
  intro hi
  simp only [Bool.and_eq_true, List.isEmpty_iff] at hi
  obtain ⟨hq, hph⟩ := h hi.1
  exact ⟨by simp [hq, hi.2], hph⟩

theorem aR_cnt_match (p : Pipe) (k : Nat) :
    (aR p).queue.length + (msgsOf ((aR p).buf.take k)).length = p.queue.length + (msgsOf (p.buf.take (k + 1))).length := by
  have := congrArg List.length (aR_take_match p k)
  simpa using this

theorem aR_cnt_skip (p : Pipe) (k : Nat) :
    p.queue.length + (msgsOf (p.buf.take k)).length ≤ (aR p).queue.length + (msgsOf ((aR p).buf.take k)).length := by
  have h1 := aR_cnt_match p k
  have h2 := msgsOf_take_length_mono p.buf (i := k) (j := k + 1) (by omega)
  omega

theorem aD_ok {beh : Nat → Beh} {p : Pipe} (h : PipeOk p) : PipeOk (aD beh p) := by
  cases hph : p.ph with
  | some nj =>
    have hni : p.idle ≠ true := fun hi => by have := (h hi).2; rw [hph] at this; simp at this
    obtain ⟨n, j⟩ := nj
    cases j with
    | zero => rw [aD_ret hph]; intro hi; exact absurd hi hni
    | succ j => rw [aD_wait hph]; intro hi; exact absurd hi hni
  | none =>
    cases hi : p.idle with
    | true => rw [aD_idle hph hi]; exact h
    | false =>
      cases hq : p.queue with
      | nil => rw [aD_sleep hph hi hq]; intro _; exact ⟨hq, hph⟩
      | cons n q => rw [aD_take hph hi hq]; intro hi'; simp [hi] at hi'

/-- the obligation: the first `N` pending messages can still be delivered by `k` reader ticks followed by `m` dispatcher steps -/
structure Owes (beh : Nat → Beh) (p : Pipe) (k N m : Nat) : Prop where
  ok : PipeOk p
  cnt : N ≤ p.queue.length + (msgsOf (p.buf.take k)).length
  /-- with nothing owed the handler in progress need not fit into the `m` steps -/
  cst : N = 0 ∨ phCost p.ph + cost beh ((pend p).take N) ≤ m

def target (p : Pipe) (N : Nat) : List Nat := p.out ++ (pend p).take N

theorem owes_r {beh : Nat → Beh} {p : Pipe} {k N m : Nat} (h : Owes beh p (k + 1) N m) :
    Owes beh (aR p) k N m ∧ target p N = target (aR p) N := by
  refine ⟨⟨aR_ok h.ok, by rw [aR_cnt_match]; exact h.cnt, by rw [aR_ph, aR_pend]; exact h.cst⟩, ?_⟩
  unfold target; rw [aR_out, aR_pend]

theorem owes_r_skip {beh : Nat → Beh} {p : Pipe} {k N m : Nat} (h : Owes beh p k N m) :
    Owes beh (aR p) k N m ∧ target p N = target (aR p) N := by
  refine ⟨⟨aR_ok h.ok, Nat.le_trans h.cnt (aR_cnt_skip p k), by rw [aR_ph, aR_pend]; exact h.cst⟩, ?_⟩
  unfold target; rw [aR_out, aR_pend]

theorem owes_data {beh : Nat → Beh} {p : Pipe} {k N m : Nat} (fs : List Frame) (h : Owes beh p k N m) :
    Owes beh { p with buf := p.buf ++ fs } k N m ∧ target p N = target { p with buf := p.buf ++ fs } N := by
  have hle : N ≤ (pend p).length := by
    have := msgsOf_take_length_le p.buf k
    have := h.cnt
    simp [pend]; omega
  have hp : (pend { p with buf := p.buf ++ fs }).take N = (pend p).take N := by
    show (p.queue ++ msgsOf (p.buf ++ fs)).take N = _
    rw [msgsOf_append, ← List.append_assoc]
    exact List.take_append_of_le_length hle
  refine ⟨⟨h.ok, ?_, ?_⟩, ?_⟩
  · have := msgsOf_take_append_le p.buf fs k
    have := h.cnt
    show N ≤ p.queue.length + (msgsOf ((p.buf ++ fs).take k)).length
    omega
  · rw [hp]; exact h.cst
  · unfold target; rw [hp]

theorem owes_same {beh : Nat → Beh} {p p' : Pipe} {k N m : Nat} (h : Owes beh p k N m) (ok' : PipeOk p')
    (hq : p'.queue = p.queue) (hb : p'.buf = p.buf) (ho : p'.out = p.out) (hc : phCost p'.ph ≤ phCost p.ph) :
    Owes beh p' k N m ∧ target p N = target p' N := by
  have hp : pend p' = pend p := by simp [pend, hq, hb]
  refine ⟨⟨ok', by rw [hq, hb]; exact h.cnt, ?_⟩, by simp [target, hp, ho]⟩
  rcases h.cst with h | h
  · exact Or.inl h
  · right; rw [hp]; omega

/-- a dispatcher step, matched (`m + 1 → m`, only after all reader ticks: `k = 0`) or extra (`m` kept): the target only grows -/
theorem owes_d {beh : Nat → Beh} {p : Pipe} {k N m : Nat} (h : Owes beh p k N m) :
    ∃ N', Owes beh (aD beh p) k N' m ∧ target p N <+: target (aD beh p) N' ∧
      (k = 0 → ∀ m', m = m' + 1 → Owes beh (aD beh p) 0 N' m') := by
  have ok' := aD_ok (beh := beh) h.ok
  -- the cases in which the handler in progress moves on
  have moving : ∀ p', aD beh p = p' → p'.queue = p.queue → p'.buf = p.buf → p'.out = p.out → phCost p'.ph + 1 = phCost p.ph →
      ∃ N', Owes beh (aD beh p) k N' m ∧ target p N <+: target (aD beh p) N' ∧
        (k = 0 → ∀ m', m = m' + 1 → Owes beh (aD beh p) 0 N' m') := by
    intro p' e hq hb ho hc
    rw [e] at ok' ⊢
    obtain ⟨o1, t1⟩ := owes_same h ok' hq hb ho (by omega)
    refine ⟨N, o1, by rw [t1]; exact List.prefix_refl _, ?_⟩
    intro hk m' hm
    subst hk
    have hp : pend p' = pend p := by simp [pend, hq, hb]
    refine ⟨ok', o1.cnt, ?_⟩
    rcases h.cst with h | h
    · exact Or.inl h
    · right; rw [hp]; omega
  -- the cases in which nothing is owed any more once the reader ticks are over
  have resting : ∀ p', aD beh p = p' → p'.queue = p.queue → p'.buf = p.buf → p'.out = p.out → p'.ph = p.ph → p.queue = [] →
      ∃ N', Owes beh (aD beh p) k N' m ∧ target p N <+: target (aD beh p) N' ∧
        (k = 0 → ∀ m', m = m' + 1 → Owes beh (aD beh p) 0 N' m') := by
    intro p' e hq hb ho hph hqe
    rw [e] at ok' ⊢
    obtain ⟨o1, t1⟩ := owes_same h ok' hq hb ho (by rw [hph]; omega)
    refine ⟨N, o1, by rw [t1]; exact List.prefix_refl _, ?_⟩
    intro hk m' hm
    subst hk
    have : N = 0 := by have := h.cnt; simp [hqe, msgsOf_nil] at this; exact this
    exact ⟨ok', o1.cnt, Or.inl this⟩
  cases hph : p.ph with
  | some nj =>
    obtain ⟨n, j⟩ := nj
    cases j with
    | zero => exact moving _ (aD_ret hph) rfl rfl rfl (by simp [phCost, hph])
    | succ j => exact moving _ (aD_wait hph) rfl rfl rfl (by simp [phCost, hph])
  | none =>
    cases hi : p.idle with
    | true => exact resting _ (aD_idle hph hi) rfl rfl rfl rfl (h.ok hi).1
    | false =>
      cases hq : p.queue with
      | nil => exact resting _ (aD_sleep hph hi hq) rfl rfl rfl rfl hq
      | cons n q =>
        -- the next message is taken and its callback entered
        rw [aD_take hph hi hq] at ok' ⊢
        have hpend : pend p = n :: pend { p with queue := q, out := p.out ++ [n], ph := phOf (beh n) n } := by
          simp [pend, hq]
        cases N with
        | zero =>
          refine ⟨0, ⟨ok', by simp, Or.inl rfl⟩, ?_, fun _ m' _ => ⟨ok', by simp, Or.inl rfl⟩⟩
          simp [target]
        | succ N0 =>
          have hcnt : N0 ≤ q.length + (msgsOf (p.buf.take k)).length := by
            have := h.cnt; simp [hq] at this; omega
          have hc : phCost (phOf (beh n) n) + cost beh ((pend { p with queue := q, out := p.out ++ [n], ph := phOf (beh n) n }).take N0) + 1 ≤ m := by
            rcases h.cst with h | h
            · omega
            · rw [hph, hpend, List.take_succ_cons, cost_cons] at h
              have := phCost_phOf (beh n) n
              simp only [phCost] at h
              omega
          refine ⟨N0, ⟨ok', hcnt, Or.inr (by dsimp only; omega)⟩, ?_, ?_⟩
          · simp only [target]
            rw [hpend, List.take_succ_cons]
            simp
          · intro hk m' hm
            subst hk
            exact ⟨ok', hcnt, Or.inr (by dsimp only; omega)⟩

theorem owes_skip {beh : Nat → Beh} {p : Pipe} {k N m : Nat} (e : AEv) (h : Owes beh p k N m) :
    ∃ N', Owes beh (astep beh p e) k N' m ∧ target p N <+: target (astep beh p e) N' := by
  cases e with
  | r => exact ⟨N, (owes_r_skip h).1, by rw [(owes_r_skip h).2]; exact List.prefix_refl _⟩
  | d => obtain ⟨N', a, b, _⟩ := owes_d h; exact ⟨N', a, b⟩
  | data fs => exact ⟨N, (owes_data fs h).1, by rw [(owes_data fs h).2]; exact List.prefix_refl _⟩
  | nop => exact ⟨N, h, List.prefix_refl _⟩

theorem owes_done {beh : Nat → Beh} {p : Pipe} {N : Nat} (h : Owes beh p 0 N 0) : N = 0 := by
  obtain ⟨_, cnt, cst⟩ := h
  rcases cst with h | h
  · exact h
  · have h1 := length_le_cost beh ((pend p).take N)
    have h2 : N ≤ (pend p).length := by simp [pend, msgsOf_nil] at cnt ⊢; omega
    rw [List.length_take] at h1
    omega

/-- **Progress of the pipeline.** If the events contain, in this order but interleaved with anything else, `k` reader ticks and
    then `m` dispatcher steps, and `m` covers the handler in progress plus the callbacks of the first `N` pending messages, all of
    which are in the queue or among the first `k` buffered frames: then those `N` messages have been delivered, in order, right
    after what was delivered before. -/
theorem arun_delivers (beh : Nat → Beh) : ∀ (aevs : List AEv) (p : Pipe) (k N m : Nat), Owes beh p k N m →
    (List.replicate k AEv.r ++ List.replicate m AEv.d).Sublist aevs → target p N <+: (arun beh p aevs).out := by
  intro aevs
  induction aevs with
  | nil =>
    intro p k N m h hs
    have hnil : List.replicate k AEv.r ++ List.replicate m AEv.d = [] := List.sublist_nil.mp hs
    have hk : k = 0 := by cases k with | zero => rfl | succ k => simp [List.replicate_succ] at hnil
    have hm : m = 0 := by subst hk; cases m with | zero => rfl | succ m => simp [List.replicate_succ] at hnil
    subst hk; subst hm
    have := owes_done h
    subst this
    simp [target, arun]
  | cons e aevs ih =>
    intro p k N m h hs
    show target p N <+: (arun beh (astep beh p e) aevs).out
    generalize hsched : List.replicate k AEv.r ++ List.replicate m AEv.d = sched at hs
    cases hs with
    | cons _ hs' =>
      obtain ⟨N', h', hp⟩ := owes_skip e h
      exact hp.trans (ih _ k N' m h' (by rw [hsched]; exact hs'))
    | cons_cons _ hs' =>
      rename_i l1
      cases k with
      | succ k =>
        have he : e = .r ∧ l1 = List.replicate k AEv.r ++ List.replicate m AEv.d := by
          simp [List.replicate_succ] at hsched; exact ⟨hsched.1.symm, hsched.2.symm⟩
        obtain ⟨he1, he2⟩ := he
        subst he1
        have := owes_r h
        rw [this.2]
        exact ih _ k N m this.1 (by rw [← he2]; exact hs')
      | zero =>
        cases m with
        | zero => simp at hsched
        | succ m =>
          have he : e = .d ∧ l1 = List.replicate 0 AEv.r ++ List.replicate m AEv.d := by
            simp [List.replicate_succ] at hsched; exact ⟨hsched.1.symm, by simp [hsched.2]⟩
          obtain ⟨he1, he2⟩ := he
          subst he1
          obtain ⟨N', _, hp, hm⟩ := owes_d h
          exact hp.trans (ih _ 0 N' m (hm rfl m rfl) (by rw [← he2]; exact hs'))


def dataOf : List AEv → List Frame
  | [] => []
  | .data fs :: l => fs ++ dataOf l
  | _ :: l => dataOf l

def AEv.notData : AEv → Bool
  | .data _ => false
  | _ => true

theorem aD_buf (beh : Nat → Beh) (p : Pipe) : (aD beh p).buf = p.buf := by
  unfold aD
  split
  · rfl
  · rfl
  · split
    · rfl
    · split <;> rfl

theorem aD_out_queue (beh : Nat → Beh) (p : Pipe) : (aD beh p).out ++ (aD beh p).queue = p.out ++ p.queue := by
  unfold aD
  split
  · rfl
  · rfl
  · split
    · rfl
    · split
      · rfl
      · rename_i n q hq; simp [hq]

/-- **Induction along a canonical schedule**: a list whose elements, the arriving data apart (`nd e = false`), are `k` times `r`
    followed by `m` times `d`.  Such a list is empty, or starts with data, or with `r` (`k` counts down), or — once `k = 0` — with `d`. -/
theorem sched_ind {α : Type} (nd : α → Bool) (r d : α) {motive : List α → Nat → Nat → Prop}
    (nil : motive [] 0 0)
    (data : ∀ e l k m, nd e = false → motive l k m → motive (e :: l) k m)
    (tick : ∀ l k m, motive l k m → motive (r :: l) (k + 1) m)
    (disp : ∀ l m, motive l 0 m → motive (d :: l) 0 (m + 1)) :
    ∀ l k m, l.filter nd = List.replicate k r ++ List.replicate m d → motive l k m := by
  intro l
  induction l with
  | nil =>
    intro k m h
    cases k with
    | succ k => simp [List.replicate_succ] at h
    | zero =>
      cases m with
      | succ m => simp [List.replicate_succ] at h
      | zero => exact nil
  | cons e l ih =>
    intro k m h
    cases hnd : nd e with
    | false =>
      rw [List.filter_cons_of_neg (by simp [hnd])] at h
      exact data e l k m hnd (ih k m h)
    | true =>
      rw [List.filter_cons_of_pos hnd] at h
      cases k with
      | succ k =>
        rw [List.replicate_succ, List.cons_append, List.cons.injEq] at h
        rw [h.1]
        exact tick l k m (ih k m h.2)
      | zero =>
        cases m with
        | zero => simp at h
        | succ m =>
          rw [List.replicate_succ, List.replicate_zero, List.nil_append, List.cons.injEq] at h
          rw [h.1]
          exact disp l m (ih 0 m (by rw [h.2]; rfl))

theorem exists_data_cons {α : Type} {nd : α → Bool} (e : α) {l : List α} (h : ∃ x ∈ l, nd x = false) :
    ∃ x ∈ e :: l, nd x = false :=
  let ⟨x, hx, hd⟩ := h
  ⟨x, List.mem_cons_of_mem _ hx, hd⟩

theorem AEv.eq_data_of_notData {e : AEv} (h : e.notData = false) : ∃ fs, e = .data fs := by
  cases e with
  | data fs => exact ⟨fs, rfl⟩
  | _ => cases h

theorem arun_cons (beh : Nat → Beh) (p : Pipe) (e : AEv) (l : List AEv) : arun beh p (e :: l) = arun beh (astep beh p e) l := rfl

theorem take_pend (p : Pipe) (k : Nat) :
    (pend p).take (p.queue.length + (msgsOf (p.buf.take k)).length) = p.queue ++ msgsOf (p.buf.take k) := by
  have : msgsOf p.buf = msgsOf (p.buf.take k) ++ msgsOf (p.buf.drop k) := by rw [← msgsOf_append, List.take_append_drop]
  unfold pend
  rw [this, ← List.append_assoc]
  have hl : p.queue.length + (msgsOf (p.buf.take k)).length = (p.queue ++ msgsOf (p.buf.take k)).length := by simp
  rw [hl, List.take_left' rfl]

theorem aD_queue_sub (beh : Nat → Beh) (p : Pipe) : ∀ n ∈ (aD beh p).queue, n ∈ p.queue := by
  intro n hn
  unfold aD at hn
  split at hn
  · exact hn
  · exact hn
  · split at hn
    · exact hn
    · split at hn
      · exact hn
      · rename_i hq; rw [hq]; exact List.mem_cons_of_mem _ hn

/-- the dispatcher work in hand: the handler in progress plus the callbacks of the queued messages -/
def work (beh : Nat → Beh) (p : Pipe) : Nat := phCost p.ph + cost beh p.queue

theorem aD_work {beh : Nat → Beh} {p : Pipe} (ok : PipeOk p) :
    work beh (aD beh p) + 1 = work beh p ∨ (work beh p = 0 ∧ work beh (aD beh p) = 0) := by
  cases hph : p.ph with
  | some nj =>
    obtain ⟨n, j⟩ := nj
    cases j with
    | zero => left; rw [aD_ret hph]; simp [work, hph, phCost]; omega
    | succ j => left; rw [aD_wait hph]; simp [work, hph, phCost]; omega
  | none =>
    cases hi : p.idle with
    | true =>
      right; rw [aD_idle hph hi]
      have := (ok hi).1
      simp [work, hph, phCost, this, cost_nil]
    | false =>
      cases hq : p.queue with
      | nil => right; rw [aD_sleep hph hi hq]; simp [work, hph, phCost, hq, cost_nil]
      | cons n q =>
        left; rw [aD_take hph hi hq]
        have := phCost_phOf (beh n) n
        show phCost (phOf (beh n) n) + cost beh q + 1 = phCost p.ph + cost beh p.queue
        rw [hph, hq, cost_cons]
        have h0 : phCost (none : Option (Nat × Nat)) = 0 := rfl
        rw [h0]
        omega

/-- **The canonical schedule, exactly.** `k` reader ticks and then `m` dispatcher steps — possibly interleaved with arriving
    frames, which only append (the buffer then has to hold at least `k` frames at the start) — with `m` at least the cost of the
    handler in progress, of the queued messages and of the messages among the first `k` frames: exactly the queued messages and
    the messages of those `k` frames have been delivered, in order; the queue is empty; the buffer holds the remaining frames and
    what arrived; and every callback has returned. -/
theorem arun_exact (beh : Nat → Beh) (aevs : List AEv) (p : Pipe) (k m : Nat) (ok : PipeOk p)
    (hs : aevs.filter AEv.notData = List.replicate k AEv.r ++ List.replicate m AEv.d)
    (hk : (∃ e ∈ aevs, AEv.notData e = false) → k ≤ p.buf.length)
    (hm : phCost p.ph + cost beh (p.queue ++ msgsOf (p.buf.take k)) ≤ m) :
    (arun beh p aevs).out = p.out ++ p.queue ++ msgsOf (p.buf.take k) ∧ (arun beh p aevs).queue = [] ∧
    (arun beh p aevs).buf = p.buf.drop k ++ dataOf aevs ∧ (arun beh p aevs).ph = none := by
  revert p
  refine sched_ind AEv.notData .r .d (motive := fun aevs k m => ∀ p : Pipe, PipeOk p →
    ((∃ e ∈ aevs, AEv.notData e = false) → k ≤ p.buf.length) →
    phCost p.ph + cost beh (p.queue ++ msgsOf (p.buf.take k)) ≤ m →
    (arun beh p aevs).out = p.out ++ p.queue ++ msgsOf (p.buf.take k) ∧ (arun beh p aevs).queue = [] ∧
    (arun beh p aevs).buf = p.buf.drop k ++ dataOf aevs ∧ (arun beh p aevs).ph = none)
    ?_ ?_ ?_ ?_ aevs k m hs
  · -- nothing left to do: no work in hand means no handler in progress and an empty queue
    intro p _ _ hm
    simp only [List.take_zero, msgsOf_nil, List.append_nil] at hm
    have hph : p.ph = none := by
      cases hph : p.ph with
      | none => rfl
      | some nj => rw [hph] at hm; simp [phCost] at hm
    have hq : p.queue = [] := List.eq_nil_of_length_eq_zero (by have := length_le_cost beh p.queue; omega)
    exact ⟨by simp [arun, hq, msgsOf_nil], hq, by simp [arun, dataOf], hph⟩
  · intro e l k m hnd ih p ok hk hm
    obtain ⟨fs, rfl⟩ := AEv.eq_data_of_notData hnd
    have hk' : k ≤ p.buf.length := hk ⟨.data fs, by simp, rfl⟩
    have ht : (p.buf ++ fs).take k = p.buf.take k := List.take_append_of_le_length hk'
    obtain ⟨i1, i2, i3, i4⟩ := ih (astep beh p (.data fs)) ok
      (fun _ => by simp [astep]; omega) (by simp only [astep]; rw [ht]; exact hm)
    rw [arun_cons]
    refine ⟨?_, i2, ?_, i4⟩
    · rw [i1]
      simp only [astep]
      rw [ht]
    · rw [i3]
      simp only [astep, dataOf]
      rw [List.drop_append_of_le_length hk', List.append_assoc]
  · intro l k m ih p ok hk hm
    obtain ⟨i1, i2, i3, i4⟩ := ih (aR p) (aR_ok ok)
      (fun h => by
        have := hk (exists_data_cons _ h)
        rw [aR_buf, List.length_drop]
        omega)
      (by rw [aR_ph, aR_take_match]; exact hm)
    rw [arun_cons]
    simp only [astep]
    refine ⟨?_, i2, ?_, i4⟩
    · rw [i1, aR_out, List.append_assoc, aR_take_match, List.append_assoc]
    · rw [i3, aR_buf, List.drop_drop, Nat.add_comm]
      rfl
  · intro l m ih p ok _ hm
    simp only [List.take_zero, msgsOf_nil, List.append_nil] at hm
    obtain ⟨i1, i2, i3, i4⟩ := ih (aD beh p) (aD_ok ok) (fun _ => Nat.zero_le _) (by
      simp only [List.take_zero, msgsOf_nil, List.append_nil]
      have := aD_work (beh := beh) ok
      simp only [work] at this
      omega)
    rw [arun_cons]
    simp only [astep, List.take_zero, msgsOf_nil, List.append_nil] at i1 ⊢
    exact ⟨by rw [i1, aD_out_queue], i2, by rw [i3, aD_buf]; rfl, i4⟩

end NasdaqModel.Sess
