import NasdaqModel.Lemmas.SyncFacadeLemmas
/-
Termination measure of the C20 transition system: every transition (of any thread, the loop, the peer) strictly
decreases `mu`, for EVERY state (no invariant needed) — so every run is finite and bounded by `mu (init cfg)`.

Where the numbers come from.  A caller's program counter runs through `acq … join` with falling `pcRank`; `submit → wait` drops
by 3 rather than 1 because the same statement creates the future, worth `jobRank (.submitted _) = 2`; the loop then lowers the
future's rank (submitted 2 → blocked/running 1 → done 0) without touching the counter.  Every rank of a statement at which a call can
return is ≥ 2, so returning (`finish`: rank 0, one call fewer) decreases; a call not yet started is worth 14 > 12 + 2, the most a
started one can be.  The close procedure, the thread's life and the peer script each only move one way.
-/
namespace NasdaqModel.SyncFacade

def pcRank : Pc → Nat
  | .idle => 0
  | .acq => 12 | .chkEvt => 11 | .chk1 => 10 | .chk2 => 9 | .submit => 8 | .wait => 5
  | .rel => 4 | .waitEvt => 3 | .join => 2

def jobRank : Job → Nat
  | .none => 0 | .submitted _ => 2 | .blocked _ => 1 | .running => 1 | .done _ => 0

/-- statements (and loop steps on its behalf) a caller thread still has before it: 14 per call not yet started -/
def callerMu (c : Caller) : Nat :=
  (match c.pc with
   | .idle => 14 * c.prog.length
   | pc => pcRank pc + 14 * (c.prog.length - 1)) + jobRank c.job

def closeRank : ClosePc → Nat
  | .idle => 5 | .spawned => 4 | .begun => 3 | .inCb => 2 | .stopCalled => 1 | .done => 0

def sumMu : List Caller → Nat
  | [] => 0
  | c :: cs => callerMu c + sumMu cs

def mu (s : St) : Nat :=
  sumMu s.callers + closeRank s.closePc + (if s.loopAlive then 1 else 0) + s.peer.length

theorem sumMu_updAt_lt (l : List Caller) (k : Nat) (f : Caller → Caller) (c : Caller)
    (hc : l[k]? = some c) (h : callerMu (f c) < callerMu c) : sumMu (updAt l k f) < sumMu l := by
  induction l generalizing k with
  | nil => simp at hc
  | cons c0 cs ih =>
    cases k with
    | zero => simp at hc; subst hc; simp only [updAt, sumMu]; omega
    | succ k =>
      have := ih k (by simpa using hc)
      simp only [updAt, sumMu]; omega

theorem callerMu_setJob (j : Job) (c : Caller) : callerMu (setJob j c) + jobRank c.job = callerMu c + jobRank j := by
  simp only [callerMu, setJob]; omega

theorem closeRank_initiate_le (p : ClosePc) : closeRank p.initiate ≤ closeRank p := by
  cases p <;> simp [ClosePc.initiate, closeRank]

theorem jobRank_jobRes {k : JobKind} {j : Job} (h : JobRes k j) : jobRank j ≤ 1 := by
  cases k <;> simp only [JobRes] at h
  case recv => rcases h with ⟨t, rfl⟩ | ⟨o, rfl⟩ <;> simp [jobRank]
  all_goals subst h; simp [jobRank]

/-- the loop thread and the peer never raise what a caller has before it: its own fields stay, its future only falls in rank -/
theorem callerMu_jobUpd {r : Bool} {c c' : Caller} (u : JobUpd r c c') : callerMu c' ≤ callerMu c := by
  obtain ⟨uo, uj⟩ := u
  rcases c with ⟨prog, pc, job, hist⟩
  rcases c' with ⟨prog', pc', job', hist'⟩
  cases uo
  have : jobRank job' ≤ jobRank job := by
    rcases uj with rfl | ⟨t, o, rfl, rfl⟩ | ⟨_, k, rfl, hr⟩
    · exact Nat.le_refl _
    · exact Nat.zero_le _
    · exact Nat.le_succ_of_le (jobRank_jobRes hr)
  simp only [callerMu]
  omega

theorem sumMu_callersUpd {r : Bool} : ∀ {l l' : List Caller}, CallersUpd r l l' → l'.length = l.length → sumMu l' ≤ sumMu l
  | [], [], _, _ => Nat.le_refl _
  | c :: l, c' :: l', hu, hlen => by
    obtain ⟨c0, hc0, u⟩ := hu 0 c' rfl
    cases hc0
    have := callerMu_jobUpd u
    have := sumMu_callersUpd (l := l) (l' := l') (fun j x hx => hu (j + 1) x hx) (by simpa using hlen)
    simp only [sumMu]
    omega
  | [], _ :: _, _, hlen => by cases hlen
  | _ :: _, [], _, hlen => by cases hlen

theorem callerStep_mu {lock : Option Tid} {evt alive : Bool} {i : Nat} {c c' : Caller} {lk : Option Tid}
    (h : callerStep lock evt alive i c = some (c', lk)) : callerMu c' < callerMu c := by
  rcases c with ⟨prog, pc, job, hist⟩
  cases callerStep_spec h with
  | goto hp hg =>
    cases hp
    cases hg with
    | enter => rename_i op _; cases op <;> simp only [callerMu, Op.entry, pcRank, List.length_cons] <;> omega
    | _ => simp only [callerMu, pcRank]; omega
  | acquire hp hpc _ | release hp hpc => cases hp; cases hpc; simp only [callerMu, pcRank]; omega
  | submit hp hpc | swallow hp hpc _ _ => cases hp; cases hpc; simp only [callerMu, pcRank, jobRank]; omega
  | ret hp hr => cases hp; cases hr <;> simp only [callerMu, pcRank, jobRank, finish, List.length_cons, List.tail_cons] <;> omega

theorem stepCaller_mu {s s' : St} {i : Nat} (h : stepCaller s i = some s') : mu s' < mu s := by
  obtain ⟨c, c', lk, hc, hcs, rfl⟩ := stepCaller_spec h
  have := sumMu_updAt_lt s.callers i (fun _ => c') c hc (callerStep_mu hcs)
  simp only [mu]; omega

theorem stepJob_mu {s s' : St} {i : Nat} (h : stepJob s i = some s') : mu s' < mu s := by
  obtain ⟨c, k, j, hj⟩ := stepJob_spec h
  have hsum : sumMu s'.callers < sumMu s.callers := by
    rw [hj.callers]
    apply sumMu_updAt_lt _ _ _ c hj.caller
    have := callerMu_setJob j c
    have e : jobRank c.job = 2 := by rw [hj.kind]; rfl
    have := jobRank_jobRes hj.res
    omega
  have hcl : closeRank s'.closePc ≤ closeRank s.closePc := by
    rcases hj.closePc_cases with e | e <;> rw [e]
    · exact Nat.le_refl _
    · exact closeRank_initiate_le _
  have hpe : s'.peer.length ≤ s.peer.length := by
    rw [hj.peer]; split
    · exact Nat.zero_le _
    · exact Nat.le_refl _
  simp only [mu, hj.flags.1]
  omega

theorem stepClose_mu {s s' : St} (h : stepClose s = some s') : mu s' < mu s := by
  have hle := sumMu_callersUpd (stepClose_loop h).callers (stepClose_loop h).length
  unfold stepClose at h
  split at h <;> rename_i hpc
  · cases h
  · split at h <;> cases h
    simp only [mu, hpc, closeRank] at hle ⊢
    omega
  · cases h
    simp only [mu, hpc, closeRank]
    omega
  · split at h <;> cases h <;> simp only [mu, hpc, closeRank] <;> omega
  · cases h
    simp only [mu, hpc, closeRank]
    omega
  · cases h

theorem stepStop_mu {s s' : St} (h : stepStop s = some s') : mu s' < mu s := by
  unfold stepStop at h
  split at h
  · rename_i hc
    simp only [Option.some.injEq] at h; subst h
    have : s.loopAlive = true := by simp_all
    simp [mu, this]
  · simp at h

theorem stepPeer_mu {s s' : St} (h : stepPeer s = some s') : mu s' < mu s := by
  have hle := sumMu_callersUpd (stepPeer_loop h).callers (stepPeer_loop h).length
  have hin := closeRank_initiate_le s.closePc
  unfold stepPeer at h
  split at h
  · cases h
  · rename_i ev rest hp
    split at h
    · cases h
    · split at h
      · -- nobody reads the socket any more
        cases h
        cases ev <;> simp only [mu, hp, List.length_cons, List.length_nil] <;> omega
      · split at h
        · split at h
          · cases h
            simp only [mu, hp, List.length_cons]
            omega
          · split at h <;> cases h <;> simp only [mu, hp, List.length_cons] at hle ⊢ <;> omega
        all_goals
          cases h
          simp only [mu, hp, List.length_cons, List.length_nil]
          omega

theorem step_mu {s s' : St} {l : Label} (h : step s l = some s') : mu s' < mu s := by
  cases l with
  | caller i => exact stepCaller_mu h
  | job i => exact stepJob_mu h
  | close => exact stepClose_mu h
  | stop => exact stepStop_mu h
  | peer => exact stepPeer_mu h

theorem exec_length_le {s s' : St} {ls : List Label} (h : exec s ls = some s') : ls.length + mu s' ≤ mu s := by
  induction ls generalizing s with
  | nil => simp [exec] at h; subst h; simp
  | cons l ls ih =>
    simp only [exec] at h
    cases hs : step s l with
    | none => simp [hs] at h
    | some s1 =>
      simp only [hs] at h
      have := ih h
      have := step_mu hs
      simp only [List.length_cons]; omega

end NasdaqModel.SyncFacade
