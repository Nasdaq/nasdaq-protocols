/-
List facts for checking an extracted table in one pass where the statement about it is worded with a look-up per key or per index.
-/
namespace NasdaqModel

theorem any_key_eq_contains {α : Type} (l : List α) (f : α → Nat) (p : α → Bool) (t : Nat) :
    l.any (fun r => f r == t && p r) = ((l.filter p).map f).contains t := by
  induction l with
  | nil => rfl
  | cons a l ih =>
    rw [List.any_cons, ih, List.filter_cons]
    cases hp : p a
    · simp
    · simp [Bool.beq_comm]

theorem beq_map_range_eq {α : Type} [BEq α] [LawfulBEq α] (g : Nat → α) (l : List α) (n : Nat) :
    (l.length == n && (List.range n).all (fun t => some (g t) == l[t]?)) = (l == (List.range n).map g) := by
  rw [Bool.eq_iff_iff]
  simp only [Bool.and_eq_true, beq_iff_eq, List.all_eq_true, List.mem_range]
  constructor
  · rintro ⟨hl, h⟩
    apply List.ext_getElem?
    intro i
    by_cases hi : i < n
    · rw [← h i hi]
      simp [hi]
    · rw [List.getElem?_eq_none (by omega), List.getElem?_eq_none (by simp; omega)]
  · rintro rfl
    refine ⟨by simp, fun t ht => ?_⟩
    simp [ht]

/-- a table keyed by a first component on which the row check does not depend (as long as the key is valid): it is enough to
    check the rows with key `0`, and that every row carries a valid key and the data of one of those -/
theorem all_of_key_zero {ρ : Type} [BEq ρ] [LawfulBEq ρ] (tbl : List (Nat × ρ)) (ok : Nat × ρ → Bool) (valid : Nat → Bool)
    (hcongr : ∀ c c' x, valid c = true → valid c' = true → ok (c, x) = ok (c', x)) (hv0 : valid 0 = true)
    (h0 : (tbl.filter (·.1 == 0)).all ok = true)
    (hsame : tbl.all (fun r => valid r.1 && (tbl.filter (·.1 == 0)).any (fun r0 => r0.2 == r.2)) = true) :
    tbl.all ok = true := by
  rw [List.all_eq_true] at hsame ⊢
  intro r hr
  have hr' := hsame r hr
  rw [Bool.and_eq_true, List.any_eq_true] at hr'
  obtain ⟨hv, r0, hr0, he⟩ := hr'
  have h00 : r0.1 = 0 := by simpa using (List.mem_filter.mp hr0).2
  have : ok r = ok r0 := by
    rw [show r = (r.1, r.2) from rfl, show r0 = (r0.1, r0.2) from rfl, ← eq_of_beq he, h00]
    exact hcongr _ _ _ hv hv0
  rw [this]
  exact List.all_eq_true.mp h0 r0 hr0

end NasdaqModel
