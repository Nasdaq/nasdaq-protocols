import NasdaqModel.Model.Heap
/-
Lemmas about the heap model (Model/Heap.lean): allocation, in-place writes, what an observation depends on, the ownership
invariant and its preservation by every operation.  Used by Props/C18.lean.
-/
namespace NasdaqModel.Heap

def RefsIn (P : Owner → Prop) (h : Cells) (rs : List Addr) : Prop :=
  ∀ r ∈ rs, ∃ c, h[r]? = some c ∧ P c.own

/-- references stay inside one owner -/
def Closed (h : Cells) : Prop :=
  ∀ (a : Addr) (c : Cell), h[a]? = some c → RefsIn (· = c.own) h c.body.refs

theorem RefsIn.append {P h rs} (e : Cells) (hr : RefsIn P h rs) : RefsIn P (h ++ e) rs := by
  intro r hrm
  obtain ⟨c, hc, hp⟩ := hr r hrm
  refine ⟨c, ?_, hp⟩
  have hlt : r < h.length := by
    have := (List.getElem?_eq_some_iff.mp hc).1
    exact this
  rw [List.getElem?_append_left hlt]; exact hc

/-- `h'` is `h` plus new cells, all tagged `o`, whose references stay in `o` -/
def AllocOK (o : Owner) (h h' : Cells) : Prop :=
  ∃ e, h' = h ++ e ∧ ∀ c ∈ e, c.own = o ∧ RefsIn (· = o) h' c.body.refs

theorem AllocOK.refl (o h) : AllocOK o h h := ⟨[], by simp, by simp⟩

theorem AllocOK.trans {o h1 h2 h3} (a : AllocOK o h1 h2) (b : AllocOK o h2 h3) : AllocOK o h1 h3 := by
  obtain ⟨e1, rfl, p1⟩ := a
  obtain ⟨e2, rfl, p2⟩ := b
  refine ⟨e1 ++ e2, by simp, ?_⟩
  intro c hc
  rcases List.mem_append.mp hc with hc | hc
  · exact ⟨(p1 c hc).1, (p1 c hc).2.append e2⟩
  · exact p2 c hc

theorem AllocOK.refsIn {o h h' P rs} (a : AllocOK o h h') (hr : RefsIn P h rs) : RefsIn P h' rs := by
  obtain ⟨e, rfl, _⟩ := a
  exact hr.append e

theorem AllocOK.snoc {o : Owner} {h : Cells} {b : Body} (hb : RefsIn (· = o) h b.refs) :
    AllocOK o h (h ++ [⟨o, b⟩]) := by
  refine ⟨[⟨o, b⟩], rfl, ?_⟩
  intro c hc
  simp at hc
  subst hc
  exact ⟨rfl, hb.append _⟩

theorem refsIn_self_snoc {o : Owner} {h : Cells} {b : Body} :
    RefsIn (· = o) (h ++ [⟨o, b⟩]) (Val.ref h.length).refs := by
  intro r hr
  simp [Val.refs] at hr
  subst hr
  exact ⟨⟨o, b⟩, by simp, rfl⟩

mutual
theorem allocTree_ok (o : Owner) : ∀ (t : Tree) (h : Cells),
    AllocOK o h (allocTree o t h).1 ∧ RefsIn (· = o) (allocTree o t h).1 (allocTree o t h).2.refs
  | .int i, h => by simp [allocTree, AllocOK.refl, RefsIn, Val.refs]
  | .str s, h => by simp [allocTree, AllocOK.refl, RefsIn, Val.refs]
  | .none, h => by simp [allocTree, AllocOK.refl, RefsIn, Val.refs]
  | .list xs, h => by
    have ih := allocList_ok o xs h
    simp only [allocTree]
    refine ⟨ih.1.trans (AllocOK.snoc ?_), refsIn_self_snoc⟩
    intro r hr
    simp only [Body.refs, List.mem_flatMap] at hr
    obtain ⟨v, hv, hr⟩ := hr
    exact ih.2 v hv r hr
  | .obj c ks ts, h => by
    have ih := allocList_ok o ts h
    simp only [allocTree]
    refine ⟨ih.1.trans (AllocOK.snoc ?_), refsIn_self_snoc⟩
    intro r hr
    simp only [Body.refs, List.mem_flatMap] at hr
    obtain ⟨kv, hkv, hr⟩ := hr
    exact ih.2 kv.2 (List.of_mem_zip hkv).2 r hr
theorem allocList_ok (o : Owner) : ∀ (ts : List Tree) (h : Cells),
    AllocOK o h (allocList o ts h).1 ∧ ∀ v ∈ (allocList o ts h).2, RefsIn (· = o) (allocList o ts h).1 v.refs
  | [], h => by simp [allocList, AllocOK.refl]
  | t :: ts, h => by
    have i1 := allocTree_ok o t h
    have i2 := allocList_ok o ts (allocTree o t h).1
    simp only [allocList]
    refine ⟨i1.1.trans i2.1, ?_⟩
    intro v hv
    rcases List.mem_cons.mp hv with rfl | hv
    · exact i2.1.refsIn i1.2
    · exact i2.2 v hv
end


theorem getElem?_lt {h : Cells} {a : Addr} {c : Cell} (hc : h[a]? = some c) : a < h.length :=
  (List.getElem?_eq_some_iff.mp hc).1

theorem AllocOK.closed {o h h'} (a : AllocOK o h h') (hc : Closed h) : Closed h' := by
  obtain ⟨e, rfl, p⟩ := a
  intro x c hx
  by_cases hlt : x < h.length
  · rw [List.getElem?_append_left hlt] at hx
    exact (hc x c hx).append e
  · rw [List.getElem?_append_right (Nat.le_of_not_lt hlt)] at hx
    have hm : c ∈ e := List.mem_of_getElem? hx
    obtain ⟨ho, hr⟩ := p c hm
    rw [ho]; exact hr

/-- `h'` differs from `h` only on cells tagged `P` and by new cells tagged `P`; tags never change -/
structure Ext (P : Owner → Prop) (h h' : Cells) : Prop where
  keep : ∀ (a : Addr) (c : Cell), h[a]? = some c → ∃ c', h'[a]? = some c' ∧ c'.own = c.own ∧ (¬ P c.own → c' = c)
  fresh : ∀ (a : Addr) (c' : Cell), h.length ≤ a → h'[a]? = some c' → P c'.own

theorem Ext.refl (P h) : Ext P h h :=
  ⟨fun _ c hc => ⟨c, hc, rfl, fun _ => rfl⟩, fun _ _ hle hc => absurd (getElem?_lt hc) (Nat.not_lt.mpr hle)⟩

theorem Ext.length_le {P h h'} (e : Ext P h h') : h.length ≤ h'.length := by
  rcases Nat.lt_or_ge h'.length h.length with hlt | hge
  · exfalso
    have : h'.length < h.length := hlt
    obtain ⟨c, hc⟩ : ∃ c, h[h'.length]? = some c := ⟨h[h'.length], List.getElem?_eq_getElem this⟩
    obtain ⟨c', hc', _⟩ := e.keep _ _ hc
    exact Nat.lt_irrefl _ (getElem?_lt hc')
  · exact hge

theorem Ext.trans {P h1 h2 h3} (a : Ext P h1 h2) (b : Ext P h2 h3) : Ext P h1 h3 := by
  constructor
  · intro x c hc
    obtain ⟨c2, h2c, o2, k2⟩ := a.keep x c hc
    obtain ⟨c3, h3c, o3, k3⟩ := b.keep x c2 h2c
    refine ⟨c3, h3c, o3.trans o2, ?_⟩
    intro hn
    have := k2 hn
    subst this
    exact k3 hn
  · intro x c' hle hc
    by_cases hlt : x < h2.length
    · obtain ⟨c2, hc2⟩ : ∃ c, h2[x]? = some c := ⟨h2[x], List.getElem?_eq_getElem hlt⟩
      obtain ⟨c3, h3c, o3, _⟩ := b.keep x c2 hc2
      have : c3 = c' := Option.some.inj (h3c.symm.trans hc)
      subst this
      rw [o3]; exact a.fresh x c2 hle hc2
    · exact b.fresh x c' (Nat.le_of_not_lt hlt) hc

theorem Ext.mono {P Q : Owner → Prop} {h h'} (e : Ext P h h') (hpq : ∀ o, P o → Q o) : Ext Q h h' :=
  ⟨fun a c hc => by
      obtain ⟨c', h1, h2, h3⟩ := e.keep a c hc
      exact ⟨c', h1, h2, fun hn => h3 (fun hp => hn (hpq _ hp))⟩,
   fun a c' hle hc => hpq _ (e.fresh a c' hle hc)⟩

theorem AllocOK.ext {o h h'} (a : AllocOK o h h') : Ext (· = o) h h' := by
  obtain ⟨e, rfl, p⟩ := a
  constructor
  · intro x c hc
    refine ⟨c, ?_, rfl, fun _ => rfl⟩
    rw [List.getElem?_append_left (getElem?_lt hc)]; exact hc
  · intro x c' hle hc
    rw [List.getElem?_append_right hle] at hc
    exact (p c' (List.mem_of_getElem? hc)).1

theorem Ext.refsIn {P Q h h' rs} (e : Ext P h h') (hr : RefsIn Q h rs) : RefsIn Q h' rs := by
  intro r hrm
  obtain ⟨c, hc, hq⟩ := hr r hrm
  obtain ⟨c', hc', ho, _⟩ := e.keep r c hc
  exact ⟨c', hc', by rw [ho]; exact hq⟩

theorem setBody_get_self {h : Cells} {a : Addr} {c : Cell} (b : Body) (hc : h[a]? = some c) :
    (setBody h a b)[a]? = some ⟨c.own, b⟩ := by
  simp [setBody, hc, List.getElem?_set_self (getElem?_lt hc)]

theorem setBody_get_ne {h : Cells} {a x : Addr} (b : Body) (hne : a ≠ x) :
    (setBody h a b)[x]? = h[x]? := by
  unfold setBody
  split
  · simp [List.getElem?_set_ne hne]
  · rfl

theorem setBody_length (h : Cells) (a : Addr) (b : Body) : (setBody h a b).length = h.length := by
  unfold setBody; split <;> simp

theorem setBody_ext {P : Owner → Prop} {h : Cells} {a : Addr} {c : Cell} (b : Body)
    (hc : h[a]? = some c) (hp : P c.own) : Ext P h (setBody h a b) := by
  constructor
  · intro x cx hx
    by_cases hax : a = x
    · subst hax
      have : cx = c := Option.some.inj (hx.symm.trans hc)
      subst this
      exact ⟨_, setBody_get_self b hc, rfl, fun hn => absurd hp hn⟩
    · exact ⟨cx, by rw [setBody_get_ne b hax]; exact hx, rfl, fun _ => rfl⟩
  · intro x c' hle hx
    have := getElem?_lt hx
    rw [setBody_length] at this
    exact absurd this (Nat.not_lt.mpr hle)

theorem setBody_closed {h : Cells} {a : Addr} {c : Cell} {b : Body} (hcl : Closed h)
    (hc : h[a]? = some c) (hb : RefsIn (· = c.own) h b.refs) : Closed (setBody h a b) := by
  have hext : Ext (· = c.own) h (setBody h a b) := setBody_ext b hc rfl
  intro x cx hx
  by_cases hax : a = x
  · subst hax
    rw [setBody_get_self b hc] at hx
    have := Option.some.inj hx
    subst this
    exact hext.refsIn hb
  · rw [setBody_get_ne b hax] at hx
    exact hext.refsIn (hcl x cx hx)

theorem mem_refs_of_mem_list {xs : List Val} {v : Val} {r : Addr} (hv : v ∈ xs) (hr : r ∈ v.refs) :
    r ∈ (Body.list xs).refs := by
  simp only [Body.refs, List.mem_flatMap]; exact ⟨v, hv, hr⟩

theorem mem_refs_of_mem_store {c : Nat} {st : List (Key × Val)} {kv : Key × Val} {r : Addr}
    (hv : kv ∈ st) (hr : r ∈ kv.2.refs) : r ∈ (Body.obj c st).refs := by
  simp only [Body.refs, List.mem_flatMap]; exact ⟨kv, hv, hr⟩

theorem enumFrom_snd_mem {α} : ∀ (xs : List α) (i : Nat) (p : Nat × α), p ∈ enumFrom i xs → p.2 ∈ xs
  | [], _, _, h => by simp [enumFrom] at h
  | x :: xs, i, p, h => by
    simp only [enumFrom, List.mem_cons] at h
    rcases h with rfl | h
    · simp
    · exact List.mem_cons_of_mem _ (enumFrom_snd_mem xs (i + 1) p h)

/-- the only reference a default can be is the class-level list, cell 0 -/
theorem declared_refs (S : Schema) (c : Nat) (kd : Key × Val) (h : kd ∈ S.declared c) : ∀ r ∈ kd.2.refs, r = 0 := by
  unfold Schema.declared at h
  split at h
  · simp only [List.mem_map] at h
    obtain ⟨p, _, rfl⟩ := h
    intro r hr
    cases hp : p.2 with
    | int t d => cases d <;> simp [FTy.default, hp, Val.refs] at hr
    | arr e cnt =>
      cases hf : S.freshArrayDefault
      · simpa [FTy.default, hp, hf, Val.refs] using hr
      · simp [FTy.default, hp, hf, Val.refs] at hr
    | recd c => simp [FTy.default, hp, Val.refs] at hr
  · simp only [List.mem_map] at h
    obtain ⟨e, _, rfl⟩ := h
    intro r hr
    cases e with
    | field t ty => cases ty <;> simp [XEntry.default, Val.refs] at hr
    | group t g => simp [XEntry.default, Val.refs] at hr
  · simp at h

/-- with `freshArrayDefault = true` no declared default is a reference at all -/
theorem declared_refs_fresh (S : Schema) (hS : S.freshArrayDefault = true) (c : Nat) (kd : Key × Val)
    (h : kd ∈ S.declared c) : kd.2.refs = [] := by
  unfold Schema.declared at h
  split at h
  · simp only [List.mem_map] at h
    obtain ⟨p, _, rfl⟩ := h
    cases hp : p.2 with
    | int t d => cases d <;> simp [FTy.default, Val.refs]
    | arr e cnt => simp [FTy.default, hS, Val.refs]
    | recd c => simp [FTy.default, Val.refs]
  · simp only [List.mem_map] at h
    obtain ⟨e, _, rfl⟩ := h
    cases e with
    | field t ty => cases ty <;> simp [XEntry.default, Val.refs]
    | group t g => simp [XEntry.default, Val.refs]
  · simp at h

theorem deref_agree (S : Schema) (Q : Owner → Prop) (h h' : Cells)
    (hagree : ∀ (a : Addr) (c : Cell), h[a]? = some c → Q c.own → h'[a]? = some c)
    (hcl : Closed h) (h0 : RefsIn Q h [0]) :
    ∀ (n : Nat) (v : Val), RefsIn Q h v.refs → deref S n h' v = deref S n h v := by
  intro n
  induction n with
  | zero => intro v _; cases v <;> rfl
  | succ n ih =>
    intro v hv
    cases v with
    | int i | str s | none | elist => rfl
    | ref a =>
      obtain ⟨c, hc, hq⟩ := hv a (by simp [Val.refs])
      have hc' := hagree a c hc hq
      have hsub : ∀ r ∈ c.body.refs, ∃ c2, h[r]? = some c2 ∧ Q c2.own := by
        intro r hr
        obtain ⟨c2, h2, ho⟩ := hcl a c hc r hr
        exact ⟨c2, h2, by rw [ho]; exact hq⟩
      simp only [deref, hc, hc']
      cases hb : c.body with
      | list xs =>
        simp only
        congr 1
        apply List.map_congr_left
        intro x hx
        apply ih
        intro r hr
        exact hsub r (by rw [hb]; exact mem_refs_of_mem_list hx hr)
      | obj k st =>
        simp only
        congr 1
        · apply List.map_congr_left
          intro kv hkv
          apply ih
          intro r hr
          exact hsub r (by rw [hb]; exact mem_refs_of_mem_store hkv hr)
        · apply List.map_congr_left
          intro kd hkd
          apply ih
          intro r hr
          have hmem : kd ∈ S.declared k := (List.mem_filter.mp hkd).1
          have := declared_refs S k kd hmem r hr
          subst this
          exact h0 0 (by simp)
      | buf bs => rfl


structure Inv (H : Heap) : Prop where
  closed : Closed H.cells
  cls0 : ∃ c, H.cells[0]? = some c ∧ c.own = Owner.cls
  roots : ∀ (i : Nat) (cr : Nat × Addr), H.insts[i]? = some cr → ∃ c, H.cells[cr.2]? = some c ∧ c.own = Owner.inst i
  bound : ∀ (a : Addr) (c : Cell) (i : Nat), H.cells[a]? = some c → c.own = Owner.inst i → i < H.insts.length
  bufs : ∀ (j : Nat) (a : Addr), H.bufs[j]? = some a → ∃ c, H.cells[a]? = some c ∧ c.own = Owner.ext

theorem init_inv : Inv init := by
  refine ⟨?_, ⟨_, rfl, rfl⟩, ?_, ?_, ?_⟩
  · intro a c hc r hr
    simp only [init] at hc
    have ha : a = 0 := by
      have := getElem?_lt hc; simp at this; exact this
    subst ha
    simp at hc; subst hc
    simp [Body.refs] at hr
  · intro i cr h; simp [init] at h
  · intro a c i hc ho
    simp only [init] at hc
    have ha : a = 0 := by
      have := getElem?_lt hc; simp at this; exact this
    subst ha
    simp at hc; subst hc
    simp at ho
  · intro j a h; simp [init] at h

/-- owners of instance `a`'s reads: its own cells and class-level cells -/
def Mine (a : Nat) (o : Owner) : Prop := o = Owner.inst a ∨ o = Owner.cls

theorem Inv.refs0 {H : Heap} (hi : Inv H) (a : Nat) : RefsIn (Mine a) H.cells [0] := by
  intro r hr
  simp at hr; subst hr
  obtain ⟨c, hc, ho⟩ := hi.cls0
  exact ⟨c, hc, Or.inr ho⟩

theorem Inv.root_refs {H : Heap} (hi : Inv H) {Q : Owner → Prop} {b : Nat} (hq : Q (Owner.inst b)) {cr : Nat × Addr}
    (hcr : H.insts[b]? = some cr) : RefsIn Q H.cells (Val.ref cr.2).refs := by
  obtain ⟨c, hc, ho⟩ := hi.roots b cr hcr
  intro r hr
  simp [Val.refs] at hr; subst hr
  exact ⟨c, hc, ho ▸ hq⟩

theorem closed_sub {h : Cells} {Q : Owner → Prop} (hcl : Closed h) {a : Addr} {c : Cell}
    (hc : h[a]? = some c) (hq : Q c.own) : RefsIn Q h c.body.refs := by
  intro r hr
  obtain ⟨c2, h2, ho⟩ := hcl a c hc r hr
  exact ⟨c2, h2, by rw [ho]; exact hq⟩

theorem storeGet_mem {st : List (Key × Val)} {k : Key} {v : Val} (h : storeGet st k = some v) :
    ∃ kv ∈ st, kv.2 = v := by
  unfold storeGet at h
  cases hf : st.find? (fun kv => kv.1 == k) with
  | none => simp [hf] at h
  | some kv =>
    simp [hf] at h
    exact ⟨kv, List.mem_of_find?_eq_some hf, h⟩

/-- the declared defaults of the schema only refer to cells tagged `Q` -/
def DefaultsIn (S : Schema) (Q : Owner → Prop) (h : Cells) : Prop :=
  ∀ (c : Nat) (kd : Key × Val), kd ∈ S.declared c → RefsIn Q h kd.2.refs

theorem defaultsIn_of_zero {S : Schema} {Q : Owner → Prop} {h : Cells} (h0 : RefsIn Q h [0]) : DefaultsIn S Q h := by
  intro c kd hkd r hr
  have := declared_refs S c kd hkd r hr
  subst this
  exact h0 0 (by simp)

theorem defaultsIn_of_fresh {S : Schema} (hS : S.freshArrayDefault = true) (Q : Owner → Prop) (h : Cells) :
    DefaultsIn S Q h := by
  intro c kd hkd r hr
  rw [declared_refs_fresh S hS c kd hkd] at hr
  simp at hr

theorem readKey_owned {S : Schema} {h : Cells} {a : Addr} {k : Key} {v : Val} {Q : Owner → Prop}
    (hcl : Closed h) (h0 : DefaultsIn S Q h) (ha : RefsIn Q h [a]) (hr : readKey S h a k = .ok v) :
    RefsIn Q h v.refs := by
  obtain ⟨c, hc, hq⟩ := ha a (by simp)
  unfold readKey at hr
  rw [hc] at hr
  rcases c with ⟨o, b⟩
  cases b with
  | list xs | buf bs => simp at hr
  | obj k' st =>
    simp only at hr
    cases hg : storeGet st k with
    | some v' =>
      simp only [hg] at hr
      have : v' = v := by injection hr
      subst this
      obtain ⟨kv, hkv, rfl⟩ := storeGet_mem hg
      intro r hrm
      exact closed_sub hcl hc hq r (mem_refs_of_mem_store hkv hrm)
    | none =>
      simp only [hg] at hr
      cases hf : (S.declared k').find? (fun kd => kd.1 == k) with
      | none => simp [hf] at hr
      | some kd =>
        simp only [hf] at hr
        have : kd.2 = v := by injection hr
        subst this
        exact h0 k' kd (List.mem_of_find?_eq_some hf)

theorem resolve_owned {S : Schema} {h : Cells} {Q : Owner → Prop} (hcl : Closed h) (h0 : DefaultsIn S Q h) :
    ∀ (p : List Step) (v w : Val), RefsIn Q h v.refs → resolve S h v p = .ok w → RefsIn Q h w.refs := by
  intro p
  induction p with
  | nil => intro v w hv hr; simp [resolve] at hr; subst hr; exact hv
  | cons s p ih =>
    intro v w hv hr
    cases v with
    | int i | str s | none => simp [resolve] at hr
    | elist => cases s <;> simp [resolve] at hr
    | ref a =>
      have ha : RefsIn Q h [a] := by simpa [Val.refs] using hv
      cases s with
      | fld k =>
        simp only [resolve] at hr
        obtain ⟨v', hv', hr'⟩ := bind_ok_inv hr
        exact ih v' w (readKey_owned hcl h0 ha hv') hr'
      | idx i =>
        simp only [resolve] at hr
        obtain ⟨c, hc, hq⟩ := ha a (by simp)
        rw [hc] at hr
        rcases c with ⟨o, b⟩
        cases b with
        | obj k st | buf bs => simp at hr
        | list xs =>
          simp only at hr
          cases hx : xs[i]? with
          | none => simp [hx] at hr
          | some x =>
            simp only [hx] at hr
            refine ih x w ?_ hr
            intro r hrm
            exact closed_sub hcl hc hq r (mem_refs_of_mem_list (List.mem_of_getElem? hx) hrm)

theorem getInst_ok {H : Heap} {a : Nat} {cr : Nat × Addr} (h : getInst H a = .ok cr) : H.insts[a]? = some cr := by
  unfold getInst at h
  cases hi : H.insts[a]? with
  | none => simp [hi] at h
  | some x => simp [hi] at h; rw [h]

theorem mutTarget_owned_gen {S : Schema} {H : Heap} {a : Nat} {p : List Step} {r : Addr} {Q : Owner → Prop} (hi : Inv H)
    (hq : Q (Owner.inst a)) (hdef : DefaultsIn S Q H.cells)
    (h : mutTarget S H a p = .ok (some r)) :
    a < H.insts.length ∧ ∃ c, H.cells[r]? = some c ∧ Q c.own := by
  unfold mutTarget at h
  obtain ⟨cr, hcr, h⟩ := bind_ok_inv h
  obtain ⟨v, hv, h⟩ := bind_ok_inv h
  have hcr' := getInst_ok hcr
  have hlt : a < H.insts.length := (List.getElem?_eq_some_iff.mp hcr').1
  refine ⟨hlt, ?_⟩
  have := resolve_owned hi.closed hdef p _ v (hi.root_refs hq hcr') hv
  cases v with
  | ref x =>
    simp at h; subst h
    exact this x (by simp [Val.refs])
  | int i | str s | none | elist => simp at h

theorem mutTarget_owned {S : Schema} {H : Heap} {a : Nat} {p : List Step} {r : Addr} (hi : Inv H)
    (h : mutTarget S H a p = .ok (some r)) :
    a < H.insts.length ∧ ∃ c, H.cells[r]? = some c ∧ Mine a c.own :=
  mutTarget_owned_gen hi (Or.inl rfl) (defaultsIn_of_zero (hi.refs0 a)) h

theorem mutTarget_owned_fresh {S : Schema} (hS : S.freshArrayDefault = true) {H : Heap} {a : Nat} {p : List Step} {r : Addr}
    (hi : Inv H) (h : mutTarget S H a p = .ok (some r)) :
    ∃ c, H.cells[r]? = some c ∧ c.own = Owner.inst a :=
  (mutTarget_owned_gen (Q := (· = Owner.inst a)) hi rfl (defaultsIn_of_fresh hS _ _) h).2

/-- tags an operation may write to / allocate with -/
def opOwners (H : Heap) : Op → Owner → Prop
  | .new _, o => o = Owner.inst H.insts.length
  | .decode _ _, o => o = Owner.inst H.insts.length
  | .assign a _ _ _, o => o = Owner.inst a
  | .append a _ _, o => o = Owner.inst a
  | .setIdx a _ _ _, o => o = Owner.inst a
  | .mkbuf _, o => o = Owner.ext
  | .scribble _, o => o = Owner.ext
  | .copy b _ _ _ _, o => o = Owner.inst b
  | .clone _, o => o = Owner.inst H.insts.length
  | .read _ _, _ => False
  | .encode _, _ => False

theorem opOwners_not_cls (H : Heap) (op : Op) : ¬ opOwners H op Owner.cls := by
  cases op <;> nofun

/-- how the invariant is re-established after an extension of the cells -/
theorem Inv.of_ext {H H' : Heap} {P : Owner → Prop} (hi : Inv H) (hext : Ext P H.cells H'.cells)
    (hcl : Closed H'.cells)
    (extra : List (Nat × Addr)) (hinsts : H'.insts = H.insts ++ extra)
    (hroots : ∀ (j : Nat) (cr : Nat × Addr), extra[j]? = some cr →
      ∃ c, H'.cells[cr.2]? = some c ∧ c.own = Owner.inst (H.insts.length + j))
    (hbound : ∀ i, P (Owner.inst i) → i < H'.insts.length)
    (eb : List Addr) (hbufs : H'.bufs = H.bufs ++ eb)
    (hnewbufs : ∀ a ∈ eb, ∃ c, H'.cells[a]? = some c ∧ c.own = Owner.ext) : Inv H' := by
  refine ⟨hcl, ?_, ?_, ?_, ?_⟩
  · obtain ⟨c, hc, ho⟩ := hi.cls0
    obtain ⟨c', hc', ho', hk⟩ := hext.keep 0 c hc
    exact ⟨c', hc', ho'.trans ho⟩
  · intro i cr hcr
    rw [hinsts] at hcr
    by_cases hlt : i < H.insts.length
    · rw [List.getElem?_append_left hlt] at hcr
      obtain ⟨c, hc, ho⟩ := hi.roots i cr hcr
      obtain ⟨c', hc', ho', _⟩ := hext.keep _ c hc
      exact ⟨c', hc', ho'.trans ho⟩
    · have hle := Nat.le_of_not_lt hlt
      rw [List.getElem?_append_right hle] at hcr
      obtain ⟨c, hc, ho⟩ := hroots _ cr hcr
      refine ⟨c, hc, ?_⟩
      rw [ho]; congr 1; omega
  · intro a c i hc ho
    by_cases hlt : a < H.cells.length
    · obtain ⟨c0, hc0⟩ : ∃ c0, H.cells[a]? = some c0 := ⟨H.cells[a], List.getElem?_eq_getElem hlt⟩
      obtain ⟨c', hc', ho', _⟩ := hext.keep a c0 hc0
      have : c' = c := Option.some.inj (hc'.symm.trans hc)
      subst this
      have := hi.bound a c0 i hc0 (ho'.symm.trans ho)
      rw [hinsts, List.length_append]; omega
    · have := hext.fresh a c (Nat.le_of_not_lt hlt) hc
      rw [ho] at this
      exact hbound i this
  · intro j a hj
    rw [hbufs] at hj
    by_cases hlt : j < H.bufs.length
    · rw [List.getElem?_append_left hlt] at hj
      obtain ⟨c, hc, ho⟩ := hi.bufs j a hj
      obtain ⟨c', hc', ho', _⟩ := hext.keep _ c hc
      exact ⟨c', hc', ho'.trans ho⟩
    · rw [List.getElem?_append_right (Nat.le_of_not_lt hlt)] at hj
      exact hnewbufs a (List.mem_of_getElem? hj)

/-- in-place write to a cell of instance `a` of a body made of the old references and one freshly allocated value -/
theorem mutate_sound {H : Heap} {a : Nat} {r : Addr} {c : Cell} (t : Tree) (b : Body) (hi : Inv H)
    (ha : a < H.insts.length) (hr : H.cells[r]? = some c) (hown : c.own = Owner.inst a)
    (hb : ∀ x ∈ b.refs, x ∈ c.body.refs ∨ x ∈ (allocTree (Owner.inst a) t H.cells).2.refs) :
    Ext (· = Owner.inst a) H.cells (setBody (allocTree (Owner.inst a) t H.cells).1 r b) ∧
    Inv { H with cells := setBody (allocTree (Owner.inst a) t H.cells).1 r b } := by
  have hal := allocTree_ok (Owner.inst a) t H.cells
  have hr1 : (allocTree (Owner.inst a) t H.cells).1[r]? = some c := by
    obtain ⟨e, he, _⟩ := hal.1
    rw [he, List.getElem?_append_left (getElem?_lt hr)]; exact hr
  have hext : Ext (· = Owner.inst a) H.cells (setBody (allocTree (Owner.inst a) t H.cells).1 r b) :=
    hal.1.ext.trans (setBody_ext b hr1 hown)
  have hcl : Closed (setBody (allocTree (Owner.inst a) t H.cells).1 r b) := by
    apply setBody_closed (hal.1.closed hi.closed) hr1
    intro x hx
    rcases hb x hx with h1 | h2
    · exact hal.1.refsIn (hi.closed r c hr) x h1
    · rw [hown]; exact hal.2 x h2
  refine ⟨hext, ?_⟩
  exact Inv.of_ext (H' := { H with cells := setBody (allocTree (Owner.inst a) t H.cells).1 r b }) hi hext hcl
    [] (by simp) (by simp) (by intro i hi'; injection hi' with hi'; subst hi'; exact ha) [] (by simp) (by simp)

theorem storeSet_refs {st : List (Key × Val)} {k : Key} {v : Val} {c : Nat} :
    ∀ x ∈ (Body.obj c (storeSet st k v)).refs, x ∈ (Body.obj c st).refs ∨ x ∈ v.refs := by
  intro x hx
  simp only [Body.refs, List.mem_flatMap] at hx ⊢
  obtain ⟨kv, hkv, hx⟩ := hx
  unfold storeSet at hkv
  split at hkv
  · simp only [List.mem_map] at hkv
    obtain ⟨kv0, hkv0, rfl⟩ := hkv
    split at hx
    · exact Or.inr hx
    · exact Or.inl ⟨kv0, hkv0, hx⟩
  · rcases List.mem_append.mp hkv with h | h
    · exact Or.inl ⟨kv, h, hx⟩
    · simp at h; subst h; exact Or.inr hx

theorem append_refs {xs : List Val} {v : Val} :
    ∀ x ∈ (Body.list (xs ++ [v])).refs, x ∈ (Body.list xs).refs ∨ x ∈ v.refs := by
  intro x hx
  simp only [Body.refs, List.mem_flatMap] at hx ⊢
  obtain ⟨w, hw, hx⟩ := hx
  rcases List.mem_append.mp hw with h | h
  · exact Or.inl ⟨w, h, hx⟩
  · simp at h; subst h; exact Or.inr hx

theorem set_refs {xs : List Val} {i : Nat} {v : Val} :
    ∀ x ∈ (Body.list (xs.set i v)).refs, x ∈ (Body.list xs).refs ∨ x ∈ v.refs := by
  intro x hx
  simp only [Body.refs, List.mem_flatMap] at hx ⊢
  obtain ⟨w, hw, hx⟩ := hx
  rcases List.mem_or_eq_of_mem_set hw with h | h
  · exact Or.inl ⟨w, h, hx⟩
  · subst h; exact Or.inr hx

theorem create_sound {H : Heap} (t : Tree) (c : Nat) (root : Addr) (hi : Inv H)
    (hroot : (allocTree (Owner.inst H.insts.length) t H.cells).2 = Val.ref root) :
    Ext (· = Owner.inst H.insts.length) H.cells (allocTree (Owner.inst H.insts.length) t H.cells).1 ∧
    Inv { H with cells := (allocTree (Owner.inst H.insts.length) t H.cells).1, insts := H.insts ++ [(c, root)] } := by
  have hal := allocTree_ok (Owner.inst H.insts.length) t H.cells
  refine ⟨hal.1.ext, ?_⟩
  refine Inv.of_ext hi hal.1.ext (hal.1.closed hi.closed) [(c, root)] rfl ?_ ?_ [] (by simp) (by simp)
  · intro j cr hj
    have hj0 : j = 0 := by
      have := (List.getElem?_eq_some_iff.mp hj).1; simp at this; exact this
    subst hj0
    simp at hj; subst hj
    obtain ⟨c', hc', ho'⟩ := hal.2 root (by rw [hroot]; simp [Val.refs])
    exact ⟨c', hc', by simpa using ho'⟩
  · intro i hi'; injection hi' with hi'; subst hi'; simp

theorem Inv.snoc_buf {H : Heap} (hi : Inv H) (bs : Bytes) :
    Ext (· = Owner.ext) H.cells (H.cells ++ [⟨Owner.ext, Body.buf bs⟩]) ∧
    Inv { H with cells := H.cells ++ [⟨Owner.ext, Body.buf bs⟩], bufs := H.bufs ++ [H.cells.length] } := by
  have hal : AllocOK Owner.ext H.cells (H.cells ++ [⟨Owner.ext, Body.buf bs⟩]) :=
    AllocOK.snoc (by intro r hr; simp [Body.refs] at hr)
  refine ⟨hal.ext, ?_⟩
  refine Inv.of_ext (H' := { H with cells := H.cells ++ [⟨Owner.ext, Body.buf bs⟩], bufs := H.bufs ++ [H.cells.length] })
    hi hal.ext (hal.closed hi.closed) [] (by simp) (by simp) (by simp) [H.cells.length] rfl ?_
  intro x hx
  simp at hx; subst hx
  exact ⟨⟨Owner.ext, Body.buf bs⟩, by simp, rfl⟩

/-- tag of the cell the path `p` from instance `a` ends in, if it ends in a cell: what `writeOwner` is for an in-place operation -/
def reachedOwner (S : Schema) (H : Heap) (a : Nat) (p : List Step) : Option Owner :=
  match mutTarget S H a p with
  | .ok (some r) => (H.cells[r]?).map (·.own)
  | _ => Option.none

theorem classSafe_owner {S : Schema} {H : Heap} {op : Op} {a : Nat} {p : List Step} {r : Addr} {c : Cell}
    (hw : writeOwner S H op = reachedOwner S H a p)
    (hsafe : classSafe S H op = true) (ht : mutTarget S H a p = .ok (some r)) (hc : H.cells[r]? = some c)
    (hm : Mine a c.own) : c.own = Owner.inst a := by
  rcases hm with h | h
  · exact h
  · exfalso
    unfold classSafe at hsafe
    rw [hw, reachedOwner, ht] at hsafe
    simp [hc, h] at hsafe

def Op.creates : Op → Bool
  | .new _ | .decode _ _ | .clone _ => true
  | _ => false

/-- the instance and the path through which an in-place operation reaches the cell it writes -/
def Op.writes : Op → Option (Nat × List Step)
  | .assign a p _ _ | .append a p _ | .setIdx a p _ _ | .copy a p _ _ _ => some (a, p)
  | _ => none

/-- what a successful operation has done to the heap: nothing; a new instance built from a pure tree; one cell reached
    from instance `a` rewritten with its old references and one newly built value; a buffer added; a buffer overwritten -/
inductive Did (S : Schema) (H : Heap) : Op → Heap → Prop
  | nothing {op} : op.creates = false → Did S H op H
  | created {op} (c : Nat) (t : Tree) (root : Addr) : op.creates = true →
      (allocTree (.inst H.insts.length) t H.cells).2 = .ref root →
      Did S H op { H with cells := (allocTree (.inst H.insts.length) t H.cells).1, insts := H.insts ++ [(c, root)] }
  | wrote {op a p r} (c : Cell) (t : Tree) (b : Body) : op.writes = some (a, p) → mutTarget S H a p = .ok (some r) →
      H.cells[r]? = some c → (∀ x ∈ b.refs, x ∈ c.body.refs ∨ x ∈ (allocTree (.inst a) t H.cells).2.refs) →
      Did S H op { H with cells := setBody (allocTree (.inst a) t H.cells).1 r b }
  | mkbuf {a} (bs : Bytes) :
      Did S H (.mkbuf a) { H with cells := H.cells ++ [⟨.ext, .buf bs⟩], bufs := H.bufs ++ [H.cells.length] }
  | scribble {b ba o bs} : H.bufs[b]? = some ba → H.cells[ba]? = some ⟨o, .buf bs⟩ →
      Did S H (.scribble b) { H with cells := setBody H.cells ba (.buf (bs.map fun _ => 255)) }

theorem step_did {S : Schema} {H H' : Heap} {op : Op} (hs : step S H op = .ok H') : Did S H op H' := by
  cases op with
  | new c =>
    simp only [step] at hs
    obtain ⟨t, _, hs⟩ := bind_ok_inv hs
    split at hs
    · rename_i root hroot
      cases hs
      exact .created c t root rfl hroot
    · cases hs
  | read a p =>
    simp only [step] at hs
    obtain ⟨_, _, hs⟩ := bind_ok_inv hs
    obtain ⟨_, _, hs⟩ := bind_ok_inv hs
    cases hs
    exact .nothing rfl
  | encode a =>
    simp only [step] at hs
    obtain ⟨_, _, hs⟩ := bind_ok_inv hs
    cases hs
    exact .nothing rfl
  | assign a p k t =>
    simp only [step] at hs
    obtain ⟨ro, hr, hs⟩ := bind_ok_inv hs
    cases ro with
    | none => cases hs
    | some r =>
      simp only at hs
      split at hs
      · rename_i hc
        obtain ⟨t', _, hs⟩ := bind_ok_inv hs
        cases hs
        exact .wrote _ t' _ rfl hr hc storeSet_refs
      · cases hs
  | append a p t =>
    simp only [step] at hs
    obtain ⟨ro, hr, hs⟩ := bind_ok_inv hs
    cases ro with
    | none => cases hs; exact .nothing rfl
    | some r =>
      simp only at hs
      split at hs
      · rename_i hc
        cases hs
        exact .wrote _ t _ rfl hr hc append_refs
      · cases hs
  | setIdx a p i t =>
    simp only [step] at hs
    obtain ⟨ro, hr, hs⟩ := bind_ok_inv hs
    cases ro with
    | none => cases hs
    | some r =>
      simp only at hs
      split at hs
      · rename_i hc
        obtain ⟨xs', hxs, hs⟩ := bind_ok_inv hs
        cases hs
        unfold listSet at hxs
        split at hxs
        · cases hxs
          exact .wrote _ t _ rfl hr hc set_refs
        · cases hxs
      · cases hs
  | mkbuf a =>
    simp only [step] at hs
    obtain ⟨bs, _, hs⟩ := bind_ok_inv hs
    cases hs
    exact .mkbuf bs
  | decode c b =>
    simp only [step] at hs
    split at hs
    · cases hs
    · rename_i ba hba
      split at hs
      · obtain ⟨ct, _, hs⟩ := bind_ok_inv hs
        split at hs
        · rename_i root hroot
          cases hs
          exact .created ct.1 ct.2 root rfl hroot
        · cases hs
      · cases hs
  | scribble b =>
    simp only [step] at hs
    split at hs
    · cases hs
    · rename_i ba hba
      split at hs
      · rename_i hcell
        cases hs
        exact .scribble hba hcell
      · cases hs
  | copy b pb k a pa =>
    simp only [step] at hs
    obtain ⟨ro, hr, hs⟩ := bind_ok_inv hs
    cases ro with
    | none => cases hs
    | some r =>
      simp only at hs
      obtain ⟨_, _, hs⟩ := bind_ok_inv hs
      obtain ⟨_, _, hs⟩ := bind_ok_inv hs
      split at hs
      · rename_i hc
        obtain ⟨_, _, hs⟩ := bind_ok_inv hs
        obtain ⟨t', _, hs⟩ := bind_ok_inv hs
        cases hs
        exact .wrote _ t' _ rfl hr hc storeSet_refs
      · cases hs
  | clone a =>
    simp only [step] at hs
    obtain ⟨cr, _, hs⟩ := bind_ok_inv hs
    split at hs
    · obtain ⟨t, _, hs⟩ := bind_ok_inv hs
      split at hs
      · rename_i root hroot
        cases hs
        exact .created cr.1 t root rfl hroot
      · cases hs
    · cases hs

theorem Op.creates_spec {H : Heap} {op : Op} (h : op.creates = true) :
    opOwners H op = (· = Owner.inst H.insts.length) ∧ op.target H = H.insts.length := by
  cases op <;> first | exact ⟨rfl, rfl⟩ | cases h

theorem Op.writes_spec {S : Schema} {H : Heap} {op : Op} {a : Nat} {p : List Step} (h : op.writes = some (a, p)) :
    opOwners H op = (· = Owner.inst a) ∧
    writeOwner S H op = reachedOwner S H a p := by
  cases op <;> first | (cases h; exact ⟨rfl, rfl⟩) | cases h

theorem step_sound {S : Schema} {H H' : Heap} {op : Op} (hi : Inv H) (hs : step S H op = .ok H')
    (hsafe : classSafe S H op = true) :
    Ext (opOwners H op) H.cells H'.cells ∧ Inv H' ∧
      (H'.insts = H.insts ∨ ∃ cr, H'.insts = H.insts ++ [cr] ∧ op.target H = H.insts.length) := by
  cases step_did hs with
  | nothing => exact ⟨Ext.refl _ _, hi, Or.inl rfl⟩
  | created c t root hop hroot =>
    obtain ⟨ho, ht⟩ := Op.creates_spec (H := H) hop
    have := create_sound t c root hi hroot
    exact ⟨ho ▸ this.1, this.2, Or.inr ⟨_, rfl, ht⟩⟩
  | wrote c t b hop hr hc hb =>
    obtain ⟨ho, hw⟩ := Op.writes_spec (S := S) (H := H) hop
    obtain ⟨ha, c', hc', hm⟩ := mutTarget_owned hi hr
    cases hc.symm.trans hc'
    have := mutate_sound t b hi ha hc (classSafe_owner hw hsafe hr hc hm) hb
    exact ⟨ho ▸ this.1, this.2, Or.inl rfl⟩
  | mkbuf bs => exact ⟨(hi.snoc_buf bs).1, (hi.snoc_buf bs).2, Or.inl rfl⟩
  | @scribble b ba o bs hba hcell =>
    obtain ⟨c, hc, ho⟩ := hi.bufs b ba hba
    have hext : Ext (· = Owner.ext) H.cells (setBody H.cells ba (.buf (bs.map (fun _ => 255)))) :=
      setBody_ext _ hc ho
    refine ⟨hext, ?_, Or.inl rfl⟩
    refine Inv.of_ext (H' := { H with cells := setBody H.cells ba (.buf (bs.map (fun _ => 255))) })
      hi hext ?_ [] (by simp) (by simp) (by simp) [] (by simp) (by simp)
    exact setBody_closed hi.closed hc (by intro r hr; simp [Body.refs] at hr)

/-- with `freshArrayDefault = true` every operation is class-safe: no read ever hands out a class-level cell -/
theorem classSafe_of_fresh {S : Schema} (hS : S.freshArrayDefault = true) {H : Heap} (hi : Inv H) (op : Op) :
    classSafe S H op = true := by
  have key : ∀ (a : Nat) (p : List Step), reachedOwner S H a p ≠ some Owner.cls := by
    intro a p
    unfold reachedOwner
    cases hm : mutTarget S H a p with
    | error e => simp
    | ok ro =>
      cases ro with
      | none => simp
      | some r =>
        obtain ⟨c, hc, ho⟩ := mutTarget_owned_fresh hS hi hm
        simp [hc, ho]
  cases op <;> simp only [classSafe, writeOwner, bne_iff_ne, ne_eq] <;> first | exact key _ _ | simp

theorem stepK_inv {S : Schema} {H : Heap} {op : Op} (hi : Inv H) (hsafe : classSafe S H op = true) :
    Inv (stepK S H op) := by
  unfold stepK
  cases hs : step S H op with
  | ok H' => exact (step_sound hi hs hsafe).2.1
  | error e => exact hi

theorem run_inv {S : Schema} : ∀ (ops : List Op) (H : Heap), Inv H → safeRun S H ops = true → Inv (run S H ops)
  | [], H, hi, _ => hi
  | op :: ops, H, hi, hs => by
    simp only [safeRun, Bool.and_eq_true] at hs
    exact run_inv ops (stepK S H op) (stepK_inv hi hs.1) hs.2

theorem safeRun_of_fresh {S : Schema} (hS : S.freshArrayDefault = true) :
    ∀ (ops : List Op) (H : Heap), Inv H → safeRun S H ops = true
  | [], _, _ => rfl
  | op :: ops, H, hi => by
    simp only [safeRun, Bool.and_eq_true]
    exact ⟨classSafe_of_fresh hS hi op, safeRun_of_fresh hS ops _ (stepK_inv hi (classSafe_of_fresh hS hi op))⟩

theorem safeRun_append {S : Schema} : ∀ (ops : List Op) (H : Heap) (op : Op),
    safeRun S H (ops ++ [op]) = true → safeRun S H ops = true ∧ classSafe S (run S H ops) op = true
  | [], H, op, h => by simpa [safeRun, run] using h
  | o :: ops, H, op, h => by
    simp only [List.cons_append, safeRun, Bool.and_eq_true] at h
    have := safeRun_append ops (stepK S H o) op h.2
    simp only [safeRun, Bool.and_eq_true, run, List.foldl_cons]
    exact ⟨⟨h.1, this.1⟩, this.2⟩

theorem run_append (S : Schema) (H : Heap) (ops : List Op) (op : Op) :
    run S H (ops ++ [op]) = stepK S (run S H ops) op := by
  simp [run, List.foldl_append]


theorem opOwners_not_mine {H : Heap} {op : Op} {b : Nat} (hb : b ≠ op.target H) {o : Owner}
    (hm : Mine b o) : ¬ opOwners H op o := by
  intro hp
  cases op <;> simp only [opOwners, Op.target] at hp hb <;>
    first
    | exact hp
    | (rcases hm with h | h <;> rw [h] at hp <;> first | (injection hp with hp; exact hb hp) | cases hp)

/-- what an operation about another instance leaves alone: the instance table entry of `b` and every observation that
    starts inside `b`'s own or class-level cells -/
theorem frame_core {S : Schema} {H H' : Heap} {op : Op} (hi : Inv H) (hs : step S H op = .ok H')
    (hsafe : classSafe S H op = true) {b : Nat} (hb : b ≠ op.target H) :
    H'.insts[b]? = H.insts[b]? ∧
    ∀ (n : Nat) (v : Val), RefsIn (Mine b) H.cells v.refs → deref S n H'.cells v = deref S n H.cells v := by
  obtain ⟨hext, _, hins⟩ := step_sound hi hs hsafe
  constructor
  · rcases hins with hins | ⟨cr, hins, htgt⟩
    · rw [hins]
    · rw [hins]
      rw [htgt] at hb
      by_cases hlt : b < H.insts.length
      · exact List.getElem?_append_left hlt
      · have hle := Nat.le_of_not_lt hlt
        rw [List.getElem?_append_right hle, List.getElem?_eq_none_iff.mpr hle, List.getElem?_eq_none_iff]
        simp; omega
  · intro n v hv
    apply deref_agree S (Mine b) H.cells H'.cells ?_ hi.closed (hi.refs0 b) n v hv
    intro a c hc hq
    obtain ⟨c', hc', _, hk⟩ := hext.keep a c hc
    rw [hc', hk (opOwners_not_mine hb hq)]

theorem step_frame {S : Schema} {H H' : Heap} {op : Op} (hi : Inv H) (hs : step S H op = .ok H')
    (hsafe : classSafe S H op = true) {b : Nat} (hb : b ≠ op.target H) (n : Nat) :
    view S n H' b = view S n H b := by
  obtain ⟨hins, hd⟩ := frame_core hi hs hsafe hb
  unfold view
  rw [hins]
  cases hcr : H.insts[b]? with
  | none => rfl
  | some cr =>
    simp only
    congr 1
    exact hd _ _ (hi.root_refs (Or.inl rfl) hcr)

theorem step_frame_encode {S : Schema} {H H' : Heap} {op : Op} (hi : Inv H) (hs : step S H op = .ok H')
    (hsafe : classSafe S H op = true) {b : Nat} (hb : b ≠ op.target H) :
    encodeInst S H' b = encodeInst S H b := by
  obtain ⟨hins, hd⟩ := frame_core hi hs hsafe hb
  unfold encodeInst
  rw [hins]
  cases hcr : H.insts[b]? with
  | none => rfl
  | some cr =>
    simp only
    congr 1
    exact hd _ _ (hi.root_refs (Or.inl rfl) hcr)


end NasdaqModel.Heap
