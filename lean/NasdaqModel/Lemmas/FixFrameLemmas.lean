import NasdaqModel.Lemmas.FixSharedAnchor
import NasdaqModel.Model.FixFrame
/-
Lemmas about the FIX framing model (`Model/FixFrame.lean`): checksum text, the shape of a prepared frame (`prepare_eq`, `frame_decomp`),
the reader's find-logic on it (`fixCut_landmarks`, `fixCut_frame`, `fixCut_prefix`, `feed_frame`), and the frame as the encoding of the
sent message with the four framing fields added (`framed`, `framingEntries`, `wfVer`, `wfMsg_framed`, `decodeMsg_prepare`).
-/
namespace NasdaqModel.FixFrame
open NasdaqModel Py Fix

theorem natDigits_lt10 {x : Nat} (h : x < 10) : natDigits x = [48 + x] := by
  rw [natDigits_eq]; simp [h]

theorem natDigits_length_le3 {x : Nat} (h : x < 1000) : (natDigits x).length ≤ 3 := by
  rw [natDigits_eq]
  split
  · simp
  · rw [natDigits_eq]
    split
    · simp
    · rw [natDigits_lt10 (by omega)]
      simp

theorem digitsVal_cons_zero (l : List Nat) : digitsVal (48 :: l) = digitsVal l := by
  simp [digitsVal]

theorem digitsVal_replicate_zero (k : Nat) (l : List Nat) : digitsVal (List.replicate k 48 ++ l) = digitsVal l := by
  induction k with
  | zero => simp
  | succ k ih => rw [List.replicate_succ, List.cons_append, digitsVal_cons_zero, ih]

/-- `str(x).rjust(3, '0')` for `x < 1000`: exactly three decimal digits whose value is `x` -/
theorem pad3 {x : Nat} (h : x < 1000) :
    (rjust0 (natDigits x) 3).length = 3 ∧ (∀ c ∈ rjust0 (natDigits x) 3, isDigit c = true) ∧
    digitsVal (rjust0 (natDigits x) 3) = x := by
  have hl := natDigits_length_le3 h
  refine ⟨?_, ?_, ?_⟩
  · simp [rjust0]; omega
  · intro c hc
    simp only [rjust0, List.mem_append, List.mem_replicate] at hc
    rcases hc with ⟨_, rfl⟩ | hc
    · decide
    · exact natDigits_all_digit x c hc
  · rw [rjust0, digitsVal_replicate_zero, digitsVal_natDigits]

theorem pad3_no_soh {x : Nat} (h : x < 1000) : 1 ∉ rjust0 (natDigits x) 3 := by
  intro hm
  have := (pad3 h).2.1 1 hm
  simp [isDigit] at this

theorem natDigits_8 : natDigits 8 = [56] := by decide
theorem natDigits_9 : natDigits 9 = [57] := by decide
theorem natDigits_10 : natDigits 10 = [49, 48] := by decide

/-- `35=<type>SOH` + the encoded message: the part BodyLength counts -/
def counted (ty : Str) (body : Bytes) : Bytes := [51, 53, 61] ++ ty ++ 1 :: body

/-- everything before the CheckSum field -/
def summed (ver ty : Str) (body : Bytes) : Bytes :=
  [56, 61] ++ ver ++ 1 :: ([57, 61] ++ natDigits (counted ty body).length ++ 1 :: counted ty body)

theorem prepare_eq {ver ty : Str} {body f : Bytes} (h : prepare ver ty body = .ok f) :
    f = summed ver ty body ++ ([49, 48, 61] ++ rjust0 (natDigits (byteSum (summed ver ty body) % 256)) 3 ++ [1]) ∧
    ty.all (· < 128) = true ∧ ver.all (· < 128) = true := by
  unfold prepare at h
  obtain ⟨tyb, htyb, h⟩ := bind_ok_inv h
  obtain ⟨verb, hverb, h⟩ := bind_ok_inv h
  unfold encodeAscii at htyb hverb
  split at htyb
  · rename_i hty
    split at hverb
    · rename_i hver
      injection htyb with htyb; injection hverb with hverb
      subst htyb; subst hverb
      simp only [pure_eq_ok] at h
      injection h with h
      refine ⟨?_, hty, hver⟩
      have c : fieldBytes 35 ty ++ 1 :: body = counted ty body := by simp [counted, fieldBytes, natDigits_35]
      rw [c] at h
      have s : fieldBytes 8 ver ++ 1 :: (fieldBytes 9 (intStr ((counted ty body).length : Int)) ++ 1 :: counted ty body)
          = summed ver ty body := by
        rw [intStr_natCast]; simp [summed, fieldBytes, natDigits_8, natDigits_9]
      rw [s, intStr_natCast] at h
      rw [← h]
      simp [fieldBytes, natDigits_10]
    · simp at hverb
  · simp at htyb

/-- `8=<ver>SOH9` — everything before the `=` of the BodyLength field -/
def lead (ver : Str) : Bytes := [56, 61] ++ ver ++ [1, 57]

theorem lead_length (ver : Str) : (lead ver).length = ver.length + 4 := by simp [lead]

theorem lead_drop (ver : Str) : (lead ver).drop 2 = ver ++ [1, 57] := by simp [lead]

theorem no_eq_lead {ver : Str} (h61 : 61 ∉ ver) : 61 ∉ ver ++ [1, 57] := by
  intro hm
  simp only [List.mem_append, List.mem_cons, List.mem_nil_iff, or_false] at hm
  rcases hm with hm | hm | hm
  · exact h61 hm
  · exact absurd hm (by decide)
  · exact absurd hm (by decide)

theorem findFrom_eq_lead {ver : Str} (h61 : 61 ∉ ver) (Y : Bytes) :
    findFrom [61] (lead ver ++ 61 :: Y) 2 = some (ver.length + 4) := by
  rw [findFrom_eq _ _ _ (by simp [lead]), show (lead ver ++ 61 :: Y).drop 2 = (ver ++ [1, 57]) ++ 61 :: Y by simp [lead],
    findSub_one_append 61 _ _ (no_eq_lead h61)]
  simp

theorem findSub_some_of_infix (x y z : Nat) (a b : Bytes) : ∃ k, findSub [x, y, z] (a ++ [x, y, z] ++ b) = some k := by
  induction a with
  | nil => exact ⟨0, by simp [findSub, List.isPrefixOf]⟩
  | cons c a ih =>
    obtain ⟨k, hk⟩ := ih
    simp only [List.cons_append, findSub]
    split
    · exact ⟨0, rfl⟩
    · simp only [List.append_assoc, List.cons_append, List.nil_append] at hk
      simp [hk]

theorem fixCut_landmarks (ver : Str) (h61 : 61 ∉ ver) (n : Nat) (X buf : Bytes)
    (hbuf : buf = lead ver ++ 61 :: natDigits n ++ 1 :: X) :
    fixCut buf =
      match findSub [51, 53, 61] buf with
      | none => .ok none
      | some _ =>
        if buf.length < ver.length + (natDigits n).length + n + 13 then .ok none
        else .ok (some (buf.take (ver.length + (natDigits n).length + n + 13),
                        buf.drop (ver.length + (natDigits n).length + n + 13))) := by
  have hlen : buf.length = ver.length + (natDigits n).length + X.length + 6 := by
    rw [hbuf]; simp [lead]; omega
  have e61 : findFrom [61] buf 2 = some (ver.length + 4) := by
    rw [hbuf, show lead ver ++ 61 :: natDigits n ++ 1 :: X = lead ver ++ 61 :: (natDigits n ++ 1 :: X) by simp]
    exact findFrom_eq_lead h61 _
  have e1 : findFrom [1] buf (ver.length + 4) = some (ver.length + 4 + 1 + (natDigits n).length) := by
    rw [findFrom_eq _ _ _ (by omega)]
    have : buf.drop (ver.length + 4) = (61 :: natDigits n) ++ 1 :: X := by
      rw [hbuf, show lead ver ++ 61 :: natDigits n ++ 1 :: X = lead ver ++ ((61 :: natDigits n) ++ 1 :: X) by simp,
        List.drop_left' (lead_length ver)]
    rw [this, findSub_one_append 1 _ _ (by
      intro hm
      rcases List.mem_cons.mp hm with hm | hm
      · exact absurd hm (by decide)
      · exact natDigits_no n 1 (by decide) hm)]
    simp; omega
  have eslice : (buf.take (ver.length + 4 + 1 + (natDigits n).length)).drop (ver.length + 4 + 1) = natDigits n := by
    rw [hbuf, show lead ver ++ 61 :: natDigits n ++ 1 :: X = (lead ver ++ 61 :: natDigits n) ++ 1 :: X by simp,
      List.take_left' (by simp [lead]; omega),
      show lead ver ++ 61 :: natDigits n = (lead ver ++ [61]) ++ natDigits n by simp, List.drop_left' (by simp [lead])]
  have eparse : parseIntBytes (natDigits n) = .ok (n : Int) := by
    rw [← intStr_natCast]; exact parseIntBytes_intStr _
  unfold fixCut
  cases h35 : findSub [51, 53, 61] buf with
  | none => rfl
  | some k =>
    simp only [e61, e1, eslice, eparse, ok_bind]
    rw [if_neg (by omega : ¬ ((n : Int) < 0))]
    have hL : (((ver.length + 4 + 1 + (natDigits n).length + 1 : Nat) : Int) + (n : Int) + 7)
        = ((ver.length + (natDigits n).length + n + 13 : Nat) : Int) := by omega
    rw [hL]
    by_cases hlt : buf.length < ver.length + (natDigits n).length + n + 13
    · rw [if_pos (by omega), if_pos hlt]
    · rw [if_neg (by omega), if_neg hlt]
      have hp : pyIdx buf.length ((ver.length + (natDigits n).length + n + 13 : Nat) : Int)
          = ver.length + (natDigits n).length + n + 13 := by
        rw [pyIdx, sliceBound_natCast]
        omega
      rw [hp]

def trailer (ver ty : Str) (body : Bytes) : Bytes :=
  [49, 48, 61] ++ rjust0 (natDigits (byteSum (summed ver ty body) % 256)) 3 ++ [1]

theorem trailer_length (ver ty : Str) (body : Bytes) : (trailer ver ty body).length = 7 := by
  have := (pad3 (x := byteSum (summed ver ty body) % 256) (by omega)).1
  simp [trailer, this]

/-- the frame as the reader sees it -/
theorem frame_decomp {ver ty : Str} {body f : Bytes} (h : prepare ver ty body = .ok f) :
    f = lead ver ++ 61 :: natDigits (counted ty body).length ++ 1 :: (counted ty body ++ trailer ver ty body) := by
  rw [(prepare_eq h).1]
  simp [summed, lead, trailer]

theorem frame_length {ver ty : Str} {body f : Bytes} (h : prepare ver ty body = .ok f) :
    f.length = ver.length + (natDigits (counted ty body).length).length + (counted ty body).length + 13 := by
  rw [frame_decomp h]
  simp only [List.length_append, List.length_cons, lead_length, trailer_length]
  omega

theorem fixCut_none_of_no_eq (p : Bytes) (h : findFrom [61] p 2 = none) : fixCut p = .ok none := by
  unfold fixCut
  cases findSub [51, 53, 61] p with
  | none => rfl
  | some k => simp only [h]

theorem fixCut_none_of_no_soh (p : Bytes) (start : Nat) (h61 : findFrom [61] p 2 = some start)
    (h1 : findFrom [1] p start = none) : fixCut p = .ok none := by
  unfold fixCut
  cases findSub [51, 53, 61] p with
  | none => rfl
  | some k => simp only [h61, h1]

theorem findFrom_none_of_not_mem (c : Nat) (p : Bytes) (start : Nat) (h : c ∉ p.drop start) : findFrom [c] p start = none := by
  unfold findFrom
  split
  · rfl
  · rw [findSub_one_none c _ h]; rfl

theorem fixCut_frame {ver ty : Str} {body f : Bytes} (h : prepare ver ty body = .ok f) (h61 : 61 ∉ ver) (rest : Bytes) :
    fixCut (f ++ rest) = .ok (some (f, rest)) := by
  have hlen := frame_length h
  have hd := frame_decomp h
  have hbuf : f ++ rest = lead ver ++ 61 :: natDigits (counted ty body).length ++ 1 ::
      (counted ty body ++ trailer ver ty body ++ rest) := by rw [hd]; simp
  obtain ⟨k, hk⟩ : ∃ k, findSub [51, 53, 61] (f ++ rest) = some k := by
    have e : f ++ rest = (lead ver ++ 61 :: natDigits (counted ty body).length ++ [1]) ++ [51, 53, 61] ++
        (ty ++ 1 :: body ++ trailer ver ty body ++ rest) := by rw [hbuf]; simp [counted]
    rw [e]
    exact findSub_some_of_infix 51 53 61 _ _
  rw [fixCut_landmarks ver h61 _ _ (f ++ rest) hbuf, hk, ← hlen]
  simp

theorem fixCut_prefix {ver ty : Str} {body f : Bytes} (h : prepare ver ty body = .ok f) (h61 : 61 ∉ ver)
    (p q : Bytes) (hpq : f = p ++ q) (hq : q ≠ []) : fixCut p = .ok none := by
  have hlen := frame_length h
  have hd := frame_decomp h
  rw [hd] at hpq
  simp only [List.append_assoc, List.cons_append] at hpq
  rcases List.append_eq_append_iff.mp hpq with ⟨p', hp, hR⟩ | ⟨a', ha, hq'⟩
  · -- `p = lead ++ p'`
    cases p' with
    | nil =>
      simp only [List.append_nil] at hp
      apply fixCut_none_of_no_eq
      apply findFrom_none_of_not_mem
      intro hm
      rw [hp, lead_drop] at hm
      exact no_eq_lead h61 hm
    | cons c p'' =>
      simp only [List.cons_append] at hR
      injection hR with hc hR
      subst hc
      have hstart : findFrom [61] p 2 = some (ver.length + 4) := by
        rw [hp]
        exact findFrom_eq_lead h61 _
      rcases List.append_eq_append_iff.mp hR with ⟨t', hp'', hT⟩ | ⟨d', hD, hq''⟩
      · -- `p` contains all the BodyLength digits
        cases t' with
        | nil =>
          simp only [List.append_nil] at hp''
          apply fixCut_none_of_no_soh p _ hstart
          apply findFrom_none_of_not_mem
          rw [hp, List.drop_left' (lead_length ver), hp'']
          intro hm
          rcases List.mem_cons.mp hm with hm | hm
          · exact absurd hm (by decide)
          · exact natDigits_no _ 1 (by decide) hm
        | cons c t'' =>
          simp only [List.cons_append] at hT
          injection hT with hc hT
          subst hc
          have hp2 : p = lead ver ++ 61 :: natDigits (counted ty body).length ++ 1 :: t'' := by
            rw [hp, hp'']; simp
          have hlt : p.length < ver.length + (natDigits (counted ty body).length).length + (counted ty body).length + 13 := by
            have hq1 : 0 < q.length := List.length_pos_iff.mpr hq
            have := congrArg List.length hT
            simp only [List.length_append, trailer_length] at this
            rw [hp2]
            simp only [List.length_append, List.length_cons, lead_length]
            omega
          rw [fixCut_landmarks ver h61 _ _ p hp2]
          cases findSub [51, 53, 61] p with
          | none => rfl
          | some k => simp only [hlt, if_true]
      · -- `p` ends inside the BodyLength digits
        apply fixCut_none_of_no_soh p _ hstart
        apply findFrom_none_of_not_mem
        rw [hp, List.drop_left' (lead_length ver)]
        intro hm
        rcases List.mem_cons.mp hm with hm | hm
        · exact absurd hm (by decide)
        · have : (1 : Nat) ∈ natDigits (counted ty body).length := by rw [hD]; exact List.mem_append.mpr (Or.inl hm)
          exact natDigits_no _ 1 (by decide) this
  · -- `p` ends inside `8=<ver>SOH9`
    apply fixCut_none_of_no_eq
    apply findFrom_none_of_not_mem
    intro hm
    have : (61 : Nat) ∈ (lead ver).drop 2 := by
      rw [ha, List.drop_append]
      exact List.mem_append.mpr (Or.inl hm)
    rw [lead_drop] at this
    exact no_eq_lead h61 this

theorem fixCut_nil : fixCut [] = .ok none := by
  simp [fixCut, findSub]

theorem feed_nothing : ∀ (segs : List Bytes) (out : List Bytes), segs.flatten = [] → feed segs [] out = .ok (out, [])
  | [], out, _ => rfl
  | seg :: segs, out, h => by
    simp only [List.flatten_cons, List.append_eq_nil_iff] at h
    obtain ⟨h1, h2⟩ := h
    subst h1
    simp only [feed, List.append_nil, List.length_nil, drain, fixCut_nil, ok_bind, pure_eq_ok]
    exact feed_nothing segs out h2

theorem feed_frame {ver ty : Str} {body f : Bytes} (h : prepare ver ty body = .ok f) (h61 : 61 ∉ ver) :
    ∀ (segs : List Bytes) (buf : Bytes) (out : List Bytes), buf ++ segs.flatten = f → segs.flatten ≠ [] →
      feed segs buf out = .ok (out ++ [f], []) := by
  have hfl : 13 ≤ f.length := by rw [frame_length h]; omega
  intro segs
  induction segs with
  | nil => intro buf out _ hne; exact absurd rfl hne
  | cons seg segs ih =>
    intro buf out hb hne
    simp only [List.flatten_cons] at hb
    simp only [feed]
    by_cases hrest : segs.flatten = []
    · -- the frame is complete with this segment
      have hbf : buf ++ seg = f := by rw [hrest] at hb; simpa using hb
      obtain ⟨k, hk⟩ : ∃ k, f.length = k + 1 := ⟨f.length - 1, by omega⟩
      have hcut : fixCut f = .ok (some (f, [])) := by
        have := fixCut_frame h h61 []
        simpa using this
      rw [hbf, hk, drain, hcut]
      simp only [ok_bind]
      obtain ⟨k', hk'⟩ : ∃ k', k = k' + 1 := ⟨k - 1, by omega⟩
      rw [hk', drain, fixCut_nil]
      simp only [ok_bind, pure_eq_ok]
      exact feed_nothing segs (out ++ [f]) hrest
    · have hcut : fixCut (buf ++ seg) = .ok none :=
        fixCut_prefix h h61 (buf ++ seg) segs.flatten (by rw [← hb]; simp) hrest
      rw [drain, hcut]
      simp only [ok_bind, pure_eq_ok]
      exact ih (buf ++ seg) out (by rw [← hb]; simp) hrest

/-- no `5` immediately followed by `=` -/
def noAdj : Bytes → Bool
  | a :: b :: l => !(a == 53 && b == 61) && noAdj (b :: l)
  | _ => true

theorem noAdj_tail {x : Nat} {l : Bytes} (h : noAdj (x :: l) = true) : noAdj l = true := by
  cases l with
  | nil => rfl
  | cons y l => simp only [noAdj, Bool.and_eq_true] at h; exact h.2

theorem findSub_35_after (P R : Bytes) (h : noAdj P = true) :
    findSub [51, 53, 61] (P ++ [51, 53, 61] ++ R) = some P.length := by
  induction P with
  | nil => simp [findSub, List.isPrefixOf]
  | cons x P ih =>
    have ih' := ih (noAdj_tail h)
    have hnot : List.isPrefixOf [51, 53, 61] (x :: P ++ [51, 53, 61] ++ R) = false := by
      cases P with
      | nil => simp [List.isPrefixOf]
      | cons y P =>
        cases P with
        | nil => simp [List.isPrefixOf]
        | cons z P =>
          simp only [noAdj, Bool.and_eq_true, Bool.not_eq_true', Bool.and_eq_false_iff, beq_eq_false_iff_ne] at h
          simp only [List.cons_append, List.isPrefixOf, Bool.and_eq_false_iff, beq_eq_false_iff_ne]
          rcases h.2.1 with h1 | h1
          · exact Or.inr (Or.inl (fun e => h1 e.symm))
          · exact Or.inr (Or.inr (Or.inl (fun e => h1 e.symm)))
    simp only [List.cons_append, List.append_assoc] at hnot ih' ⊢
    simp only [findSub, hnot, Bool.false_eq_true, if_false, ih', Option.map_some, List.length_cons]

/-- the message a frame decodes to: the one sent, with BeginString, BodyLength, MsgType in front of the header and
    CheckSum at the end of the trailer -/
def framed (ver : Str) (n : Nat) (ty : Str) (ck : Str) (m : Msg) : Msg :=
  { hdr := (8, .str ver) :: (9, .int (n : Int)) :: (35, .str ty) :: m.hdr, body := m.body,
    trl := m.trl ++ [(10, .str ck)] }

def framingEntries (d : MsgDef) : Prop :=
  (∃ r, lookupE d.hdr 8 = some (.field 8 .string r)) ∧ (∃ r, lookupE d.hdr 9 = some (.field 9 .int r)) ∧
  (∃ r, lookupE d.hdr 35 = some (.field 35 .string r)) ∧ (∃ r, lookupE d.trl 10 = some (.field 10 .string r))

theorem encSegFields_framed_hdr {d : MsgDef} (he : framingEntries d) {ver ty : Str} (n : Nat) {hs : Seg} {fh : List Bytes}
    (hv : ver.all (· < 128) = true) (ht : ty.all (· < 128) = true) (h : encSegFields d.hdr hs = .ok fh) :
    encSegFields d.hdr ((8, .str ver) :: (9, .int (n : Int)) :: (35, .str ty) :: hs)
      = .ok (([56, 61] ++ ver) :: ([57, 61] ++ natDigits n) :: ([51, 53, 61] ++ ty) :: fh) := by
  obtain ⟨⟨r8, h8⟩, ⟨r9, h9⟩, ⟨r35, h35⟩, _⟩ := he
  unfold encSegFields at h ⊢
  simp only [mapE, h8, h9, h35, encEntry, tyToBytes, encodeAscii, hv, ht, intStr_natCast, natDigits_all_lt, if_true, ok_bind, pure_eq_ok, h,
    fieldBytes, natDigits_35, natDigits_9, natDigits_8]
  simp

theorem encSegFields_framed_trl {d : MsgDef} (he : framingEntries d) {ck : Str} {ts : Seg} {ft : List Bytes}
    (hc : ck.all (· < 128) = true) (h : encSegFields d.trl ts = .ok ft) :
    encSegFields d.trl (ts ++ [(10, .str ck)]) = .ok (ft ++ [[49, 48, 61] ++ ck]) := by
  obtain ⟨_, _, _, ⟨r10, h10⟩⟩ := he
  unfold encSegFields at h ⊢
  apply mapE_append h
  simp only [mapE, h10, encEntry, tyToBytes, encodeAscii, hc, if_true, ok_bind, pure_eq_ok, fieldBytes, natDigits_10]
  simp

/-- a version string the reader can skip over: no `=` in it (`FIX.4.4`, `FIXT.1.1`) -/
def wfVer (ver : Str) : Bool := ver.all (fun c => decide (c ≠ 61))

theorem no_eq_of_wfVer {ver : Str} (h : wfVer ver = true) : 61 ∉ ver := by
  intro hm
  simp only [wfVer, List.all_eq_true, decide_eq_true_eq] at h
  exact h 61 hm rfl

/-- what `send_msg` does, step by step -/
theorem frame_inv {ver : Str} {d : MsgDef} {se : Sess} {seq : Int} {time : Str} {m m' : Msg} {f : Bytes}
    (h : frame ver d se seq time m = .ok (f, m')) :
    ∃ hd body, stampHeader d.hdr se seq time m.hdr = .ok hd ∧
      m' = { m with hdr := dropKeys [8, 9, 35] hd, trl := dropKeys [10] m.trl } ∧
      encMsg d m' = .ok body ∧ prepare ver d.type body = .ok f := by
  unfold frame at h
  obtain ⟨_, _, h⟩ := bind_ok_inv h
  obtain ⟨hd, hhd, h⟩ := bind_ok_inv h
  obtain ⟨body, hbody, h⟩ := bind_ok_inv h
  obtain ⟨f', hf', h⟩ := bind_ok_inv h
  simp only [pure_eq_ok] at h
  injection h with h
  injection h with h1 h2
  subst h1; subst h2
  exact ⟨hd, body, hhd, rfl, hbody, hf'⟩

theorem wfMsg_framed {d : MsgDef} (he : framingEntries d) {ver ty ck : Str} (n : Nat) {m : Msg}
    (hv : wfText ver = true) (ht : wfText ty = true) (hc : wfText ck = true) (hm : wfMsg d m = true)
    (hk : 8 ∉ keysOf m.hdr ∧ 9 ∉ keysOf m.hdr ∧ 35 ∉ keysOf m.hdr ∧ 10 ∉ keysOf m.trl) :
    wfMsg d (framed ver n ty ck m) = true := by
  obtain ⟨⟨r8, h8⟩, ⟨r9, h9⟩, ⟨r35, h35⟩, ⟨r10, h10⟩⟩ := he
  simp only [wfMsg, wfSeg, Bool.and_eq_true, decide_eq_true_eq] at hm
  obtain ⟨⟨⟨⟨wh, nh⟩, wb⟩, ⟨wt, nt⟩⟩, _⟩ := hm
  obtain ⟨k8, k9, k35, k10⟩ := hk
  have w10 : wfFields d.trl [(10, Val.str ck)] = true := by
    simp [wfFields, h10, wfVal, wfPrim, hc]
  have nt' : (keysOf (m.trl ++ [(10, Val.str ck)])).Nodup := by
    simp only [keysOf, List.map_append, List.map_cons, List.map_nil]
    rw [List.nodup_append]
    refine ⟨nt, by simp, ?_⟩
    intro a ha b hb hab
    simp at hb
    subst hb; subst hab
    exact k10 ha
  have nh' : (keysOf ((8, Val.str ver) :: (9, Val.int (n : Int)) :: (35, Val.str ty) :: m.hdr)).Nodup := by
    simp only [keysOf, List.map_cons, List.nodup_cons, List.mem_cons, not_or]
    exact ⟨⟨by decide, by decide, k8⟩, ⟨by decide, k9⟩, k35, nh⟩
  simp only [wfMsg, framed, wfSeg, wfFields, h8, h9, h35, wfVal, wfPrim, hv, ht, wh, wb, show wfFields d.trl (m.trl ++ [(10, Val.str ck)]) = true by rw [wfFields_append, wt, w10]; rfl,
    Bool.and_eq_true, decide_eq_true_eq, nh', nt', and_self, true_and]
  simp

theorem canonMsg_framed {d : MsgDef} (he : framingEntries d) (ver ty ck : Str) (n : Nat) (m : Msg) :
    canonMsg d (framed ver n ty ck m) = framed ver n ty ck (canonMsg d m) := by
  obtain ⟨⟨r8, h8⟩, ⟨r9, h9⟩, ⟨r35, h35⟩, ⟨r10, h10⟩⟩ := he
  simp only [canonMsg, framed, canonSeg_append]
  simp [canonSeg, h8, h9, h35, h10, canonVal]

theorem wfText_pad3 {x : Nat} (h : x < 1000) : wfText (rjust0 (natDigits x) 3) = true := by
  simp only [wfText, List.all_eq_true, Bool.and_eq_true, decide_eq_true_eq]
  intro c hc
  have := (pad3 h).2.1 c hc
  simp [isDigit] at this
  omega

/-- the frame is the encoding of the sent message with the four framing fields added (`encSegFields_framed_*`); MsgType is the third
    header field of that larger message, found by the anchored search behind any version string -/
theorem decodeMsg_prepare (reg : List MsgDef) {ver : Str} {d : MsgDef} {m : Msg} {body f : Bytes}
    (hvt : wfText ver = true) (hty : wfText d.type = true) (hd : wfDef d = true) (he : framingEntries d) (hm : wfMsg d m = true)
    (hk : 8 ∉ keysOf m.hdr ∧ 9 ∉ keysOf m.hdr ∧ 35 ∉ keysOf m.hdr ∧ 10 ∉ keysOf m.trl)
    (hreg : lookupReg reg d.type = some d) (hbody : encMsg d m = .ok body) (hprep : prepare ver d.type body = .ok f) :
    decodeMsg reg f = .ok (f.length, d,
      framed ver (counted d.type body).length d.type (rjust0 (natDigits (byteSum (summed ver d.type body) % 256)) 3) (canonMsg d m)) := by
  have hl := wfDefLevels_of_wfDef hd
  obtain ⟨hf, hta, hva⟩ := prepare_eq hprep
  have hck := wfText_pad3 (x := byteSum (summed ver d.type body) % 256) (by omega)
  have hwf := wfMsg_framed he (counted d.type body).length hvt hty hck hm hk
  -- the frame is the encoding of the framed message
  obtain ⟨fh, fb, ft, hfh, hfb, hft, hbs⟩ := encMsg_wire hl hm hbody
  obtain ⟨bs, henc⟩ := encMsg_ok d _ hl hwf
  obtain ⟨fh', fb', ft', hfh', hfb', hft', hbs'⟩ := encMsg_wire hl hwf henc
  simp only [framed] at hfh' hfb' hft'
  rw [encSegFields_framed_hdr he (counted d.type body).length hva hta hfh] at hfh'
  rw [hfb] at hfb'
  rw [encSegFields_framed_trl he (ascii_no_soh_of_wfText hck).1 hft] at hft'
  obtain rfl := Except.ok.inj hfh'
  obtain rfl := Except.ok.inj hfb'
  obtain rfl := Except.ok.inj hft'
  obtain rfl : bs = f := by
    rw [hbs', hf, hbs]
    simp [termAll_cons, termAll_append, termAll_nil, summed, counted]
  obtain ⟨r35, h35⟩ := he.2.2.1
  have hmt : getMsgType bs = .ok d.type := getMsgType_encMsg hd hwf henc (by simp [framed]) h35
  rw [decodeMsg_shared reg d _ bs hl hwf (countEndsS_of_wfDef hd hwf) henc hmt hreg, canonMsg_framed he]

end NasdaqModel.FixFrame
