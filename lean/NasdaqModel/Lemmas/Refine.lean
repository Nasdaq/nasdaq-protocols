import NasdaqModel.Model.Refine
import NasdaqModel.Lemmas.FramingProgress
import NasdaqModel.Lemmas.SessionLemmas3
/-
Tokenisation (`Refine.tokens`): unfolding equations, independence of the fuel, and **segmentation independence** —
`tokens (a ++ b)` is `tokens a` continued on its remainder — for every protocol whose `deserialize()` is a `Framer`:
frames are non-empty and, wherever the stability test `st` holds, a frame that could be cut (or an exception that was
raised) is not changed by bytes arriving behind it.
-/
namespace NasdaqModel.Refine
open NasdaqModel Py Framing

variable {μ : Type}

/-- what the refinement needs of a `deserialize()`, relative to a stability test `st` on buffers.
    Both readers of the library satisfy it with the test that is constantly true (`soupFramer`, `fixFramer`: every byte string is
    `stable`, `soup_stable` / `fix_stable`), so `st` and the hypotheses `stable P st … = true` do no work for them.  The parameter
    is there for a reader whose framing CAN be changed by later bytes: the FIX reader before /repo 658ee1f is stable only where the
    computed frame length is not negative (`Witness/C04Bytes.lean`, `fixStOld`). -/
structure Framer (P : Proto μ) (st : Bytes → Bool) : Prop where
  consuming : Consuming P
  some_mono : ∀ {buf : Bytes} {m : μ} {r : Bytes} (more : Bytes), st buf = true → P.deser buf = .ok (some (m, r)) →
    P.deser (buf ++ more) = .ok (some (m, r ++ more))
  err_mono : ∀ {buf : Bytes} {e : Err} (more : Bytes), st buf = true → P.deser buf = .error e →
    ∃ e', P.deser (buf ++ more) = .error e'
  st_prefix : ∀ {buf more : Bytes}, st (buf ++ more) = true → st buf = true

/-- a `deserialize()` whose decided outcomes (a frame cut off, an exception) do not depend on what arrives later is a `Framer`
    for any stability test closed under prefixes -/
theorem Framer.of_later {P : Proto μ} {st : Bytes → Bool} (hC : Consuming P)
    (h : ∀ buf more, P.deser buf ≠ .ok none → P.deser (buf ++ more) = later more (P.deser buf))
    (hst : ∀ {buf more : Bytes}, st (buf ++ more) = true → st buf = true) : Framer P st where
  consuming := hC
  some_mono := fun more _ hd => by rw [h _ more (by rw [hd]; simp), hd]; rfl
  err_mono := fun more _ hd => ⟨_, by rw [h _ more (by rw [hd]; simp), hd]; rfl⟩
  st_prefix := hst

@[simp] theorem Toks.eta (t : Toks μ) : (⟨t.toks, t.rest, t.fin⟩ : Toks μ) = t := rfl

@[simp] theorem Toks.prepend_toks (pre : List (Tok μ)) (t : Toks μ) : (t.prepend pre).toks = pre ++ t.toks := rfl
@[simp] theorem Toks.prepend_rest (pre : List (Tok μ)) (t : Toks μ) : (t.prepend pre).rest = t.rest := rfl
@[simp] theorem Toks.prepend_fin (pre : List (Tok μ)) (t : Toks μ) : (t.prepend pre).fin = t.fin := rfl

theorem Toks.prepend_nil (t : Toks μ) : t.prepend [] = t := rfl

theorem Toks.prepend_prepend (a b : List (Tok μ)) (t : Toks μ) : (t.prepend b).prepend a = t.prepend (a ++ b) := by
  simp [Toks.prepend]

theorem Toks.prepend_extend (P : Proto μ) (pre : List (Tok μ)) (t : Toks μ) (more : Bytes) :
    (t.prepend pre).extend P more = (t.extend P more).prepend pre := by
  unfold Toks.extend
  cases h : t.fin with
  | true => simp [Toks.prepend, h]
  | false => simp [Toks.prepend, h]

theorem Toks.extend_fin (P : Proto μ) (t : Toks μ) (more : Bytes) (h : t.fin = true) :
    t.extend P more = { t with rest := t.rest ++ more } := by
  simp [Toks.extend, h]

theorem Toks.extend_nfin (P : Proto μ) (t : Toks μ) (more : Bytes) (h : t.fin = false) :
    t.extend P more = (tokens P (t.rest ++ more)).prepend t.toks := by
  simp [Toks.extend, h, Toks.prepend]

theorem Toks.frames_prepend (num : μ → Nat) (pre : List (Tok μ)) (t : Toks μ) :
    (t.prepend pre).frames num = pre.map (Tok.frame num) ++ t.frames num := by
  simp [Toks.frames]

theorem tokMsgs_append (a b : List (Tok μ)) : tokMsgs (a ++ b) = tokMsgs a ++ tokMsgs b := by
  simp [tokMsgs, List.filterMap_append]

theorem Toks.msgs_prepend (pre : List (Tok μ)) (t : Toks μ) : (t.prepend pre).msgs = tokMsgs pre ++ t.msgs := by
  simp [Toks.msgs, tokMsgs_append]

theorem msgsOf_frames (num : μ → Nat) (l : List (Tok μ)) :
    Sess.msgsOf (l.map (Tok.frame num)) = (tokMsgs l).map num := by
  induction l with
  | nil => rfl
  | cons k l ih =>
    cases k <;> simp [Sess.msgsOf, tokMsgs, Tok.frame] at ih ⊢ <;> exact ih

/-- a function recursing on fuel that no longer changes once the fuel covers the buffer can be given `len(buffer)` as fuel -/
theorem fuel_ge {α : Type} (f : Nat → Bytes → α) (hsucc : ∀ fuel buf, buf.length ≤ fuel → f (fuel + 1) buf = f fuel buf)
    {fuel : Nat} {buf : Bytes} (h : buf.length ≤ fuel) : f fuel buf = f buf.length buf := by
  obtain ⟨k, rfl⟩ := Nat.exists_eq_add_of_le h
  induction k with
  | zero => rfl
  | succ k ih => rw [← Nat.add_assoc, hsucc _ _ (by omega)]; exact ih (by omega)

theorem tokensF_succ (P : Proto μ) (hC : Consuming P) : ∀ (fuel : Nat) (buf : Bytes), buf.length ≤ fuel →
    tokensF P (fuel + 1) buf = tokensF P fuel buf := by
  intro fuel
  induction fuel with
  | zero =>
    intro buf h
    have : buf = [] := List.eq_nil_of_length_eq_zero (Nat.le_zero.mp h)
    subst this
    rfl
  | succ fuel ih =>
    intro buf h
    unfold tokensF
    split
    · rfl
    · split
      · rfl
      · rfl
      · rename_i m rest hd
        have hlt := hC _ _ _ hd
        rw [ih rest (by omega)]

theorem tokensF_ge (P : Proto μ) (hC : Consuming P) {fuel : Nat} {buf : Bytes} (h : buf.length ≤ fuel) :
    tokensF P fuel buf = tokens P buf :=
  fuel_ge (tokensF P) (tokensF_succ P hC) h

@[simp] theorem tokens_nil (P : Proto μ) : tokens P [] = ⟨[], [], false⟩ := rfl

/-- on a non-empty buffer `tokens` starts with one `deserialize()` -/
theorem tokens_step (P : Proto μ) {buf : Bytes} (hb : buf ≠ []) : ∃ n, buf.length = n + 1 ∧ tokens P buf =
    match P.deser buf with
    | .error _ => ⟨[.bad], buf, true⟩
    | .ok none => ⟨[], buf, false⟩
    | .ok (some (m, rest)) =>
      if P.isLogout m then ⟨[.logout], rest, true⟩ else (tokensF P n rest).prepend [classify P m] := by
  obtain ⟨n, hn⟩ := Nat.exists_eq_succ_of_ne_zero (fun h0 => hb (List.eq_nil_of_length_eq_zero h0))
  refine ⟨n, hn, ?_⟩
  unfold tokens
  rw [hn, tokensF, if_neg (by omega)]
  rfl

theorem tokens_err (P : Proto μ) {buf : Bytes} {e : Err} (hb : buf ≠ []) (h : P.deser buf = .error e) :
    tokens P buf = ⟨[.bad], buf, true⟩ := by
  obtain ⟨n, _, e⟩ := tokens_step P hb
  rw [e, h]

theorem tokens_none (P : Proto μ) {buf : Bytes} (h : P.deser buf = .ok none) : tokens P buf = ⟨[], buf, false⟩ := by
  by_cases hb : buf = []
  · subst hb; rfl
  · obtain ⟨n, _, e⟩ := tokens_step P hb
    rw [e, h]

theorem tokens_logout (P : Proto μ) {buf rest : Bytes} {m : μ} (hb : buf ≠ [])
    (h : P.deser buf = .ok (some (m, rest))) (hl : P.isLogout m = true) : tokens P buf = ⟨[.logout], rest, true⟩ := by
  obtain ⟨n, _, e⟩ := tokens_step P hb
  rw [e, h]
  simp only [hl, if_true]

theorem tokens_cons (P : Proto μ) (hC : Consuming P) {buf rest : Bytes} {m : μ} (hb : buf ≠ [])
    (h : P.deser buf = .ok (some (m, rest))) (hl : P.isLogout m = false) :
    tokens P buf = (tokens P rest).prepend [classify P m] := by
  obtain ⟨n, hn, e⟩ := tokens_step P hb
  have hlt := hC _ _ _ h
  rw [e, h]
  simp only [hl, Bool.false_eq_true, if_false]
  rw [tokensF_ge P hC (by omega)]

theorem stableF_succ (P : Proto μ) (st : Bytes → Bool) (hC : Consuming P) : ∀ (fuel : Nat) (buf : Bytes), buf.length ≤ fuel →
    stableF P st (fuel + 1) buf = stableF P st fuel buf := by
  intro fuel
  induction fuel with
  | zero =>
    intro buf h
    have : buf = [] := List.eq_nil_of_length_eq_zero (Nat.le_zero.mp h)
    subst this
    rfl
  | succ fuel ih =>
    intro buf h
    unfold stableF
    split
    · rfl
    · split
      · rename_i m rest hd
        have hlt := hC _ _ _ hd
        rw [ih rest (by omega)]
      · rfl

theorem stableF_ge (P : Proto μ) (st : Bytes → Bool) (hC : Consuming P) {fuel : Nat} {buf : Bytes} (h : buf.length ≤ fuel) :
    stableF P st fuel buf = stable P st buf :=
  fuel_ge (stableF P st) (stableF_succ P st hC) h

@[simp] theorem stable_nil (P : Proto μ) (st : Bytes → Bool) : stable P st [] = true := rfl

/-- on a non-empty buffer `stable` tests the head and goes on behind the first frame -/
theorem stable_step (P : Proto μ) (st : Bytes → Bool) {buf : Bytes} (hb : buf ≠ []) : ∃ n, buf.length = n + 1 ∧
    stable P st buf = (st buf && match P.deser buf with
      | .ok (some (m, rest)) => if P.isLogout m then true else stableF P st n rest
      | _ => true) := by
  obtain ⟨n, hn⟩ := Nat.exists_eq_succ_of_ne_zero (fun h0 => hb (List.eq_nil_of_length_eq_zero h0))
  refine ⟨n, hn, ?_⟩
  unfold stable
  rw [hn, stableF, if_neg (by omega)]
  rfl

theorem stable_cons (P : Proto μ) (st : Bytes → Bool) (hC : Consuming P) {buf rest : Bytes} {m : μ} (hb : buf ≠ [])
    (h : P.deser buf = .ok (some (m, rest))) (hl : P.isLogout m = false) :
    stable P st buf = (st buf && stable P st rest) := by
  obtain ⟨n, hn, e⟩ := stable_step P st hb
  have hlt := hC _ _ _ h
  rw [e, h]
  simp only [hl, Bool.false_eq_true, if_false]
  rw [stableF_ge P st hC (by omega)]

theorem stable_stop (P : Proto μ) (st : Bytes → Bool) {buf : Bytes} (hb : buf ≠ [])
    (h : ∀ m rest, P.deser buf = .ok (some (m, rest)) → P.isLogout m = true) : stable P st buf = st buf := by
  obtain ⟨n, _, e⟩ := stable_step P st hb
  rw [e]
  split
  · rename_i m rest hd
    simp [h m rest hd]
  · simp

theorem stable_head (P : Proto μ) (st : Bytes → Bool) {buf : Bytes} (hb : buf ≠ []) (h : stable P st buf = true) :
    st buf = true := by
  obtain ⟨n, _, e⟩ := stable_step P st hb
  rw [e, Bool.and_eq_true] at h
  exact h.1

theorem stableF_of_always (P : Proto μ) (st : Bytes → Bool) (h : ∀ b, st b = true) : ∀ (fuel : Nat) (buf : Bytes),
    stableF P st fuel buf = true := by
  intro fuel
  induction fuel with
  | zero => intro buf; rfl
  | succ fuel ih =>
    intro buf
    unfold stableF
    split
    · rfl
    · rw [h buf, Bool.true_and]
      split
      · split
        · rfl
        · exact ih _
      · rfl

theorem tokens_append_aux {P : Proto μ} {st : Bytes → Bool} (F : Framer P st) : ∀ (n : Nat) (a : Bytes), a.length ≤ n →
    ∀ b, stable P st (a ++ b) = true → stable P st a = true ∧ tokens P (a ++ b) = (tokens P a).extend P b := by
  intro n
  induction n with
  | zero =>
    intro a ha b _
    have : a = [] := List.eq_nil_of_length_eq_zero (Nat.le_zero.mp ha)
    subst this
    refine ⟨rfl, ?_⟩
    rw [tokens_nil, Toks.extend_nfin _ _ _ rfl]; rfl
  | succ n ih =>
    intro a ha b hs
    by_cases hb : a = []
    · subst hb
      refine ⟨rfl, ?_⟩
      rw [tokens_nil, Toks.extend_nfin _ _ _ rfl]; rfl
    · have hab : a ++ b ≠ [] := by simp [hb]
      have hst : st a = true := F.st_prefix (stable_head P st hab hs)
      cases hd : P.deser a with
      | error e =>
        obtain ⟨e', he'⟩ := F.err_mono b hst hd
        refine ⟨?_, ?_⟩
        · rw [stable_stop P st hb (by intro m rest h; rw [hd] at h; cases h)]; exact hst
        · rw [tokens_err P hab he', tokens_err P hb hd, Toks.extend_fin _ _ _ rfl]
      | ok o =>
        cases o with
        | none =>
          refine ⟨?_, ?_⟩
          · rw [stable_stop P st hb (by intro m rest h; rw [hd] at h; cases h)]; exact hst
          · rw [tokens_none P hd, Toks.extend_nfin _ _ _ rfl]; rfl
        | some mr =>
          obtain ⟨m, rest⟩ := mr
          have hd' := F.some_mono b hst hd
          have hlt := F.consuming _ _ _ hd
          cases hl : P.isLogout m with
          | true =>
            refine ⟨?_, ?_⟩
            · rw [stable_stop P st hb (by intro m' rest' h; rw [hd] at h; cases h; exact hl)]; exact hst
            · rw [tokens_logout P hab hd' hl, tokens_logout P hb hd hl, Toks.extend_fin _ _ _ rfl]
          | false =>
            rw [stable_cons P st F.consuming hab hd' hl, Bool.and_eq_true] at hs
            obtain ⟨h1, h2⟩ := ih rest (by omega) b hs.2
            refine ⟨?_, ?_⟩
            · rw [stable_cons P st F.consuming hb hd hl, hst, h1]; rfl
            · rw [tokens_cons P F.consuming hab hd' hl, tokens_cons P F.consuming hb hd hl, h2, Toks.prepend_extend]

/-- **Tokens are independent of segmentation.**  If the stream `a ++ b` is stable, tokenising it is tokenising `a` and continuing
    on what `a` left over once `b` has arrived (and the prefix `a` is stable too: `stable_prefix`). -/
theorem tokens_append {P : Proto μ} {st : Bytes → Bool} (F : Framer P st) (a b : Bytes) (h : stable P st (a ++ b) = true) :
    tokens P (a ++ b) = (tokens P a).extend P b :=
  (tokens_append_aux F a.length a (Nat.le_refl _) b h).2

theorem stable_prefix {P : Proto μ} {st : Bytes → Bool} (F : Framer P st) (a b : Bytes) (h : stable P st (a ++ b) = true) :
    stable P st a = true :=
  (tokens_append_aux F a.length a (Nat.le_refl _) b h).1

theorem tokens_toks_prefix {P : Proto μ} {st : Bytes → Bool} (F : Framer P st) (a b : Bytes) (h : stable P st (a ++ b) = true) :
    (tokens P a).toks <+: (tokens P (a ++ b)).toks := by
  rw [tokens_append F a b h]
  cases hf : (tokens P a).fin with
  | true => rw [Toks.extend_fin _ _ _ hf]; exact List.prefix_refl _
  | false => rw [Toks.extend_nfin _ _ _ hf]; exact List.prefix_append _ _

theorem tokens_append_fin {P : Proto μ} {st : Bytes → Bool} (F : Framer P st) (a b : Bytes) (h : stable P st (a ++ b) = true)
    (hf : (tokens P a).fin = true) :
    (tokens P (a ++ b)).toks = (tokens P a).toks ∧ (tokens P (a ++ b)).fin = true ∧
      (tokens P (a ++ b)).rest = (tokens P a).rest ++ b := by
  rw [tokens_append F a b h, Toks.extend_fin _ _ _ hf]
  exact ⟨rfl, hf, rfl⟩

end NasdaqModel.Refine
