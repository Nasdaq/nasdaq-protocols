import NasdaqModel.Model.Session
/-
The session machine's operations, each described once by what it does to the fields of the state, and proof rules (motive a
variable, one hypothesis per way the function goes on) for its transition functions `execClose`, `stepInClose`, `loginResume`,
`startRecv`, `stepRun`.  The close-body rules serve every invariant; `stepRun_rule`, `loginResume_rule`, `startRecv_rule` serve the walk of
the login-trace invariants (`LoginTraceW.lean`), which needs only these facts about the state a transition leads to; `InvA`, `InvR`,
`InvG`, `InvB`, `InvK` compose their own lemmas operation by operation and go through `stepRun` branch by branch.
-/
namespace NasdaqModel.Sess

theorem setStatus_status (s : St) (t y : Tid) (x : Status) :
    (s.setStatus t x).status y = if y = t then x else s.status y := rfl

theorem setProg_status (s : St) (t : Tid) (p : Prog) : (s.setProg t p).status = s.status := rfl
theorem setProg_prog (s : St) (t y : Tid) (p : Prog) : (s.setProg t p).prog y = if y = t then p else s.prog y := rfl

theorem spawn_status (s : St) (t y : Tid) (p : Prog) : (s.spawn t p).status y = if y = t then .ready else s.status y := rfl
theorem spawn_prog (s : St) (t y : Tid) (p : Prog) : (s.spawn t p).prog y = if y = t then p else s.prog y := rfl

theorem finish_status (s : St) (t x : Tid) :
    (s.finish t).status x = if x = t then .done else if s.status x = .waitT t then .ready else s.status x := rfl


theorem alive_finish (s : St) (t y : Tid) : alive ((s.finish t).status y) = (if y = t then false else alive (s.status y)) := by
  rw [finish_status]
  by_cases h : y = t
  · simp [h, alive]
  · simp only [h, if_false]
    split
    · rename_i hw; rw [hw]; rfl
    · rfl

theorem dead_finish {s : St} {x : Tid} (t : Tid) (h : alive (s.status x) = false) :
    alive ((s.finish t).status x) = false := by
  rw [alive_finish]
  split
  · rfl
  · exact h

theorem ready_finish {s : St} {x : Tid} (t : Tid) (h : s.status x = .ready) :
    alive ((s.finish t).status x) = false ∨ (s.finish t).status x = .ready := by
  rw [finish_status]
  by_cases hxt : x = t
  · left; simp [hxt, alive]
  · right; simp [hxt, h]

theorem waitT_of_finish {s : St} {t y z : Tid} (h : (s.finish t).status y = .waitT z) : s.status y = .waitT z := by
  rw [finish_status] at h
  split at h
  · simp at h
  · split at h
    · simp at h
    · exact h

theorem absent_finish {s : St} {t y : Tid} (h : s.status y = .absent) : y = t ∨ (s.finish t).status y = .absent := by
  by_cases hy : y = t
  · exact Or.inl hy
  · right; rw [finish_status]; simp [hy, h]

theorem absent_of_finish {s : St} {t y : Tid} (h : (s.finish t).status y = .absent) : s.status y = .absent := by
  rw [finish_status] at h
  split at h
  · simp at h
  · split at h
    · simp at h
    · exact h

theorem St.put_eq (s : St) (m : Nat) :
    s.put m = { s with
      queue := s.queue ++ [m]
      status := fun t => if (t = .D ∨ t = .V) ∧ s.status t = .waitQ then .ready else s.status t } := by
  have hst : ∀ f : Tid → Status, (∀ t, f t = if (t = .D ∨ t = .V) ∧ s.status t = .waitQ then .ready else s.status t) →
      ({ s with queue := s.queue ++ [m], status := f } : St) = { s with
        queue := s.queue ++ [m]
        status := fun t => if (t = .D ∨ t = .V) ∧ s.status t = .waitQ then .ready else s.status t } :=
    fun f h => by rw [funext h]
  unfold St.put St.wakeGetter
  by_cases hD : s.status .D = .waitQ <;> by_cases hV : s.status .V = .waitQ <;>
    simp only [hD, hV, St.setStatus, if_true, if_false, reduceCtorEq] <;>
    refine hst _ (fun t => ?_) <;>
    cases t <;> simp [hD, hV]

theorem St.put_status (s : St) (m : Nat) (y : Tid) :
    (s.put m).status y = if (y = .D ∨ y = .V) ∧ s.status y = .waitQ then .ready else s.status y := by
  rw [St.put_eq]

theorem St.put_status_of_ne (s : St) (m : Nat) {y : Tid} (hD : y ≠ .D) (hV : y ≠ .V) : (s.put m).status y = s.status y := by
  rw [St.put_status]; simp [hD, hV]

theorem St.alive_put (s : St) (m : Nat) (y : Tid) : alive ((s.put m).status y) = alive (s.status y) := by
  rw [St.put_status]
  split
  · rename_i h; rw [h.2]; rfl
  · rfl

theorem put_frame (s : St) (m : Nat) :
    (s.put m).trace = s.trace ∧ (s.put m).prog = s.prog ∧ (s.put m).cstage = s.cstage ∧ (s.put m).closed = s.closed ∧
    (s.put m).qClosed = s.qClosed ∧ (s.put m).vres = s.vres ∧ (s.put m).rcvBusy = s.rcvBusy ∧ (s.put m).dispSet = s.dispSet := by
  rw [St.put_eq]
  exact ⟨rfl, rfl, rfl, rfl, rfl, rfl, rfl, rfl⟩

theorem startDispatching_frame (s : St) (cfg : Cfg) :
    (∀ y, y ≠ .D → (s.startDispatching cfg).status y = s.status y ∧ (s.startDispatching cfg).prog y = s.prog y) ∧
    (s.startDispatching cfg).closed = s.closed ∧ (s.startDispatching cfg).qClosed = s.qClosed ∧
    (s.startDispatching cfg).rcvBusy = s.rcvBusy ∧ (s.startDispatching cfg).vres = s.vres ∧
    (s.startDispatching cfg).trace = s.trace ∧ (s.startDispatching cfg).closingTask = s.closingTask ∧
    (s.startDispatching cfg).cstage = s.cstage ∧
    (((s.startDispatching cfg).dispSet = true ∧ (s.startDispatching cfg).status .D = .ready ∧ cfg.hasMsgCb = true) ∨
      ((s.startDispatching cfg).dispSet = s.dispSet ∧ (s.startDispatching cfg).status .D = s.status .D)) := by
  unfold St.startDispatching
  split
  · rename_i h
    simp only [Bool.and_eq_true] at h
    refine ⟨?_, rfl, rfl, rfl, rfl, rfl, rfl, rfl, Or.inl ⟨rfl, by simp [St.spawn, St.setStatus, St.setProg], h.1⟩⟩
    intro y hy; simp [St.spawn, St.setStatus, St.setProg, hy]
  · exact ⟨fun _ _ => ⟨rfl, rfl⟩, rfl, rfl, rfl, rfl, rfl, rfl, rfl, Or.inr ⟨rfl, rfl⟩⟩

theorem St.startHeartbeats_eq (s : St) :
    s.startHeartbeats = { s with
      pingL := true, pingM := true
      status := fun y => if y = .M then .ready else if y = .L then .ready else s.status y
      prog := fun y => if y = .M then .monStart else if y = .L then .monStart else s.prog y } := by
  simp only [St.startHeartbeats, St.spawn, St.setStatus, St.setProg]

theorem startHeartbeats_spec (s : St) :
    (∀ y, y ≠ .L → y ≠ .M → s.startHeartbeats.status y = s.status y ∧ s.startHeartbeats.prog y = s.prog y) ∧
    s.startHeartbeats.status .L = .ready ∧ s.startHeartbeats.status .M = .ready ∧
    s.startHeartbeats.closed = s.closed ∧ s.startHeartbeats.qClosed = s.qClosed ∧ s.startHeartbeats.rcvBusy = s.rcvBusy ∧
    s.startHeartbeats.vres = s.vres ∧ s.startHeartbeats.trace = s.trace ∧ s.startHeartbeats.cstage = s.cstage ∧
    s.startHeartbeats.dispSet = s.dispSet := by
  rw [St.startHeartbeats_eq]
  exact ⟨fun y hL hM => ⟨by simp only [if_neg hL, if_neg hM], by simp only [if_neg hL, if_neg hM]⟩, rfl, rfl, rfl, rfl, rfl, rfl,
    rfl, rfl, rfl⟩

theorem cancelTask_setStatus (s : St) (x : Tid) :
    s.cancelTask x = s ∨ ∃ y, (y = x ∨ s.status x = .waitT y) ∧ (s.status y = .ready ∨ s.status y = .waitQ) ∧
      s.cancelTask x = s.setStatus y .cancelled := by
  unfold St.cancelTask
  split
  · rename_i h; exact Or.inr ⟨x, Or.inl rfl, Or.inl h, rfl⟩
  · rename_i h; exact Or.inr ⟨x, Or.inl rfl, Or.inr h, rfl⟩
  · rename_i w hw
    split
    · rename_i h; exact Or.inr ⟨w, Or.inr hw, Or.inl h, rfl⟩
    · rename_i h; exact Or.inr ⟨w, Or.inr hw, Or.inr h, rfl⟩
    · exact Or.inl rfl
  · exact Or.inl rfl

theorem cancelTask_eq (s : St) (t : Tid) : ∃ f, s.cancelTask t = { s with status := f } := by
  rcases cancelTask_setStatus s t with h | ⟨y, _, _, h⟩
  · exact ⟨s.status, h⟩
  · exact ⟨_, h⟩

theorem cancelTask_prog (s : St) (x : Tid) : (s.cancelTask x).prog = s.prog := by
  obtain ⟨f, h⟩ := cancelTask_eq s x
  rw [h]

theorem cancelTask_rStopped (s : St) (x : Tid) : (s.cancelTask x).rStopped = s.rStopped := by
  obtain ⟨f, h⟩ := cancelTask_eq s x
  rw [h]

theorem cancelTask_trace (s : St) (x : Tid) : (s.cancelTask x).trace = s.trace := by
  obtain ⟨f, h⟩ := cancelTask_eq s x
  rw [h]

theorem cancelTask_flags (s : St) (x : Tid) :
    (s.cancelTask x).rcvBusy = s.rcvBusy ∧ (s.cancelTask x).closingTask = s.closingTask ∧
    (s.cancelTask x).dispSet = s.dispSet ∧ (s.cancelTask x).vres = s.vres ∧ (s.cancelTask x).queue = s.queue ∧
    (s.cancelTask x).closed = s.closed ∧ (s.cancelTask x).qClosed = s.qClosed ∧ (s.cancelTask x).trace = s.trace ∧
    (s.cancelTask x).cstage = s.cstage := by
  obtain ⟨f, h⟩ := cancelTask_eq s x
  rw [h]
  exact ⟨rfl, rfl, rfl, rfl, rfl, rfl, rfl, rfl, rfl⟩

theorem cancelTask_status {s : St} {x : Tid} (ha : alive (s.status x) = true) (hw : ∀ z, s.status x ≠ .waitT z) (y : Tid) :
    (s.cancelTask x).status y = if y = x then .cancelled else s.status y := by
  unfold St.cancelTask
  cases hs : s.status x with
  | absent => rw [hs] at ha; simp [alive] at ha
  | done => rw [hs] at ha; simp [alive] at ha
  | ready => simp only [St.setStatus]
  | waitQ => simp only [St.setStatus]
  | cancelled => simp only; split <;> simp_all
  | waitT z => exact absurd hs (hw z)

theorem cancelTask_cases (s : St) (x y : Tid) :
    (s.cancelTask x).status y = s.status y ∨
    ((s.cancelTask x).status y = .cancelled ∧ (s.status y = .ready ∨ s.status y = .waitQ) ∧ (y = x ∨ s.status x = .waitT y)) := by
  rcases cancelTask_setStatus s x with h | ⟨z, hz, hst, h⟩
  · rw [h]; exact Or.inl rfl
  · rw [h, setStatus_status]
    split
    · rename_i e; subst e; exact Or.inr ⟨rfl, hst, hz⟩
    · exact Or.inl rfl

theorem cancelTask_absent (s : St) (x y : Tid) : (s.cancelTask x).status y = .absent ↔ s.status y = .absent := by
  rcases cancelTask_cases s x y with h | ⟨h1, h2, _⟩
  · rw [h]
  · rw [h1]; rcases h2 with h2 | h2 <;> rw [h2] <;> simp

theorem cancelTask_done_iff (s : St) (x y : Tid) : (s.cancelTask x).status y = .done ↔ s.status y = .done := by
  rcases cancelTask_cases s x y with h | ⟨h1, h2, _⟩
  · rw [h]
  · rw [h1]; rcases h2 with h2 | h2 <;> rw [h2] <;> simp

theorem alive_cancelTask (s : St) (x y : Tid) : alive ((s.cancelTask x).status y) = alive (s.status y) := by
  rcases cancelTask_cases s x y with h | ⟨h1, h2, _⟩
  · rw [h]
  · rw [h1]; rcases h2 with h2 | h2 <;> rw [h2] <;> rfl

theorem waitT_of_cancelTask {s : St} {x y z : Tid} (h : (s.cancelTask x).status y = .waitT z) : s.status y = .waitT z := by
  rcases cancelTask_cases s x y with h' | ⟨h1, _⟩
  · rw [← h']; exact h
  · rw [h1] at h; simp at h

/-- **Proof rule for the close body.** To show `Q` of the state in which `execClose` stops, it is enough that `P` is kept
    by the stage bookkeeping and that `Q` holds where the closer suspends and where the body ends. -/
theorem execClose_rule (cfg : Cfg) (t : Tid) (c : Cont) (P Q : St → Prop)
    (hd : ∀ s, P s → P { s with dispSet := false })
    (hr : ∀ s, P s → P { s with rStopped := true })
    (hsusp : ∀ s x pc, P s → stopTarget pc = some x → x ≠ t → alive (s.status x) = true → Q (suspendOn s t x pc c))
    (htail : ∀ s, P s → Q (closeTail cfg s t c)) :
    ∀ (pc : Nat) (s : St), P s → Q (execClose cfg s t c pc) := by
  have stage : ∀ (s : St) (j : Nat) (x : Tid) (next : St → St), stopTarget j = some x → P s →
      (∀ s', P s' → Q (next s')) → Q (stopStage s t c j x next) := by
    intro s j x next hj p hn
    unfold stopStage
    split
    · exact hn s p
    · rename_i hx
      simp only [Bool.or_eq_true, decide_eq_true_eq, Bool.not_eq_true', not_or] at hx
      exact hsusp s x j p hj hx.1 (by simpa using hx.2)
  have h6 : ∀ s, P s → Q (ec6 cfg t c s) := fun s p => htail s p
  have h5 : ∀ s, P s → Q (ec5 cfg t c s) := fun s p => h6 _ (hr s p)
  have h4 : ∀ s, P s → Q (ec4 cfg t c s) := by
    intro s p
    unfold ec4
    split
    · exact h6 s p
    · exact stage s 4 .R _ rfl p h5
  have h3 : ∀ s, P s → Q (ec3 cfg t c s) := fun s p => stage s 3 .M _ rfl p h4
  have h2 : ∀ s, P s → Q (ec2 cfg t c s) := fun s p => stage s 2 .L _ rfl p h3
  have h1 : ∀ s, P s → Q (ec1 cfg t c s) := fun s p => stage s 1 .V _ rfl p h2
  have h0 : ∀ s, P s → Q (ec0 cfg t c s) := fun s p => stage s 0 .D _ rfl p (fun s' p' => h1 _ (hd s' p'))
  intro pc s p
  unfold execClose
  split
  · exact h0 s p
  · exact h1 s p
  · exact h2 s p
  · exact h3 s p
  · exact h4 s p
  · exact h5 s p
  · exact h6 s p

/-- **Proof rule for a step of the closer.** Nothing happens unless `t` is the closer.  In the body it resumes at the recorded
    stage.  Inside the close callback it is cancelled by the user (the call's result is reported if the closer is a user call),
    or the callback returns, or it awaits once more. -/
theorem stepInClose_rule (cfg : Cfg) (s : St) (t : Tid) (b : Bool) (Q : St → Prop)
    (hskip : Q s)
    (hbody : ∀ pc c, s.cstage = .body t pc c → Q (resumeClose cfg (s.setStatus t .ready) t pc c))
    (habortU : ∀ k u r, s.cstage = .cb t k (.userTail u r) → b = true →
      Q (({ s with cstage := .aborted }.emit (.ret u .cancelled)).finish t))
    (habort : ∀ k c, s.cstage = .cb t k c → b = true → (∀ u r, c ≠ .userTail u r) →
      Q ({ s with cstage := .aborted }.finish t))
    (hexit : ∀ c, s.cstage = .cb t 0 c → b = false → Q (runCont { (s.emit .cbExit) with cstage := .finished } t c))
    (hwait : ∀ k c, s.cstage = .cb t (k + 1) c → b = false → Q { s with cstage := .cb t k c }) :
    Q (stepInClose cfg s t b) := by
  unfold stepInClose
  split
  · rename_i t' pc c hs
    split
    · rename_i htt; subst htt
      exact hbody pc c hs
    · exact hskip
  · rename_i t' k c hs
    split
    · rename_i htt; subst htt
      split
      · rename_i hb
        split
        · exact habortU k _ _ hs hb
        · rename_i hne
          exact habort k c hs hb (fun u r e => hne u r e)
      · rename_i hb
        have hb' : b = false := by simpa using hb
        split
        · exact hexit c hs hb'
        · exact hwait _ c hs hb'
    · exact hskip
  · exact hskip

/-- the state `s2` in which an accepted `login()` returns the session (heartbeats and dispatching started, the reply consumed),
    compared with the state `s` in which it resumed -/
structure AcceptSt (cfg : Cfg) (s s2 : St) : Prop where
  tr : s2.trace = s.trace ++ [.loginReply 0]
  status : ∀ y, y ≠ .L → y ≠ .M → y ≠ .D → s2.status y = s.status y
  prog : ∀ y, y ≠ .L → y ≠ .M → y ≠ .D → s2.prog y = s.prog y
  monL : s2.status .L = .ready
  monM : s2.status .M = .ready
  disp : (s2.dispSet = true ∧ s2.status .D = .ready ∧ cfg.hasMsgCb = true) ∨ (s2.dispSet = s.dispSet ∧ s2.status .D = s.status .D)
  closed : s2.closed = s.closed
  qclosed : s2.qClosed = s.qClosed
  cstage : s2.cstage = s.cstage
  busy : s2.rcvBusy = false
  vres : s2.vres = none

theorem acceptSt (cfg : Cfg) (s : St) (g : List (Nat × Bool)) :
    AcceptSt cfg s (((({ s with vres := none, rcvBusy := false, gone := g } : St).emit (.loginReply 0)).startHeartbeats).startDispatching cfg) := by
  obtain ⟨h1, hL, hM, h4, h5, h6, h7, h8, h9, h10⟩ :=
    startHeartbeats_spec (({ s with vres := none, rcvBusy := false, gone := g } : St).emit (.loginReply 0))
  obtain ⟨f1, f2, f3, f4, f5, f6, _, f8, f9⟩ := startDispatching_frame
    ((({ s with vres := none, rcvBusy := false, gone := g } : St).emit (.loginReply 0)).startHeartbeats) cfg
  refine ⟨f6.trans h8, fun y yL yM yD => ((f1 y yD).1).trans (h1 y yL yM).1, fun y yL yM yD => ((f1 y yD).2).trans (h1 y yL yM).2,
    ((f1 .L (by simp)).1).trans hL, ((f1 .M (by simp)).1).trans hM, ?_, f2.trans h4, f3.trans h5, f8.trans h9, f4.trans h6, f5.trans h7⟩
  rcases f9 with h | ⟨d1, d2⟩
  · exact Or.inl h
  · exact Or.inr ⟨d1.trans h10, d2.trans (h1 .D (by simp) (by simp)).1⟩

theorem loginResume_rule {cfg : Cfg} {s : St} {t : Tid} {u : Nat} (Q : St → Prop)
    (hacc : s.vres = some 0 → s.closed = false → s.closingTask = false →
      ∀ s2, AcceptSt cfg s s2 → Q ((s2.emit (.ret u .ok)).finish t))
    (href : ∀ n, s.vres = some n → (n ≠ 0 ∨ s.closed = true ∨ s.closingTask = true) →
      Q (enterClose cfg (({ s with vres := none, rcvBusy := false, gone := s.gone ++ [(n, true)] } : St).emit (.loginReply n)) t
        (.userTail u .refused)))
    (heoq : s.vres = none → s.qClosed = true → Q ((({ s with rcvBusy := false } : St).emit (.ret u .refused)).finish t))
    (hcan : s.vres = none → s.qClosed = false → Q (enterClose cfg { s with rcvBusy := false } t (.userTail u .cancelled))) :
    Q (loginResume cfg s t u) := by
  unfold loginResume
  split
  · rename_i n hv
    simp only
    split
    · rename_i h
      simp only [St.emit, Bool.and_eq_true, decide_eq_true_eq, Bool.not_eq_true', Bool.or_eq_false_iff] at h
      obtain ⟨hn, hopen, hct⟩ := h
      subst hn
      exact hacc hv hopen hct _ (acceptSt cfg s _)
    · rename_i h
      refine href n hv ?_
      simp only [St.emit, Bool.and_eq_true, decide_eq_true_eq, Bool.not_eq_true', Bool.or_eq_false_iff, not_and] at h
      by_cases hn : n = 0
      · right
        cases hc : s.closed
        · exact Or.inr (by simpa using h hn hc)
        · exact Or.inl rfl
      · exact Or.inl hn
  · rename_i hv
    split
    · rename_i hq; exact heoq hv hq
    · rename_i hq; exact hcan hv (by simpa using hq)

/-- the state `s1` in which the receive of user call `u` (program `p`) is pending — the message was there (`get_nowait`), or the
    helper task has been started and the caller awaits it — compared with the state `s` in which the call was made -/
structure RecvPending (s : St) (u : Nat) (p : Prog) (s1 : St) : Prop where
  status : ∀ y, y ≠ .U u → y ≠ .V → s1.status y = s.status y
  prog : ∀ y, y ≠ .U u → y ≠ .V → s1.prog y = s.prog y
  uprog : s1.prog (.U u) = p
  busy : s1.rcvBusy = true
  tr : s1.trace = s.trace
  closed : s1.closed = s.closed
  qclosed : s1.qClosed = s.qClosed
  disp : s1.dispSet = s.dispSet
  cstage : s1.cstage = s.cstage
  how : (s1.status (.U u) = .ready ∧ s1.status .V = s.status .V ∧ s1.vres ≠ none) ∨
    (s1.status (.U u) = .waitT .V ∧ s1.status .V = .ready ∧ s1.vres = s.vres)

theorem startRecv_rule {s : St} {u : Nat} {isLogin : Bool} (Q : St → Prop) (hign : Q s)
    (hstate : s.dispSet = true → Q ((s.emit (.ret u .state)).setStatus (.U u) .done))
    (heoq : s.dispSet = false → s.qClosed = true → ∀ r, (isLogin = true ∧ r = .refused) ∨ (isLogin = false ∧ r = .eoq) →
      Q ((s.emit (.ret u r)).setStatus (.U u) .done))
    (hpend : s.rcvBusy = false → s.dispSet = false →
      ∀ s1, RecvPending s u (if isLogin then .loginWait u else .recvWait u) s1 → Q s1) :
    Q (startRecv s u isLogin) := by
  unfold startRecv
  split
  · exact hign
  · rename_i hidle
    simp only [Bool.or_eq_true, not_or, Bool.not_eq_true] at hidle
    split
    · rename_i hd; exact hstate hd
    · rename_i hd
      have hd' : s.dispSet = false := by simpa using hd
      split
      · refine hpend hidle.1.1 hd' _ ⟨?_, ?_, ?_, ?_, ?_, ?_, ?_, ?_, ?_, Or.inl ⟨?_, ?_, ?_⟩⟩
        · intro y hy _; simp only [St.setStatus, St.setProg, if_neg hy]
        · intro y hy _; simp only [St.setStatus, St.setProg, if_neg hy]
        all_goals simp [St.setStatus, St.setProg]
      · split
        · rename_i hq
          cases isLogin
          · exact heoq hd' hq _ (Or.inr ⟨rfl, rfl⟩)
          · exact heoq hd' hq _ (Or.inl ⟨rfl, rfl⟩)
        · refine hpend hidle.1.1 hd' _ ⟨?_, ?_, ?_, ?_, ?_, ?_, ?_, ?_, ?_, Or.inr ⟨?_, ?_, ?_⟩⟩
          · intro y hy hV; simp only [St.spawn, St.setStatus, St.setProg, if_neg hy, if_neg hV]
          · intro y hy hV; simp only [St.spawn, St.setStatus, St.setProg, if_neg hy, if_neg hV]
          all_goals simp [St.spawn, St.setStatus, St.setProg]

/-- which programs a task may be in -/
def allowed (t : Tid) (p : Prog) : Bool :=
  match t, p with
  | .R, .readerLoop => true | .R, .inClose => true
  | .D, .dispLoop => true | .D, .handler _ _ => true | .D, .inClose => true
  | .L, .monStart => true | .L, .monLoop => true
  | .M, .monStart => true | .M, .monLoop => true | .M, .inClose => true
  | .C, .closeEntry .closingTail => true | .C, .inClose => true
  | .V, .vget => true
  | .U _, .inClose => true | .U u, .recvWait u' => u == u' | .U u, .loginWait u' => u == u' | .U _, .idle => true
  | _, _ => false

theorem allowed_handler {t : Tid} {n k : Nat} (h : allowed t (.handler n k) = true) : t = .D := by
  cases t <;> simp [allowed] at h ⊢
theorem allowed_readerLoop {t : Tid} (h : allowed t .readerLoop = true) : t = .R := by
  cases t <;> simp [allowed] at h ⊢
theorem allowed_dispLoop {t : Tid} (h : allowed t .dispLoop = true) : t = .D := by
  cases t <;> simp [allowed] at h ⊢
theorem allowed_vget {t : Tid} (h : allowed t .vget = true) : t = .V := by
  cases t <;> simp [allowed] at h ⊢
theorem allowed_monStart {t : Tid} (h : allowed t .monStart = true) : t = .L ∨ t = .M := by
  cases t <;> simp [allowed] at h ⊢
theorem allowed_monLoop {t : Tid} (h : allowed t .monLoop = true) : t = .L ∨ t = .M := by
  cases t <;> simp [allowed] at h ⊢
theorem allowed_closeEntry {t : Tid} {c : Cont} (h : allowed t (.closeEntry c) = true) : t = .C ∧ c = .closingTail := by
  cases t <;> cases c <;> simp [allowed] at h ⊢
theorem allowed_recvWait {t : Tid} {u : Nat} (h : allowed t (.recvWait u) = true) : t = .U u := by
  cases t <;> simp [allowed] at h ⊢; exact h
theorem allowed_loginWait {t : Tid} {u : Nat} (h : allowed t (.loginWait u) = true) : t = .U u := by
  cases t <;> simp [allowed] at h ⊢; exact h


/-- what the program `p` of a live task says about which task `t` it is -/
structure ProgTyped (t : Tid) (p : Prog) : Prop where
  handler : ∀ n k, p = .handler n k → t = .D
  vget : p = .vget → t = .V
  recv : ∀ u, p = .recvWait u → t = .U u
  login : ∀ u, p = .loginWait u → t = .U u
  mon : p = .monStart ∨ p = .monLoop → t = .L ∨ t = .M
  entry : ∀ c, p = .closeEntry c → t = .C ∧ c = .closingTail

theorem ProgTyped.of_allowed {t : Tid} {p : Prog} (h : allowed t p = true) : ProgTyped t p :=
  ⟨fun _ _ e => allowed_handler (e ▸ h), fun e => allowed_vget (e ▸ h), fun _ e => allowed_recvWait (e ▸ h),
    fun _ e => allowed_loginWait (e ▸ h), fun e => e.elim (fun e => allowed_monStart (e ▸ h)) (fun e => allowed_monLoop (e ▸ h)),
    fun _ e => allowed_closeEntry (e ▸ h)⟩

/-- **Proof rule for a step of task `t`.** `P` is what is known of the state `s0` in which it runs (after `imm` is cleared) and has to
    give the typing of a live task; `Q s0 s'` is what is to be shown of the step from `s0` to `s'`.  There is one hypothesis per way
    the step goes on, with the task already identified. -/
theorem stepRun_rule {cfg : Cfg} {s : St} {t : Tid} (P : St → Prop) (Q : St → St → Prop) (h0 : P { s with imm := none })
    (htyp : ∀ s0, P s0 → alive (s0.status t) = true → ProgTyped t (s0.prog t))
    (same : ∀ s0, P s0 → Q s0 s0)
    (cHandler : ∀ s0 n k, P s0 → t = .D → s0.status .D = .cancelled → s0.prog .D = .handler n k → Q s0 ((s0.emit (.msgAbandon n)).finish .D))
    (cVget : ∀ s0, P s0 → t = .V → s0.status .V = .cancelled → s0.prog .V = .vget → Q s0 (s0.finish .V))
    (cRecv : ∀ s0 u r, P s0 → t = .U u → s0.status (.U u) = .cancelled → s0.prog (.U u) = .recvWait u →
      (r = .eoq ∧ s0.qClosed = true ∨ r = .cancelled ∧ s0.qClosed = false) →
      Q s0 ((({ s0 with vres := none, rcvBusy := false, queue := s0.vres.toList ++ s0.queue } : St).emit (.ret u r)).finish (.U u)))
    (cLoginEoq : ∀ s0 u, P s0 → t = .U u → s0.status (.U u) = .cancelled → s0.prog (.U u) = .loginWait u → s0.qClosed = true →
      Q s0 ((({ s0 with vres := none, rcvBusy := false, queue := s0.vres.toList ++ s0.queue } : St).emit (.ret u .refused)).finish (.U u)))
    (cLoginClose : ∀ s0 u, P s0 → t = .U u → s0.status (.U u) = .cancelled → s0.prog (.U u) = .loginWait u → s0.qClosed = false →
      Q s0 (enterClose cfg (({ s0 with vres := none, rcvBusy := false, queue := s0.vres.toList ++ s0.queue } : St).setStatus (.U u) .ready)
        (.U u) (.userTail u .cancelled)))
    (cInClose : ∀ s0, P s0 → s0.status t = .cancelled → s0.prog t = .inClose → Q s0 (stepInClose cfg s0 t true))
    (cOther : ∀ s0, P s0 → s0.status t = .cancelled → (∀ u, s0.prog t ≠ .recvWait u) → (∀ u, s0.prog t ≠ .loginWait u) →
      s0.prog t ≠ .inClose → Q s0 (s0.finish t))
    (rReader : ∀ s0, P s0 → t = .R → s0.status .R = .ready → s0.prog .R = .readerLoop → Q s0 (stepReader cfg s0))
    (rDisp : ∀ s0, P s0 → t = .D → s0.status .D = .ready → s0.prog .D = .dispLoop → Q s0 (stepDisp cfg s0))
    (rHandler : ∀ s0 n, P s0 → t = .D → s0.status .D = .ready → s0.prog .D = .handler n 0 →
      Q s0 { ((s0.emit (.msgExit n)).setProg .D .dispLoop) with imm := some .D })
    (rHandlerAwait : ∀ s0 n k, P s0 → t = .D → s0.status .D = .ready → s0.prog .D = .handler n (k + 1) → Q s0 (s0.setProg .D (.handler n k)))
    (rMonStart : ∀ s0, P s0 → t = .L ∨ t = .M → s0.status t = .ready → s0.prog t = .monStart → Q s0 (s0.setProg t .monLoop))
    (rMonL : ∀ s0, P s0 → t = .L → s0.status .L = .ready → s0.prog .L = .monLoop → Q s0 (stepMon cfg s0 true))
    (rMonM : ∀ s0, P s0 → t = .M → s0.status .M = .ready → s0.prog .M = .monLoop → Q s0 (stepMon cfg s0 false))
    (rEntry : ∀ s0, P s0 → t = .C → s0.status .C = .ready → s0.prog .C = .closeEntry .closingTail → Q s0 (enterClose cfg s0 .C .closingTail))
    (rInClose : ∀ s0, P s0 → s0.status t = .ready → s0.prog t = .inClose → Q s0 (stepInClose cfg s0 t false))
    (rVgetWait : ∀ s0, P s0 → t = .V → s0.status .V = .ready → s0.prog .V = .vget → s0.queue = [] → Q s0 (s0.setStatus .V .waitQ))
    (rVget : ∀ s0 n q, P s0 → t = .V → s0.status .V = .ready → s0.prog .V = .vget → s0.queue = n :: q → s0.vres = none →
      Q s0 (({ s0 with queue := q, vres := some n } : St).finish .V))
    (rRecv : ∀ s0 u n, P s0 → t = .U u → s0.status (.U u) = .ready → s0.prog (.U u) = .recvWait u → s0.vres = some n →
      Q s0 ((({ s0 with vres := none, rcvBusy := false, gone := s0.gone ++ [(n, true)] } : St).emit (.ret u (.msg n))).finish (.U u)))
    (rRecvNone : ∀ s0 u r, P s0 → t = .U u → s0.status (.U u) = .ready → s0.prog (.U u) = .recvWait u → s0.vres = none →
      (r = .eoq ∧ s0.qClosed = true ∨ r = .cancelled ∧ s0.qClosed = false) →
      Q s0 ((({ s0 with rcvBusy := false } : St).emit (.ret u r)).finish (.U u)))
    (rLogin : ∀ s0 u, P s0 → t = .U u → s0.status (.U u) = .ready → s0.prog (.U u) = .loginWait u → Q s0 (loginResume cfg s0 (.U u) u)) :
    Q { s with imm := none } (stepRun cfg s t) := by
  unfold stepRun
  generalize ({ s with imm := none } : St) = s0 at h0
  simp only
  split
  · rename_i hst
    have ty := htyp s0 h0 (by rw [hst]; rfl)
    split
    · rename_i n k hp
      have ht := ty.handler n k hp
      exact ht ▸ cHandler s0 n k h0 ht (ht ▸ hst) (ht ▸ hp)
    · rename_i hp
      have ht := ty.vget hp
      exact ht ▸ cVget s0 h0 ht (ht ▸ hst) (ht ▸ hp)
    · rename_i u hp
      have ht := ty.recv u hp
      split
      · rename_i hq; exact ht ▸ cRecv s0 u _ h0 ht (ht ▸ hst) (ht ▸ hp) (Or.inl ⟨rfl, hq⟩)
      · rename_i hq; exact ht ▸ cRecv s0 u _ h0 ht (ht ▸ hst) (ht ▸ hp) (Or.inr ⟨rfl, by simpa using hq⟩)
    · rename_i u hp
      have ht := ty.login u hp
      split
      · rename_i hq; exact ht ▸ cLoginEoq s0 u h0 ht (ht ▸ hst) (ht ▸ hp) hq
      · rename_i hq; exact ht ▸ cLoginClose s0 u h0 ht (ht ▸ hst) (ht ▸ hp) (by simpa using hq)
    · rename_i hp; exact cInClose s0 h0 hst hp
    · rename_i h1 h2 h3 h4 h5
      exact cOther s0 h0 hst h3 h4 h5
  · rename_i hst
    have ty := htyp s0 h0 (by rw [hst]; rfl)
    split
    · rename_i hp
      split
      · rename_i ht; exact rReader s0 h0 ht (ht ▸ hst) (ht ▸ hp)
      · exact same s0 h0
    · rename_i hp
      split
      · rename_i ht; exact rDisp s0 h0 ht (ht ▸ hst) (ht ▸ hp)
      · exact same s0 h0
    · rename_i n k hp
      have ht := ty.handler n k hp
      split
      · exact ht ▸ rHandler s0 n h0 ht (ht ▸ hst) (ht ▸ hp)
      · exact ht ▸ rHandlerAwait s0 n _ h0 ht (ht ▸ hst) (ht ▸ hp)
    · rename_i hp
      exact rMonStart s0 h0 (ty.mon (Or.inl hp)) hst hp
    · rename_i hp
      split
      · rename_i ht; exact rMonL s0 h0 ht (ht ▸ hst) (ht ▸ hp)
      · split
        · rename_i ht; exact rMonM s0 h0 ht (ht ▸ hst) (ht ▸ hp)
        · exact same s0 h0
    · rename_i c hp
      obtain ⟨ht, hc⟩ := ty.entry c hp
      exact ht ▸ hc ▸ rEntry s0 h0 ht (ht ▸ hst) (hc ▸ ht ▸ hp)
    · rename_i hp; exact rInClose s0 h0 hst hp
    · rename_i hp
      have ht := ty.vget hp
      split
      · rename_i hq; exact ht ▸ rVgetWait s0 h0 ht (ht ▸ hst) (ht ▸ hp) hq
      · rename_i n q hq
        split
        · exact same s0 h0
        · rename_i hv; exact ht ▸ rVget s0 n q h0 ht (ht ▸ hst) (ht ▸ hp) hq (by simpa using hv)
    · rename_i u hp
      have ht := ty.recv u hp
      split
      · rename_i n hv; exact ht ▸ rRecv s0 u n h0 ht (ht ▸ hst) (ht ▸ hp) hv
      · rename_i hv
        split
        · rename_i hq; exact ht ▸ rRecvNone s0 u _ h0 ht (ht ▸ hst) (ht ▸ hp) hv (Or.inl ⟨rfl, hq⟩)
        · rename_i hq; exact ht ▸ rRecvNone s0 u _ h0 ht (ht ▸ hst) (ht ▸ hp) hv (Or.inr ⟨rfl, by simpa using hq⟩)
    · rename_i u hp
      have ht := ty.login u hp
      exact ht ▸ rLogin s0 u h0 ht (ht ▸ hst) (ht ▸ hp)
    · exact same s0 h0
  · exact same s0 h0

theorem runEvs_append (cfg : Cfg) (s : St) (l1 l2 : List Ev) : runEvs cfg s (l1 ++ l2) = runEvs cfg (runEvs cfg s l1) l2 := by
  simp [runEvs, List.foldl_append]

end NasdaqModel.Sess
