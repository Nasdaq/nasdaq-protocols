import NasdaqModel.Lemmas.SessionLemmas4
/-
Facts about single steps of the inner session machine that the application-session product machine (`Model/AppSession.lean`)
relies on: the trace only grows; while a task `t` is inside the close callback no event other than `run t` moves the close stage;
with a suspending close callback the close body always ends in the callback stage; the closer's step out of the callback.

The first three are instances of the proof rule `step_H` (SessionLemmas.lean); the closer's own step is computed.
-/
namespace NasdaqModel.Sess

theorem runCont_trace (s : St) (t : Tid) (c : Cont) : s.trace <+: (runCont s t c).trace := by
  rcases core_runCont s t c with h | ⟨o, _, h⟩
  · rw [trace_of_core h]
    exact List.prefix_refl _
  · rw [trace_of_core h]
    exact List.prefix_append _ _

theorem closeTail_trace (cfg : Cfg) (s : St) (t : Tid) (c : Cont) : s.trace <+: (closeTail cfg s t c).trace := by
  obtain ⟨st, l, h⟩ := core_closeTail cfg s t c
  exact ⟨l, (congrArg (·.2.2.2) h).symm⟩

theorem execClose_trace (cfg : Cfg) (t : Tid) (c : Cont) (l : List Obs) (pc : Nat) (s : St) (h : l <+: s.trace) :
    l <+: (execClose cfg s t c pc).trace := by
  refine execClose_rule cfg t c (fun s => l <+: s.trace) (fun s => l <+: s.trace) ?_ ?_ ?_ ?_ pc s h
  · intro s p; exact p
  · intro s p; exact p
  · intro s x pc p _ _ _
    have e : (suspendOn s t x pc c).trace = s.trace := congrArg (·.2.2.2) (core_suspendOn s t x pc c)
    rw [e]; exact p
  · intro s p; exact p.trans (closeTail_trace cfg s t c)

theorem prefixHoare (cfg : Cfg) (l : List Obs) :
    CoreHoare cfg (fun _ => True) (fun s => l <+: s.trace) (fun s => l <+: s.trace) where
  of_core := fun hc h => by rw [trace_of_core hc]; exact h
  emit_neutral := fun _ h => h.trans (List.prefix_append _ _)
  emit_msgEnter := fun _ _ _ h => h.trans (List.prefix_append _ _)
  weaken := fun h => h
  enterClose' := by
    intro s h t c
    unfold enterClose
    split
    · exact h.trans (runCont_trace s t c)
    · exact execClose_trace cfg t c l 0 _ h
  stepInClose' := by
    intro s h t b _
    refine stepInClose_rule cfg s t b (fun s' => l <+: s'.trace) h ?_ ?_ ?_ ?_ ?_
    · intro pc c _
      unfold resumeClose
      apply execClose_trace
      split
      · exact h
      · exact h
    · intro k u r _ _; exact h.trans (List.prefix_append _ _)
    · intro k c _ _ _; exact h
    · intro c _ _
      refine List.IsPrefix.trans ?_ (runCont_trace _ _ _)
      exact h.trans (List.prefix_append _ _)
    · intro k c _ _; exact h

theorem step_trace_prefix (cfg : Cfg) (s : St) (ev : Ev) : s.trace <+: (step cfg s ev).trace :=
  step_H (prefixHoare cfg s.trace) (List.prefix_refl _) ev (fun _ _ => trivial)

theorem step_trace_eq (cfg : Cfg) (s : St) (ev : Ev) :
    (step cfg s ev).trace = s.trace ++ (step cfg s ev).trace.drop s.trace.length := by
  obtain ⟨d, hd⟩ := step_trace_prefix cfg s ev
  rw [← hd]; simp

theorem cbFrameHoare (cfg : Cfg) (t0 : Tid) (k : Nat) (c0 : Cont) :
    CoreHoare cfg (fun t => t ≠ t0) (fun s => s.closed = true ∧ s.cstage = .cb t0 k c0)
      (fun s => s.closed = true ∧ s.cstage = .cb t0 k c0) where
  of_core := fun hc h => ⟨(closed_of_core hc).trans h.1, (cstage_of_core hc).trans h.2⟩
  emit_neutral := fun _ h => h
  emit_msgEnter := fun _ _ _ h => h
  weaken := fun h => h
  enterClose' := by
    intro s h t c
    unfold enterClose
    rw [if_pos h.1, runCont_closed, runCont_cstage]
    exact h
  stepInClose' := by
    intro s h t b hne
    unfold stepInClose
    rw [h.2]
    simp only
    rw [if_neg (fun e => hne e.symm)]
    exact h

/-- while `t` is inside the close callback, no event other than `run t` changes the close stage -/
theorem step_cb_frame (cfg : Cfg) (s : St) (t : Tid) (k : Nat) (c : Cont) (ev : Ev)
    (hc : s.closed = true) (hs : s.cstage = .cb t k c) (hne : ev ≠ .run t) :
    (step cfg s ev).cstage = .cb t k c :=
  (step_H (cbFrameHoare cfg t k c) ⟨hc, hs⟩ ev (fun t' e => by rintro rfl; exact hne e)).2

/-- the close callback has not been entered: no close yet, or the close body is still stopping tasks -/
def preCb (s : St) : Prop := s.cstage = .idle ∨ ∃ t pc c, s.cstage = .body t pc c
/-- … or it has just been entered (a callback that awaits once: `k = 0` awaits to go) -/
def postCb (s : St) : Prop := preCb s ∨ ∃ t c, s.cstage = .cb t 0 c

theorem execClose_postCb (cfg : Cfg) (hcb : cfg.hasCb = true) (hbeh : cfg.cbBeh = .await 0) (t : Tid) (c : Cont)
    (pc : Nat) (s : St) (h : ∃ pc, s.cstage = .body t pc c) : postCb (execClose cfg s t c pc) := by
  refine execClose_rule cfg t c (fun s => ∃ pc, s.cstage = .body t pc c) postCb ?_ ?_ ?_ ?_ pc s h
  · intro s p; exact p
  · intro s p; exact p
  · intro s x pc _ _ _ _
    exact Or.inl (Or.inr ⟨t, pc + 1, c, rfl⟩)
  · intro s _
    refine Or.inr ⟨t, c, ?_⟩
    simp [closeTail, hcb, hbeh]

theorem bodyHoare (cfg : Cfg) (hcb : cfg.hasCb = true) (hbeh : cfg.cbBeh = .await 0) :
    CoreHoare cfg (fun _ => True) (fun s => (s.closed = true ↔ s.cstage ≠ .idle) ∧ preCb s) postCb where
  of_core := by
    intro s s' hc h
    unfold preCb
    rw [closed_of_core hc, cstage_of_core hc]; exact h
  emit_neutral := fun _ h => h
  emit_msgEnter := fun _ _ _ h => h
  weaken := fun h => Or.inl h.2
  enterClose' := by
    intro s h t c
    unfold enterClose
    split
    · refine Or.inl ?_
      unfold preCb
      rw [runCont_cstage]; exact h.2
    · exact execClose_postCb cfg hcb hbeh t c 0 _ ⟨0, rfl⟩
  stepInClose' := by
    intro s h t b _
    unfold stepInClose
    rcases h.2 with hi | ⟨t', pc, c, hb⟩
    · rw [hi]; exact Or.inl (Or.inl hi)
    · rw [hb]
      simp only
      split
      · rename_i htt
        unfold resumeClose
        apply execClose_postCb cfg hcb hbeh
        split
        · exact ⟨pc, by rw [← htt]; exact hb⟩
        · exact ⟨pc, by rw [← htt]; exact hb⟩
      · exact Or.inl (Or.inr ⟨t', pc, c, hb⟩)

/-- from a state in which the close callback has not been entered, one step leads to such a state again or into the callback
    stage `cb t 0 c` — never directly to `finished` / `aborted` (the configured close callback suspends) -/
theorem step_postCb (cfg : Cfg) (hcb : cfg.hasCb = true) (hbeh : cfg.cbBeh = .await 0) (s : St) (ev : Ev)
    (a : InvA cfg s) (h : preCb s) : postCb (step cfg s ev) :=
  step_H (bodyHoare cfg hcb hbeh) ⟨a.closed_iff, h⟩ ev (fun _ _ => trivial)

theorem step_closer_ready (cfg : Cfg) (s : St) (t : Tid) (c : Cont)
    (hs : s.cstage = .cb t 0 c) (hp : s.prog t = .inClose) (hst : s.status t = .ready) :
    (step cfg s (.run t)).cstage = .finished := by
  simp [step, runnable, hst, stepRun, hp, stepInClose, hs, runCont_cstage]

theorem step_closer_cancelled (cfg : Cfg) (s : St) (t : Tid) (c : Cont)
    (hs : s.cstage = .cb t 0 c) (hp : s.prog t = .inClose) (hst : s.status t = .cancelled) :
    (step cfg s (.run t)).cstage = .aborted := by
  simp only [step, runnable, hst, stepRun, hp, stepInClose, hs]
  cases c <;> simp [St.finish, St.emit]

theorem step_initiateClose_core (cfg : Cfg) (s : St) : core (step cfg s .callInitiateClose) = core s := by
  simp [step]

end NasdaqModel.Sess
