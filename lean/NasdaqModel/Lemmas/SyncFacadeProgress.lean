import NasdaqModel.Lemmas.SyncFacadeInv2
/-
Progress for the C20 model: from the invariants Inv1, Inv2 and "the lock owner exists", a state without
enabled transition has every caller returned or legitimately waiting for the peer — for EVERY run.
Separately (third invariant, along `execOk` runs: every step satisfies `okStep`): a blocked receive is the one in the queue's
`_recv_task` slot, so closing answers it with EndOfQueue.
-/
namespace NasdaqModel.SyncFacade

theorem step_length {s s' : St} {l : Label} (h : step s l = some s') : s'.callers.length = s.callers.length := by
  rcases step_loop h with ⟨i, -, hi⟩ | ⟨r, hr⟩
  · obtain ⟨c, c', lk, _, _, rfl⟩ := stepCaller_spec hi
    exact length_updAt _ _ _
  · exact hr.length

def InvL (s : St) : Prop := ∀ k : Nat, s.lock = some (.caller k) → k < s.callers.length

theorem invL_step {s s' : St} {l : Label} (h1 : Inv1 s) (hL : InvL s) (h : step s l = some s') : InvL s' := by
  intro k hk
  rw [step_length h]
  rcases step_loop h with ⟨i, -, hi⟩ | ⟨r, hr⟩
  · obtain ⟨c, c', lk, hc, hcs, rfl⟩ := stepCaller_spec hi
    obtain ⟨_, he⟩ := callerStep_cinv (h1.2 i c hc) hcs
    cases he with
    | same => exact hL k hk
    | acq _ =>
      cases hk
      exact (List.getElem?_eq_some_iff.mp hc).1
    | rel _ => cases hk
  · rw [hr.lock] at hk
    exact hL k hk

theorem invL_init (cfg : Cfg) : InvL (init cfg) := by
  intro k hk; simp [init] at hk

structure Invs (s : St) : Prop where
  i1 : Inv1 s
  i2 : Inv2 s
  iL : InvL s

theorem invs_reachable {cfg : Cfg} {s : St} (h : Reachable cfg s) : Invs s :=
  reachable_invariant Invs cfg ⟨inv1_init cfg, inv2_init cfg, invL_init cfg⟩
    (fun _ _ _ hI hs => ⟨inv1_step hI.i1 hs, inv2_step hI.i1 hI.i2 hs, invL_step hI.i1 hI.iL hs⟩) s h

theorem callerStep_none {lock : Option Tid} {evt alive : Bool} {i : Nat} {c : Caller}
    (h : callerStep lock evt alive i c = none) :
    c.prog = [] ∨ (c.pc = .acq ∧ lock ≠ none) ∨
    (c.pc = .wait ∧ (∀ o, c.job ≠ .done o) ∧ c.prog.head? ≠ some .execTimed ∧ alive = true) ∨
    (c.pc = .waitEvt ∧ evt = false) ∨ (c.pc = .join ∧ alive = true) := by
  unfold callerStep at h
  split at h
  · exact .inl ‹_›
  · rename_i op rest hp
    split at h <;> rename_i hpc
    · split at h <;> cases h
    · split at h
      · cases h
      · exact .inr (.inl ⟨hpc, nofun⟩)
    · split at h <;> cases h
    · (repeat' split at h) <;> cases h
    · (repeat' split at h) <;> cases h
    · cases h
    · split at h
      · cases h
      · rename_i hne
        split at h
        · split at h <;> cases h
        · rename_i hnd
          split at h
          · rename_i ha
            exact .inr (.inr (.inl ⟨hpc, hnd, by simpa [hp] using hne, ha⟩))
          · split at h <;> cases h
    · cases h
    · split at h
      · cases h
      · rename_i he
        exact .inr (.inr (.inr (.inl ⟨hpc, by simpa using he⟩)))
    · split at h
      · rename_i ha
        exact .inr (.inr (.inr (.inr ⟨hpc, ha⟩)))
      · cases h

theorem stepJob_enabled {s : St} {j : Nat} {c : Caller} {k : JobKind} (ha : s.loopAlive = true)
    (hb : s.closePc.busy = false) (hc : s.callers[j]? = some c) (hk : c.job = .submitted k) :
    stepJob s j ≠ none := by
  unfold stepJob
  simp only [ha, hb, hc, hk]
  cases k <;> simp <;> (repeat' split) <;> simp

/-- inside on_close_coro the loop thread's next statement is always enabled (it takes no lock) -/
theorem stepClose_enabled_of_busy {s : St} (hb : s.closePc.busy = true) : stepClose s ≠ none := by
  unfold stepClose
  cases hp : s.closePc <;> simp_all [ClosePc.busy] <;> split <;> simp

theorem stepClose_none {s : St} (h : stepClose s = none) :
    s.closePc = .idle ∨ s.closePc = .done ∨ (s.closePc = .spawned ∧ s.callers.any isSubmitted = true) := by
  unfold stepClose at h
  split at h <;> rename_i hpc <;> (repeat' split at h) <;> simp_all

theorem any_isSubmitted_true {cs : List Caller} (h : cs.any isSubmitted = true) :
    ∃ (j : Nat) (c : Caller) (k : JobKind), cs[j]? = some c ∧ c.job = .submitted k := by
  obtain ⟨c, hmem, hs⟩ := List.any_eq_true.mp h
  obtain ⟨j, hj⟩ := List.getElem?_of_mem hmem
  unfold isSubmitted at hs
  split at hs
  · rename_i k hk; exact ⟨j, c, k, hj, hk⟩
  · simp at hs

theorem ginv_alive_of_not_done {s : St} (hg : ginv s = true) (h : s.closePc ≠ .done) : s.loopAlive = true := by
  rcases (ginv_cases hg).2 with ⟨hd, _, _⟩ | ⟨_, _, ha, _⟩
  · exact absurd hd h
  · exact ha

theorem submitted_not_terminal {s : St} {j : Nat} {c : Caller} {k : JobKind} (ha : s.loopAlive = true)
    (hc : s.callers[j]? = some c) (hk : c.job = .submitted k) (hterm : ∀ l, step s l = none) : False := by
  cases hb : s.closePc.busy with
  | true => exact stepClose_enabled_of_busy hb (hterm .close)
  | false => exact stepJob_enabled ha hb hc hk (hterm (.job j))

theorem no_holder_when_terminal {s : St} (I : Invs s) (hterm : ∀ l, step s l = none) (k : Nat) :
    s.lock ≠ some (.caller k) := by
  intro hk
  have hlt := I.iL k hk
  obtain ⟨c, hc⟩ : ∃ c, s.callers[k]? = some c := ⟨s.callers[k], List.getElem?_eq_getElem hlt⟩
  obtain ⟨hpc, hjob, hcrit⟩ := I.i1.2 k c hc
  have hcr : critPc c = true := hcrit.mpr hk
  have hn : callerStep s.lock s.closedEvent s.loopAlive k c = none := by
    have := hterm (.caller k)
    simp only [step, stepCaller, hc] at this
    split at this
    · assumption
    · simp at this
  have f4 := (I.i2 k c hc).fits
  rcases callerStep_none hn with h | ⟨h, _⟩ | ⟨h, hnd, hne, hal⟩ | ⟨h, _⟩ | ⟨h, _⟩
  · rcases c with ⟨prog, pc, job, hist⟩; simp only at h; subst h
    simp [pcOk] at hpc; subst hpc; simp [critPc] at hcr
  · rcases c with ⟨prog, pc, job, hist⟩; simp only at h; subst h; simp [critPc] at hcr
  · -- at _wait_for under the lock: the future is a submitted initiate_close / logout and the loop is alive
    rcases c with ⟨prog, pc, job, hist⟩
    simp only at h hnd hne; subst h
    cases prog with
    | nil => simp [critPc] at hcr
    | cons op rest =>
      have hop : op.isClose = true := by simpa [critPc] using hcr
      cases job with
      | none => simp [jobOk] at hjob
      | done o => exact hnd o rfl
      | blocked t | running => cases op <;> simp_all [jobFits, Op.isClose]
      | submitted kk => exact submitted_not_terminal hal hc rfl hterm
  · rcases c with ⟨prog, pc, job, hist⟩; simp only at h; subst h; simp [critPc] at hcr
  · rcases c with ⟨prog, pc, job, hist⟩; simp only at h; subst h; simp [critPc] at hcr

theorem closing_completes {s : St} (I : Invs s) (hterm : ∀ l, step s l = none) (hne : s.closePc ≠ .idle) :
    s.closePc = .done ∧ s.loopAlive = false := by
  have hg := I.i1.1
  have hc := hterm .close
  simp only [step] at hc
  rcases stepClose_none hc with h | h | ⟨h, hs⟩
  · exact absurd h hne
  · refine ⟨h, ?_⟩
    cases ha : s.loopAlive with
    | false => rfl
    | true =>
      have hst := hterm .stop
      simp only [step, stepStop] at hst
      revert hg; simp only [ginv, h]; intro hg
      simp_all [ClosePc.busy]
  · obtain ⟨j, c, k, hj, hk⟩ := any_isSubmitted_true hs
    have ha : s.loopAlive = true := ginv_alive_of_not_done hg (by simp [h])
    exact (submitted_not_terminal ha hj hk hterm).elim

/-- **no hang**: in a state without enabled transition every caller thread has executed all its calls, or is in
`receive()` on an open session with a live loop (waiting for the peer) -/
theorem terminal_finished_or_waiting {s : St} (I : Invs s) (hterm : ∀ l, step s l = none) :
    ∀ (i : Nat) (c : Caller), s.callers[i]? = some c → c.finished = true ∨ legitWait s c = true := by
  intro i c hc
  have hg := I.i1.1
  obtain ⟨hpc, hjob, _⟩ := I.i1.2 i c hc
  have hn : callerStep s.lock s.closedEvent s.loopAlive i c = none := by
    have := hterm (.caller i)
    simp only [step, stepCaller, hc] at this
    split at this
    · assumption
    · simp at this
  have hB := (I.i2 i c hc).started
  have hfit := (I.i2 i c hc).fits
  rcases callerStep_none hn with h | ⟨h, hl⟩ | ⟨h, hnd, hne, hal⟩ | ⟨h, hev⟩ | ⟨h, hal⟩
  · left
    rcases c with ⟨prog, pc, job, hist⟩; simp only at h; subst h
    simp [pcOk] at hpc; subst hpc; simp [Caller.finished]
  · exfalso
    cases hlk : s.lock with
    | none => exact hl hlk
    | some t =>
      cases t with
      | caller k => exact no_holder_when_terminal I hterm k hlk
      | loop => revert hg; simp [ginv, hlk]
  · rcases c with ⟨prog, pc, job, hist⟩
    simp only at h hnd hne; subst h
    cases prog with
    | nil => simp [pcOk] at hpc
    | cons op rest =>
      cases job with
      | none => simp [jobOk] at hjob
      | done o => exact absurd rfl (hnd o)
      | running => cases op <;> simp_all [jobFits]
      | submitted k => exact (submitted_not_terminal hal hc rfl hterm).elim
      | blocked t =>
        right
        -- had a close been started it would have completed and the thread would be gone
        have hidle : s.closePc = .idle := by
          cases hp : s.closePc with
          | idle => rfl
          | _ =>
            have := (closing_completes I hterm (by simp [hp])).2
            simp [this] at hal
        simp [legitWait, St.sessClosed, hidle, ClosePc.sessClosed, hal]
  · exfalso
    have hne : s.closePc ≠ .idle := hB (Or.inr (Or.inl h))
    obtain ⟨hd, _⟩ := closing_completes I hterm hne
    revert hg; simp [ginv, hd, hev]
  · exfalso
    have hne : s.closePc ≠ .idle := hB (Or.inr (Or.inr h))
    obtain ⟨_, hd⟩ := closing_completes I hterm hne
    simp [hd] at hal

/-! ### inside `okStep`: a blocked receive is the one in the `_recv_task` slot; none survives the start of close() -/

def cinv3 (closed : Bool) (rt : Option Nat) (i : Nat) (c : Caller) : Prop :=
  ∀ t, c.job = .blocked t → closed = false ∧ rt = some i

def Inv3 (s : St) : Prop :=
  ∀ (i : Nat) (c : Caller), s.callers[i]? = some c → cinv3 s.sessClosed s.recvTask i c

theorem sessClosed_initiate (p : ClosePc) : p.initiate.sessClosed = p.sessClosed := by
  cases p <;> rfl

theorem anyBlocked_false {cs : List Caller} (h : anyBlocked cs = false) :
    ∀ (m : Nat) (c : Caller), cs[m]? = some c → ∀ t, c.job ≠ .blocked t := by
  intro m c hc t ht
  have hmem : c ∈ cs := List.mem_of_getElem? hc
  have : anyBlocked cs = true := by
    unfold anyBlocked
    exact List.any_eq_true.mpr ⟨c, hmem, by simp [ht]⟩
  simp [h] at this

theorem callerStep_blocked {lock : Option Tid} {evt alive : Bool} {i : Nat} {c c' : Caller} {lk : Option Tid} {t : Nat}
    (h : callerStep lock evt alive i c = some (c', lk)) (ht : c'.job = .blocked t) : c.job = .blocked t := by
  cases callerStep_spec h with
  | goto | acquire | release => exact ht
  | submit | swallow | ret => cases ht

theorem inv3_stepCaller {s s' : St} {i : Nat} (h3 : Inv3 s) (h : stepCaller s i = some s') : Inv3 s' := by
  obtain ⟨c, c', lk, hc, hcs, rfl⟩ := stepCaller_spec h
  intro j cj hj
  simp only [St.sessClosed] at hj ⊢
  rw [getElem?_updAt] at hj
  split at hj
  · subst j; simp [hc] at hj; subst hj
    exact fun t ht => h3 i c hc t (callerStep_blocked hcs ht)
  · exact h3 j cj hj

theorem cinv3_not_blocked {closed : Bool} {rt : Option Nat} {i : Nat} {c : Caller} (h : ∀ t, c.job ≠ .blocked t) :
    cinv3 closed rt i c := fun t ht => absurd ht (h t)

theorem inv3_stepJob {s s' : St} {i : Nat} (h3 : Inv3 s) (hok : okStep s (.job i) = true)
    (h : stepJob s i = some s') : Inv3 s' := by
  obtain ⟨c, k, j, hj⟩ := stepJob_spec h
  have hcl : s'.sessClosed = s.sessClosed := by
    unfold St.sessClosed
    rcases hj.closePc_cases with e | e <;> rw [e]
    exact sessClosed_initiate _
  intro m cm hm
  rw [hcl]
  rw [hj.callers, getElem?_updAt] at hm
  by_cases hb : ∃ t, j = .blocked t
  · -- the receive goes to wait: inside `okStep` nobody else is waiting, and it takes the slot
    obtain ⟨t, rfl⟩ := hb
    obtain ⟨hq, hop, hrt⟩ := hj.wait t rfl
    have hjob : c.job = .submitted .recv := by
      have := hj.res
      rw [hj.kind]
      cases k <;> simp only [JobRes] at this <;> first | rfl | cases this
    have hnb : anyBlocked s.callers = false := by
      simpa [okStep, hj.caller, hjob, hq, hop] using hok
    split at hm
    · subst m
      intro _ _
      exact ⟨hop, hrt⟩
    · exact cinv3_not_blocked (anyBlocked_false hnb m cm hm)
  · have hnb : ∀ t, j ≠ .blocked t := fun t e => hb ⟨t, e⟩
    rw [hj.slot hnb]
    split at hm
    · subst m
      rw [hj.caller] at hm
      cases hm
      exact cinv3_not_blocked hnb
    · exact h3 m cm hm

theorem not_blocked_resolveBlocked (o : Outcome) (c : Caller) : ∀ t, (resolveBlocked o c).job ≠ .blocked t := by
  unfold resolveBlocked
  split
  · simp
  · rename_i hnb; exact fun t ht => hnb t ht

theorem inv3_stepClose {s s' : St} (h3 : Inv3 s) (h : stepClose s = some s') : Inv3 s' := by
  unfold stepClose at h
  split at h <;> rename_i hpc
  · simp at h
  · split at h
    · simp at h
    · split at h
      · rename_i jj hrt
        simp only [Option.some.injEq] at h; subst h
        intro m cm hm
        apply cinv3_not_blocked
        simp only at hm
        rw [getElem?_updAt] at hm
        split at hm
        · subst m
          cases hj : s.callers[jj]? with
          | none => simp [hj] at hm
          | some cj => simp [hj] at hm; subst hm; exact not_blocked_resolveBlocked _ _
        · rename_i hne
          intro t ht
          have := ((h3 m cm hm) t ht).2
          rw [hrt] at this
          simp at this
          exact hne this.symm
      · rename_i hrt
        simp only [Option.some.injEq] at h; subst h
        intro m cm hm
        apply cinv3_not_blocked
        intro t ht
        have := ((h3 m cm hm) t ht).2
        rw [hrt] at this
        simp at this
  all_goals
    ((repeat' split at h) <;> first
      | (simp at h; done)
      | (simp only [Option.some.injEq] at h; subst h
         intro m cm hm
         have := h3 m cm hm
         simpa [St.sessClosed, hpc, ClosePc.sessClosed] using this))

theorem inv3_stepStop {s s' : St} (h3 : Inv3 s) (h : stepStop s = some s') : Inv3 s' := by
  unfold stepStop at h
  split at h
  · simp only [Option.some.injEq] at h; subst h; exact h3
  · simp at h

theorem inv3_stepPeer {s s' : St} (h3 : Inv3 s) (h : stepPeer s = some s') : Inv3 s' := by
  unfold stepPeer at h
  split at h
  · simp at h
  · rename_i ev rest hp
    split at h
    · simp at h
    · split at h
      · simp only [Option.some.injEq] at h; subst h; exact h3
      · split at h
        · split at h
          · simp only [Option.some.injEq] at h; subst h; exact h3
          · split at h
            · rename_i hh t hm
              simp only [Option.some.injEq] at h; subst h
              -- after the wake-up nobody is blocked any more: a blocked caller is the one in the slot
              intro m cm hcm
              simp only [St.sessClosed] at hcm ⊢
              have base : ∀ c0, (updAt s.callers hh (setJob (.done .msg)))[m]? = some c0 →
                  (∀ t, c0.job = .blocked t → s.recvTask = some m ∧ m ≠ hh) := by
                intro c0 h0
                rw [getElem?_updAt] at h0
                split at h0
                · subst m
                  cases hj : s.callers[hh]? with
                  | none => simp [hj] at h0
                  | some cj => simp [hj] at h0; subst h0; simp [setJob]
                · rename_i hne
                  have := h3 m c0 h0
                  exact fun t ht => ⟨(this t ht).2, hne⟩
              split at hcm
              · rename_i jj hrt
                split at hcm
                · have b2 := base cm hcm
                  intro t ht
                  have := b2 t ht
                  rw [hrt] at this
                  simp at this
                  omega
                · rename_i hjne
                  rw [getElem?_updAt] at hcm
                  split at hcm
                  · subst m
                    cases hj : (updAt s.callers hh (setJob (.done .msg)))[jj]? with
                    | none => simp [hj] at hcm
                    | some cj =>
                      simp [hj] at hcm; subst hcm
                      exact cinv3_not_blocked (not_blocked_resolveBlocked _ _)
                  · rename_i hmne
                    have b2 := base cm hcm
                    intro t ht
                    have := (b2 t ht).1
                    rw [hrt] at this
                    simp at this
                    exact absurd this.symm hmne
              · rename_i hrt
                have b2 := base cm hcm
                intro t ht
                have := (b2 t ht).1
                rw [hrt] at this
                simp at this
            · simp only [Option.some.injEq] at h; subst h; exact h3
        all_goals
          (simp only [Option.some.injEq] at h; subst h
           intro m cm hm
           have := h3 m cm hm
           simpa [St.sessClosed, sessClosed_initiate] using this)

theorem inv3_step {s s' : St} {l : Label} (h3 : Inv3 s) (hok : okStep s l = true)
    (h : step s l = some s') : Inv3 s' := by
  cases l with
  | caller i => exact inv3_stepCaller h3 h
  | job i => exact inv3_stepJob h3 hok h
  | close => exact inv3_stepClose h3 h
  | stop => exact inv3_stepStop h3 h
  | peer => exact inv3_stepPeer h3 h

theorem inv3_init (cfg : Cfg) : Inv3 (init cfg) := by
  intro i c hc
  simp only [init, List.getElem?_map] at hc
  cases hp : cfg.progs[i]? with
  | none => simp [hp] at hc
  | some p => simp [hp] at hc; subst hc; simp [cinv3, initCaller]

theorem inv3_execOk {cfg : Cfg} {ls : List Label} {s : St} (h : execOk (init cfg) ls = some s) : Inv3 s :=
  execOk_invariant Inv3 (fun _ _ _ h3 hok hs => inv3_step h3 hok hs) ls _ s (inv3_init cfg) h

end NasdaqModel.SyncFacade
