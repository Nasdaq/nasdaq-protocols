import NasdaqModel.Lemmas.SessionLemmas2
/-
`InvG` — the flow of messages (C04).

  wire  =  consumed ++ buf          frames received = frames the reader has taken ++ frames still buffered
  recvd  =  messages of `consumed`   (heartbeats are dropped, a logout / malformed frame ends the session)
  recvd  =  gone ++ vres ++ queue    every message put on the queue is, in order: gone for good, held for a pending
                                     receive, or still queued — nothing skipped, duplicated, reordered or invented
  delivered(trace) = taken           the observable deliveries are exactly the `gone` entries marked delivered
  lost = []                          no `gone` entry is marked dropped (since the repair of C04-late-cancel-loses-message:
                                     a late cancel puts the held message back in front of the queue)
-/
namespace NasdaqModel.Sess

def msgsOf (fs : List Frame) : List Nat :=
  fs.filterMap fun f => match f with
    | .msg n => some n
    | _ => none

/-- the message an observable hands to a consumer, if any -/
def deliveredObs : Obs → Option Nat
  | .msgEnter n => some n
  | .ret _ (.msg n) => some n
  | .loginReply n => some n
  | _ => none

def delivered (l : List Obs) : List Nat := l.filterMap deliveredObs

structure InvG (s : St) : Prop where
  wire : s.consumed ++ s.buf = s.wire
  recvd : s.recvd = msgsOf s.consumed
  flow : s.gone.map (·.1) ++ s.vres.toList ++ s.queue = s.recvd
  deliv : delivered s.trace = s.taken
  lost : s.lost = []

/-- the part of the state `InvG` reads -/
def gcore (s : St) : List Frame × List Frame × List Frame × List Nat × List Nat × Option Nat × List (Nat × Bool) × List Nat :=
  (s.buf, s.wire, s.consumed, s.recvd, s.queue, s.vres, s.gone, delivered s.trace)

theorem InvG.of_gcore {s s' : St} (h : gcore s' = gcore s) (i : InvG s) : InvG s' := by
  simp only [gcore, Prod.mk.injEq] at h
  obtain ⟨h1, h2, h3, h4, h5, h6, h7, h8⟩ := h
  exact ⟨by rw [h3, h1, h2]; exact i.wire, by rw [h4, h3]; exact i.recvd, by rw [h7, h6, h5, h4]; exact i.flow,
    by rw [h8]; unfold St.taken; rw [h7]; exact i.deliv, by unfold St.lost; rw [h7]; exact i.lost⟩

@[simp] theorem gcore_setStatus (s : St) (t : Tid) (x : Status) : gcore (s.setStatus t x) = gcore s := rfl
@[simp] theorem gcore_setProg (s : St) (t : Tid) (p : Prog) : gcore (s.setProg t p) = gcore s := rfl
@[simp] theorem gcore_spawn (s : St) (t : Tid) (p : Prog) : gcore (s.spawn t p) = gcore s := rfl
@[simp] theorem gcore_finish (s : St) (t : Tid) : gcore (s.finish t) = gcore s := rfl

@[simp] theorem gcore_cancelTask (s : St) (t : Tid) : gcore (s.cancelTask t) = gcore s := by
  obtain ⟨f, h⟩ := cancelTask_eq s t
  rw [h]
  rfl

@[simp] theorem gcore_wakeGetter (s : St) (t : Tid) : gcore (s.wakeGetter t) = gcore s := by
  unfold St.wakeGetter
  split <;> rfl

@[simp] theorem gcore_initiateClose (s : St) : gcore s.initiateClose = gcore s := by
  unfold St.initiateClose
  split <;> rfl

@[simp] theorem gcore_startDispatching (s : St) (cfg : Cfg) : gcore (s.startDispatching cfg) = gcore s := by
  unfold St.startDispatching
  split <;> rfl

@[simp] theorem gcore_startHeartbeats (s : St) : gcore s.startHeartbeats = gcore s := by
  unfold St.startHeartbeats
  rw [gcore_spawn, gcore_spawn]
  rfl

theorem gcore_setImm (s : St) (x : Option Tid) : gcore { s with imm := x } = gcore s := rfl
theorem gcore_setCstage (s : St) (st : CStage) : gcore { s with cstage := st } = gcore s := rfl

theorem delivered_append (l : List Obs) (o : Obs) : delivered (l ++ [o]) = delivered l ++ (deliveredObs o).toList := by
  simp only [delivered, List.filterMap_append]
  cases h : deliveredObs o <;> simp [List.filterMap, h]

theorem gcore_emit (s : St) (o : Obs) (h : deliveredObs o = none) : gcore (s.emit o) = gcore s := by
  simp only [gcore, St.emit, Prod.mk.injEq, true_and]
  rw [delivered_append, h]; simp

theorem gcore_runCont (s : St) (t : Tid) (c : Cont) : gcore (runCont s t c) = gcore s := by
  cases c with
  | readerTail => exact (gcore_setProg _ _ _).trans (gcore_setStatus _ _ _)
  | handlerTail n =>
    exact (gcore_setImm _ _).trans ((gcore_setProg _ _ _).trans ((gcore_setStatus _ _ _).trans (gcore_emit s _ rfl)))
  | monitorTail => exact gcore_finish s t
  | closingTail => exact gcore_finish s t
  | userTail u r => exact (gcore_finish _ t).trans (gcore_emit s _ (by cases r <;> rfl))

theorem gcore_closeTail (cfg : Cfg) (s : St) (t : Tid) (c : Cont) : gcore (closeTail cfg s t c) = gcore s := by
  unfold closeTail
  simp only
  split
  · rw [gcore_runCont, gcore_setCstage, gcore_emit _ _ rfl]
  · split
    · rw [gcore_setCstage, gcore_setProg, gcore_setStatus, gcore_emit _ _ rfl, gcore_emit _ _ rfl]
    · rw [gcore_runCont, gcore_setCstage, gcore_emit _ _ rfl, gcore_emit _ _ rfl, gcore_emit _ _ rfl]

theorem gcore_suspendOn (s : St) (t x : Tid) (pc : Nat) (c : Cont) : gcore (suspendOn s t x pc c) = gcore s := by
  unfold suspendOn
  rw [gcore_setCstage, gcore_setProg, gcore_setStatus, gcore_cancelTask]

theorem gcore_execClose (cfg : Cfg) (t : Tid) (c : Cont) (pc : Nat) (s : St) :
    gcore (execClose cfg s t c pc) = gcore s := by
  refine execClose_rule cfg t c (fun s' => gcore s' = gcore s) (fun s' => gcore s' = gcore s) ?_ ?_ ?_ ?_ pc s rfl
  · intro s' h; exact h
  · intro s' h; exact h
  · intro s' x pc' h _ _ _; rw [gcore_suspendOn]; exact h
  · intro s' h; rw [gcore_closeTail]; exact h

theorem gcore_enterClose (cfg : Cfg) (s : St) (t : Tid) (c : Cont) : gcore (enterClose cfg s t c) = gcore s := by
  unfold enterClose
  split
  · exact gcore_runCont s t c
  · rw [gcore_execClose]; rfl

theorem gcore_stepInClose (cfg : Cfg) (s : St) (t : Tid) (b : Bool) : gcore (stepInClose cfg s t b) = gcore s := by
  refine stepInClose_rule cfg s t b (fun s' => gcore s' = gcore s) rfl ?_ ?_ ?_ ?_ ?_
  · intro pc c _
    unfold resumeClose
    rw [gcore_execClose]
    split
    · exact gcore_setStatus s t .ready
    · exact gcore_setStatus s t .ready
  · intro k u r _ _
    rw [gcore_finish, gcore_emit _ _ rfl]; rfl
  · intro k c _ _ _
    exact gcore_finish _ t
  · intro c _ _
    rw [gcore_runCont, gcore_setCstage, gcore_emit _ _ rfl]
  · intro k c _ _
    rfl

theorem gcore_stepMon (cfg : Cfg) (s : St) (b : Bool) : gcore (stepMon cfg s b) = gcore s := by
  unfold stepMon
  split
  · split
    · rfl
    · exact gcore_emit s _ rfl
  · split
    · rfl
    · exact gcore_enterClose cfg s _ _

theorem InvG.emit {s : St} {o : Obs} (h : deliveredObs o = none) (i : InvG s) : InvG (s.emit o) :=
  InvG.of_gcore (gcore_emit s o h) i

theorem taken_append_true (g : List (Nat × Bool)) (n : Nat) :
    ((g ++ [(n, true)]).filter (·.2)).map (·.1) = (g.filter (·.2)).map (·.1) ++ [n] := by
  simp [List.filter_append]

theorem taken_append_false (g : List (Nat × Bool)) (l : List Nat) :
    ((g ++ l.map (fun n => (n, false))).filter (·.2)).map (·.1) = (g.filter (·.2)).map (·.1) := by
  simp [List.filter_append]

theorem lost_append_true (g : List (Nat × Bool)) (n : Nat) :
    ((g ++ [(n, true)]).filter (fun p => !p.2)).map (·.1) = (g.filter (fun p => !p.2)).map (·.1) := by
  simp [List.filter_append]

/-- **A message is handed over**: it leaves the queue or the pending slot for `gone`, marked delivered, and the observable
    that hands it to its consumer is emitted.  `s'.queue`, `s'.vres` are what remains queued and pending. -/
theorem InvG.hand_over {s s' : St} (i : InvG s) {n : Nat} {o : Obs} (ho : deliveredObs o = some n)
    (hflow : s.gone.map (·.1) ++ [n] ++ s'.vres.toList ++ s'.queue = s.recvd)
    (hs' : gcore s' = (s.buf, s.wire, s.consumed, s.recvd, s'.queue, s'.vres, s.gone ++ [(n, true)], delivered (s.trace ++ [o]))) :
    InvG s' := by
  simp only [gcore, Prod.mk.injEq] at hs'
  obtain ⟨h1, h2, h3, h4, _, _, h7, h8⟩ := hs'
  refine ⟨by rw [h3, h1, h2]; exact i.wire, by rw [h4, h3]; exact i.recvd, ?_, ?_, ?_⟩
  · rw [h7, h4, ← hflow]; simp
  · rw [h8, delivered_append, ho, i.deliv]
    unfold St.taken
    rw [h7, taken_append_true]; rfl
  · unfold St.lost
    rw [h7, lost_append_true]; exact i.lost

theorem InvG.deliver_from_queue {s : St} (i : InvG s) {n : Nat} {q : List Nat} {o : Obs}
    (hq : s.queue = n :: q) (hv : s.vres = none) (ho : deliveredObs o = some n) :
    InvG (({ s with queue := q, gone := s.gone ++ [(n, true)] } : St).emit o) := by
  refine i.hand_over ho ?_ rfl
  have := i.flow
  rw [hq, hv] at this
  show s.gone.map (·.1) ++ [n] ++ s.vres.toList ++ q = s.recvd
  rw [hv]; simpa using this

theorem InvG.deliver_held {s : St} (i : InvG s) {n : Nat} {o : Obs} (hv : s.vres = some n) (ho : deliveredObs o = some n) :
    InvG (({ s with vres := none, rcvBusy := false, gone := s.gone ++ [(n, true)] } : St).emit o) := by
  refine i.hand_over ho ?_ rfl
  have := i.flow
  rw [hv] at this
  show s.gone.map (·.1) ++ [n] ++ [] ++ s.queue = s.recvd
  simpa using this

theorem InvG.hold {s : St} (i : InvG s) {n : Nat} {q : List Nat} (hq : s.queue = n :: q) (hv : s.vres = none) :
    InvG { s with queue := q, vres := some n } := by
  refine ⟨i.wire, i.recvd, ?_, i.deliv, i.lost⟩
  have := i.flow
  rw [hq, hv] at this
  show s.gone.map (·.1) ++ [n] ++ q = s.recvd
  simpa using this

theorem msgsOf_append (a b : List Frame) : msgsOf (a ++ b) = msgsOf a ++ msgsOf b := by
  simp [msgsOf, List.filterMap_append]

theorem InvG.consume {s : St} (i : InvG s) {f : Frame} {rest : List Frame} (hb : s.buf = f :: rest) (hf : msgsOf [f] = []) :
    InvG { s with buf := rest, consumed := s.consumed ++ [f] } := by
  refine ⟨?_, ?_, i.flow, i.deliv, i.lost⟩
  · have := i.wire; rw [hb] at this
    show (s.consumed ++ [f]) ++ rest = s.wire
    simpa using this
  · show s.recvd = msgsOf (s.consumed ++ [f])
    rw [msgsOf_append, hf, i.recvd]; simp

theorem stepReader_InvG {cfg : Cfg} {s : St} (i : InvG s) : InvG (stepReader cfg s) := by
  unfold stepReader
  split
  · exact InvG.of_gcore (gcore_finish s .R) i
  · split
    · exact i
    · rename_i f rest hb
      cases f with
      | msg n =>
        simp only
        unfold St.put
        apply InvG.of_gcore (gcore_wakeGetter _ _)
        apply InvG.of_gcore (gcore_wakeGetter _ _)
        refine ⟨?_, ?_, ?_, i.deliv, i.lost⟩
        · have := i.wire; rw [hb] at this
          show (s.consumed ++ [.msg n]) ++ rest = s.wire
          simpa using this
        · show s.recvd ++ [n] = msgsOf (s.consumed ++ [.msg n])
          rw [msgsOf_append, i.recvd]; rfl
        · show s.gone.map (·.1) ++ s.vres.toList ++ (s.queue ++ [n]) = s.recvd ++ [n]
          rw [← i.flow]; simp
      | hb => exact i.consume hb rfl
      | logout => exact InvG.of_gcore (gcore_enterClose _ _ _ _) (i.consume hb rfl)
      | bad => exact InvG.of_gcore (gcore_enterClose _ _ _ _) (i.consume hb rfl)

theorem gcore_dispHandle (cfg : Cfg) (s : St) (n : Nat) : gcore (dispHandle cfg s n) = gcore s := by
  unfold dispHandle
  split
  · exact (gcore_setImm _ _).trans (gcore_emit s (.msgExit n) rfl)
  · exact gcore_setProg s _ _
  · exact gcore_enterClose _ _ _ _
  · rw [gcore_setImm, gcore_emit _ _ rfl, gcore_initiateClose]
  · exact (gcore_setImm _ _).trans (gcore_emit s (.msgRaise n) rfl)
  · rw [gcore_setImm, gcore_emit _ _ rfl, gcore_startHeartbeats, gcore_emit _ _ rfl]
  · rw [gcore_enterClose]; exact gcore_emit s _ rfl

theorem dispHandle_InvG {cfg : Cfg} {s : St} (i : InvG s) (n : Nat) : InvG (dispHandle cfg s n) :=
  InvG.of_gcore (gcore_dispHandle cfg s n) i

theorem vres_none_of_idle {s : St} {b : Bool} (h : ¬ ((b || s.vres.isSome) = true)) : s.vres = none := by
  simp only [Bool.or_eq_true, not_or, Bool.not_eq_true, Option.isSome_eq_false_iff, Option.isNone_iff_eq_none] at h
  exact h.2

theorem stepDisp_InvG {cfg : Cfg} {s : St} (i : InvG s) : InvG (stepDisp cfg s) := by
  unfold stepDisp
  split
  · exact InvG.of_gcore (gcore_finish s .D) i
  · split
    · exact i
    · rename_i hbusy
      split
      · exact InvG.of_gcore (gcore_setStatus s _ _) i
      · rename_i n q hq
        exact dispHandle_InvG (i.deliver_from_queue hq (vres_none_of_idle hbusy) rfl) n

theorem loginResume_InvG {cfg : Cfg} {s : St} (i : InvG s) (t : Tid) (u : Nat) : InvG (loginResume cfg s t u) := by
  unfold loginResume
  split
  · rename_i n hv
    have i1 := i.deliver_held (o := .loginReply n) hv rfl
    simp only
    split
    · refine InvG.of_gcore ?_ i1
      rw [gcore_finish, gcore_emit _ _ rfl, gcore_startDispatching, gcore_startHeartbeats]
    · exact InvG.of_gcore (gcore_enterClose _ _ _ _) i1
  · split
    · refine InvG.of_gcore (s := s) ?_ i
      rw [gcore_finish, gcore_emit _ _ rfl]; rfl
    · exact InvG.of_gcore (s := s) ((gcore_enterClose _ _ _ _).trans rfl) i

/-- a late cancel puts the held message back in front of the queue: the flow is untouched, nothing is dropped -/
theorem InvG.unhold {s : St} (i : InvG s) :
    InvG { s with vres := none, rcvBusy := false, queue := s.vres.toList ++ s.queue } := by
  refine ⟨i.wire, i.recvd, ?_, i.deliv, i.lost⟩
  have := i.flow
  show s.gone.map (·.1) ++ [] ++ (s.vres.toList ++ s.queue) = s.recvd
  rw [← this]
  simp

theorem InvG.ret_finish {s' : St} (i : InvG s') (u : Nat) (r : Res) (hr : deliveredObs (.ret u r) = none) (t : Tid) :
    InvG ((s'.emit (.ret u r)).finish t) :=
  InvG.of_gcore (gcore_finish _ t) (i.emit hr)

theorem stepRun_InvG {cfg : Cfg} {s : St} (i : InvG s) (t : Tid) : InvG (stepRun cfg s t) := by
  unfold stepRun
  have i0 : InvG { s with imm := none } := InvG.of_gcore (s := s) rfl i
  generalize ({ s with imm := none } : St) = s0 at i0
  have i1 : InvG { s0 with rcvBusy := false } := InvG.of_gcore (s := s0) rfl i0
  simp only
  split
  · -- cancelled
    split
    · exact InvG.of_gcore (gcore_finish _ t) (i0.emit (o := .msgAbandon _) rfl)
    · exact InvG.of_gcore (gcore_finish s0 t) i0
    · split
      · exact i0.unhold.ret_finish _ .eoq rfl t
      · exact i0.unhold.ret_finish _ .cancelled rfl t
    · split
      · exact i0.unhold.ret_finish _ .refused rfl t
      · exact InvG.of_gcore ((gcore_enterClose _ _ _ _).trans (gcore_setStatus _ _ _)) i0.unhold
    · exact InvG.of_gcore (gcore_stepInClose _ _ _ _) i0
    · exact InvG.of_gcore (gcore_finish s0 t) i0
  · -- ready
    split
    · split
      · exact stepReader_InvG i0
      · exact i0
    · split
      · exact stepDisp_InvG i0
      · exact i0
    · split
      · exact InvG.of_gcore ((gcore_setImm _ _).trans (gcore_setProg _ _ _)) (i0.emit (o := .msgExit _) rfl)
      · exact InvG.of_gcore (gcore_setProg s0 _ _) i0
    · exact InvG.of_gcore (gcore_setProg s0 _ _) i0
    · split
      · exact InvG.of_gcore (gcore_stepMon _ _ _) i0
      · split
        · exact InvG.of_gcore (gcore_stepMon _ _ _) i0
        · exact i0
    · exact InvG.of_gcore (gcore_enterClose _ _ _ _) i0
    · exact InvG.of_gcore (gcore_stepInClose _ _ _ _) i0
    · -- the receive helper takes a message off the queue
      split
      · exact InvG.of_gcore (gcore_setStatus s0 _ _) i0
      · rename_i n q hq
        split
        · exact i0
        · rename_i hv
          exact InvG.of_gcore (gcore_finish _ t) (i0.hold hq (by simpa using hv))
    · split
      · rename_i n hv
        exact InvG.of_gcore (gcore_finish _ t) (i0.deliver_held (o := .ret _ (.msg n)) hv rfl)
      · split
        · exact i1.ret_finish _ .eoq rfl t
        · exact i1.ret_finish _ .cancelled rfl t
    · exact loginResume_InvG i0 _ _
    · exact i0
  · exact i0

theorem startRecv_InvG {s : St} (i : InvG s) (u : Nat) (b : Bool) : InvG (startRecv s u b) := by
  unfold startRecv
  split
  · exact i
  · rename_i hbusy
    have hv : s.vres = none := vres_none_of_idle (b := s.rcvBusy) (fun h => hbusy (by rw [h, Bool.true_or]))
    split
    · exact InvG.of_gcore (gcore_setStatus _ _ _) (i.emit (o := .ret u .state) rfl)
    · split
      · rename_i n q hq
        refine InvG.of_gcore ((gcore_setProg _ _ _).trans (gcore_setStatus _ _ _)) ?_
        exact InvG.of_gcore (s := { s with queue := q, vres := some n }) rfl (i.hold hq hv)
      · split
        · split
          · exact InvG.of_gcore (gcore_setStatus _ _ _) (i.emit (o := .ret u .refused) rfl)
          · exact InvG.of_gcore (gcore_setStatus _ _ _) (i.emit (o := .ret u .eoq) rfl)
        · refine InvG.of_gcore ((gcore_setProg _ _ _).trans ((gcore_setStatus _ _ _).trans (gcore_spawn _ _ _))) ?_
          exact InvG.of_gcore (s := s) rfl i

theorem step_InvG {cfg : Cfg} {s : St} (i : InvG s) (ev : Ev) : InvG (step cfg s ev) := by
  cases ev with
  | connect =>
    simp only [step]
    split
    · exact i
    · split
      · exact InvG.of_gcore (by rw [gcore_startDispatching, gcore_spawn]) i
      · exact InvG.of_gcore (gcore_spawn s _ _) i
  | data fs =>
    refine ⟨?_, i.recvd, i.flow, i.deliv, i.lost⟩
    show s.consumed ++ (s.buf ++ fs) = s.wire ++ fs
    rw [← i.wire]; simp
  | eof => exact InvG.of_gcore (gcore_initiateClose _) i
  | run t =>
    simp only [step]
    split
    · exact stepRun_InvG i t
    · exact i
  | callClose u =>
    simp only [step]
    split
    · exact i
    · exact InvG.of_gcore (by rw [gcore_enterClose, gcore_setProg, gcore_setStatus]) i
  | callInitiateClose => exact InvG.of_gcore (gcore_initiateClose _) i
  | callLogout =>
    exact InvG.of_gcore (s := s.emit (.write .logout)) (by simp only [step]; rw [gcore_initiateClose]; rfl) (i.emit rfl)
  | callRecv u =>
    simp only [step]
    split
    · exact i
    · exact startRecv_InvG i u false
  | callRecvNowait u =>
    simp only [step]
    split
    · exact i
    · rename_i hbusy
      split
      · exact i.emit rfl
      · split
        · rename_i n q hq
          exact i.deliver_from_queue hq (vres_none_of_idle hbusy) rfl
        · split
          · exact i.emit rfl
          · exact i.emit rfl
  | callLogin u =>
    simp only [step]
    split
    · exact i
    · have i1 : InvG ({ (s.emit (.write .login)) with pingL := true }) :=
        InvG.of_gcore (s := s.emit (.write .login)) rfl (i.emit rfl)
      exact startRecv_InvG i1 u true
  | callSend => exact InvG.of_gcore (s := s.emit (.write .data)) rfl (i.emit rfl)
  | cancel u => exact InvG.of_gcore (gcore_cancelTask _ _) i

theorem InvG.init : InvG {} := ⟨rfl, rfl, rfl, rfl, rfl⟩

theorem runEvs_InvG (cfg : Cfg) (evs : List Ev) : InvG (runEvs cfg {} evs) := by
  have : ∀ (s : St), InvG s → InvG (runEvs cfg s evs) := by
    induction evs with
    | nil => intro s i; exact i
    | cons ev evs ih => intro s i; exact ih _ (step_InvG i ev)
  exact this _ InvG.init

end NasdaqModel.Sess
