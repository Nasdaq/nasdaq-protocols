import NasdaqModel.Lemmas.FixMessage
import NasdaqModel.Props.C13Shared
/-
The fuel-bounded predicates of `Props/C13Shared.lean` (nesting depth ≤ 8: `levelDistinct n`, `ce k`, `wfDefShared`, `countEnds`) and the fuel-free ones
the proofs of `Lemmas/FixShared*.lean` run on (`ldLevel`, `levelOK` / `ceFields` / `ceTop`, `wfDefLevels`, `countEndsS`):
`wfDefShared d → wfDefLevels d`, and inside that depth bound `countEnds d m ↔ countEndsS d m` for well-formed messages.
-/
namespace NasdaqModel.Fix
open NasdaqModel Py Props.C13Shared

theorem levelDistinct_ld : ∀ (n : Nat) (es : List Entry), levelDistinct n es = true → ldLevel es = true := by
  intro n
  induction n with
  | zero => intro es h; simp [levelDistinct] at h
  | succ n ih =>
    intro es h
    simp only [levelDistinct, Bool.and_eq_true, decide_eq_true_eq, List.all_eq_true] at h
    simp only [ldLevel, Bool.and_eq_true, decide_eq_true_eq]
    refine ⟨h.1, ldList_of_mem ?_⟩
    intro e he
    have := h.2 e he
    cases e with
    | field => rfl
    | group t sub r => exact ih sub this

theorem wfDefShared_levels {d : MsgDef} (h : wfDefShared d = true) : wfDefLevels d = true := by
  simp only [wfDefShared, Bool.and_eq_true] at h
  simp only [wfDefLevels, Bool.and_eq_true]
  exact ⟨⟨levelDistinct_ld _ _ h.1.1.2, levelDistinct_ld _ _ h.1.2⟩, levelDistinct_ld _ _ h.2⟩

theorem canonVal_idem : ∀ e : Entry, ldEntry e = true → ∀ v, canonVal e (canonVal e v) = canonVal e v := by
  apply ld_ind
  · intro t ty r v
    cases v <;> simp [canonVal]
  · intro t sub r htn _ ih v
    cases v with
    | grp insts =>
      have key : ∀ (i : Seg) (es' : List Entry), (∀ e ∈ es', e ∈ sub) →
          canonFields es' (canonFields sub i) = canonFields es' i := by
        intro i es'
        induction es' with
        | nil => intro _; simp [canonFields]
        | cons x xs ihx =>
          intro hsub
          have hx : x ∈ sub := hsub x (by simp)
          simp only [canonFields]
          rw [lookupV_canonFields htn i hx, ihx (fun e he => hsub e (by simp [he]))]
          cases hl : lookupV i x.tag with
          | none => simp
          | some v => simp [ih x hx v]
      simp only [canonVal, List.map_map]
      congr 1
      apply List.map_congr_left
      intro i _
      exact key i sub (fun e he => he)
    | _ => simp [canonVal]

theorem canonFields_idem {sub : List Entry} (htn : (tagsOf sub).Nodup) (hld : ∀ e ∈ sub, ldEntry e = true) (i : Seg) :
    canonFields sub (canonFields sub i) = canonFields sub i := by
  have := canonVal_idem (.group 0 sub false) (by simp [ldEntry, htn, ldList_of_mem hld]) (.grp [i])
  simpa [canonVal] using this

/-- the per-item clause of `ceItems` -/
def ceItem1 (rec : List Entry → Seg → Option Nat → Bool) (v : Val) (oe : Option Entry) (nxt : Option Nat) : Bool :=
  match v, oe with
  | .grp insts, some (.group _ sub _) => ceInsts rec sub (sub.head?.map Entry.tag) insts nxt
  | .grp _, _ => false
  | _, _ => true

theorem ceItem1_of_not_grp (rec : List Entry → Seg → Option Nat → Bool) {v : Val} (hv : ∀ insts, v ≠ .grp insts)
    (oe : Option Entry) (nxt : Option Nat) : ceItem1 rec v oe nxt = true := by
  cases v with
  | grp insts => exact absurd rfl (hv insts)
  | _ => rfl

theorem ceItems_cons (rec : List Entry → Seg → Option Nat → Bool) (es : List Entry) (t : Nat) (v : Val) (rest : Seg)
    (follow : Option Nat) :
    ceItems rec es ((t, v) :: rest) follow
      = (ceItem1 rec v (lookupE es t) (tagOr (keysOf rest) follow) && ceItems rec es rest follow) := by
  cases rest with
  | nil => rfl
  | cons p r => obtain ⟨t', w⟩ := p; rfl

/-- the level clause of `ce` -/
theorem ce_level_some {es : List Entry} {order : Seg} {f : Nat} :
    (!((tagsOf es).contains f && !(keysOf order).contains f)) = true ↔ f ∉ tagsOf es ∨ f ∈ keysOf order := by
  simp only [Bool.not_eq_true', Bool.and_eq_false_iff, List.contains_eq_mem, decide_eq_false_iff_not,
    Bool.not_eq_false', decide_eq_true_eq]

theorem levelDistinct_succ {n : Nat} {es : List Entry} (h : levelDistinct (n + 1) es = true) :
    (tagsOf es).Nodup ∧ ∀ t sub r, Entry.group t sub r ∈ es → levelDistinct n sub = true := by
  simp only [levelDistinct, Bool.and_eq_true, decide_eq_true_eq, List.all_eq_true] at h
  exact ⟨h.1, fun t sub r hm => h.2 _ hm⟩

theorem mem_keys_canonFields {sub : List Entry} (i : Seg) {t : Nat} (ht : t ∈ tagsOf sub) :
    t ∈ keysOf (canonFields sub i) ↔ hasKey i t = true := by
  rw [keys_canonFields_eq]
  exact mem_presentTags ht

/-- the instances of a group value, `H` = the equivalence one level down -/
theorem ceInsts_iff (rec : List Entry → Seg → Option Nat → Bool) (sub : List Entry) (first : Option Nat) (g : Seg → Seg)
    (insts : List Seg)
    (H : ∀ i ∈ insts, ∀ f, rec sub (canonFields sub (g i)) f = true ↔ levelOK sub i f = true ∧ ceFields sub i f = true) :
    ∀ nxt, ceInsts rec sub first (insts.map g) nxt = true ↔
      (instFollows first insts nxt).all (fun p => levelOK sub p.1 p.2 && ceFields sub p.1 p.2) = true := by
  induction insts with
  | nil => intro nxt; simp [ceInsts, instFollows]
  | cons i r ih =>
    intro nxt
    have ih' := ih (fun i' hi' => H i' (by simp [hi'])) nxt
    cases r with
    | nil =>
      simp only [List.map_cons, List.map_nil, ceInsts, instFollows, List.all_cons, List.all_nil, Bool.and_true, Bool.and_eq_true]
      exact H i (by simp) nxt
    | cons j r =>
      simp only [List.map_cons, ceInsts, instFollows, List.all_cons, Bool.and_eq_true] at ih' ⊢
      exact and_congr (H i (by simp) first) ih'

theorem ce_fields_iff : ∀ (n : Nat) (sub : List Entry) (i : Seg) (f : Option Nat), levelDistinct n sub = true →
    wfFields sub i = true →
    (ce (n + 1) sub (canonFields sub i) f = true ↔ levelOK sub i f = true ∧ ceFields sub i f = true) := by
  intro n
  induction n with
  | zero => intro sub i f h; simp [levelDistinct] at h
  | succ n IH =>
    intro sub i f hld hwf
    obtain ⟨htn, hsub⟩ := levelDistinct_succ hld
    simp only [ce, Bool.and_eq_true]
    refine and_congr ?_ ?_
    · cases f with
      | none => simp [levelOK]
      | some t =>
        rw [ce_level_some, levelOK_some]
        by_cases hm : t ∈ tagsOf sub
        · simp [hm, mem_keys_canonFields i hm]
        · simp [hm]
    · have key : ∀ es' : List Entry, (∀ e ∈ es', e ∈ sub) →
          (ceItems (ce (n + 1)) sub (canonFields es' i) f = true ↔ ceFields es' i f = true) := by
        intro es'
        induction es' with
        | nil => intro _; simp [canonFields, ceItems, ceFields]
        | cons e es' ih =>
          intro hsub'
          have he : e ∈ sub := hsub' e (by simp)
          have ih' := ih (fun x hx => hsub' x (by simp [hx]))
          simp only [canonFields, ceFields]
          cases hl : lookupV i e.tag with
          | none => exact ih'
          | some v =>
            simp only [ceItems_cons, Bool.and_eq_true, lookupE_mem htn he, keys_canonFields_eq, ← nextTag_eq]
            refine and_congr ?_ ih'
            have hwv := wfVal_of_lookupV htn hwf he hl
            cases e with
            | field t ty r =>
              simp only [wfVal] at hwv
              simp only [canonVal_field, ceItem1_of_not_grp _ (wfPrim_not_grp hwv), ceVal]
            | group t sub' r =>
              have hld' := hsub t sub' r he
              have hl' := ldLevel_parts (levelDistinct_ld n sub' hld')
              obtain ⟨insts, rfl, hwv⟩ := wfVal_group hwv
              simp only [canonVal, ceItem1, ceVal]
              apply ceInsts_iff (ce (n + 1)) sub' _ (canonFields sub') insts
              intro i' hi' f'
              rw [canonFields_idem hl'.1 hl'.2]
              exact IH sub' i' f' hld' (wfInsts_mem hwv i' hi').1
      exact key sub (fun e he => he)

theorem ce_seg_iff (n : Nat) (es : List Entry) (hld : levelDistinct (n + 1) es = true) (s : Seg) (hwf : wfFields es s = true)
    (f : Option Nat) : ce (n + 2) es s f = true ↔ ceSeg es s f = true := by
  obtain ⟨htn, hsub⟩ := levelDistinct_succ hld
  simp only [ce, ceSeg, Bool.and_eq_true]
  refine and_congr ?_ ?_
  · cases f with
    | none => simp [levelOK]
    | some t => rw [ce_level_some, levelOK_some, hasKey_iff]
  · have key : ∀ s : Seg, wfFields es s = true → (ceItems (ce (n + 1)) es s f = true ↔ ceTop es s f = true) := by
      intro s
      induction s with
      | nil => intro _; simp [ceItems, ceTop]
      | cons p s ih =>
        obtain ⟨t, v⟩ := p
        intro hw
        simp only [wfFields, Bool.and_eq_true] at hw
        simp only [ceItems_cons, ceTop, Bool.and_eq_true]
        refine and_congr ?_ (ih hw.2)
        cases hl : lookupE es t with
        | none => rw [hl] at hw; simp at hw
        | some e =>
          rw [hl] at hw
          have hwv := hw.1
          simp only at hwv ⊢
          cases e with
          | field t' ty r =>
            simp only [wfVal] at hwv
            simp only [ceItem1_of_not_grp _ (wfPrim_not_grp hwv), ceVal]
          | group t' sub' r =>
            have hld' := hsub t' sub' r (lookupE_some hl).1
            obtain ⟨insts, rfl, hwv⟩ := wfVal_group hwv
            simp only [ceItem1, ceVal]
            have := ceInsts_iff (ce (n + 1)) sub' (sub'.head?.map Entry.tag) id insts
              (fun i' hi' f' => ce_fields_iff n sub' i' f' hld' (wfInsts_mem hwv i' hi').1) (tagOr (keysOf s) f)
            simpa using this
    exact key s hwf

theorem countEnds_iff_S {d : MsgDef} {m : Msg} (hd : wfDefShared d = true) (hm : wfMsg d m = true) :
    countEnds d m = true ↔ countEndsS d m = true := by
  simp only [wfDefShared, Bool.and_eq_true] at hd
  simp only [wfMsg, wfSeg, Bool.and_eq_true] at hm
  simp only [countEnds, countEndsS, Bool.and_eq_true]
  exact and_congr (and_congr (ce_seg_iff 7 _ hd.1.1.2 _ hm.1.1.1.1 _) (ce_seg_iff 7 _ hd.1.2 _ hm.1.1.2.1 _))
    (ce_seg_iff 7 _ hd.2 _ hm.1.2.1 _)

end NasdaqModel.Fix
