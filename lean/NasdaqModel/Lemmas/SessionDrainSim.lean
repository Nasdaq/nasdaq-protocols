import NasdaqModel.Lemmas.SessionDrainPipe
import NasdaqModel.Lemmas.SessionLemmas4
import NasdaqModel.Lemmas.SessionTick
/-
The session machine refines the abstract pipeline (`Lemmas/SessionDrainPipe.lean`) — part 1: the events of the canonical
schedule (`run R`, `run D`, `data`) from a state whose reader and dispatcher are in working order (`Live`, structural), the
schedule as a whole (`sim_sched`, `drain_exact`), and pull mode (no dispatcher: `pull_reader`, `pull_nowait`).
-/
namespace NasdaqModel.Sess

/-- the dispatcher is in working order: runnable in its loop or inside a handler, or asleep in `queue.get()` on an empty queue -/
def DOk (s : St) : Prop :=
  (s.status .D = .ready ∧ (s.prog .D = .dispLoop ∨ ∃ n j, s.prog .D = .handler n j)) ∨
  (s.status .D = .waitQ ∧ s.prog .D = .dispLoop ∧ s.queue = [])

structure Live (s : St) : Prop where
  rst : s.status .R = .ready
  rpr : s.prog .R = .readerLoop
  rs : s.rStopped = false
  qc : s.qClosed = false
  busy : s.rcvBusy = false
  vres : s.vres = none
  dok : DOk s

def phaseOfProg : Prog → Option (Nat × Nat)
  | .handler n j => some (n, j)
  | _ => none

def pipeOf (s : St) : Pipe :=
  { buf := s.buf, queue := s.queue, ph := phaseOfProg (s.prog .D), idle := s.status .D == .waitQ, out := delivered s.trace }

def absEv : Ev → AEv
  | .run .R => .r
  | .run .D => .d
  | .data fs => .data fs
  | _ => .nop

/-- a behaviour of the message callback that closes the session from inside the callback -/
def Beh.closes : Beh → Bool
  | .close => true
  | .reject => true
  | _ => false

def goodFrame : Frame → Bool
  | .logout => false
  | .bad => false
  | _ => true

theorem pipeOf_ok {s : St} (h : DOk s) : PipeOk (pipeOf s) := by
  intro hi
  have hw : s.status .D = .waitQ := by simpa [pipeOf] using hi
  rcases h with ⟨h1, _⟩ | ⟨_, h2, h3⟩
  · rw [hw] at h1; simp at h1
  · exact ⟨h3, by simp [pipeOf, h2, phaseOfProg]⟩

theorem Live.data {s : St} (l : Live s) (fs : List Frame) :
    Live ({ s with buf := s.buf ++ fs, wire := s.wire ++ fs, pingM := true } : St) :=
  ⟨l.rst, l.rpr, l.rs, l.qc, l.busy, l.vres, l.dok⟩

/-- what a schedule of reader ticks and dispatcher steps leaves alone: the session stays open, in callback mode, and no message
    is dropped -/
def flags (s : St) : Bool × Bool × List Nat := (s.closed, s.dispSet, s.lost)

theorem lost_of_gone {s s' : St} (h : s'.gone = s.gone) : s'.lost = s.lost := by unfold St.lost; rw [h]

theorem lost_snoc_true {s s' : St} {n : Nat} (h : s'.gone = s.gone ++ [(n, true)]) : s'.lost = s.lost := by
  unfold St.lost; rw [h, List.filter_append]; simp

theorem flags_of {s s' : St} (h1 : s'.closed = s.closed) (h2 : s'.dispSet = s.dispSet) (h3 : s'.lost = s.lost) :
    flags s' = flags s := by
  simp only [flags, h1, h2, h3]

/-- what `Live` reads -/
def lcore (s : St) := (s.status .R, s.prog .R, s.rStopped, s.qClosed, s.rcvBusy, s.vres, s.status .D, s.prog .D, s.queue)

theorem Live.of_lcore {s s' : St} (h : lcore s' = lcore s) (l : Live s) : Live s' := by
  simp only [lcore, Prod.mk.injEq] at h
  obtain ⟨h1, h2, h3, h4, h5, h6, h7, h8, h9⟩ := h
  exact ⟨by rw [h1]; exact l.rst, by rw [h2]; exact l.rpr, by rw [h3]; exact l.rs, by rw [h4]; exact l.qc, by rw [h5]; exact l.busy,
    by rw [h6]; exact l.vres, by unfold DOk; rw [h7, h8, h9]; exact l.dok⟩

/-- what `pipeOf` and `flags` read -/
def pcore (s : St) := (s.buf, s.queue, s.prog .D, s.status .D, delivered s.trace, s.closed, s.dispSet, s.lost)

theorem pipeOf_of_pcore {s s' : St} (h : pcore s' = pcore s) : pipeOf s' = pipeOf s ∧ flags s' = flags s := by
  simp only [pcore, Prod.mk.injEq] at h
  obtain ⟨h1, h2, h3, h4, h5, h6, h7, h8⟩ := h
  simp only [pipeOf, flags, h1, h2, h3, h4, h5, h6, h7, h8, and_self]

theorem lcore_spawn (s : St) {t : Tid} (p : Prog) (h1 : t ≠ .R) (h2 : t ≠ .D) : lcore (s.spawn t p) = lcore s := by
  simp only [lcore, spawn_status, spawn_prog, Ne.symm h1, Ne.symm h2, if_false]
  rfl

theorem pcore_spawn (s : St) {t : Tid} (p : Prog) (h : t ≠ .D) : pcore (s.spawn t p) = pcore s := by
  simp only [pcore, spawn_status, spawn_prog, Ne.symm h, if_false]
  rfl

theorem lcore_initiateClose (s : St) : lcore s.initiateClose = lcore s := by
  unfold St.initiateClose
  split
  · rfl
  · rw [lcore_spawn _ _ (by decide) (by decide)]
    rfl

theorem pcore_initiateClose (s : St) : pcore s.initiateClose = pcore s := by
  unfold St.initiateClose
  split
  · rfl
  · rw [pcore_spawn _ _ (by decide)]
    rfl

theorem lcore_startHeartbeats (s : St) : lcore s.startHeartbeats = lcore s := by
  unfold St.startHeartbeats
  rw [lcore_spawn _ _ (by decide) (by decide), lcore_spawn _ _ (by decide) (by decide)]
  rfl

theorem pcore_startHeartbeats (s : St) : pcore s.startHeartbeats = pcore s := by
  unfold St.startHeartbeats
  rw [pcore_spawn _ _ (by decide), pcore_spawn _ _ (by decide)]
  rfl

theorem lcore_emit (s : St) (o : Obs) : lcore (s.emit o) = lcore s := rfl

theorem lcore_imm (s : St) (x : Option Tid) : lcore { s with imm := x } = lcore s := rfl

theorem pcore_imm (s : St) (x : Option Tid) : pcore { s with imm := x } = pcore s := rfl

theorem pcore_emit (s : St) (o : Obs) (h : deliveredObs o = none) : pcore (s.emit o) = pcore s := by
  have hl : (s.emit o).lost = s.lost := rfl
  simp only [pcore, hl]
  simp only [St.emit, delivered_append, h]; simp

/-- `s'` follows `s`: it is in working order, its pipeline view is `p`, and it is still open, in callback mode, with nothing dropped -/
structure Follows (s s' : St) (p : Pipe) : Prop where
  live : Live s'
  pipe : pipeOf s' = p
  flags : flags s' = flags s

theorem sim_runR {cfg : Cfg} {s : St} (l : Live s) (hg : ∀ f ∈ s.buf.take 1, goodFrame f = true) :
    Follows s (step cfg s (.run .R)) (aR (pipeOf s)) := by
  have hl : atLoop s := ⟨l.rst, l.rpr⟩
  cases hb : s.buf with
  | nil =>
    rw [poll_eq_nil cfg s hl l.rs hb, aR_nil (by simp [pipeOf, hb])]
    exact ⟨⟨l.rst, l.rpr, l.rs, l.qc, l.busy, l.vres, l.dok⟩, rfl, rfl⟩
  | cons f rest =>
    have hgf : goodFrame f = true := hg f (by simp [hb])
    cases f with
    | logout => simp [goodFrame] at hgf
    | bad => simp [goodFrame] at hgf
    | hb =>
      rw [poll_eq_hb cfg s hl l.rs hb, aR_other (p := pipeOf s) (f := .hb) (rest := rest) (by simp [pipeOf, hb]) (by simp)]
      exact ⟨⟨l.rst, l.rpr, l.rs, l.qc, l.busy, l.vres, l.dok⟩, rfl, rfl⟩
    | msg n =>
      rw [poll_eq_msg cfg s hl l.rs hb, St.put_eq, aR_msg (p := pipeOf s) (n := n) (rest := rest) (by simp [pipeOf, hb])]
      refine ⟨⟨by simp [l.rst], l.rpr, l.rs, l.qc, l.busy, l.vres, ?_⟩, ?_, rfl⟩
      · -- the dispatcher: woken if it slept
        rcases l.dok with ⟨h1, h2⟩ | ⟨h1, h2, _⟩
        · exact Or.inl ⟨by simp [h1], h2⟩
        · exact Or.inl ⟨by simp [h1], Or.inl h2⟩
      · simp only [pipeOf]
        congr 1
        by_cases hw : s.status .D = .waitQ
        · simp [hw]
        · simp [hw]

/-- the message callback, entered by the dispatcher in its loop, when it does not close the session: it returns at once and leaves
    what `Live` and `pipeOf` read as it was, or it awaits and the handler stays in progress -/
theorem sim_dispHandle {cfg : Cfg} {s : St} (l : Live s) (hst : s.status .D = .ready) (hpr : s.prog .D = .dispLoop) (n : Nat)
    (hc : (cfg.msgBeh n).closes = false) :
    Follows s (dispHandle cfg s n) { pipeOf s with ph := phOf (cfg.msgBeh n) n } := by
  have hph : (pipeOf s).ph = none := by simp [pipeOf, hpr, phaseOfProg]
  have keep : ∀ s' : St, lcore s' = lcore s → pcore s' = pcore s → phOf (cfg.msgBeh n) n = none →
      Follows s s' { pipeOf s with ph := phOf (cfg.msgBeh n) n } := by
    intro s' h1 h2 h3
    obtain ⟨p', f'⟩ := pipeOf_of_pcore h2
    exact ⟨l.of_lcore h1, by rw [p', h3, ← hph], f'⟩
  unfold dispHandle
  split
  · rename_i hb
    exact keep _ rfl (pcore_emit s _ rfl) (by rw [hb]; rfl)
  · rename_i k hb
    refine ⟨⟨l.rst, l.rpr, l.rs, l.qc, l.busy, l.vres, Or.inl ⟨hst, Or.inr ⟨n, k, by simp [St.setProg]⟩⟩⟩, ?_, rfl⟩
    simp [pipeOf, St.setProg, phaseOfProg, hb, phOf]
  · rename_i hb
    rw [hb] at hc
    cases hc
  · rename_i hb
    exact keep _ (by simp only [lcore_imm, lcore_emit, lcore_initiateClose])
      ((pcore_imm _ _).trans ((pcore_emit _ _ rfl).trans (pcore_initiateClose s))) (by rw [hb]; rfl)
  · rename_i hb
    exact keep _ rfl (pcore_emit s _ rfl) (by rw [hb]; rfl)
  · rename_i hb
    exact keep _ (by simp only [lcore_imm, lcore_emit, lcore_startHeartbeats])
      ((pcore_imm _ _).trans ((pcore_emit _ _ rfl).trans ((pcore_startHeartbeats _).trans (pcore_emit s _ rfl)))) (by rw [hb]; rfl)
  · rename_i hb
    rw [hb] at hc
    cases hc

theorem sim_runD {cfg : Cfg} {s : St} (l : Live s)
    (hg : ∀ n q, s.queue = n :: q → s.prog .D = .dispLoop → (cfg.msgBeh n).closes = false) :
    Follows s (step cfg s (.run .D)) (aD cfg.msgBeh (pipeOf s)) := by
  rcases l.dok with ⟨hst, hpr | ⟨n, j, hpr⟩⟩ | ⟨hst, hpr, hq⟩
  · -- runnable in its loop
    have hph : (pipeOf s).ph = none := by simp [pipeOf, hpr, phaseOfProg]
    have hid : (pipeOf s).idle = false := by simp [pipeOf, hst]
    cases hq : s.queue with
    | nil =>
      rw [disp_eq_sleep cfg s hst hpr l.qc l.busy l.vres hq, aD_sleep hph hid (by simp [pipeOf, hq])]
      refine ⟨⟨by simp [St.setStatus, l.rst], l.rpr, l.rs, l.qc, l.busy, l.vres, Or.inr ⟨by simp [St.setStatus], hpr, hq⟩⟩, ?_, flags_of rfl rfl (lost_of_gone rfl)⟩
      simp [pipeOf, St.setStatus]
    | cons n q =>
      rw [disp_eq_take cfg s hst hpr l.qc l.busy l.vres hq, aD_take hph hid (by simp [pipeOf, hq] : (pipeOf s).queue = n :: q)]
      -- the message is taken and the callback entered …
      generalize hs1 : (({ s with imm := none, queue := q, gone := s.gone ++ [(n, true)] } : St).emit (.msgEnter n)) = s1
      have l1 : Live s1 := by
        rw [← hs1]
        exact ⟨l.rst, l.rpr, l.rs, l.qc, l.busy, l.vres, Or.inl ⟨hst, Or.inl hpr⟩⟩
      have p1 : pipeOf s1 = { pipeOf s with queue := q, out := (pipeOf s).out ++ [n] } := by
        rw [← hs1]
        simp only [pipeOf, St.emit, delivered_append]
        rfl
      have f1 : flags s1 = flags s := by
        rw [← hs1]
        exact flags_of rfl rfl (lost_snoc_true rfl)
      obtain ⟨l2, p2, f2⟩ := sim_dispHandle (cfg := cfg) l1 (by rw [← hs1]; exact hst) (by rw [← hs1]; exact hpr) n (hg n q hq hpr)
      exact ⟨l2, by rw [p2, p1], by rw [f2, f1]⟩
  · -- inside a handler
    have hph : (pipeOf s).ph = some (n, j) := by simp [pipeOf, hpr, phaseOfProg]
    cases j with
    | zero =>
      have e : step cfg s (.run .D) = { (({ s with imm := none } : St).emit (.msgExit n)).setProg .D .dispLoop with imm := some .D } := by
        simp [step, runnable, hst, stepRun, hpr]
      rw [e, aD_ret hph]
      refine ⟨⟨l.rst, l.rpr, l.rs, l.qc, l.busy, l.vres, Or.inl ⟨hst, Or.inl (by simp [St.setProg])⟩⟩, ?_, flags_of rfl rfl (lost_of_gone rfl)⟩
      simp only [pipeOf, St.emit, St.setProg, phaseOfProg]
      rw [delivered_append]; simp [deliveredObs]
    | succ j =>
      have e : step cfg s (.run .D) = ({ s with imm := none } : St).setProg .D (.handler n j) := by
        simp [step, runnable, hst, stepRun, hpr]
      rw [e, aD_wait hph]
      refine ⟨⟨l.rst, l.rpr, l.rs, l.qc, l.busy, l.vres, Or.inl ⟨hst, Or.inr ⟨n, j, by simp [St.setProg]⟩⟩⟩, ?_, flags_of rfl rfl (lost_of_gone rfl)⟩
      simp [pipeOf, St.setProg, phaseOfProg]
  · -- asleep in `queue.get()`: not runnable
    have e : step cfg s (.run .D) = s := by simp [step, runnable, hst]
    rw [e, aD_idle (by simp [pipeOf, hpr, phaseOfProg]) (by simp [pipeOf, hst])]
    exact ⟨l, rfl, rfl⟩

theorem sim_data {cfg : Cfg} {s : St} (l : Live s) (fs : List Frame) :
    Follows s (step cfg s (.data fs)) (astep cfg.msgBeh (pipeOf s) (.data fs)) :=
  ⟨l.data fs, rfl, rfl⟩


/-- the first `k` buffered frames are neither a logout nor malformed, and the message callbacks for the queued messages and for
    the messages among those frames do not close the session -/
structure Good (cfg : Cfg) (s : St) (k : Nat) : Prop where
  fr : ∀ f ∈ s.buf.take k, goodFrame f = true
  hd : ∀ n ∈ s.queue ++ msgsOf (s.buf.take k), (cfg.msgBeh n).closes = false

def Ev.notData : Ev → Bool
  | .data _ => false
  | _ => true

def framesOf : List Ev → List Frame
  | [] => []
  | .data fs :: l => fs ++ framesOf l
  | _ :: l => framesOf l

theorem dataOf_map_absEv (evs : List Ev) : dataOf (evs.map absEv) = framesOf evs := by
  induction evs with
  | nil => rfl
  | cons ev evs ih =>
    cases ev with
    | data fs => simp [absEv, dataOf, framesOf, ih]
    | run t => cases t <;> simp [absEv, dataOf, framesOf, ih]
    | _ => simp [absEv, dataOf, framesOf, ih]

theorem notData_absEv (ev : Ev) : AEv.notData (absEv ev) = Ev.notData ev := by
  cases ev with
  | run t => cases t <;> rfl
  | _ => rfl

theorem filter_map_absEv (evs : List Ev) : (evs.map absEv).filter AEv.notData = (evs.filter Ev.notData).map absEv := by
  induction evs with
  | nil => rfl
  | cons ev evs ih =>
    simp only [List.map_cons, List.filter_cons, notData_absEv]
    split <;> simp [ih]

theorem Ev.eq_data_of_notData {e : Ev} (h : e.notData = false) : ∃ fs, e = .data fs := by
  cases e with
  | data fs => exact ⟨fs, rfl⟩
  | _ => cases h

theorem mem_take_succ_of_mem_take_drop {α : Type} {l : List α} {k : Nat} {x : α} (h : x ∈ (l.drop 1).take k) :
    x ∈ l.take (k + 1) := by
  cases l with
  | nil => simp at h
  | cons a l => exact List.mem_cons_of_mem _ h

theorem runEvs_cons (cfg : Cfg) (s : St) (ev : Ev) (evs : List Ev) : runEvs cfg s (ev :: evs) = runEvs cfg (step cfg s ev) evs := rfl

theorem runEvs_append' (cfg : Cfg) (s : St) (l1 l2 : List Ev) : runEvs cfg s (l1 ++ l2) = runEvs cfg (runEvs cfg s l1) l2 :=
  runEvs_append cfg s l1 l2

/-- **The session machine follows the pipeline along the canonical schedule** — `k` reader ticks, then `m` dispatcher steps,
    interleaved with arriving frames — and stays in working order. -/
theorem sim_sched (cfg : Cfg) (evs : List Ev) (s : St) (k m : Nat) (l : Live s) (g : Good cfg s k)
    (hk : (∃ e ∈ evs, Ev.notData e = false) → k ≤ s.buf.length)
    (hs : evs.filter Ev.notData = List.replicate k (Ev.run .R) ++ List.replicate m (Ev.run .D)) :
    Follows s (runEvs cfg s evs) (arun cfg.msgBeh (pipeOf s) (evs.map absEv)) := by
  revert s
  refine sched_ind Ev.notData (.run .R) (.run .D) (motive := fun evs k _ => ∀ s : St, Live s → Good cfg s k →
    ((∃ e ∈ evs, Ev.notData e = false) → k ≤ s.buf.length) →
    Follows s (runEvs cfg s evs) (arun cfg.msgBeh (pipeOf s) (evs.map absEv))) ?_ ?_ ?_ ?_ evs k m hs
  · intro s l _ _
    exact ⟨l, rfl, rfl⟩
  · -- frames arrive: they are appended behind the `k` frames the schedule is about
    intro e evs k m hnd ih s l g hk
    obtain ⟨fs, rfl⟩ := Ev.eq_data_of_notData hnd
    have hk' : k ≤ s.buf.length := hk ⟨.data fs, by simp, rfl⟩
    obtain ⟨l1, p1, f1⟩ := sim_data (cfg := cfg) l fs
    have hb : (step cfg s (.data fs)).buf.take k = s.buf.take k := List.take_append_of_le_length hk'
    have g1 : Good cfg (step cfg s (.data fs)) k := ⟨by rw [hb]; exact g.fr, by rw [hb]; exact g.hd⟩
    obtain ⟨l2, p2, f2⟩ := ih _ l1 g1 (fun _ => by
      show k ≤ (s.buf ++ fs).length
      rw [List.length_append]
      omega)
    exact ⟨l2, by rw [runEvs_cons, p2, p1]; rfl, by rw [runEvs_cons, f2, f1]⟩
  · -- a reader tick
    intro evs k m ih s l g hk
    obtain ⟨l1, p1, f1⟩ := sim_runR (cfg := cfg) l (fun f hf => g.fr f ((List.take_prefix_take_left (by omega)).subset hf))
    have hb1 : (step cfg s (.run .R)).buf = s.buf.drop 1 := by
      have := congrArg Pipe.buf p1
      rwa [aR_buf] at this
    have hq1 : (step cfg s (.run .R)).queue ++ msgsOf ((step cfg s (.run .R)).buf.take k) = s.queue ++ msgsOf (s.buf.take (k + 1)) := by
      have := aR_take_match (pipeOf s) k
      rwa [← p1] at this
    have g1 : Good cfg (step cfg s (.run .R)) k := by
      refine ⟨fun f hf => g.fr f (mem_take_succ_of_mem_take_drop ?_), fun n hn => g.hd n ?_⟩
      · rwa [hb1] at hf
      · rwa [hq1] at hn
    obtain ⟨l2, p2, f2⟩ := ih _ l1 g1 (fun h => by
      have := hk (exists_data_cons _ h)
      rw [hb1, List.length_drop]
      omega)
    exact ⟨l2, by rw [runEvs_cons, p2, p1]; rfl, by rw [runEvs_cons, f2, f1]⟩
  · -- a dispatcher step, once the reader ticks are over
    intro evs m ih s l g _
    obtain ⟨l1, p1, f1⟩ := sim_runD (cfg := cfg) l (fun n q hq _ => g.hd n (by simp [hq]))
    have g1 : Good cfg (step cfg s (.run .D)) 0 := by
      refine ⟨by simp, fun n hn => ?_⟩
      simp only [List.take_zero, msgsOf_nil, List.append_nil] at hn
      have : n ∈ (pipeOf (step cfg s (.run .D))).queue := hn
      rw [p1] at this
      exact g.hd n (List.mem_append_left _ (aD_queue_sub _ _ n this))
    obtain ⟨l2, p2, f2⟩ := ih _ l1 g1 (fun _ => Nat.zero_le _)
    exact ⟨l2, by rw [runEvs_cons, p2, p1]; rfl, by rw [runEvs_cons, f2, f1]⟩

/-- dispatcher steps that deliver everything queued and everything among the first `k` buffered frames: what the handler in
    progress still needs, plus one step per message and `j + 1` more for a callback that awaits `j + 1` times -/
def drainCost (cfg : Cfg) (s : St) (k : Nat) : Nat :=
  phCost (phaseOfProg (s.prog .D)) + cost cfg.msgBeh (s.queue ++ msgsOf (s.buf.take k))

/-- **Callback mode, exact.** From a state in working order whose first `k` buffered frames are good and whose handlers concerned do
    not close the session: `k` reader ticks followed by `m` dispatcher steps — interleaved with arriving frames in any way, provided
    the `k` frames are all there if anything arrives — where `m` covers the handler in progress and one callback per message:
    exactly the queued messages and the messages among those `k` frames are delivered, in order, after what was delivered before. -/
theorem drain_exact (cfg : Cfg) (evs : List Ev) (s : St) (k m : Nat) (l : Live s) (g : Good cfg s k)
    (hk : (∃ e ∈ evs, Ev.notData e = false) → k ≤ s.buf.length)
    (hs : evs.filter Ev.notData = List.replicate k (Ev.run .R) ++ List.replicate m (Ev.run .D))
    (hm : drainCost cfg s k ≤ m) :
    delivered (runEvs cfg s evs).trace = delivered s.trace ++ s.queue ++ msgsOf (s.buf.take k) ∧
    (runEvs cfg s evs).queue = [] ∧ (runEvs cfg s evs).buf = s.buf.drop k ++ framesOf evs ∧
    Live (runEvs cfg s evs) ∧ flags (runEvs cfg s evs) = flags s ∧ (runEvs cfg s evs).prog .D = .dispLoop := by
  obtain ⟨l', p', f'⟩ := sim_sched cfg evs s k m l g hk hs
  have hs' : (evs.map absEv).filter AEv.notData = List.replicate k AEv.r ++ List.replicate m AEv.d := by
    rw [filter_map_absEv, hs]; simp [absEv]
  have hk' : (∃ e ∈ evs.map absEv, AEv.notData e = false) → k ≤ (pipeOf s).buf.length := by
    rintro ⟨e, he, hd⟩
    obtain ⟨ev, hev, rfl⟩ := List.mem_map.mp he
    exact hk ⟨ev, hev, by rw [← notData_absEv]; exact hd⟩
  obtain ⟨a1, a2, a3, a4⟩ := arun_exact cfg.msgBeh (evs.map absEv) (pipeOf s) k m (pipeOf_ok l.dok) hs' hk' hm
  rw [← p'] at a1 a2 a3 a4
  rw [dataOf_map_absEv] at a3
  refine ⟨a1, a2, a3, l', f', ?_⟩
  have a5 : phaseOfProg ((runEvs cfg s evs).prog .D) = none := a4
  rcases l'.dok with ⟨_, h | ⟨n, j, h⟩⟩ | ⟨_, h, _⟩
  · exact h
  · rw [h] at a5; simp [phaseOfProg] at a5
  · exact h

/-! ### pull mode: no dispatcher; the consumer takes the messages with `receive_msg_nowait()` -/

structure RLive (s : St) : Prop where
  rst : s.status .R = .ready
  rpr : s.prog .R = .readerLoop
  rs : s.rStopped = false
  busy : s.rcvBusy = false
  vres : s.vres = none

/-- what the pull-mode lemmas report as untouched -/
def pflags (s : St) := (s.closed, s.dispSet, s.closingTask, s.qClosed, s.trace, s.gone)

theorem pull_runR {cfg : Cfg} {s : St} (l : RLive s) (hg : ∀ f ∈ s.buf.take 1, goodFrame f = true) :
    RLive (step cfg s (.run .R)) ∧ (step cfg s (.run .R)).buf = s.buf.drop 1 ∧
    (step cfg s (.run .R)).queue = s.queue ++ msgsOf (s.buf.take 1) ∧ pflags (step cfg s (.run .R)) = pflags s := by
  have hl : atLoop s := ⟨l.rst, l.rpr⟩
  cases hb : s.buf with
  | nil =>
    rw [poll_eq_nil cfg s hl l.rs hb]
    exact ⟨⟨l.rst, l.rpr, l.rs, l.busy, l.vres⟩, hb, by simp [msgsOf_nil], rfl⟩
  | cons f rest =>
    have hgf : goodFrame f = true := hg f (by simp [hb])
    cases f with
    | logout => simp [goodFrame] at hgf
    | bad => simp [goodFrame] at hgf
    | hb =>
      rw [poll_eq_hb cfg s hl l.rs hb]
      exact ⟨⟨l.rst, l.rpr, l.rs, l.busy, l.vres⟩, rfl, by simp [msgsOf], rfl⟩
    | msg n =>
      rw [poll_eq_msg cfg s hl l.rs hb, St.put_eq]
      exact ⟨⟨by simp [l.rst], l.rpr, l.rs, l.busy, l.vres⟩, rfl, by simp [msgsOf_cons_msg, msgsOf_nil], rfl⟩

theorem pull_reader (cfg : Cfg) : ∀ (k : Nat) (s : St), RLive s → (∀ f ∈ s.buf.take k, goodFrame f = true) →
    ∀ s', s' = runEvs cfg s (List.replicate k (.run .R)) →
    RLive s' ∧ s'.buf = s.buf.drop k ∧ s'.queue = s.queue ++ msgsOf (s.buf.take k) ∧ pflags s' = pflags s := by
  intro k
  induction k with
  | zero =>
    intro s l _ s' hs'
    rw [hs']
    exact ⟨l, by simp [runEvs], by simp [runEvs, msgsOf_nil], rfl⟩
  | succ k ih =>
    intro s l hg s' hs'
    obtain ⟨l1, b1, q1, f1⟩ := pull_runR (cfg := cfg) l (fun f hf => hg f ((List.take_prefix_take_left (by omega)).subset hf))
    rw [List.replicate_succ, runEvs_cons] at hs'
    obtain ⟨l2, b2, q2, f2⟩ := ih _ l1 (fun f hf => hg f (mem_take_succ_of_mem_take_drop (by rwa [b1] at hf))) s' hs'
    refine ⟨l2, ?_, ?_, by rw [f2, f1]⟩
    · rw [b2, b1, List.drop_drop, Nat.add_comm]
    · rw [q2, q1, b1, List.append_assoc, ← msgsOf_append, ← List.take_add, Nat.add_comm]

/-- with no dispatcher, `receive_msg_nowait()` called once per queued message returns the queued messages in order -/
theorem pull_nowait (cfg : Cfg) (u : Nat) : ∀ (q : List Nat) (s : St), s.queue = q → s.rcvBusy = false → s.vres = none →
    s.dispSet = false → ∀ s', s' = runEvs cfg s (List.replicate q.length (.callRecvNowait u)) →
    s'.trace = s.trace ++ q.map (fun n => Obs.ret u (.msg n)) ∧ s'.queue = [] ∧ s'.closed = s.closed := by
  intro q
  induction q with
  | nil =>
    intro s hq _ _ _ s' hs'
    rw [hs']
    simp [runEvs, hq]
  | cons n q ih =>
    intro s hq hb hv hd s' hs'
    have e : step cfg s (.callRecvNowait u) = ({ s with queue := q, gone := s.gone ++ [(n, true)] } : St).emit (.ret u (.msg n)) := by
      simp [step, hb, hv, hd, hq]
    rw [List.length_cons, List.replicate_succ, runEvs_cons, e] at hs'
    obtain ⟨t1, q1, c1⟩ := ih (({ s with queue := q, gone := s.gone ++ [(n, true)] } : St).emit (.ret u (.msg n))) rfl hb hv hd s' hs'
    refine ⟨?_, q1, c1⟩
    rw [t1]
    simp [St.emit]

end NasdaqModel.Sess
