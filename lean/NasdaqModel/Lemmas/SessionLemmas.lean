import NasdaqModel.Lemmas.SessionOps
/-
Invariants of the session machine, proved for every event sequence (`runEvs`).

`InvA` — the close bookkeeping: `closed`, the close stage, and the shape of the observable trace
(transport closed once, close callback entered once after it, exited once after that, no message callback
started once the transport is closed); the proof rule for `step` itself, for pre- and postconditions that read only that part
of the state (`step_H`).  The rules for the close body and for a step of the closer are in `SessionOps.lean`.
-/
namespace NasdaqModel.Sess

/-- phases: 0 open, 1 transport closed, 2 inside the close callback, 3 close callback returned; 9 = violation -/
def mon (p : Nat) (o : Obs) : Nat :=
  match o with
  | .tclose => if p = 0 then 1 else 9
  | .cbEnter => if p = 1 then 2 else 9
  | .cbExit => if p = 2 then 3 else 9
  | .msgEnter _ => if p = 0 then 0 else 9
  | _ => p

def monRun (l : List Obs) : Nat := l.foldl mon 0

theorem monRun_append (l : List Obs) (o : Obs) : monRun (l ++ [o]) = mon (monRun l) o := by
  simp [monRun, List.foldl_append]

def phaseOf (cfg : Cfg) : CStage → Nat
  | .idle => 0
  | .body _ _ _ => 0
  | .cb _ _ _ => 2
  | .aborted => 2
  | .finished => if cfg.hasCb then 3 else 1

structure InvA (cfg : Cfg) (s : St) : Prop where
  closed_iff : s.closed = true ↔ s.cstage ≠ .idle
  qclosed : s.cstage ≠ .idle → s.qClosed = true
  phase : monRun s.trace = phaseOf cfg s.cstage
  hascb : (∃ t k c, s.cstage = .cb t k c) → cfg.hasCb = true

/-- the part of the state `InvA` talks about -/
def core (s : St) : Bool × CStage × Bool × List Obs := (s.closed, s.cstage, s.qClosed, s.trace)

theorem InvA.of_core {cfg : Cfg} {s s' : St} (h : core s' = core s) (i : InvA cfg s) : InvA cfg s' := by
  simp only [core, Prod.mk.injEq] at h
  obtain ⟨h1, h2, h3, h4⟩ := h
  exact ⟨by rw [h1, h2]; exact i.closed_iff, by rw [h2, h3]; exact i.qclosed, by rw [h4, h2]; exact i.phase,
    by rw [h2]; exact i.hascb⟩

@[simp] theorem core_setStatus (s : St) (t : Tid) (x : Status) : core (s.setStatus t x) = core s := rfl
@[simp] theorem core_setProg (s : St) (t : Tid) (p : Prog) : core (s.setProg t p) = core s := rfl
@[simp] theorem core_spawn (s : St) (t : Tid) (p : Prog) : core (s.spawn t p) = core s := rfl
@[simp] theorem core_finish (s : St) (t : Tid) : core (s.finish t) = core s := rfl
theorem core_setImm (s : St) (x : Option Tid) : core { s with imm := x } = core s := rfl

theorem core_emit (s : St) (o : Obs) : core (s.emit o) = ((core s).1, (core s).2.1, (core s).2.2.1, (core s).2.2.2 ++ [o]) := rfl
theorem core_setCstage (s : St) (st : CStage) : core { s with cstage := st } = ((core s).1, st, (core s).2.2.1, (core s).2.2.2) := rfl

theorem closed_of_core {s s' : St} (h : core s' = core s) : s'.closed = s.closed := congrArg (·.1) h
theorem cstage_of_core {s s' : St} (h : core s' = core s) : s'.cstage = s.cstage := congrArg (·.2.1) h
theorem trace_of_core {s s' : St} (h : core s' = core s) : s'.trace = s.trace := congrArg (·.2.2.2) h

@[simp] theorem core_cancelTask (s : St) (t : Tid) : core (s.cancelTask t) = core s := by
  obtain ⟨f, h⟩ := cancelTask_eq s t
  rw [h]
  rfl

@[simp] theorem core_wakeGetter (s : St) (t : Tid) : core (s.wakeGetter t) = core s := by
  unfold St.wakeGetter
  split <;> rfl

@[simp] theorem core_put (s : St) (m : Nat) : core (s.put m) = core s := by
  unfold St.put
  rw [core_wakeGetter, core_wakeGetter]; rfl

@[simp] theorem core_initiateClose (s : St) : core s.initiateClose = core s := by
  unfold St.initiateClose
  split <;> rfl

@[simp] theorem core_startDispatching (s : St) (cfg : Cfg) : core (s.startDispatching cfg) = core s := by
  unfold St.startDispatching
  split <;> rfl

@[simp] theorem core_startHeartbeats (s : St) : core s.startHeartbeats = core s := by
  unfold St.startHeartbeats
  rw [core_spawn, core_spawn]
  rfl

/-- emitting an observable that the monitor ignores -/
def neutral (o : Obs) : Bool :=
  match o with
  | .tclose => false | .cbEnter => false | .cbExit => false | .msgEnter _ => false
  | _ => true

theorem mon_neutral {o : Obs} (h : neutral o = true) (p : Nat) : mon p o = p := by
  cases o <;> simp_all [neutral, mon]

theorem InvA.emit_neutral {cfg : Cfg} {s : St} (i : InvA cfg s) {o : Obs} (h : neutral o = true) :
    InvA cfg (s.emit o) :=
  ⟨i.closed_iff, i.qclosed, by
    show monRun (s.trace ++ [o]) = _
    rw [monRun_append, mon_neutral h]; exact i.phase, i.hascb⟩

theorem core_runCont (s : St) (t : Tid) (c : Cont) :
    core (runCont s t c) = core s ∨ ∃ o, neutral o = true ∧ core (runCont s t c) = core (s.emit o) := by
  cases c with
  | readerTail => exact Or.inl ((core_setProg _ _ _).trans (core_setStatus _ _ _))
  | handlerTail n =>
    exact Or.inr ⟨.msgExit n, rfl, (core_setImm _ _).trans ((core_setProg _ _ _).trans (core_setStatus _ _ _))⟩
  | monitorTail => exact Or.inl (core_finish s t)
  | closingTail => exact Or.inl (core_finish s t)
  | userTail u r => exact Or.inr ⟨.ret u r.toRes, rfl, core_finish _ t⟩

theorem runCont_closed (s : St) (t : Tid) (c : Cont) : (runCont s t c).closed = s.closed := by
  rcases core_runCont s t c with h | ⟨o, _, h⟩
  · exact closed_of_core h
  · exact closed_of_core (s := s.emit o) h

theorem runCont_cstage (s : St) (t : Tid) (c : Cont) : (runCont s t c).cstage = s.cstage := by
  rcases core_runCont s t c with h | ⟨o, _, h⟩
  · exact cstage_of_core h
  · exact cstage_of_core (s := s.emit o) h

theorem InvA.runCont {cfg : Cfg} {s : St} (i : InvA cfg s) (t : Tid) (c : Cont) : InvA cfg (runCont s t c) := by
  rcases core_runCont s t c with h | ⟨o, hn, h⟩
  · exact InvA.of_core h i
  · exact InvA.of_core h (i.emit_neutral hn)

theorem core_suspendOn (s : St) (t x : Tid) (pc : Nat) (c : Cont) :
    core (suspendOn s t x pc c) = (s.closed, .body t (pc + 1) c, s.qClosed, s.trace) := by
  obtain ⟨f, h⟩ := cancelTask_eq s x
  unfold suspendOn
  rw [h]
  rfl

theorem core_closeTail (cfg : Cfg) (s : St) (t : Tid) (c : Cont) :
    ∃ st l, core (closeTail cfg s t c) = (s.closed, st, s.qClosed, s.trace ++ l) := by
  have hr : ∀ (s' : St) (st : CStage) (l : List Obs), core s' = (s.closed, st, s.qClosed, s.trace ++ l) →
      ∃ st l, core (runCont s' t c) = (s.closed, st, s.qClosed, s.trace ++ l) := by
    intro s' st l h
    rcases core_runCont s' t c with e | ⟨o, _, e⟩
    · exact ⟨st, l, e.trans h⟩
    · refine ⟨st, l ++ [o], e.trans ?_⟩
      simp only [core_emit, h, List.append_assoc]
  unfold closeTail
  simp only
  split
  · apply hr _ .finished [.tclose]
    rw [core_setCstage, core_emit]
    rfl
  · split
    · rename_i k _
      refine ⟨.cb t k c, [.tclose, .cbEnter], ?_⟩
      rw [core_setCstage, core_setProg, core_setStatus, core_emit, core_emit]
      simp only [List.append_assoc, List.cons_append, List.nil_append]
      rfl
    · apply hr _ .finished [.tclose, .cbEnter, .cbExit]
      rw [core_setCstage, core_emit, core_emit, core_emit]
      simp only [List.append_assoc, List.cons_append, List.nil_append]
      rfl

/-- what `execClose` needs of the state it starts from: the body is in progress, nothing of the
    closing sequence is in the trace yet -/
structure PreClose (s : St) (t : Tid) (c : Cont) : Prop where
  closed : s.closed = true
  stage : ∃ pc, s.cstage = .body t pc c
  phase0 : monRun s.trace = 0
  qclosed : s.qClosed = true

theorem PreClose.of_core {s s' : St} {t : Tid} {c : Cont} (h : core s' = core s) (p : PreClose s t c) : PreClose s' t c := by
  simp only [core, Prod.mk.injEq] at h
  obtain ⟨h1, h2, h3, h4⟩ := h
  exact ⟨by rw [h1]; exact p.closed, by rw [h2]; exact p.stage, by rw [h4]; exact p.phase0, by rw [h3]; exact p.qclosed⟩

theorem InvA.of_closed_core {cfg : Cfg} {s' : St} {b q : Bool} {st : CStage} {tr : List Obs} (hc : core s' = (b, st, q, tr))
    (hb : b = true) (hq : q = true) (hne : st ≠ .idle) (hph : monRun tr = phaseOf cfg st)
    (hcb : ∀ t k c, st = .cb t k c → cfg.hasCb = true) : InvA cfg s' := by
  simp only [core, Prod.mk.injEq] at hc
  obtain ⟨h1, h2, h3, h4⟩ := hc
  refine ⟨?_, ?_, ?_, ?_⟩
  · rw [h1, h2, hb]; exact iff_of_true rfl hne
  · rw [h3]; exact fun _ => hq
  · rw [h4, h2]; exact hph
  · rw [h2]; rintro ⟨t, k, c, e⟩; exact hcb t k c e

theorem closeTail_InvA {cfg : Cfg} {s : St} {t : Tid} {c : Cont} (p : PreClose s t c) : InvA cfg (closeTail cfg s t c) := by
  have ph1 : monRun (s.trace ++ [.tclose]) = 1 := by rw [monRun_append, p.phase0]; rfl
  have ph2 : monRun (s.trace ++ [.tclose] ++ [.cbEnter]) = 2 := by rw [monRun_append, ph1]; rfl
  unfold closeTail
  simp only
  split
  · rename_i hcb
    have hcb' : cfg.hasCb = false := by simpa using hcb
    apply InvA.runCont
    refine InvA.of_closed_core (st := .finished) (tr := s.trace ++ [.tclose]) ?_ p.closed p.qclosed (by simp) ?_ (by simp)
    · rw [core_setCstage, core_emit]
      rfl
    · rw [ph1]; simp [phaseOf, hcb']
  · rename_i hcb
    have hcb' : cfg.hasCb = true := by simpa using hcb
    split
    · rename_i k _
      refine InvA.of_closed_core (st := .cb t k c) (tr := s.trace ++ [.tclose] ++ [.cbEnter]) ?_ p.closed p.qclosed (by simp) ?_
        (fun _ _ _ _ => hcb')
      · rw [core_setCstage, core_setProg, core_setStatus, core_emit, core_emit]
        rfl
      · rw [ph2]; rfl
    · apply InvA.runCont
      refine InvA.of_closed_core (st := .finished) (tr := s.trace ++ [.tclose] ++ [.cbEnter] ++ [.cbExit]) ?_ p.closed p.qclosed
        (by simp) ?_ (by simp)
      · rw [core_setCstage, core_emit, core_emit, core_emit]
        rfl
      · rw [monRun_append, ph2]; simp [phaseOf, hcb', mon]

theorem execClose_InvA (cfg : Cfg) (t : Tid) (c : Cont) (pc : Nat) (s : St) (p : PreClose s t c) :
    InvA cfg (execClose cfg s t c pc) := by
  refine execClose_rule cfg t c (fun s => PreClose s t c) (InvA cfg) ?_ ?_ ?_ ?_ pc s p
  · intro s p; exact ⟨p.closed, p.stage, p.phase0, p.qclosed⟩
  · intro s p; exact ⟨p.closed, p.stage, p.phase0, p.qclosed⟩
  · intro s x pc p _ _ _
    exact InvA.of_closed_core (core_suspendOn s t x pc c) p.closed p.qclosed (by simp) p.phase0 (by simp)
  · intro s p; exact closeTail_InvA p

theorem idle_of_open {cfg : Cfg} {s : St} (a : InvA cfg s) (hc : s.closed = false) : s.cstage = .idle := by
  by_cases h : s.cstage = .idle
  · exact h
  · have := a.closed_iff.mpr h; rw [hc] at this; contradiction

/-- the queue is stopped in the step that sets `_closed`: an open queue means an open session, no close in progress -/
theorem open_of_not_qClosed {cfg : Cfg} {s : St} (a : InvA cfg s) (hq : s.qClosed = false) :
    s.cstage = .idle ∧ s.closed = false := by
  have hidle : s.cstage = .idle := by
    by_cases h : s.cstage = .idle
    · exact h
    · have := a.qclosed h; rw [hq] at this; contradiction
  refine ⟨hidle, ?_⟩
  cases hc : s.closed with
  | false => rfl
  | true => exact absurd hidle (a.closed_iff.mp hc)

theorem enterClose_InvA {cfg : Cfg} {s : St} (i : InvA cfg s) (t : Tid) (c : Cont) :
    InvA cfg (enterClose cfg s t c) := by
  unfold enterClose
  split
  · exact i.runCont t c
  · rename_i hc
    have hidle := idle_of_open i (by simpa using hc)
    apply execClose_InvA
    exact ⟨rfl, ⟨0, rfl⟩, by show monRun s.trace = 0; rw [i.phase, hidle]; rfl, rfl⟩

theorem stepInClose_InvA {cfg : Cfg} {s : St} (i : InvA cfg s) (t : Tid) (b : Bool) :
    InvA cfg (stepInClose cfg s t b) := by
  have closed : ∀ {st}, s.cstage = st → st ≠ .idle → s.closed = true ∧ s.qClosed = true ∧ monRun s.trace = phaseOf cfg st := by
    intro st hs hne
    have hne' : s.cstage ≠ .idle := by rw [hs]; exact hne
    exact ⟨i.closed_iff.mpr hne', i.qclosed hne', by rw [i.phase, hs]⟩
  refine stepInClose_rule cfg s t b (InvA cfg) i ?_ ?_ ?_ ?_ ?_
  · intro pc c hs
    obtain ⟨hcl, hq, hph⟩ := closed hs (by simp)
    unfold resumeClose
    apply execClose_InvA
    split
    · exact ⟨hcl, ⟨pc, hs⟩, hph, hq⟩
    · exact ⟨hcl, ⟨pc, hs⟩, hph, hq⟩
  · intro k u r hs _
    obtain ⟨hcl, hq, hph⟩ := closed hs (by simp)
    refine InvA.of_closed_core (st := .aborted) (tr := s.trace ++ [.ret u .cancelled]) (core_finish _ _) hcl hq (by simp) ?_ (by simp)
    rw [monRun_append, hph]; rfl
  · intro k c hs _ _
    obtain ⟨hcl, hq, hph⟩ := closed hs (by simp)
    exact InvA.of_closed_core (st := .aborted) (tr := s.trace) (core_finish _ _) hcl hq (by simp) hph (by simp)
  · intro c hs _
    obtain ⟨hcl, hq, hph⟩ := closed hs (by simp)
    have hcb : cfg.hasCb = true := i.hascb ⟨t, 0, c, hs⟩
    apply InvA.runCont
    refine InvA.of_closed_core (st := .finished) (tr := s.trace ++ [.cbExit]) rfl hcl hq (by simp) ?_ (by simp)
    rw [monRun_append, hph]; simp [phaseOf, hcb, mon]
  · intro k c hs _
    obtain ⟨hcl, hq, hph⟩ := closed hs (by simp)
    exact InvA.of_closed_core (st := .cb t k c) (tr := s.trace) rfl hcl hq (by simp) hph (fun _ _ _ _ => i.hascb ⟨t, k + 1, c, hs⟩)

theorem InvA.of_core_emit {cfg : Cfg} {s s' : St} {o : Obs}
    (h : core s' = (s.closed, s.cstage, s.qClosed, s.trace ++ [o])) (hn : neutral o = true) (i : InvA cfg s) :
    InvA cfg s' :=
  InvA.of_core (s := s.emit o) h (i.emit_neutral hn)

theorem InvA.emit_msgEnter {cfg : Cfg} {s : St} (i : InvA cfg s) (hq : s.qClosed = false) (n : Nat) :
    InvA cfg (s.emit (.msgEnter n)) := by
  have hidle := (open_of_not_qClosed i hq).1
  refine ⟨i.closed_iff, i.qclosed, ?_, i.hascb⟩
  show monRun (s.trace ++ [.msgEnter n]) = phaseOf cfg s.cstage
  rw [monRun_append, i.phase, hidle]; rfl

/-- `P` before, `Q` after one `step` by an event that is not `run t` for a task outside `ok`.  Both read only the core and are
    kept by whatever leaves the core alone; the close body is the only part of `step` that has to be looked at. -/
structure CoreHoare (cfg : Cfg) (ok : Tid → Prop) (P Q : St → Prop) : Prop where
  of_core : ∀ {s s' : St}, core s' = core s → P s → P s'
  emit_neutral : ∀ {s : St} {o : Obs}, neutral o = true → P s → P (s.emit o)
  emit_msgEnter : ∀ (s : St) (n : Nat), s.qClosed = false → P s → P (s.emit (.msgEnter n))
  weaken : ∀ {s : St}, P s → Q s
  enterClose' : ∀ {s : St}, P s → ∀ (t : Tid) (c : Cont), Q (enterClose cfg s t c)
  stepInClose' : ∀ {s : St}, P s → ∀ (t : Tid) (b : Bool), ok t → Q (stepInClose cfg s t b)

namespace CoreHoare
variable {cfg : Cfg} {ok : Tid → Prop} {P Q : St → Prop}

theorem same (h : CoreHoare cfg ok P Q) {s s' : St} (hc : core s' = core s) (i : P s) : Q s' :=
  h.weaken (h.of_core hc i)

theorem pre_emit (h : CoreHoare cfg ok P Q) {s s' : St} {o : Obs} (hc : core s' = core (s.emit o)) (hn : neutral o = true)
    (i : P s) : P s' :=
  h.of_core hc (h.emit_neutral hn i)

theorem emit (h : CoreHoare cfg ok P Q) {s s' : St} {o : Obs} (hc : core s' = core (s.emit o)) (hn : neutral o = true)
    (i : P s) : Q s' :=
  h.weaken (h.pre_emit hc hn i)

end CoreHoare

section
variable {cfg : Cfg} {ok : Tid → Prop} {P Q : St → Prop}

theorem stepReader_H (h : CoreHoare cfg ok P Q) {s : St} (i : P s) : Q (stepReader cfg s) := by
  unfold stepReader
  split
  · exact h.same (core_finish s .R) i
  · split
    · exact h.weaken i
    · rename_i f rest _
      have i1 : P { s with buf := rest, consumed := s.consumed ++ [f] } := h.of_core (s := s) rfl i
      cases f with
      | msg n => exact h.same (core_put _ n) (h.of_core (s := s) rfl i)
      | hb => exact h.weaken i1
      | logout => exact h.enterClose' i1 _ _
      | bad => exact h.enterClose' i1 _ _

theorem dispHandle_H (h : CoreHoare cfg ok P Q) {s : St} (i : P s) (n : Nat) : Q (dispHandle cfg s n) := by
  unfold dispHandle
  split
  · exact h.emit (o := .msgExit n) rfl rfl i
  · exact h.same (core_setProg s _ _) i
  · exact h.enterClose' i _ _
  · exact h.emit (s := s.initiateClose) (o := .msgExit n) rfl rfl (h.of_core (core_initiateClose s) i)
  · exact h.emit (o := .msgRaise n) rfl rfl i
  · have i1 : P (s.emit (.write .reply)).startHeartbeats := h.pre_emit (core_startHeartbeats _) rfl i
    exact h.emit (s := (s.emit (.write .reply)).startHeartbeats) (o := .msgExit n) rfl rfl i1
  · exact h.enterClose' (h.emit_neutral rfl i) _ _

theorem stepDisp_H (h : CoreHoare cfg ok P Q) {s : St} (i : P s) : Q (stepDisp cfg s) := by
  unfold stepDisp
  split
  · exact h.same (core_finish s .D) i
  · rename_i hq
    have hq' : s.qClosed = false := by simpa using hq
    split
    · exact h.weaken i
    · split
      · exact h.same (core_setStatus s _ _) i
      · apply dispHandle_H h
        exact h.of_core (s := s.emit (.msgEnter _)) rfl (h.emit_msgEnter _ _ hq' i)

theorem stepMon_H (h : CoreHoare cfg ok P Q) {s : St} (i : P s) (b : Bool) : Q (stepMon cfg s b) := by
  unfold stepMon
  split
  · split
    · exact h.same (s := s) rfl i
    · exact h.weaken (h.emit_neutral rfl i)
  · split
    · exact h.same (s := s) rfl i
    · exact h.enterClose' i _ _

theorem loginResume_H (h : CoreHoare cfg ok P Q) {s : St} (i : P s) (t : Tid) (u : Nat) :
    Q (loginResume cfg s t u) := by
  unfold loginResume
  split
  · rename_i n _
    have i1 : P (({ s with vres := none, rcvBusy := false, gone := s.gone ++ [(n, true)] } : St).emit (.loginReply n)) :=
      h.pre_emit (s := s) rfl rfl i
    simp only
    split
    · have i2 := h.of_core (core_startDispatching _ cfg) (h.of_core (core_startHeartbeats _) i1)
      exact h.same (core_finish _ _) (h.emit_neutral (o := .ret u .ok) rfl i2)
    · exact h.enterClose' i1 _ _
  · split
    · exact h.emit (s := s) (o := .ret u .refused) rfl rfl i
    · apply h.enterClose'
      exact h.of_core (s := s) rfl i

theorem stepRun_H (h : CoreHoare cfg ok P Q) {s : St} (i : P s) (t : Tid) (hok : ok t) : Q (stepRun cfg s t) := by
  unfold stepRun
  have i0 : P { s with imm := none } := h.of_core (s := s) rfl i
  generalize ({ s with imm := none } : St) = s0 at i0
  simp only
  split
  · -- cancelled
    split
    · exact h.emit (s := s0) (o := .msgAbandon _) (core_finish _ _) rfl i0
    · exact h.same (core_finish s0 t) i0
    · rename_i u _
      split
      · exact h.emit (o := .ret u .eoq) rfl rfl i0
      · exact h.emit (s := s0) (o := .ret u .cancelled) (core_finish _ _) rfl i0
    · rename_i u _
      split
      · exact h.emit (s := s0) (o := .ret u .refused) (core_finish _ _) rfl i0
      · apply h.enterClose'
        exact h.of_core (s := s0) rfl i0
    · exact h.stepInClose' i0 _ _ hok
    · exact h.same (core_finish s0 t) i0
  · -- ready
    split
    · split
      · exact stepReader_H h i0
      · exact h.weaken i0
    · split
      · exact stepDisp_H h i0
      · exact h.weaken i0
    · rename_i n _ _
      split
      · exact h.emit (o := .msgExit n) rfl rfl i0
      · exact h.same (core_setProg s0 _ _) i0
    · exact h.same (core_setProg s0 _ _) i0
    · split
      · exact stepMon_H h i0 _
      · split
        · exact stepMon_H h i0 _
        · exact h.weaken i0
    · exact h.enterClose' i0 _ _
    · exact h.stepInClose' i0 _ _ hok
    · split
      · exact h.same (core_setStatus s0 _ _) i0
      · split
        · exact h.weaken i0
        · exact h.same (s := s0) rfl i0
    · rename_i u _
      split
      · rename_i n _
        exact h.emit (s := s0) (o := .ret u (.msg n)) (core_finish _ _) rfl i0
      · split
        · exact h.emit (o := .ret u .eoq) rfl rfl i0
        · exact h.emit (s := s0) (o := .ret u .cancelled) (core_finish _ _) rfl i0
    · exact loginResume_H h i0 _ _
    · exact h.weaken i0
  · exact h.weaken i0

theorem startRecv_H (h : CoreHoare cfg ok P Q) {s : St} (i : P s) (u : Nat) (b : Bool) : Q (startRecv s u b) := by
  unfold startRecv
  split
  · exact h.weaken i
  · split
    · exact h.emit (o := .ret u .state) (core_setStatus _ _ _) rfl i
    · split
      · exact h.same ((core_setProg _ _ _).trans (core_setStatus _ _ _)) (h.of_core (s := s) rfl i)
      · split
        · split
          · exact h.emit (o := .ret u .refused) (core_setStatus _ _ _) rfl i
          · exact h.emit (o := .ret u .eoq) (core_setStatus _ _ _) rfl i
        · have i1 : P (({ s with rcvBusy := true } : St).spawn .V .vget) := h.of_core (core_spawn _ _ _) (h.of_core (s := s) rfl i)
          exact h.same ((core_setProg _ _ _).trans (core_setStatus _ _ _)) i1

/-- **Proof rule for `step`**, for pre- and postconditions that read only the core. -/
theorem step_H (h : CoreHoare cfg ok P Q) {s : St} (i : P s) (ev : Ev) (hev : ∀ t, ev = .run t → ok t) :
    Q (step cfg s ev) := by
  cases ev with
  | connect =>
    simp only [step]
    split
    · exact h.weaken i
    · split
      · exact h.same (core_startDispatching _ _) (h.of_core (core_spawn s _ _) i)
      · exact h.same (core_spawn s _ _) i
  | data fs => exact h.same (s := s) rfl i
  | eof => exact h.same (core_initiateClose s) i
  | run t =>
    simp only [step]
    split
    · exact stepRun_H h i t (hev t rfl)
    · exact h.weaken i
  | callClose u =>
    simp only [step]
    split
    · exact h.weaken i
    · apply h.enterClose'
      exact h.of_core (s := s) rfl i
  | callInitiateClose => exact h.same (core_initiateClose s) i
  | callLogout =>
    have i1 : P ({ (s.emit (.write .logout)) with pingL := true }) := h.pre_emit rfl rfl i
    exact h.same (core_initiateClose _) i1
  | callRecv u =>
    simp only [step]
    split
    · exact h.weaken i
    · exact startRecv_H h i u false
  | callRecvNowait u =>
    simp only [step]
    split
    · exact h.weaken i
    · split
      · exact h.weaken (h.emit_neutral rfl i)
      · split
        · rename_i n _ _
          exact h.emit (s := s) (o := .ret u (.msg n)) rfl rfl i
        · split
          · exact h.weaken (h.emit_neutral rfl i)
          · exact h.weaken (h.emit_neutral rfl i)
  | callLogin u =>
    simp only [step]
    split
    · exact h.weaken i
    · have i1 : P ({ (s.emit (.write .login)) with pingL := true }) := h.pre_emit rfl rfl i
      exact startRecv_H h i1 u true
  | callSend => exact h.emit (o := .write .data) rfl rfl i
  | cancel u => exact h.same (core_cancelTask s _) i

theorem step_inv {J : St → Prop} (h : CoreHoare cfg (fun _ => True) J J) {s : St} (i : J s) (ev : Ev) : J (step cfg s ev) :=
  step_H h i ev (fun _ _ => trivial)

end

theorem InvA.coreHoare (cfg : Cfg) : CoreHoare cfg (fun _ => True) (InvA cfg) (InvA cfg) where
  of_core := InvA.of_core
  emit_neutral := fun hn i => i.emit_neutral hn
  emit_msgEnter := fun _ n hq i => i.emit_msgEnter hq n
  weaken := id
  enterClose' := fun i t c => enterClose_InvA i t c
  stepInClose' := fun i t b _ => stepInClose_InvA i t b

theorem step_InvA {cfg : Cfg} {s : St} (i : InvA cfg s) (ev : Ev) : InvA cfg (step cfg s ev) :=
  step_inv (InvA.coreHoare cfg) i ev

theorem runEvs_snoc (cfg : Cfg) (s : St) (evs : List Ev) (ev : Ev) : runEvs cfg s (evs ++ [ev]) = step cfg (runEvs cfg s evs) ev := by
  simp [runEvs, List.foldl_append]

theorem InvA.init (cfg : Cfg) : InvA cfg {} :=
  ⟨by simp, by simp, rfl, by simp⟩

theorem runEvs_InvA (cfg : Cfg) (evs : List Ev) : InvA cfg (runEvs cfg {} evs) := by
  have : ∀ (s : St), InvA cfg s → InvA cfg (runEvs cfg s evs) := by
    induction evs with
    | nil => intro s i; exact i
    | cons ev evs ih => intro s i; exact ih _ (step_InvA i ev)
  exact this _ (InvA.init cfg)

end NasdaqModel.Sess
