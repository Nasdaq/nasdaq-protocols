import NasdaqModel.Model.SyncFacade
/-
Lemmas about the C20 transition system: list update algebra, induction over runs, the basic invariant
(global flags as a function of the close procedure's program counter, lock discipline, pc/job consistency).
`CallerStep` lists the statements a caller thread can execute (`callerStep_spec`), `JobStep` says what running a submitted
coroutine does (`stepJob_spec`): the invariants of this and the following files never unfold `callerStep` or `stepJob` again.
`LoopStep` is what any step of the loop thread or the peer does to callers, lock and flags (`step_loop`); it carries `Inv1`, `Inv2`,
the lock-owner invariant and monotonicity.  The measure and the third invariant need the queue, the `_recv_task` slot and the peer
script as well, and go through `stepClose`, `stepStop`, `stepPeer` once more each (SyncFacadeMeasure, SyncFacadeProgress).
-/
namespace NasdaqModel.SyncFacade

@[simp] theorem length_updAt (l : List Caller) (i : Nat) (f : Caller → Caller) : (updAt l i f).length = l.length := by
  induction l generalizing i with
  | nil => simp [updAt]
  | cons c cs ih => cases i <;> simp [updAt, ih]

theorem getElem?_updAt (l : List Caller) (i j : Nat) (f : Caller → Caller) :
    (updAt l i f)[j]? = if j = i then (l[j]?).map f else l[j]? := by
  induction l generalizing i j with
  | nil => simp [updAt]
  | cons c cs ih =>
    cases i with
    | zero => cases j <;> simp [updAt]
    | succ i => cases j <;> simp [updAt, ih]

theorem getElem?_updAt_self (l : List Caller) (i : Nat) (f : Caller → Caller) :
    (updAt l i f)[i]? = (l[i]?).map f := by simp [getElem?_updAt]

theorem getElem?_updAt_ne (l : List Caller) {i j : Nat} (f : Caller → Caller) (h : j ≠ i) :
    (updAt l i f)[j]? = l[j]? := by simp [getElem?_updAt, h]

def Reachable (cfg : Cfg) (s : St) : Prop := ∃ ls, exec (init cfg) ls = some s

theorem exec_cons (s : St) (l : Label) (ls : List Label) :
    exec s (l :: ls) = (step s l).bind fun s' => exec s' ls := by
  simp only [exec]; cases step s l <;> rfl

theorem exec_append (s : St) (xs ys : List Label) :
    exec s (xs ++ ys) = (exec s xs).bind fun s' => exec s' ys := by
  induction xs generalizing s with
  | nil => simp [exec]
  | cons l ls ih =>
    simp only [List.cons_append, exec]
    cases step s l with
    | none => simp
    | some s' => simp [ih]

theorem exec_invariant (P : St → Prop) (hstep : ∀ s l s', P s → step s l = some s' → P s') :
    ∀ ls s0 s, P s0 → exec s0 ls = some s → P s := by
  intro ls
  induction ls with
  | nil => intro s0 s h0 h; simp [exec] at h; exact h ▸ h0
  | cons l ls ih =>
    intro s0 s h0 h
    simp only [exec] at h
    cases hs : step s0 l with
    | none => simp [hs] at h
    | some s1 => simp only [hs] at h; exact ih s1 s (hstep s0 l s1 h0 hs) h

theorem reachable_invariant (P : St → Prop) (cfg : Cfg) (h0 : P (init cfg))
    (hstep : ∀ s l s', P s → step s l = some s' → P s') : ∀ s, Reachable cfg s → P s := by
  intro s ⟨ls, h⟩
  exact exec_invariant P hstep ls _ s h0 h

theorem execOk_exec {s s' : St} {ls : List Label} (h : execOk s ls = some s') : exec s ls = some s' := by
  induction ls generalizing s with
  | nil => simpa [execOk, exec] using h
  | cons l ls ih =>
    simp only [execOk] at h
    split at h
    · cases hs : step s l with
      | none => simp [hs] at h
      | some s1 => simp only [hs] at h; simp [exec, hs, ih h]
    · simp at h

theorem execOk_invariant (P : St → Prop)
    (hstep : ∀ s l s', P s → okStep s l = true → step s l = some s' → P s') :
    ∀ ls s0 s, P s0 → execOk s0 ls = some s → P s := by
  intro ls
  induction ls with
  | nil => intro s0 s h0 h; simp [execOk] at h; exact h ▸ h0
  | cons l ls ih =>
    intro s0 s h0 h
    simp only [execOk] at h
    split at h
    · rename_i hok
      cases hs : step s0 l with
      | none => simp [hs] at h
      | some s1 => simp only [hs] at h; exact ih s1 s (hstep s0 l s1 h0 hok hs) h
    · simp at h

/-- the fields of a caller that only the caller itself changes -/
def Caller.own (c : Caller) : List Op × Pc × List (Op × Outcome) := (c.prog, c.pc, c.hist)

@[simp] theorem own_setJob (j : Job) (c : Caller) : (setJob j c).own = c.own := rfl
@[simp] theorem own_resolveBlocked (o : Outcome) (c : Caller) : (resolveBlocked o c).own = c.own := by
  unfold resolveBlocked; split <;> rfl

theorem stepCaller_spec {s s' : St} {i : Nat} (h : stepCaller s i = some s') :
    ∃ c c' lk, s.callers[i]? = some c ∧ callerStep s.lock s.closedEvent s.loopAlive i c = some (c', lk) ∧
      s' = { s with callers := updAt s.callers i (fun _ => c'), lock := lk } := by
  unfold stepCaller at h
  split at h
  · simp at h
  · rename_i c hc
    split at h
    · simp at h
    · rename_i c' lk hcs
      exact ⟨c, c', lk, hc, hcs, by simpa using h.symm⟩

def Op.entry : Op → Pc
  | .recv | .execTimed => .chk2
  | .send | .sendUnseq => .chk1
  | .close | .logout => .acq

/-- statements that only move the program counter -/
inductive Goto (evt alive : Bool) (op : Op) : Pc → Pc → Prop
  | enter : Goto evt alive op .idle op.entry
  | evtSet : evt = true → Goto evt alive op .chkEvt .rel
  | evtClear : evt = false → Goto evt alive op .chkEvt .chk1
  | active1 : alive = true → Goto evt alive op .chk1 .chk2
  | active2 : alive = true → Goto evt alive op .chk2 .submit
  | swallow1 : alive = false → op.isClose = true → Goto evt alive op .chk1 .rel
  | swallow2 : alive = false → op.isClose = true → Goto evt alive op .chk2 .rel
  | evtSeen : evt = true → Goto evt alive op .waitEvt .join

/-- statements at which a call of `op` returns or raises, with the outcome -/
inductive Returns (alive : Bool) (op : Op) (job : Job) : Pc → Outcome → Prop
  | inactive1 : alive = false → op.isClose = false → Returns alive op job .chk1 .state
  | inactive2 : alive = false → op.isClose = false → Returns alive op job .chk2 .state
  | expired : op = .execTimed → Returns alive op job .wait .timeout
  | result {o} : op ≠ .execTimed → op.isClose = false → job = .done o → Returns alive op job .wait o
  | gone : op ≠ .execTimed → op.isClose = false → (∀ o, job ≠ .done o) → alive = false → Returns alive op job .wait .state
  | joined : alive = false → Returns alive op job .join .ok

/-- the statements of `callerStep`, as a relation between the caller record and lock owner before and after:
a jump, `with self.close_lock:` entered and left, the coroutine handed to the loop, `_shutdown` going on to the end of its
`with` block (the close coroutine has finished, or its StateError is swallowed), the call returning or raising -/
inductive CallerStep (lock : Option Tid) (evt alive : Bool) (i : Nat) (c : Caller) : Caller → Option Tid → Prop
  | goto {op rest pc'} : c.prog = op :: rest → Goto evt alive op c.pc pc' → CallerStep lock evt alive i c { c with pc := pc' } lock
  | acquire {op rest} : c.prog = op :: rest → c.pc = .acq → lock = none →
      CallerStep lock evt alive i c { c with pc := .chkEvt } (some (.caller i))
  | release {op rest} : c.prog = op :: rest → c.pc = .rel → CallerStep lock evt alive i c { c with pc := .waitEvt } none
  | submit {op rest} : c.prog = op :: rest → c.pc = .submit →
      CallerStep lock evt alive i c { c with pc := .wait, job := .submitted op.jobKind } lock
  | swallow {op rest} : c.prog = op :: rest → c.pc = .wait → op.isClose = true → ((∃ o, c.job = .done o) ∨ alive = false) →
      CallerStep lock evt alive i c { c with pc := .rel, job := .none } lock
  | ret {op rest o} : c.prog = op :: rest → Returns alive op c.job c.pc o → CallerStep lock evt alive i c (finish c op o) lock

theorem callerStep_spec {lock : Option Tid} {evt alive : Bool} {i : Nat} {c c' : Caller} {lk : Option Tid}
    (h : callerStep lock evt alive i c = some (c', lk)) : CallerStep lock evt alive i c c' lk := by
  unfold callerStep at h
  split at h
  · cases h
  · rename_i op rest hp
    split at h <;> rename_i hpc
    · have hg : Goto evt alive op c.pc op.entry := hpc ▸ .enter
      cases op <;> cases h <;> exact .goto hp hg
    · split at h
      · cases h; exact .acquire hp hpc rfl
      · cases h
    · split at h <;> rename_i he <;> cases h
      · exact .goto hp (hpc ▸ .evtSet he)
      · exact .goto hp (hpc ▸ .evtClear (by simpa using he))
    · split at h <;> rename_i ha
      · cases h; exact .goto hp (hpc ▸ .active1 ha)
      · have ha : alive = false := by simpa using ha
        split at h <;> rename_i hc <;> cases h
        · exact .goto hp (hpc ▸ .swallow1 ha hc)
        · exact .ret hp (hpc ▸ .inactive1 ha (by simpa using hc))
    · split at h <;> rename_i ha
      · cases h; exact .goto hp (hpc ▸ .active2 ha)
      · have ha : alive = false := by simpa using ha
        split at h <;> rename_i hc <;> cases h
        · exact .goto hp (hpc ▸ .swallow2 ha hc)
        · exact .ret hp (hpc ▸ .inactive2 ha (by simpa using hc))
    · cases h; exact .submit hp hpc
    · split at h
      · cases h; exact .ret hp (hpc ▸ .expired rfl)
      · rename_i hne
        have hne : op ≠ .execTimed := fun e => hne e
        split at h
        · rename_i o hj
          split at h <;> rename_i hc <;> cases h
          · exact .swallow hp hpc hc (.inl ⟨o, hj⟩)
          · exact .ret hp (hpc ▸ .result hne (by simpa using hc) hj)
        · rename_i hnd
          split at h
          · cases h
          · rename_i ha
            have ha : alive = false := by simpa using ha
            split at h <;> rename_i hc <;> cases h
            · exact .swallow hp hpc hc (.inr ha)
            · exact .ret hp (hpc ▸ .gone hne (by simpa using hc) (fun o e => hnd o e) ha)
    · cases h; exact .release hp hpc
    · split at h <;> rename_i he <;> cases h
      exact .goto hp (hpc ▸ .evtSeen he)
    · split at h <;> rename_i ha <;> cases h
      exact .ret hp (hpc ▸ .joined (by simpa using ha))

/-- the caller is between acquiring and releasing `close_lock` -/
def critPc (c : Caller) : Bool :=
  match c.pc with
  | .chkEvt | .rel => true
  | .chk1 | .chk2 | .submit | .wait =>
    match c.prog with
    | op :: _ => op.isClose
    | [] => false
  | _ => false

def pcOk (c : Caller) : Bool :=
  match c.prog with
  | [] => c.pc == .idle
  | op :: _ =>
    match c.pc with
    | .idle => true
    | .acq | .chkEvt | .rel | .waitEvt | .join => op.isClose
    | .chk1 => op == .send || op == .sendUnseq || op.isClose
    | .chk2 | .submit | .wait => true

/-- a future exists exactly while the caller is at `future.result()` -/
def jobOk (c : Caller) : Bool :=
  match c.pc with
  | .wait => c.job != .none
  | _ => c.job == .none

/-- flags of the executor / facade as a function of where the close procedure stands -/
def ginv (s : St) : Bool :=
  s.lock != some .loop &&
  match s.closePc with
  | .idle | .spawned | .begun | .inCb => !s.stopReq && !s.closedEvent && s.loopAlive
  | .stopCalled => s.stopReq && !s.closedEvent && s.loopAlive
  | .done => s.stopReq && s.closedEvent

/-- `ginv` read out: the loop thread never owns the lock; either the close procedure is done (stop requested, event set),
    or it is not, and then the event is clear, the thread alive, and stop requested exactly inside `stopCalled` -/
theorem ginv_cases {s : St} (hg : ginv s = true) :
    s.lock ≠ some .loop ∧
    ((s.closePc = .done ∧ s.stopReq = true ∧ s.closedEvent = true) ∨
     (s.closePc ≠ .done ∧ s.closedEvent = false ∧ s.loopAlive = true ∧ (s.stopReq = true ↔ s.closePc = .stopCalled))) := by
  revert hg
  simp only [ginv]
  cases s.closePc <;> simp_all

def cinv (lock : Option Tid) (i : Nat) (c : Caller) : Prop :=
  pcOk c = true ∧ jobOk c = true ∧ (critPc c = true ↔ lock = some (.caller i))

def Inv1 (s : St) : Prop :=
  ginv s = true ∧ ∀ i c, s.callers[i]? = some c → cinv s.lock i c

inductive LockEff (lock : Option Tid) (i : Nat) : Option Tid → Prop
  | same : LockEff lock i lock
  | acq : lock = none → LockEff lock i (some (.caller i))
  | rel : lock = some (.caller i) → LockEff lock i none

theorem callerStep_cinv {lock : Option Tid} {evt alive : Bool} {i : Nat} {c c' : Caller} {lk : Option Tid}
    (hc : cinv lock i c) (h : callerStep lock evt alive i c = some (c', lk)) :
    cinv lk i c' ∧ LockEff lock i lk := by
  obtain ⟨h1, h2, h3⟩ := hc
  rcases c with ⟨prog, pc, job, hist⟩
  cases callerStep_spec h with
  | goto hp hg =>
    cases hp
    refine ⟨?_, .same⟩
    cases hg with
    | enter => rename_i op _; cases op <;> simp_all [cinv, pcOk, jobOk, critPc, Op.entry, Op.isClose]
    | _ => simp_all [cinv, pcOk, jobOk, critPc]
  | acquire hp hpc hl =>
    cases hp; cases hpc
    exact ⟨by simp_all [cinv, pcOk, jobOk, critPc], .acq hl⟩
  | release hp hpc =>
    cases hp; cases hpc
    exact ⟨by simp_all [cinv, pcOk, jobOk, critPc], .rel (by simp_all [critPc])⟩
  | submit hp hpc =>
    cases hp; cases hpc
    exact ⟨by simp_all [cinv, pcOk, jobOk, critPc], .same⟩
  | swallow hp hpc hcl _ =>
    cases hp; cases hpc
    exact ⟨by simp_all [cinv, pcOk, jobOk, critPc], .same⟩
  | @ret op rest o hp hr =>
    cases hp
    have hcrit : critPc ⟨op :: rest, pc, job, hist⟩ = false := by cases hr <;> simp_all [critPc, Op.isClose]
    rw [hcrit] at h3
    refine ⟨⟨?_, rfl, h3⟩, .same⟩
    cases rest <;> rfl

theorem forall_updAt {P : Nat → Caller → Prop} (l : List Caller) (k : Nat) (f : Caller → Caller)
    (hP : ∀ i c, i ≠ k → l[i]? = some c → P i c) (hk : ∀ c, l[k]? = some c → P k (f c)) :
    ∀ i c, (updAt l k f)[i]? = some c → P i c := by
  intro i c h
  rw [getElem?_updAt] at h
  split at h
  · subst i
    cases hl : l[k]? with
    | none => simp [hl] at h
    | some c0 => simp [hl] at h; exact h ▸ hk c0 hl
  · rename_i hne; exact hP i c hne h

theorem cinv_jobUpd {lock : Option Tid} {i : Nat} {c c' : Caller} (h : cinv lock i c)
    (ho : c'.own = c.own) (hj : c'.job = .none ↔ c.job = .none) : cinv lock i c' := by
  rcases c with ⟨p, pc, j, hi⟩
  rcases c' with ⟨p', pc', j', hi'⟩
  simp only [Caller.own, Prod.mk.injEq] at ho
  obtain ⟨rfl, rfl, rfl⟩ := ho
  simp only at hj
  obtain ⟨h1, h2, h3⟩ := h
  refine ⟨h1, ?_, h3⟩
  revert h2
  cases pc' <;> simp [jobOk, hj]

theorem cinv_resolveBlocked {lock : Option Tid} {i : Nat} {c : Caller} {o : Outcome} (h : cinv lock i c) :
    cinv lock i (resolveBlocked o c) := by
  apply cinv_jobUpd h (own_resolveBlocked o c)
  unfold resolveBlocked
  split <;> simp_all

theorem cinv_lock_irrelevant {lock lock' : Option Tid} {i : Nat} {c : Caller} (h : cinv lock i c)
    (hl : lock = some (.caller i) ↔ lock' = some (.caller i)) : cinv lock' i c :=
  ⟨h.1, h.2.1, h.2.2.trans hl⟩

theorem minBlocked_some {cs : List Caller} {h t : Nat} (hm : minBlocked cs = some (h, t)) :
    ∃ c, cs[h]? = some c ∧ c.job = .blocked t := by
  induction cs generalizing h t with
  | nil => simp [minBlocked] at hm
  | cons c cs ih =>
    unfold minBlocked at hm
    split at hm
    · rename_i t0 j t' hj hr
      split at hm
      · simp only [Option.some.injEq, Prod.mk.injEq] at hm
        obtain ⟨rfl, rfl⟩ := hm
        exact ⟨c, by simp, hj⟩
      · simp only [Option.some.injEq, Prod.mk.injEq] at hm
        obtain ⟨rfl, rfl⟩ := hm
        obtain ⟨c1, h1, h2⟩ := ih hr
        exact ⟨c1, by simpa using h1, h2⟩
    · rename_i t0 hj hr
      simp only [Option.some.injEq, Prod.mk.injEq] at hm
      obtain ⟨rfl, rfl⟩ := hm
      exact ⟨c, by simp, hj⟩
    · rename_i j t' hr _
      simp only [Option.some.injEq, Prod.mk.injEq] at hm
      obtain ⟨rfl, rfl⟩ := hm
      obtain ⟨c1, h1, h2⟩ := ih hr
      exact ⟨c1, by simpa using h1, h2⟩
    · simp at hm

theorem minBlocked_none {cs : List Caller} (hm : minBlocked cs = none) :
    ∀ (i : Nat) (c : Caller), cs[i]? = some c → ∀ t : Nat, c.job ≠ Job.blocked t := by
  induction cs with
  | nil => simp
  | cons c cs ih =>
    unfold minBlocked at hm
    split at hm
    · split at hm <;> simp at hm
    · simp at hm
    · simp at hm
    · rename_i hr hnb
      intro i c1 hi t
      cases i with
      | zero =>
        simp at hi; subst hi
        intro hb
        exact hnb t hb
      | succ i => exact ih hr i c1 (by simpa using hi) t

theorem ginv_lockEff {s : St} {i : Nat} {lk : Option Tid} {cs : List Caller} (hg : ginv s = true)
    (he : LockEff s.lock i lk) : ginv { s with callers := cs, lock := lk } = true := by
  cases he with
  | same => simpa [ginv] using hg
  | acq h | rel h => revert hg; simp only [ginv]; cases s.closePc <;> simp_all

theorem cinv_other_lockEff {lock lk : Option Tid} {i j : Nat} {c : Caller} (hne : j ≠ i)
    (hc : cinv lock j c) (he : LockEff lock i lk) : cinv lk j c := by
  cases he with
  | same => exact hc
  | acq h | rel h => exact cinv_lock_irrelevant hc (by subst h; simp; exact fun e => hne e.symm)

theorem inv1_stepCaller {s s' : St} {i : Nat} (hI : Inv1 s) (h : stepCaller s i = some s') : Inv1 s' := by
  obtain ⟨c, c', lk, hc, hcs, rfl⟩ := stepCaller_spec h
  obtain ⟨hg, hcall⟩ := hI
  obtain ⟨hc', he⟩ := callerStep_cinv (hcall i c hc) hcs
  refine ⟨ginv_lockEff hg he, ?_⟩
  simp only
  apply forall_updAt (P := fun j cj => cinv lk j cj)
  · intro j cj hne hj
    exact cinv_other_lockEff hne (hcall j cj hj) he
  · intro _ _; exact hc'

theorem ginv_callers {s : St} {cs : List Caller} (hg : ginv s = true) : ginv { s with callers := cs } = true := by
  simpa [ginv] using hg

/-! ### what the loop thread can do to a caller record: only its future changes, and a future never appears or disappears -/

/-- what running a submitted coroutine of kind `k` can leave in the future -/
def JobRes : JobKind → Job → Prop
  | .recv, j => (∃ t, j = .blocked t) ∨ (∃ o, j = .done o)
  | .send, j => j = .done .ok
  | .initClose, j => j = .done .ok
  | .logout, j => j = .done .ok
  | .slow, j => j = .running

theorem JobRes.ne_none {k : JobKind} {j : Job} (h : JobRes k j) : j ≠ .none := by
  cases k <;> simp only [JobRes] at h
  · rcases h with ⟨t, rfl⟩ | ⟨o, rfl⟩ <;> simp
  all_goals (subst h; simp)

/-- `r` = the step may run submitted coroutines (only `Label.job` does) -/
def JobUpd (r : Bool) (c c' : Caller) : Prop :=
  c'.own = c.own ∧
    (c'.job = c.job ∨ (∃ t o, c.job = .blocked t ∧ c'.job = .done o) ∨
      (r = true ∧ ∃ k, c.job = .submitted k ∧ JobRes k c'.job))

theorem JobUpd.refl (r : Bool) (c : Caller) : JobUpd r c c := ⟨rfl, Or.inl rfl⟩

theorem JobUpd.trans {r : Bool} {a b c : Caller} (h1 : JobUpd r a b) (h2 : JobUpd r b c) : JobUpd r a c := by
  refine ⟨h2.1.trans h1.1, ?_⟩
  rcases h1.2 with e1 | ⟨t, o, hb, hd⟩ | ⟨hr1, k, hs, hr⟩
  · have := h2.2; rw [e1] at this; exact this
  · rcases h2.2 with e2 | ⟨t2, o2, hb2, _⟩ | ⟨_, k2, hs2, _⟩
    · exact Or.inr (Or.inl ⟨t, o, hb, e2.trans hd⟩)
    · rw [hd] at hb2; simp at hb2
    · rw [hd] at hs2; simp at hs2
  · rcases h2.2 with e2 | ⟨t2, o2, hb2, hd2⟩ | ⟨_, k2, hs2, _⟩
    · exact Or.inr (Or.inr ⟨hr1, k, hs, e2 ▸ hr⟩)
    · refine Or.inr (Or.inr ⟨hr1, k, hs, ?_⟩)
      cases k <;> simp only [JobRes] at hr
      · simp only [JobRes]; exact Or.inr ⟨o2, hd2⟩
      all_goals (rw [hr] at hb2; simp at hb2)
    · exfalso
      cases k <;> simp only [JobRes] at hr
      · rcases hr with ⟨t, ht⟩ | ⟨o, ho⟩
        · rw [ht] at hs2; simp at hs2
        · rw [ho] at hs2; simp at hs2
      all_goals (rw [hr] at hs2; simp at hs2)

theorem JobUpd.none_iff {r : Bool} {c c' : Caller} (h : JobUpd r c c') : c'.job = .none ↔ c.job = .none := by
  rcases h.2 with e | ⟨t, o, hb, hd⟩ | ⟨_, k, hs, hr⟩
  · rw [e]
  · simp [hb, hd]
  · simp [hs, hr.ne_none]

theorem jobUpd_run {c : Caller} {k : JobKind} {j : Job} (hc : c.job = .submitted k) (hr : JobRes k j) :
    JobUpd true c (setJob j c) := ⟨rfl, Or.inr (Or.inr ⟨rfl, k, hc, hr⟩)⟩

theorem jobUpd_wake {r : Bool} {c : Caller} {t : Nat} {o : Outcome} (hc : c.job = .blocked t) :
    JobUpd r c (setJob (.done o) c) := ⟨rfl, Or.inr (Or.inl ⟨t, o, hc, rfl⟩)⟩

theorem jobUpd_resolveBlocked (r : Bool) (o : Outcome) (c : Caller) : JobUpd r c (resolveBlocked o c) := by
  refine ⟨own_resolveBlocked o c, ?_⟩
  unfold resolveBlocked
  split
  · rename_i t ht; exact Or.inr (Or.inl ⟨t, o, ht, rfl⟩)
  · exact Or.inl rfl

def CallersUpd (r : Bool) (l l' : List Caller) : Prop :=
  ∀ (j : Nat) (c' : Caller), l'[j]? = some c' → ∃ c : Caller, l[j]? = some c ∧ JobUpd r c c'

theorem CallersUpd.refl (r : Bool) (l : List Caller) : CallersUpd r l l := by
  intro _ c' h; exact ⟨c', h, JobUpd.refl r c'⟩

theorem CallersUpd.trans {r : Bool} {a b c : List Caller} (h1 : CallersUpd r a b) (h2 : CallersUpd r b c) :
    CallersUpd r a c := by
  unfold CallersUpd; intro j c'' h
  obtain ⟨c', hc', u2⟩ := h2 j c'' h
  obtain ⟨c0, hc0, u1⟩ := h1 j c' hc'
  exact ⟨c0, hc0, u1.trans u2⟩

theorem callersUpd_updAt (r : Bool) (l : List Caller) (k : Nat) (f : Caller → Caller)
    (hk : ∀ c, l[k]? = some c → JobUpd r c (f c)) : CallersUpd r l (updAt l k f) := by
  unfold CallersUpd; intro j c' h
  rw [getElem?_updAt] at h
  split at h
  · subst j
    cases hl : l[k]? with
    | none => simp [hl] at h
    | some c0 => simp [hl] at h; exact ⟨c0, rfl, h ▸ hk c0 hl⟩
  · exact ⟨c', h, JobUpd.refl r c'⟩

/-- what running the coroutine submitted by caller `i` (record `c`, kind `k`) does: the future becomes `j` -/
structure JobStep (s s' : St) (i : Nat) (c : Caller) (k : JobKind) (j : Job) : Prop where
  alive : s.loopAlive = true
  free : s.closePc.busy = false
  caller : s.callers[i]? = some c
  kind : c.job = .submitted k
  res : JobRes k j
  callers : s'.callers = updAt s.callers i (setJob j)
  flags : s'.loopAlive = s.loopAlive ∧ s'.stopReq = s.stopReq ∧ s'.lock = s.lock ∧ s'.closedEvent = s.closedEvent
  closePc : s'.closePc = if k = .initClose ∨ k = .logout then s.closePc.initiate else s.closePc
  peer : s'.peer = if k = .logout then [] else s.peer
  /-- only a receive that goes to wait takes the queue's `_recv_task` slot -/
  slot : (∀ t, j ≠ .blocked t) → s'.recvTask = s.recvTask
  wait : ∀ t, j = .blocked t → s.queue = 0 ∧ s.sessClosed = false ∧ s'.recvTask = some i

theorem stepJob_spec {s s' : St} {i : Nat} (h : stepJob s i = some s') : ∃ c k j, JobStep s s' i c k j := by
  unfold stepJob at h
  split at h
  · rename_i hab
    simp only [Bool.and_eq_true, Bool.not_eq_true'] at hab
    split at h
    · cases h
    · rename_i c hc
      split at h
      · rename_i hj
        split at h
        · cases h
          exact ⟨c, _, _, hab.1, hab.2, hc, hj, .inr ⟨_, rfl⟩, rfl, ⟨rfl, rfl, rfl, rfl⟩, rfl, rfl, fun _ => rfl, nofun⟩
        · rename_i hq
          split at h
          · cases h
            exact ⟨c, _, _, hab.1, hab.2, hc, hj, .inr ⟨_, rfl⟩, rfl, ⟨rfl, rfl, rfl, rfl⟩, rfl, rfl, fun _ => rfl, nofun⟩
          · rename_i hcl
            cases h
            exact ⟨c, _, _, hab.1, hab.2, hc, hj, .inl ⟨_, rfl⟩, rfl, ⟨rfl, rfl, rfl, rfl⟩, rfl, rfl,
              fun hn => absurd rfl (hn _), fun _ _ => ⟨by omega, by simpa using hcl, rfl⟩⟩
      · rename_i hj
        cases h
        exact ⟨c, _, _, hab.1, hab.2, hc, hj, rfl, rfl, ⟨rfl, rfl, rfl, rfl⟩, rfl, rfl, fun _ => rfl, nofun⟩
      · rename_i hj
        cases h
        exact ⟨c, _, _, hab.1, hab.2, hc, hj, rfl, rfl, ⟨rfl, rfl, rfl, rfl⟩, rfl, rfl, fun _ => rfl, nofun⟩
      · rename_i hj
        cases h
        exact ⟨c, _, _, hab.1, hab.2, hc, hj, rfl, rfl, ⟨rfl, rfl, rfl, rfl⟩, rfl, rfl, fun _ => rfl, nofun⟩
      · rename_i hj
        cases h
        exact ⟨c, _, _, hab.1, hab.2, hc, hj, rfl, rfl, ⟨rfl, rfl, rfl, rfl⟩, rfl, rfl, fun _ => rfl, nofun⟩
      · cases h
  · cases h

theorem initiate_ne_idle (p : ClosePc) : p.initiate ≠ .idle := by cases p <;> simp [ClosePc.initiate]

/-- `initiate_close()` moves between program counters of the close procedure at which the flags are the same -/
theorem ginv_initiate {s s' : St} (hg : ginv s = true) (hl : s'.lock = s.lock) (ha : s'.loopAlive = s.loopAlive)
    (hs : s'.stopReq = s.stopReq) (he : s'.closedEvent = s.closedEvent)
    (hp : s'.closePc = s.closePc ∨ s'.closePc = s.closePc.initiate) : ginv s' = true := by
  unfold ginv at hg ⊢
  rw [hl, ha, hs, he]
  rcases hp with hp | hp <;> rw [hp]
  · exact hg
  · revert hg; cases s.closePc <;> exact id

/-- a step of the loop thread or of the peer: the callers keep what is their own, only futures change; nobody touches
the lock; the flags stay as the close procedure's program counter says; nothing goes back -/
structure LoopStep (r : Bool) (s s' : St) : Prop where
  callers : CallersUpd r s.callers s'.callers
  length : s'.callers.length = s.callers.length
  lock : s'.lock = s.lock
  ginv : ginv s = true → ginv s' = true
  alive : s.loopAlive = false → s'.loopAlive = false
  closePc : s.closePc ≠ .idle → s'.closePc ≠ .idle

theorem JobStep.closePc_cases {s s' : St} {i : Nat} {c : Caller} {k : JobKind} {j : Job} (h : JobStep s s' i c k j) :
    s'.closePc = s.closePc ∨ s'.closePc = s.closePc.initiate := by
  rw [h.closePc]; split
  · exact .inr rfl
  · exact .inl rfl

theorem JobStep.loop {s s' : St} {i : Nat} {c : Caller} {k : JobKind} {j : Job} (h : JobStep s s' i c k j) :
    LoopStep true s s' := by
  obtain ⟨ha, hs, hl, he⟩ := h.flags
  refine ⟨?_, by rw [h.callers, length_updAt], hl, fun hg => ginv_initiate hg hl ha hs he h.closePc_cases,
    fun h0 => by rw [ha, h0], fun hne => ?_⟩
  · rw [h.callers]
    apply callersUpd_updAt
    intro c0 hc0
    rw [h.caller] at hc0; cases hc0
    exact jobUpd_run h.kind h.res
  · rcases h.closePc_cases with e | e <;> rw [e]
    · exact hne
    · exact initiate_ne_idle _

theorem stepJob_loop {s s' : St} {i : Nat} (h : stepJob s i = some s') : LoopStep true s s' := by
  obtain ⟨c, k, j, hj⟩ := stepJob_spec h
  exact hj.loop

theorem stepClose_loop {s s' : St} (h : stepClose s = some s') : LoopStep false s s' := by
  unfold stepClose at h
  split at h <;> rename_i hpc
  · cases h
  · split at h
    · cases h
    · cases h
      refine ⟨?_, ?_, rfl, fun hg => by simpa [ginv, hpc] using hg, id, nofun⟩
      · show CallersUpd false s.callers (match s.recvTask with | some j => _ | none => _)
        split
        · exact callersUpd_updAt _ _ _ _ (fun c _ => jobUpd_resolveBlocked _ _ c)
        · exact CallersUpd.refl _ _
      · show List.length (match s.recvTask with | some j => _ | none => _) = _
        split
        · exact length_updAt _ _ _
        · rfl
  · cases h
    exact ⟨CallersUpd.refl _ _, rfl, rfl, fun hg => by simpa [ginv, hpc] using hg, id, nofun⟩
  · split at h <;> rename_i he <;> cases h
    · exact ⟨CallersUpd.refl _ _, rfl, rfl, fun hg => by simp_all [ginv], id, nofun⟩
    · exact ⟨CallersUpd.refl _ _, rfl, rfl, fun hg => by simp_all [ginv], id, nofun⟩
  · cases h
    exact ⟨CallersUpd.refl _ _, rfl, rfl, fun hg => by simp_all [ginv], id, nofun⟩
  · cases h

theorem stepStop_loop {s s' : St} (h : stepStop s = some s') : LoopStep false s s' := by
  unfold stepStop at h
  split at h
  · rename_i hc
    cases h
    refine ⟨CallersUpd.refl _ _, rfl, rfl, fun hg => ?_, fun _ => rfl, id⟩
    revert hg hc; simp only [ginv, ClosePc.busy]; cases s.closePc <;> simp_all
  · cases h

theorem stepPeer_loop {s s' : St} (h : stepPeer s = some s') : LoopStep false s s' := by
  have same : ∀ {cs : List Caller} {q : Nat} {rt : Option Nat} {pe : List PeerEv},
      CallersUpd false s.callers cs → cs.length = s.callers.length →
      LoopStep false s { s with callers := cs, queue := q, recvTask := rt, peer := pe } :=
    fun hu hlen => ⟨hu, hlen, rfl, fun hg => ginv_initiate hg rfl rfl rfl rfl (.inl rfl), id, id⟩
  unfold stepPeer at h
  split at h
  · cases h
  · split at h
    · cases h
    · split at h
      · cases h; exact same (CallersUpd.refl _ _) rfl
      · split at h
        · split at h
          · cases h; exact same (CallersUpd.refl _ _) rfl
          · split at h
            · rename_i hh t hm
              cases h
              obtain ⟨ch, hch, hjb⟩ := minBlocked_some hm
              have u1 : CallersUpd false s.callers (updAt s.callers hh (setJob (.done .msg))) := by
                apply callersUpd_updAt
                intro c0 hc0; rw [hch] at hc0; cases hc0; exact jobUpd_wake hjb
              apply same
              · split
                · split
                  · exact u1
                  · exact u1.trans (callersUpd_updAt _ _ _ _ (fun c _ => jobUpd_resolveBlocked _ _ c))
                · exact u1
              · split
                · split <;> simp
                · simp
            · cases h; exact same (CallersUpd.refl _ _) rfl
        all_goals
          cases h
          exact ⟨CallersUpd.refl _ _, rfl, rfl, fun hg => ginv_initiate hg rfl rfl rfl rfl (.inr rfl), id,
            fun _ => initiate_ne_idle _⟩

theorem inv1_of_loopStep {s s' : St} {r : Bool} (hI : Inv1 s) (h : LoopStep r s s') : Inv1 s' := by
  refine ⟨h.ginv hI.1, ?_⟩
  intro j c' hc'
  obtain ⟨c, hc, u⟩ := h.callers j c' hc'
  rw [h.lock]
  exact cinv_jobUpd (hI.2 j c hc) u.1 u.none_iff

theorem inv1_stepJob {s s' : St} {i : Nat} (hI : Inv1 s) (h : stepJob s i = some s') : Inv1 s' :=
  inv1_of_loopStep hI (stepJob_loop h)

theorem step_loop {s s' : St} {l : Label} (h : step s l = some s') :
    (∃ i, l = .caller i ∧ stepCaller s i = some s') ∨ ∃ r, LoopStep r s s' := by
  cases l with
  | caller i => exact .inl ⟨i, rfl, h⟩
  | job i => exact .inr ⟨_, stepJob_loop h⟩
  | close => exact .inr ⟨_, stepClose_loop h⟩
  | stop => exact .inr ⟨_, stepStop_loop h⟩
  | peer => exact .inr ⟨_, stepPeer_loop h⟩

theorem inv1_step {s s' : St} {l : Label} (hI : Inv1 s) (h : step s l = some s') : Inv1 s' := by
  rcases step_loop h with ⟨i, -, hi⟩ | ⟨r, hr⟩
  · exact inv1_stepCaller hI hi
  · exact inv1_of_loopStep hI hr

theorem inv1_init (cfg : Cfg) : Inv1 (init cfg) := by
  refine ⟨by simp [ginv, init], ?_⟩
  intro i c hc
  simp only [init, List.getElem?_map] at hc
  cases hp : cfg.progs[i]? with
  | none => simp [hp] at hc
  | some p =>
    simp [hp] at hc; subst hc
    cases p <;> simp [cinv, initCaller, pcOk, jobOk, critPc, init]

theorem inv1_reachable {cfg : Cfg} {s : St} (h : Reachable cfg s) : Inv1 s :=
  reachable_invariant Inv1 cfg (inv1_init cfg) (fun _ _ _ hI hs => inv1_step hI hs) s h

theorem step_mono {s s' : St} {l : Label} (h : step s l = some s') :
    (s.loopAlive = false → s'.loopAlive = false) ∧ (s.closePc ≠ .idle → s'.closePc ≠ .idle) := by
  rcases step_loop h with ⟨i, -, hi⟩ | ⟨r, hr⟩
  · obtain ⟨c, c', lk, _, _, rfl⟩ := stepCaller_spec hi
    exact ⟨id, id⟩
  · exact ⟨hr.alive, hr.closePc⟩

/-- a logged-in session has its close callback, and a session that closed found it: the event is set -/
def ConnOk (s : ConnSt) : Prop := (s.loggedIn = true → s.installed = true) ∧ (s.sessionClosed = true → s.eventSet = true)

theorem connOk_step {s : ConnSt} (h : ConnOk s) {e : ConnEv}
    (he : (e == .loginAndInstall || e == .sessionCloses) = true) : ConnOk (connStep s e) := by
  cases e with
  | loginAndInstall => exact ⟨fun _ => rfl, h.2⟩
  | sessionCloses =>
    simp only [connStep]
    split
    · rename_i hc
      simp only [Bool.and_eq_true] at hc
      exact ⟨h.1, fun _ => h.1 hc.1⟩
    · exact h
  | loginReturns | install => cases he

theorem connOk_run (evs : List ConnEv) (hf : fixedSchedule evs = true) : ConnOk (connRun evs) := by
  have key : ∀ (evs : List ConnEv) (s : ConnSt), fixedSchedule evs = true → ConnOk s → ConnOk (evs.foldl connStep s) := by
    intro evs
    induction evs with
    | nil => intro s _ h; exact h
    | cons e es ih =>
      intro s hf h
      simp only [fixedSchedule, List.all_cons, Bool.and_eq_true] at hf
      exact ih _ hf.2 (connOk_step h hf.1)
  exact key evs {} hf ⟨nofun, nofun⟩

end NasdaqModel.SyncFacade
