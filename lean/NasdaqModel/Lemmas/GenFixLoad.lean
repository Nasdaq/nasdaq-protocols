import NasdaqModel.Lemmas.GenFixParse
/-
Lemmas for C16, part 3: the generated classes, once imported, denote the dictionary.

What Props/C16*.lean and Witness/C16*.lean enter through: `genLoad_denote` (for `WF d types`: `gen d` succeeds, the module
loads, the result is `denote d`, group class names are unique), its equational form `genLoad_eq_denote`, `load_wellScoped`,
and `denote_inv` (`Denotes`: what `denote d = .ok L` says, field by field).
On the way: the group classes with their doubled evaluation and unique names denote the entry trees they were generated from
(`toL`, `GInv`, `ctxEntry_load`); the fields module (`FTOk`, `fenvOf`); the parsed entries against the reference semantics
(`xItem_denotes`, `xComp_denotes`); messages and segment classes (`codegen_load`); the fields of a valid dictionary (`field_facts`).
-/
namespace NasdaqModel.GenFix
open NasdaqModel Py Spec.FixDict

theorem counterOf_bump_same (n : Str) (s : GState) : counterOf n (bump n s) = counterOf n s + 1 := by
  simp [counterOf, bump, aget_aset_same]

theorem counterOf_bump_other {n m : Str} (h : n ≠ m) (s : GState) : counterOf m (bump n s) = counterOf m s := by
  simp [counterOf, bump, aget_aset_other _ h]

@[simp] theorem counterOf_push (m : Str) (c : GroupCtx) (s : GState) : counterOf m (push c s) = counterOf m s := rfl
@[simp] theorem contexts_push (c : GroupCtx) (s : GState) : (push c s).contexts = s.contexts ++ [c] := rfl
@[simp] theorem contexts_bump (n : Str) (s : GState) : (bump n s).contexts = s.contexts := rfl

def CLe (s s' : GState) : Prop := ∀ n, counterOf n s ≤ counterOf n s'

theorem CLe.refl (s : GState) : CLe s s := fun _ => Nat.le_refl _
theorem CLe.trans {a b c : GState} (h1 : CLe a b) (h2 : CLe b c) : CLe a c := fun n => Nat.le_trans (h1 n) (h2 n)

theorem cle_bump (n : Str) (s : GState) : CLe s (bump n s) := by
  intro m
  by_cases e : n = m
  · subst e; rw [counterOf_bump_same]; omega
  · rw [counterOf_bump_other e]; omega

theorem cle_push (c : GroupCtx) (s : GState) : CLe s (push c s) := fun _ => Nat.le_refl _

/-- every name in `ks` has been handed out already -/
def Bounded (ks : List Str) (s : GState) : Prop := ∀ u ∈ ks, ∃ n k, u = uniqueName n k ∧ k ≤ counterOf n s

/-- every name in `ks` is yet to be handed out -/
def Fresh (s : GState) (ks : List Str) : Prop := ∀ u ∈ ks, ∃ n k, u = uniqueName n k ∧ counterOf n s < k

theorem Bounded.mono {ks : List Str} {s s' : GState} (h : Bounded ks s) (hle : CLe s s') : Bounded ks s' := by
  intro u hu
  obtain ⟨n, k, e, hk⟩ := h u hu
  exact ⟨n, k, e, Nat.le_trans hk (hle n)⟩

theorem Fresh.anti {ks : List Str} {s s' : GState} (h : Fresh s' ks) (hle : CLe s s') : Fresh s ks := by
  intro u hu
  obtain ⟨n, k, e, hk⟩ := h u hu
  exact ⟨n, k, e, Nat.lt_of_le_of_lt (hle n) hk⟩

theorem fresh_not_bounded {ks ks' : List Str} {s : GState} (hb : Bounded ks s) (hf : Fresh s ks') {u : Str}
    (hu : u ∈ ks) : u ∉ ks' := by
  intro hu'
  obtain ⟨n, k, e, hk⟩ := hb u hu
  obtain ⟨n', k', e', hk'⟩ := hf u hu'
  rw [e] at e'
  obtain ⟨rfl, rfl⟩ := uniqueName_inj e'
  omega

theorem loadGroups_append (fenv : List (Str × LField)) : ∀ (a b : List GroupCtx) (genv : List (Str × LGroup)),
    loadGroups fenv genv (a ++ b) =
      (match loadGroups fenv genv a with
       | .error e => .error e
       | .ok g => loadGroups fenv g b)
  | [], b, genv => rfl
  | g :: rest, b, genv => by
    simp only [List.cons_append, loadGroups]
    cases resolveRefs fenv genv .other g.entries with
    | error e => rfl
    | ok les =>
      cases aget g.name fenv with
      | none => rfl
      | some cf => exact loadGroups_append fenv rest b _

theorem loadGroups_keys {fenv : List (Str × LField)} : ∀ {cs : List GroupCtx} {genv genv' : List (Str × LGroup)},
    loadGroups fenv genv cs = .ok genv' → keys genv' = (cs.map (·.uname)).reverse ++ keys genv
  | [], genv, genv', h => by
    simp only [loadGroups] at h
    cases h
    simp
  | g :: rest, genv, genv', h => by
    simp only [loadGroups] at h
    split at h
    · cases h
    · rename_i les h1
      split at h
      · cases h
      · rename_i cf h2
        rw [loadGroups_keys h]
        simp

theorem resolveRef_ext {fenv : List (Str × LField)} {genv add : List (Str × LGroup)} {s : GState} {miss miss' : Err}
    {r : ERef} {le : LEntry} (hb : Bounded (keys genv) s) (hf : Fresh s (keys add))
    (h : resolveRef fenv genv miss r = .ok le) : resolveRef fenv (add ++ genv) miss' r = .ok le := by
  cases r with
  | field fd rq => simpa [resolveRef] using h
  | group n u rq =>
    simp only [resolveRef] at h ⊢
    split at h
    · cases h
    · rename_i g hg
      have hu : u ∈ keys genv := mem_keys_of_aget hg
      rw [aget_append_of_not_mem genv (fresh_not_bounded hb hf hu), hg]
      exact h

theorem resolveRefs_cons_ok {fenv : List (Str × LField)} {genv : List (Str × LGroup)} {miss : Err} {r : ERef}
    {rest : List ERef} {les : List LEntry} (h : resolveRefs fenv genv miss (r :: rest) = .ok les) :
    ∃ le les2, resolveRef fenv genv miss r = .ok le ∧ resolveRefs fenv genv miss rest = .ok les2 ∧ les = le :: les2 := by
  simp only [resolveRefs] at h
  split at h
  · cases h
  · rename_i le h1
    split at h
    · cases h
    · rename_i les2 h2
      cases h
      exact ⟨le, les2, h1, h2, rfl⟩

theorem resolveRefs_ext {fenv : List (Str × LField)} {genv add : List (Str × LGroup)} {s : GState} {miss miss' : Err}
    (hb : Bounded (keys genv) s) (hf : Fresh s (keys add)) :
    ∀ (rs : List ERef) (les : List LEntry), resolveRefs fenv genv miss rs = .ok les →
      resolveRefs fenv (add ++ genv) miss' rs = .ok les
  | [], les, h => by simpa [resolveRefs] using h
  | r :: rest, les, h => by
    obtain ⟨le, les2, h1, h2, rfl⟩ := resolveRefs_cons_ok h
    simp only [resolveRefs, resolveRef_ext hb hf h1, resolveRefs_ext hb hf rest les2 h2]

def tagOf (fd : FieldDef) : Int :=
  match parseIntStr fd.tag with
  | .ok t => t
  | .error _ => 0

def lfOf (fd : FieldDef) : LField := ⟨fd.name, tagOf fd, fd.type, valuesCtx fd⟩

mutual
def toL (FT : FieldTab) : Entry → Option LEntry
  | .field fd r => if aget fd.name FT = some fd then some (.field fd.name (tagOf fd) fd.type r) else none
  | .group n r es =>
    match aget n FT, toLs FT es with
    | some cf, some les => if cf.name = n then some (.group cf.name (tagOf cf) cf.type r les) else none
    | _, _ => none
def toLs (FT : FieldTab) : List Entry → Option (List LEntry)
  | [] => some []
  | e :: rest =>
    match toL FT e, toLs FT rest with
    | some le, some les => some (le :: les)
    | _, _ => none
end

theorem toLs_cons_some {FT : FieldTab} {e : Entry} {rest : List Entry} {les : List LEntry}
    (h : toLs FT (e :: rest) = some les) : ∃ le les2, toL FT e = some le ∧ toLs FT rest = some les2 ∧ les = le :: les2 := by
  simp only [toLs] at h
  split at h
  · rename_i le les2 h1 h2
    cases h
    exact ⟨le, les2, h1, h2, rfl⟩
  · cases h

theorem toLs_append (FT : FieldTab) : ∀ (a b : List Entry) (la lb : List LEntry), toLs FT a = some la → toLs FT b = some lb →
    toLs FT (a ++ b) = some (la ++ lb)
  | [], b, la, lb, ha, hb => by
    simp only [toLs] at ha
    cases ha
    simpa using hb
  | e :: rest, b, la, lb, ha, hb => by
    obtain ⟨le, les, h1, h2, rfl⟩ := toLs_cons_some ha
    simp only [List.cons_append, toLs, h1, toLs_append FT rest b les lb h2 hb]

def FenvOk (FT : FieldTab) (fenv : List (Str × LField)) : Prop :=
  ∀ n fd, aget n FT = some fd → fd.name = n → aget n fenv = some (lfOf fd)

/-- the state of the generator and the namespace of the groups module after executing the classes generated so far -/
structure GInv (fenv : List (Str × LField)) (s : GState) (genv : List (Str × LGroup)) : Prop where
  loaded : loadGroups fenv [] s.contexts = .ok genv
  bounded : Bounded (keys genv) s
  nodup : (keys genv).Nodup

/-- result of one step: classes were only added, all with fresh names -/
structure GStep (fenv : List (Str × LField)) (s s' : GState) (genv genv' : List (Str × LGroup)) : Prop where
  inv : GInv fenv s' genv'
  cle : CLe s s'
  ext : ∃ add, genv' = add ++ genv ∧ Fresh s (keys add)

theorem GStep.trans {fenv : List (Str × LField)} {s1 s2 s3 : GState} {g1 g2 g3 : List (Str × LGroup)}
    (a : GStep fenv s1 s2 g1 g2) (b : GStep fenv s2 s3 g2 g3) : GStep fenv s1 s3 g1 g3 := by
  obtain ⟨add1, e1, f1⟩ := a.ext
  obtain ⟨add2, e2, f2⟩ := b.ext
  refine ⟨b.inv, a.cle.trans b.cle, add2 ++ add1, by rw [e2, e1, List.append_assoc], ?_⟩
  intro u hu
  simp only [keys_append, List.mem_append] at hu
  rcases hu with hu | hu
  · exact (Fresh.anti f2 a.cle) u hu
  · exact f1 u hu

theorem GStep.refl {fenv : List (Str × LField)} {s : GState} {g : List (Str × LGroup)} (h : GInv fenv s g) : GStep fenv s s g g :=
  ⟨h, CLe.refl s, [], rfl, by intro u hu; simp at hu⟩

mutual
theorem ctxEntry_load {FT : FieldTab} {fenv : List (Str × LField)} (hfe : FenvOk FT fenv) :
    ∀ (e : Entry) (le : LEntry) (s : GState) (genv : List (Str × LGroup)), toL FT e = some le → GInv fenv s genv →
      ∃ genv', GStep fenv s (ctxEntry s e).2 genv genv' ∧ ∀ miss, resolveRef fenv genv' miss (ctxEntry s e).1 = .ok le
  | .field fd r, le, s, genv, ht, inv => by
    simp only [toL] at ht
    split at ht
    · rename_i hfd
      cases ht
      refine ⟨genv, by simpa [ctxEntry] using GStep.refl inv, ?_⟩
      intro miss
      simp only [ctxEntry, resolveRef, hfe fd.name fd hfd rfl, lfOf]
    · cases ht
  | .group n r es, le, s, genv, ht, inv => by
    simp only [toL] at ht
    split at ht
    · rename_i cf les hcf hles
      split at ht
      · rename_i hname
        cases ht
        -- `ctxEntry` takes the name, then evaluates the entries twice (Model/GenFix.lean, `ctxEntry`).  The classes of the first
        -- evaluation stay loaded (`st2`) but nothing refers to them: the references of the first evaluation are dropped, the
        -- group class is built from those of the second (`hres`), all of whose classes are loaded by then.
        have inv1 : GInv fenv (bump n s) genv := ⟨by simpa using inv.loaded, inv.bounded.mono (cle_bump n s), inv.nodup⟩
        obtain ⟨g2, st2, _⟩ := ctxEntries_load hfe es les (bump n s) genv hles inv1
        obtain ⟨g3, st3, hres⟩ := ctxEntries_load hfe es les (ctxEntries (bump n s) es).2 g2 hles st2.inv
        have st13 := st2.trans st3
        let s3 := (ctxEntries (ctxEntries (bump n s) es).2 es).2
        let c2 := (ctxEntries (ctxEntries (bump n s) es).2 es).1
        let u := uniqueName n (counterOf n s + 1)
        let lg : LGroup := ⟨cf.name, tagOf cf, cf.type, les⟩
        have hfenv : aget n fenv = some (lfOf cf) := hfe n cf hcf hname
        have hload : loadGroups fenv [] (s3.contexts ++ [⟨n, u, c2⟩]) = .ok ((u, lg) :: g3) := by
          rw [loadGroups_append, st3.inv.loaded]
          simp only [loadGroups, hfenv]
          rw [show resolveRefs fenv g3 Err.other c2 = Except.ok les from hres .other]
          rfl
        have hcnt : counterOf n s + 1 ≤ counterOf n s3 := by
          have := st13.cle n
          rw [counterOf_bump_same] at this
          exact this
        have hufresh : u ∉ keys g3 := by
          obtain ⟨add, eadd, fadd⟩ := st13.ext
          rw [eadd, keys_append, List.mem_append]
          intro hu
          rcases hu with hu | hu
          · obtain ⟨n', k', e', hk'⟩ := fadd u hu
            obtain ⟨rfl, rfl⟩ := uniqueName_inj e'
            rw [counterOf_bump_same] at hk'
            omega
          · obtain ⟨n', k', e', hk'⟩ := inv.bounded u hu
            obtain ⟨rfl, rfl⟩ := uniqueName_inj e'
            omega
        refine ⟨(u, lg) :: g3, ⟨⟨?_, ?_, ?_⟩, ?_, ?_⟩, ?_⟩
        · simpa [ctxEntry] using hload
        · intro v hv
          simp only [keys_cons, List.mem_cons] at hv
          rcases hv with rfl | hv
          · exact ⟨n, counterOf n s + 1, rfl, by simpa [ctxEntry] using hcnt⟩
          · obtain ⟨n', k', e', hk'⟩ := st3.inv.bounded v hv
            exact ⟨n', k', e', by simpa [ctxEntry] using hk'⟩
        · simp only [keys_cons, List.nodup_cons]
          exact ⟨hufresh, st3.inv.nodup⟩
        · simp only [ctxEntry]
          exact ((cle_bump n s).trans st13.cle).trans (cle_push _ _)
        · obtain ⟨add, eadd, fadd⟩ := st13.ext
          refine ⟨(u, lg) :: add, by rw [eadd]; rfl, ?_⟩
          intro v hv
          simp only [keys_cons, List.mem_cons] at hv
          rcases hv with rfl | hv
          · exact ⟨n, counterOf n s + 1, rfl, by omega⟩
          · exact (Fresh.anti fadd (cle_bump n s)) v hv
        · intro miss
          simp only [ctxEntry, resolveRef]
          have : aget u ((u, lg) :: g3) = some lg := by simp [aget]
          rw [this]
      · cases ht
    · cases ht
theorem ctxEntries_load {FT : FieldTab} {fenv : List (Str × LField)} (hfe : FenvOk FT fenv) :
    ∀ (es : List Entry) (les : List LEntry) (s : GState) (genv : List (Str × LGroup)), toLs FT es = some les → GInv fenv s genv →
      ∃ genv', GStep fenv s (ctxEntries s es).2 genv genv' ∧ ∀ miss, resolveRefs fenv genv' miss (ctxEntries s es).1 = .ok les
  | [], les, s, genv, ht, inv => by
    simp only [toLs] at ht
    cases ht
    exact ⟨genv, by simpa [ctxEntries] using GStep.refl inv, fun _ => rfl⟩
  | e :: rest, les, s, genv, ht, inv => by
    obtain ⟨le, les2, h1, h2, rfl⟩ := toLs_cons_some ht
    obtain ⟨g1, st1, r1⟩ := ctxEntry_load hfe e le s genv h1 inv
    obtain ⟨g2, st2, r2⟩ := ctxEntries_load hfe rest les2 (ctxEntry s e).2 g1 h2 st1.inv
    refine ⟨g2, by simpa [ctxEntries] using st1.trans st2, ?_⟩
    intro miss
    obtain ⟨add, eadd, fadd⟩ := st2.ext
    simp only [ctxEntries, resolveRefs]
    rw [eadd, resolveRef_ext st1.inv.bounded fadd (r1 miss), ← eadd, r2 miss]
end

def clsOf (kv : Str × FieldDef) : FieldCls := ⟨kv.2.name, kv.2.tag, kv.2.type, valuesCtx kv.2⟩

theorem loadFields_eq : ∀ (fs : List (Str × FieldDef)) (env : List (Str × LField)),
    (∀ kv ∈ fs, loadField (clsOf kv) = .ok (lfOf kv.2)) →
    loadFields env (fs.map clsOf) = .ok ((fs.map (fun kv => (kv.2.name, lfOf kv.2))).reverse ++ env)
  | [], env, _ => by simp [loadFields]
  | kv :: rest, env, h => by
    simp only [List.map_cons, loadFields, h kv (by simp)]
    rw [loadFields_eq rest _ (fun kv' hkv' => h kv' (by simp [hkv']))]
    simp [clsOf]

theorem aget_map_val {α β : Type} (f : α → β) (k : Str) : ∀ (l : List (Str × α)),
    aget k (l.map (fun kv => (kv.1, f kv.2))) = (aget k l).map f
  | [] => rfl
  | (k', v) :: t => by
    simp only [List.map_cons, aget]
    by_cases e : k' = k
    · simp [e]
    · simp only [if_neg e]
      exact aget_map_val f k t

theorem aget_reverse {α : Type} (k : Str) : ∀ (l : List (Str × α)), (keys l).Nodup → aget k l.reverse = aget k l
  | [], _ => rfl
  | (k', v) :: t, h => by
    simp only [keys_cons, List.nodup_cons] at h
    simp only [List.reverse_cons]
    by_cases e : k' = k
    · subst e
      have hnot : k' ∉ keys t.reverse := by simpa [keys] using h.1
      rw [aget_append_of_not_mem _ hnot]
      simp [aget]
    · simp only [aget, if_neg e]
      rw [← aget_reverse k t h.2]
      cases hg : aget k t.reverse with
      | some v' => exact aget_append_of_some _ hg
      | none =>
        have : k ∉ keys t.reverse := by
          intro hm
          obtain ⟨v', hv'⟩ := aget_isSome_of_mem hm
          rw [hg] at hv'
          cases hv'
        rw [aget_append_of_not_mem _ this]
        simp [aget, e]

theorem aget_of_mem_nodup {α : Type} {k : Str} {v : α} : ∀ {l : List (Str × α)}, (keys l).Nodup → (k, v) ∈ l → aget k l = some v
  | [], _, h => by simp at h
  | (k', v') :: t, hn, h => by
    simp only [keys_cons, List.nodup_cons] at hn
    simp only [List.mem_cons, Prod.mk.injEq] at h
    rcases h with ⟨rfl, rfl⟩ | h
    · simp [aget]
    · have : k' ≠ k := by
        intro e
        subst e
        exact hn.1 (List.mem_map_of_mem (f := (·.1)) h)
      simp only [aget, if_neg this]
      exact aget_of_mem_nodup hn.2 h

theorem mem_of_aget {α : Type} {k : Str} {v : α} : ∀ {l : List (Str × α)}, aget k l = some v → (k, v) ∈ l
  | [], h => by simp [aget] at h
  | (k', v') :: t, h => by
    simp only [aget] at h
    by_cases e : k' = k
    · simp only [if_pos e] at h; cases h; simp [e]
    · simp only [if_neg e] at h
      exact List.mem_cons_of_mem _ (mem_of_aget h)

structure FTOk (FT : FieldTab) : Prop where
  kp : ∀ kv ∈ FT, kv.2.name = kv.1
  nodup : (keys FT).Nodup
  loads : ∀ kv ∈ FT, loadField (clsOf kv) = .ok (lfOf kv.2)

def fenvOf (FT : FieldTab) : List (Str × LField) := (FT.map (fun kv => (kv.2.name, lfOf kv.2))).reverse

theorem fenvOf_ok {FT : FieldTab} (h : FTOk FT) : FenvOk FT (fenvOf FT) := by
  intro n fd hg _
  have e : FT.map (fun kv => (kv.2.name, lfOf kv.2)) = FT.map (fun kv => (kv.1, lfOf kv.2)) :=
    List.map_congr_left (fun kv hkv => by rw [h.kp kv hkv])
  have hk : keys (FT.map (fun kv => (kv.1, lfOf kv.2))) = keys FT := by simp [keys, Function.comp_def]
  rw [fenvOf, e, aget_reverse _ _ (by rw [hk]; exact h.nodup), aget_map_val, hg]
  rfl

theorem loadFields_FT {FT : FieldTab} (h : FTOk FT) : loadFields [] (FT.map clsOf) = .ok (fenvOf FT) := by
  rw [loadFields_eq FT [] h.loads]
  simp [fenvOf]

theorem fenvOf_fields (FT : FieldTab) : ((fenvOf FT).map (·.2)).reverse = FT.map (fun kv => lfOf kv.2) := by
  simp [fenvOf, List.map_reverse, Function.comp_def]

theorem reqFlag_eq (r : Option Str) : reqFlag r = isRequired r := rfl

theorem findField_of_aget {FT : FieldTab} (kp : ∀ kv ∈ FT, kv.2.name = kv.1) {n : Str} {fd : FieldDef} (h : aget n FT = some fd) :
    findField n (FT.map (fun kv => lfOf kv.2)) = some (lfOf fd) := by
  induction FT with
  | nil => simp [aget] at h
  | cons kv t ih =>
    obtain ⟨k, v⟩ := kv
    have hk : v.name = k := kp (k, v) (by simp)
    simp only [aget] at h
    simp only [findField, List.map_cons, List.find?_cons]
    by_cases e : k = n
    · simp only [if_pos e] at h
      cases h
      simp [lfOf, hk, e]
    · simp only [if_neg e] at h
      have : ¬ ((lfOf v).name = n) := by simpa [lfOf, hk] using e
      simp only [this, decide_false]
      exact ih (fun kv hkv => kp kv (by simp [hkv])) h

def SubRel (FT : FieldTab) (psub : Str → Except Err (List Entry)) (sub' : Str → Except Err (List LEntry)) : Prop :=
  ∀ n es, psub n = .ok es → ∃ les, toLs FT es = some les ∧ sub' n = .ok les

mutual
theorem xItem_denotes {FT : FieldTab} (kp : ∀ kv ∈ FT, kv.2.name = kv.1) {psub : Str → Except Err (List Entry)}
    {sub' : Str → Except Err (List LEntry)} (hs : SubRel FT psub sub') {pf pg pc : Str → Bool}
    (hg : ∀ n, pg n = true → ∃ cf, aget n FT = some cf) :
    ∀ (i : Item) (es : List Entry), itemAll pf pg pc i = true → xItem FT psub i = .ok es →
      ∃ les, toLs FT es = some les ∧ expandItem (FT.map (fun kv => lfOf kv.2)) sub' i = .ok les
  | .field n r, es, _, hx => by
    simp only [xItem] at hx
    split at hx
    · cases hx
    · rename_i fd hf
      cases hx
      have hname : fd.name = n := by
        have hm : (n, fd) ∈ FT := mem_of_aget hf
        exact kp (n, fd) hm
      refine ⟨[.field fd.name (tagOf fd) fd.type (isRequired r)], ?_, ?_⟩
      · simp [toLs, toL, hname, hf]
      · simp only [expandItem, findField_of_aget kp hf, reqFlag_eq]
        rfl
  | .group n r items, es, ha, hx => by
    simp only [itemAll, Bool.and_eq_true] at ha
    obtain ⟨es1, h1, rfl⟩ := xItem_group_ok hx
    obtain ⟨les, hl, he⟩ := xItems_denotes kp hs hg items es1 ha.2 h1
    obtain ⟨cf, hcf⟩ := hg n ha.1
    have hname : cf.name = n := kp (n, cf) (mem_of_aget hcf)
    refine ⟨[.group cf.name (tagOf cf) cf.type (isRequired r) les], ?_, ?_⟩
    · simp [toLs, toL, hcf, hl, hname]
    · simp only [expandItem, he, findField_of_aget kp hcf, reqFlag_eq]
      rfl
  | .comp n r, es, _, hx => by
    simp only [xItem] at hx
    obtain ⟨les, hl, he⟩ := hs n es hx
    exact ⟨les, hl, by simpa only [expandItem] using he⟩
theorem xItems_denotes {FT : FieldTab} (kp : ∀ kv ∈ FT, kv.2.name = kv.1) {psub : Str → Except Err (List Entry)}
    {sub' : Str → Except Err (List LEntry)} (hs : SubRel FT psub sub') {pf pg pc : Str → Bool}
    (hg : ∀ n, pg n = true → ∃ cf, aget n FT = some cf) :
    ∀ (is : List Item) (es : List Entry), itemsAll pf pg pc is = true → xItems FT psub is = .ok es →
      ∃ les, toLs FT es = some les ∧ expandItems (FT.map (fun kv => lfOf kv.2)) sub' is = .ok les
  | [], es, _, hx => by
    simp only [xItems] at hx
    cases hx
    exact ⟨[], rfl, rfl⟩
  | i :: rest, es, ha, hx => by
    simp only [itemsAll, Bool.and_eq_true] at ha
    obtain ⟨es1, es2, h1, h2, rfl⟩ := xItems_cons_ok hx
    obtain ⟨l1, t1, e1⟩ := xItem_denotes kp hs hg i es1 ha.1 h1
    obtain ⟨l2, t2, e2⟩ := xItems_denotes kp hs hg rest es2 ha.2 h2
    exact ⟨l1 ++ l2, toLs_append FT _ _ _ _ t1 t2, by simp only [expandItems, e1, e2]⟩
end

theorem xComp_denotes {FT : FieldTab} (kp : ∀ kv ∈ FT, kv.2.name = kv.1) {root : List CompXml} {pf pg pc : Str → Bool}
    (hg : ∀ n, pg n = true → ∃ cf, aget n FT = some cf) (hroot : ∀ c ∈ root, itemsAll pf pg pc c.items = true) :
    ∀ k, SubRel FT (xComp FT root k) (expandComp (FT.map (fun kv => lfOf kv.2)) root k)
  | 0 => by intro n es h; simp [xComp] at h
  | k + 1 => by
    intro n es h
    simp only [xComp] at h
    simp only [expandComp]
    split at h
    · cases h
    · rename_i c hf
      rw [hf]
      exact xItems_denotes kp (xComp_denotes kp hg hroot k) hg c.items es (hroot c (find_some_mem hf).1) h


theorem ctxMessages_load {FT : FieldTab} {fenv : List (Str × LField)} (hfe : FenvOk FT fenv) :
    ∀ (ms : List Message) (trees : List (List LEntry)) (s : GState) (genv : List (Str × LGroup)),
      ms.map (fun m => toLs FT m.entries) = trees.map some → GInv fenv s genv →
      ∃ genv', GStep fenv s (ctxMessages s ms).2 genv genv' ∧
        (∀ miss, (ctxMessages s ms).1.map (fun c => resolveRefs fenv genv' miss c.entries) = trees.map .ok) ∧
        (ctxMessages s ms).1.map (fun c => (c.name, c.tag, c.category, c.bodyName)) =
          ms.map (fun m => (m.name, m.tag, m.category, m.name ++ bodySuffix))
  | [], trees, s, genv, ht, inv => by
    cases trees with
    | nil => exact ⟨genv, by simpa [ctxMessages] using GStep.refl inv, fun _ => rfl, rfl⟩
    | cons t ts => simp at ht
  | m :: rest, trees, s, genv, ht, inv => by
    cases trees with
    | nil => simp at ht
    | cons t ts =>
      simp only [List.map_cons, List.cons.injEq] at ht
      obtain ⟨g1, st1, r1⟩ := ctxEntries_load hfe m.entries t s genv ht.1 inv
      obtain ⟨g2, st2, r2, r3⟩ := ctxMessages_load hfe rest ts (ctxEntries s m.entries).2 g1 ht.2 st1.inv
      refine ⟨g2, by simpa [ctxMessages] using st1.trans st2, ?_, ?_⟩
      · intro miss
        obtain ⟨add, eadd, fadd⟩ := st2.ext
        simp only [ctxMessages, List.map_cons]
        rw [r2 miss, eadd, resolveRefs_ext st1.inv.bounded fadd _ _ (r1 miss)]
      · simp only [ctxMessages, List.map_cons, r3]

theorem loadBodies_eq {fenv : List (Str × LField)} {genv : List (Str × LGroup)} :
    ∀ (bs : List BodyCls) (trees : List (List LEntry)) (benv : List (Str × List LEntry)),
      bs.map (fun b => resolveRefs fenv genv .attr b.entries) = trees.map .ok →
      loadBodies fenv genv benv bs = .ok ((List.zip (bs.map (·.name)) trees).reverse ++ benv)
  | [], trees, benv, h => by
    cases trees with
    | nil => rfl
    | cons t ts => simp at h
  | b :: rest, trees, benv, h => by
    cases trees with
    | nil => simp at h
    | cons t ts =>
      simp only [List.map_cons, List.cons.injEq] at h
      simp only [loadBodies, h.1]
      rw [loadBodies_eq rest ts _ h.2]
      simp

def mkLMsg (h t : List LEntry) (info : Str × Str × Str) (tree : List LEntry) : LMsg :=
  ⟨info.1, info.2.1, info.2.2, h, tree, t⟩

theorem loadMessages_eq {fenv : List (Str × LField)} {genv : List (Str × LGroup)} {benv : List (Str × List LEntry)}
    {h t : List LEntry} (hh : aget (lit "Header") benv = some h) (ht : aget (lit "Trailer") benv = some t) :
    ∀ (cs : List MsgCls) (trees : List (List LEntry)),
      cs.map (fun c => resolveRefs fenv genv .attr c.entries) = trees.map .ok →
      (∀ p ∈ List.zip cs trees, aget p.1.bodyName benv = some p.2) →
      loadMessages fenv genv benv cs = .ok (List.zipWith (mkLMsg h t) (cs.map fun c => (c.name, c.tag, c.category)) trees)
  | [], trees, hr, _ => by
    cases trees with
    | nil => rfl
    | cons t ts => simp at hr
  | c :: rest, trees, hr, hb => by
    cases trees with
    | nil => simp at hr
    | cons tr ts =>
      simp only [List.map_cons, List.cons.injEq] at hr
      have hb1 := hb (c, tr) (by simp)
      simp only [loadMessages, hh, ht, hb1, hr.1]
      rw [loadMessages_eq hh ht rest ts hr.2 (fun p hp => hb p (by simp [hp]))]
      rfl

theorem specMessages_eq {fs : List LField} {comps : List CompXml} {h t : List LEntry} :
    ∀ (ms : List MsgXml) (trees : List (List LEntry)), ms.map (fun m => expand fs comps m.items) = trees.map .ok →
      specMessages fs comps h t ms = .ok (List.zipWith (mkLMsg h t) (ms.map fun m => (m.name, m.msgtype, m.msgcat)) trees)
  | [], trees, hr => by
    cases trees with
    | nil => rfl
    | cons t ts => simp at hr
  | m :: rest, trees, hr => by
    cases trees with
    | nil => simp at hr
    | cons tr ts =>
      simp only [List.map_cons, List.cons.injEq] at hr
      simp only [specMessages, hr.1]
      rw [specMessages_eq rest ts hr.2]
      rfl

theorem xMsgs_denotes {FT : FieldTab} {psub : Str → Except Err (List Entry)} {fs : List LField} {comps : List CompXml} :
    ∀ (ms : List MsgXml) (msgs : List Message),
      (∀ m ∈ ms, ∀ es, xItems FT psub m.items = .ok es → ∃ les, toLs FT es = some les ∧ expand fs comps m.items = .ok les) →
      xMsgs FT psub ms = .ok msgs →
      msgs.map (fun m => (m.name, m.tag, m.category)) = ms.map (fun m => (m.name, m.msgtype, m.msgcat)) ∧
      ∃ trees : List (List LEntry), msgs.map (fun m => toLs FT m.entries) = trees.map some ∧ ms.map (fun m => expand fs comps m.items) = trees.map .ok
  | [], msgs, _, hx => by
    simp only [xMsgs] at hx
    cases hx
    exact ⟨rfl, [], rfl, rfl⟩
  | m :: rest, msgs, hden, hx => by
    obtain ⟨es, ms2, h1, h2, rfl⟩ := xMsgs_cons_ok hx
    obtain ⟨les, hl, he⟩ := hden m (by simp) es h1
    obtain ⟨hi, trees, ht1, ht2⟩ := xMsgs_denotes rest ms2 (fun m' hm' => hden m' (by simp [hm'])) h2
    exact ⟨by simp [hi], les :: trees, by simp [hl, ht1], by simp [he, ht2]⟩


theorem bodySuffix_eq : bodySuffix = [66, 111, 100, 121] := by decide
theorem header_eq : lit "Header" = [72, 101, 97, 100, 101, 114] := by decide
theorem trailer_eq : lit "Trailer" = [84, 114, 97, 105, 108, 101, 114] := by decide

theorem body_ne_header (n : Str) : n ++ bodySuffix ≠ lit "Header" := by
  intro e
  have := congrArg List.getLast? e
  rw [bodySuffix_eq, header_eq] at this
  simp [List.getLast?_append] at this

theorem body_ne_trailer (n : Str) : n ++ bodySuffix ≠ lit "Trailer" := by
  intro e
  have := congrArg List.getLast? e
  rw [bodySuffix_eq, trailer_eq] at this
  simp [List.getLast?_append] at this

theorem header_ne_trailer : lit "Header" ≠ lit "Trailer" := by decide

theorem bodyNames_nodup : ∀ (ns : List Str), ns.Nodup → (ns.map (· ++ bodySuffix)).Nodup
  | [], _ => by simp
  | n :: t, h => by
    simp only [List.nodup_cons] at h
    simp only [List.map_cons, List.nodup_cons]
    refine ⟨?_, bodyNames_nodup t h.2⟩
    intro hm
    obtain ⟨m, hm1, hm2⟩ := List.mem_map.mp hm
    have : m = n := List.append_cancel_right hm2
    exact h.1 (this ▸ hm1)

theorem map_resolve_ext {α : Type} {fenv : List (Str × LField)} {genv add : List (Str × LGroup)} {s : GState} {miss miss' : Err}
    (hb : Bounded (keys genv) s) (hf : Fresh s (keys add)) (ent : α → List ERef) :
    ∀ (cs : List α) (trees : List (List LEntry)),
      cs.map (fun c => resolveRefs fenv genv miss (ent c)) = trees.map .ok →
      cs.map (fun c => resolveRefs fenv (add ++ genv) miss' (ent c)) = trees.map .ok
  | [], trees, h => by simpa using h
  | c :: rest, trees, h => by
    cases trees with
    | nil => simp at h
    | cons t ts =>
      simp only [List.map_cons, List.cons.injEq] at h ⊢
      exact ⟨resolveRefs_ext hb hf _ _ h.1, map_resolve_ext hb hf ent rest ts h.2⟩


@[reducible] def msgInfo (m : Message) : Str × Str × Str := (m.name, m.tag, m.category)

def loadedOf (FT : FieldTab) (sess : SessionCls) (defs : Defs) (h t : List LEntry) (trees : List (List LEntry)) : Loaded :=
  { session := sess, fields := FT.map (fun kv => lfOf kv.2), header := h, trailer := t,
    messages := List.zipWith (mkLMsg h t) (defs.messages.map msgInfo) trees }

theorem codegen_load {FT : FieldTab} (hft : FTOk FT) {defs : Defs} (hfields : defs.fields = FT) {sess : SessionCls}
    {htree ttree : List LEntry} {trees : List (List LEntry)}
    (hh : toLs FT defs.header = some htree) (ht : toLs FT defs.trailer = some ttree)
    (hm : defs.messages.map (fun m => toLs FT m.entries) = trees.map some)
    (hnames : (defs.messages.map (·.name)).Nodup) (hs : clientSession defs.version = .ok sess)
    {m : Module} (hc : codegen defs = .ok m) :
    load m = .ok (loadedOf FT sess defs htree ttree trees) ∧ (m.groups.map (·.uname)).Nodup := by
  simp only [codegen, codegenFrom, hs, Except.ok.injEq] at hc
  subst hc
  have hfe := fenvOf_ok hft
  have inv0 : GInv (fenvOf FT) {} [] := ⟨rfl, by intro u hu; simp at hu, by simp⟩
  obtain ⟨gm, stm, rm, im⟩ := ctxMessages_load hfe defs.messages trees {} [] hm inv0
  obtain ⟨gh, sth, rh⟩ := ctxEntries_load hfe defs.header htree _ gm hh stm.inv
  obtain ⟨gt, stt, rt⟩ := ctxEntries_load hfe defs.trailer ttree _ gh ht sth.inv
  obtain ⟨addt, eaddt, faddt⟩ := stt.ext
  obtain ⟨addht, eaddht, faddht⟩ := (sth.trans stt).ext
  refine ⟨?_, ?_⟩
  case refine_2 =>
    have hk := loadGroups_keys stt.inv.loaded
    simp only [keys_nil, List.append_nil] at hk
    have hn := stt.inv.nodup
    rw [hk] at hn
    exact (List.pairwise_reverse.mp hn).imp (fun h => Ne.symm h)
  have e1 : (defs.fields.map fun kv => (⟨kv.2.name, kv.2.tag, kv.2.type, valuesCtx kv.2⟩ : FieldCls)) = FT.map clsOf := by
    rw [hfields]; rfl
  simp only [load, e1, loadFields_FT hft, stt.inv.loaded]
  have r1 : resolveRefs (fenvOf FT) gt .attr (ctxEntries (ctxMessages {} defs.messages).2 defs.header).1 = .ok htree := by
    rw [eaddt]; exact resolveRefs_ext sth.inv.bounded faddt _ _ (rh .attr)
  have r2 := rt .attr
  have r3 : (ctxMessages {} defs.messages).1.map (fun c => resolveRefs (fenvOf FT) gt .attr c.entries) = trees.map .ok := by
    rw [eaddht]; exact map_resolve_ext stm.inv.bounded faddht (fun c : MsgCls => c.entries) _ trees (rm .attr)
  generalize (ctxEntries (ctxMessages {} defs.messages).2 defs.header).1 = hE at r1 ⊢
  generalize (ctxEntries (ctxEntries (ctxMessages {} defs.messages).2 defs.header).2 defs.trailer).1 = tE at r2 ⊢
  generalize (ctxMessages {} defs.messages).1 = cs at r3 im rm ⊢
  have hb : ((⟨lit "Header", hE⟩ : BodyCls) :: ⟨lit "Trailer", tE⟩ ::
      cs.map (fun m => ⟨m.bodyName, m.entries⟩)).map (fun b => resolveRefs (fenvOf FT) gt .attr b.entries)
      = (htree :: ttree :: trees).map .ok := by
    simp only [List.map_cons, List.map_map, Function.comp_def, r1, r2]
    rw [r3]
  rw [loadBodies_eq _ _ _ hb]
  have hlen : cs.length = trees.length := by
    have := congrArg List.length (rm .attr)
    simpa using this
  have hbn : cs.map (·.bodyName) = defs.messages.map (fun m => m.name ++ bodySuffix) := by
    have := congrArg (List.map (fun q : Str × Str × Str × Str => q.2.2.2)) im
    simpa [List.map_map, Function.comp_def] using this
  let L := List.zip (lit "Header" :: lit "Trailer" :: cs.map (·.bodyName)) (htree :: ttree :: trees)
  have hkeys : keys L = lit "Header" :: lit "Trailer" :: cs.map (·.bodyName) := by
    simp only [L, keys, List.zip_cons_cons, List.map_cons]
    congr 2
    rw [← List.unzip_fst, List.unzip_zip]
    simp [hlen]
  have hnd : (keys L).Nodup := by
    rw [hkeys, hbn]
    simp only [List.nodup_cons, List.mem_cons, List.mem_map, not_or, not_exists, not_and]
    refine ⟨⟨header_ne_trailer, fun m _ e => body_ne_header _ e⟩, fun m _ e => body_ne_trailer _ e, ?_⟩
    simpa [List.map_map, Function.comp_def] using bodyNames_nodup _ hnames
  have hbenv : (List.zip (List.map (·.name) ((⟨lit "Header", hE⟩ : BodyCls) :: ⟨lit "Trailer", tE⟩ ::
      cs.map (fun m => ⟨m.bodyName, m.entries⟩))) (htree :: ttree :: trees)).reverse ++ [] = L.reverse := by
    simp [L, List.map_map, Function.comp_def]
  rw [hbenv]
  have gH : aget (lit "Header") L.reverse = some htree := by
    rw [aget_reverse _ _ hnd]; simp [L, aget]
  have gT : aget (lit "Trailer") L.reverse = some ttree := by
    rw [aget_reverse _ _ hnd]
    have : ¬ (lit "Header" = lit "Trailer") := header_ne_trailer
    simp [L, aget, this]
  have gB : ∀ p ∈ List.zip cs trees, aget p.1.bodyName L.reverse = some p.2 := by
    intro p hp
    rw [aget_reverse _ _ hnd]
    apply aget_of_mem_nodup hnd
    simp only [L, List.zip_cons_cons, List.mem_cons]
    right; right
    have : (p.1.bodyName, p.2) ∈ List.zip (cs.map (·.bodyName)) trees := by
      rw [show trees = trees.map id by simp, List.zip_map]
      exact List.mem_map.mpr ⟨p, hp, rfl⟩
    exact this
  dsimp only
  rw [loadMessages_eq gH gT cs trees r3 gB]
  simp only [gH, gT]
  have hinfo : cs.map (fun c => (c.name, c.tag, c.category)) = defs.messages.map msgInfo := by
    have := congrArg (List.map (fun q : Str × Str × Str × Str => (q.1, q.2.1, q.2.2.1))) im
    simpa [List.map_map, Function.comp_def] using this
  rw [hinfo, fenvOf_fields]
  rfl


theorem field_facts {types : TypeTable} {f : FieldXml} (h : wfFieldXmlE types f = true) :
    ∃ ty t, aget f.type types = some ty ∧ parseIntStr f.number = .ok t ∧
      lfOf (mkDef types f).2 = ⟨f.name, t, ty, specValues ty f.values⟩ ∧
      loadField (clsOf (mkDef types f)) = .ok (lfOf (mkDef types f).2) := by
  simp only [wfFieldXmlE, Bool.and_eq_true] at h
  obtain ⟨⟨⟨_, hnum⟩, _⟩, hty⟩ := h
  split at hty
  · cases hty
  · rename_i ty hg
    simp only [Bool.and_eq_true, List.all_eq_true, nodupB_iff] at hty
    obtain ⟨⟨hen, hnd⟩, _⟩ := hty
    cases hp : parseIntStr f.number with
    | error e => rw [hp] at hnum; cases hnum
    | ok t =>
      have hvals : valuesCtx (mkDef types f).2 = specValues ty f.values := by
        simp only [valuesCtx, mkDef, hg, Option.getD_some, valuesDict_eq f.values hnd, specValues, List.map_map, Function.comp_def]
      have hlf : lfOf (mkDef types f).2 = ⟨f.name, t, ty, specValues ty f.values⟩ := by
        have hv' := hvals
        simp only [mkDef, hg, Option.getD_some] at hv'
        simp only [lfOf, tagOf, mkDef, hp, hg, Option.getD_some, hv']
      refine ⟨ty, t, hg, rfl, hlf, ?_⟩
      have hall : ((clsOf (mkDef types f)).values.all fun v => isIdent v.attr && (v.quoted || (parseIntStr v.key).toBool)) = true := by
        show ((valuesCtx (mkDef types f).2).all _) = true
        rw [hvals]
        simp only [specValues, List.all_map, List.all_eq_true, Function.comp_def]
        intro v hv
        have := hen v hv
        simp only [wfEnumE, Bool.and_eq_true] at this
        obtain ⟨⟨hid, _⟩, hk⟩ := this
        simp only [hid, Bool.true_and]
        cases hq : (ty.kind == PyKind.str || ty.kind == PyKind.bool) with
        | true => rfl
        | false =>
          rw [hq] at hk
          simp only [Bool.false_eq_true, if_false, Bool.and_eq_true] at hk
          simp only [Bool.false_or]
          exact hk.1
      rw [hlf]
      simp only [loadField, hall, Bool.not_true]
      show (match parseIntStr f.number with
        | Except.error e => Except.error e
        | Except.ok t => Except.ok (⟨f.name, t, (aget f.type types).getD TyCls.FixString, valuesCtx (mkDef types f).2⟩ : LField)) = _
      rw [hp, hg, hvals]
      rfl

theorem specFields_cons_ok {types : TypeTable} {f : FieldXml} {rest : List FieldXml} {lfs : List LField}
    (h : specFields types (f :: rest) = .ok lfs) :
    ∃ ty t lfs2, aget f.type types = some ty ∧ parseIntStr f.number = .ok t ∧ specFields types rest = .ok lfs2 ∧
      lfs = ⟨f.name, t, ty, specValues ty f.values⟩ :: lfs2 := by
  simp only [specFields, specField] at h
  cases h1 : aget f.type types with
  | none => rw [h1] at h; cases h
  | some ty =>
    rw [h1] at h
    dsimp only at h
    cases h2 : parseIntStr f.number with
    | error e => rw [h2] at h; cases h
    | ok t =>
      rw [h2] at h
      dsimp only at h
      cases h3 : specFields types rest with
      | error e => rw [h3] at h; cases h
      | ok lfs2 =>
        rw [h3] at h
        cases h
        exact ⟨ty, t, lfs2, rfl, rfl, rfl, rfl⟩

theorem specFields_eq {types : TypeTable} : ∀ (fxs : List FieldXml), (∀ f ∈ fxs, wfFieldXmlE types f = true) →
    specFields types fxs = .ok (fxs.map (fun f => lfOf (mkDef types f).2))
  | [], _ => rfl
  | f :: rest, h => by
    obtain ⟨ty, t, h1, h2, h3, _⟩ := field_facts (h f (by simp))
    simp only [specFields, specField, h1, h2, List.map_cons, h3]
    rw [specFields_eq rest (fun g hg => h g (by simp [hg]))]

theorem fieldTab_ok {d : Dict} {types : TypeTable} (w : WF d types) : FTOk (fieldTab d types) := by
  refine ⟨?_, ?_, ?_⟩
  · intro kv hkv
    obtain ⟨f, _, rfl⟩ := List.mem_map.mp hkv
    rfl
  · rw [fieldTab, keys_map_mkDef]; exact w.fnames
  · intro kv hkv
    obtain ⟨f, hf, rfl⟩ := List.mem_map.mp hkv
    obtain ⟨_, _, _, _, _, h⟩ := field_facts (w.fieldsOk f hf)
    exact h


theorem session_of_supported {v : Version} (h : supportedVersion v = true) :
    ∃ sess, clientSession v = .ok sess ∧ specSession v = .ok sess := by
  cases v with
  | unknown => cases h
  | _ => exact ⟨_, rfl, rfl⟩

theorem genLoad_denote {d : Dict} {types : TypeTable} (w : WF d types) :
    ∃ m L, gen d = .ok m ∧ load m = .ok L ∧ denote d = .ok L ∧ (m.groups.map (·.uname)).Nodup := by
  obtain ⟨defs, hparse, P⟩ := parse_ok w
  have hft := fieldTab_ok w
  have kp := hft.kp
  have hg : ∀ n, declaredCount d types n = true → ∃ cf, aget n (fieldTab d types) = some cf := fun _ => count_known
  have srel := xComp_denotes kp hg (fun c hc => w.refs _ (comp_items_mem hc)) (allComps d).length
  obtain ⟨htree, hh, heh⟩ := xItems_denotes kp srel hg _ _ w.refs_header P.hdr
  obtain ⟨ttree, ht, het⟩ := xItems_denotes kp srel hg _ _ w.refs_trailer P.trl
  obtain ⟨hinfo, trees, ht1, ht2⟩ := xMsgs_denotes (fs := (fieldTab d types).map (fun kv : Str × FieldDef => lfOf kv.2)) (comps := allComps d)
    (d.sections.flatMap messagesOf) defs.messages
    (fun m hm es hx => xItems_denotes kp srel hg m.items es (w.refs _ (msg_items_mem hm)) hx) P.msgs
  have hnames : (defs.messages.map (·.name)).Nodup := by
    have := congrArg (List.map (fun q : Str × Str × Str => q.1)) hinfo
    simp only [List.map_map, Function.comp_def] at this
    rw [this]
    exact w.mnames
  obtain ⟨sess, hsess, hspec⟩ := session_of_supported w.version_ok
  have hs : clientSession defs.version = .ok sess := by rw [P.ver]; exact hsess
  obtain ⟨m, hcg⟩ : ∃ m, codegen defs = .ok m := by
    simp only [codegen, codegenFrom, hs]
    exact ⟨_, rfl⟩
  obtain ⟨hload, hnodup⟩ := codegen_load hft P.fields hh ht ht1 hnames hs hcg
  refine ⟨m, _, by simp only [gen, hparse, hcg], hload, ?_, hnodup⟩
  have hsf := specFields_eq (types := types) (d.sections.flatMap fieldsOf) w.fieldsOk
  have hfs : (d.sections.flatMap fieldsOf).map (fun f => lfOf (mkDef types f).2) = (fieldTab d types).map (fun kv => lfOf kv.2) := by
    simp [fieldTab, List.map_map, Function.comp_def]
  rw [hfs] at hsf
  simp only [denote, w.htypes, hspec, hsf]
  have e1 : expand ((fieldTab d types).map fun kv => lfOf kv.2) (allComps d) (d.sections.flatMap headerOf) = .ok htree := heh
  have e2 : expand ((fieldTab d types).map fun kv => lfOf kv.2) (allComps d) (d.sections.flatMap trailerOf) = .ok ttree := het
  simp only [e1, e2, specMessages_eq _ _ ht2]
  simp only [loadedOf]
  have : defs.messages.map msgInfo = (d.sections.flatMap messagesOf).map (fun m => (m.name, m.msgtype, m.msgcat)) := hinfo
  rw [this]

theorem genLoad_ok {d : Dict} {m : Module} {L : Loaded} (hg : gen d = .ok m) (hl : load m = .ok L) : genLoad d = .ok L := by
  simp only [genLoad, hg, hl]

/-- C16 as one equation: on a valid dictionary, generating and importing computes the reference semantics -/
theorem genLoad_eq_denote {d : Dict} {types : TypeTable} (w : WF d types) : genLoad d = denote d := by
  obtain ⟨m, L, hg, hl, hd, _⟩ := genLoad_denote w
  rw [genLoad_ok hg hl, hd]


theorem groupRefs_cons_field (fd : FieldDef) (r : Bool) (rest : List ERef) : groupRefs (.field fd r :: rest) = groupRefs rest := rfl
theorem groupRefs_cons_group (n u : Str) (r : Bool) (rest : List ERef) : groupRefs (.group n u r :: rest) = u :: groupRefs rest := rfl
theorem fieldRefs_cons_field (fd : FieldDef) (r : Bool) (rest : List ERef) : fieldRefs (.field fd r :: rest) = fd.name :: fieldRefs rest := rfl
theorem fieldRefs_cons_group (n u : Str) (r : Bool) (rest : List ERef) : fieldRefs (.group n u r :: rest) = fieldRefs rest := rfl

theorem resolveRefs_refs {fenv : List (Str × LField)} {genv : List (Str × LGroup)} {miss : Err} :
    ∀ (rs : List ERef) (les : List LEntry), resolveRefs fenv genv miss rs = .ok les →
      (∀ u ∈ groupRefs rs, u ∈ keys genv) ∧ (∀ n ∈ fieldRefs rs, n ∈ keys fenv)
  | [], _, _ => by simp [groupRefs, fieldRefs]
  | r :: rest, les, h => by
    obtain ⟨le, les2, h1, h2, rfl⟩ := resolveRefs_cons_ok h
    obtain ⟨ihg, ihf⟩ := resolveRefs_refs rest les2 h2
    cases r with
    | field fd rq =>
      simp only [resolveRef] at h1
      split at h1
      · cases h1
      · rename_i lf hf
        rw [groupRefs_cons_field, fieldRefs_cons_field]
        refine ⟨ihg, fun n hn => ?_⟩
        rcases List.mem_cons.mp hn with rfl | hn
        · exact mem_keys_of_aget hf
        · exact ihf n hn
    | group nm u rq =>
      simp only [resolveRef] at h1
      split at h1
      · cases h1
      · rename_i g hg
        rw [groupRefs_cons_group, fieldRefs_cons_group]
        refine ⟨fun v hv => ?_, ihf⟩
        rcases List.mem_cons.mp hv with rfl | hv
        · exact mem_keys_of_aget hg
        · exact ihg v hv

theorem loadGroups_scoped {fenv : List (Str × LField)} : ∀ (cs : List GroupCtx) (genv genv' : List (Str × LGroup)),
    loadGroups fenv genv cs = .ok genv' →
      scopedGroups (keys genv) cs = true ∧ ∀ g ∈ cs, g.name ∈ keys fenv ∧ ∀ n ∈ fieldRefs g.entries, n ∈ keys fenv
  | [], _, _, _ => by simp [scopedGroups]
  | g :: rest, genv, genv', h => by
    simp only [loadGroups] at h
    split at h
    · cases h
    · rename_i les h1
      split at h
      · cases h
      · rename_i cf h2
        obtain ⟨hg, hf⟩ := resolveRefs_refs _ _ h1
        obtain ⟨ih1, ih2⟩ := loadGroups_scoped rest _ _ h
        refine ⟨?_, ?_⟩
        · simp only [scopedGroups, Bool.and_eq_true, List.all_eq_true]
          refine ⟨fun u hu => by simpa using hg u hu, ?_⟩
          simpa using ih1
        · intro g' hg'
          simp only [List.mem_cons] at hg'
          rcases hg' with rfl | hg'
          · exact ⟨mem_keys_of_aget h2, hf⟩
          · exact ih2 g' hg'

theorem loadBodies_refs {fenv : List (Str × LField)} {genv : List (Str × LGroup)} :
    ∀ (bs : List BodyCls) (benv benv' : List (Str × List LEntry)), loadBodies fenv genv benv bs = .ok benv' →
      ∀ b ∈ bs, (∀ u ∈ groupRefs b.entries, u ∈ keys genv) ∧ (∀ n ∈ fieldRefs b.entries, n ∈ keys fenv)
  | [], _, _, _ => by simp
  | b :: rest, benv, benv', h => by
    simp only [loadBodies] at h
    split at h
    · cases h
    · rename_i les h1
      intro b' hb'
      simp only [List.mem_cons] at hb'
      rcases hb' with rfl | hb'
      · exact resolveRefs_refs _ _ h1
      · exact loadBodies_refs rest _ _ h b' hb'

theorem loadMessages_refs {fenv : List (Str × LField)} {genv : List (Str × LGroup)} {benv : List (Str × List LEntry)} :
    ∀ (cs : List MsgCls) (ms : List LMsg), loadMessages fenv genv benv cs = .ok ms →
      ∀ c ∈ cs, ∀ u ∈ groupRefs c.entries, u ∈ keys genv
  | [], _, _ => by simp
  | c :: rest, ms, h => by
    simp only [loadMessages] at h
    split at h
    · rename_i hd bd tl _ _ _
      split at h
      · cases h
      · rename_i les h1
        cases h2 : loadMessages fenv genv benv rest with
        | error e => rw [h2] at h; cases h
        | ok ms2 =>
          intro c' hc'
          simp only [List.mem_cons] at hc'
          rcases hc' with rfl | hc'
          · exact (resolveRefs_refs _ _ h1).1
          · exact loadMessages_refs rest ms2 h2 c' hc'
    · cases h

theorem loadFields_keys : ∀ (fs : List FieldCls) (env env' : List (Str × LField)), loadFields env fs = .ok env' →
    keys env' = (fs.map (·.name)).reverse ++ keys env
  | [], env, env', h => by
    simp only [loadFields] at h
    cases h
    simp
  | f :: rest, env, env', h => by
    simp only [loadFields] at h
    split at h
    · cases h
    · rename_i lf h1
      rw [loadFields_keys rest _ _ h]
      simp

theorem load_inv {m : Module} {L : Loaded} (h : load m = .ok L) :
    ∃ fenv genv benv msgs, loadFields [] m.fields = .ok fenv ∧ loadGroups fenv [] m.groups = .ok genv ∧
      loadBodies fenv genv [] m.bodies = .ok benv ∧ loadMessages fenv genv benv m.messages = .ok msgs ∧
      L.fields = (fenv.map (·.2)).reverse := by
  simp only [load] at h
  split at h
  · cases h
  · rename_i fenv h1
    split at h
    · cases h
    · rename_i genv h2
      split at h
      · cases h
      · rename_i benv h3
        split at h
        · cases h
        · rename_i msgs h4
          split at h
          · cases h
            exact ⟨fenv, genv, benv, msgs, h1, h2, h3, h4, rfl⟩
          · cases h

theorem load_wellScoped {m : Module} {L : Loaded} (h : load m = .ok L) (hn : (m.groups.map (·.uname)).Nodup) :
    wellScoped m = true := by
  obtain ⟨fenv, genv, benv, msgs, h1, h2, h3, h4, _⟩ := load_inv h
  have kf := loadFields_keys _ _ _ h1
  have kg := loadGroups_keys h2
  simp only [keys_nil, List.append_nil] at kf kg
  obtain ⟨s1, s2⟩ := loadGroups_scoped _ _ _ h2
  have s3 := loadBodies_refs _ _ _ h3
  have s4 := loadMessages_refs _ _ h4
  have memf : ∀ n, n ∈ keys fenv → (m.fields.map (·.name)).contains n = true := by
    intro n hn'; rw [kf] at hn'; simpa using hn'
  have memg : ∀ u, u ∈ keys genv → (m.groups.map (·.uname)).contains u = true := by
    intro u hu; rw [kg] at hu; simpa using hu
  simp only [wellScoped, Bool.and_eq_true, List.all_eq_true, nodupB_iff]
  refine ⟨⟨⟨⟨by simpa using s1, hn⟩, ?_⟩, ?_⟩, ?_⟩
  · intro g hg
    exact ⟨memf _ (s2 g hg).1, fun n hn' => memf n ((s2 g hg).2 n hn')⟩
  · intro b hb
    exact ⟨fun u hu => memg u ((s3 b hb).1 u hu), fun n hn' => memf n ((s3 b hb).2 n hn')⟩
  · intro c hc u hu
    exact memg u (s4 c hc u hu)


structure Denotes (d : Dict) (types : TypeTable) (L : Loaded) : Prop where
  htypes : supportedTypes d.version = .ok types
  session : specSession d.version = .ok L.session
  fields : specFields types (d.sections.flatMap fieldsOf) = .ok L.fields
  header : expand L.fields (allComps d) (d.sections.flatMap headerOf) = .ok L.header
  trailer : expand L.fields (allComps d) (d.sections.flatMap trailerOf) = .ok L.trailer
  messages : specMessages L.fields (allComps d) L.header L.trailer (d.sections.flatMap messagesOf) = .ok L.messages

theorem denote_inv {d : Dict} {L : Loaded} (h : denote d = .ok L) : ∃ types, Denotes d types L := by
  simp only [denote] at h
  split at h
  · rename_i types sess ht hs
    split at h
    · cases h
    · rename_i fs hf
      split at h
      · rename_i hd tl hh htl
        split at h
        · cases h
        · rename_i ms hm
          cases h
          exact ⟨types, ht, hs, hf, hh, htl, hm⟩
      · cases h
      · cases h
  · cases h
  · cases h

/-- whatever the dictionary: nothing is generated unless the version has a session class -/
theorem gen_ok_version {d : Dict} {m : Module} (h : gen d = .ok m) : ∃ sess, clientSession d.version = .ok sess := by
  cases hv : d.version with
  | unknown =>
    -- `parse` has already refused the version
    simp only [gen, parse, hv, supportedTypes] at h
    cases h
  | _ => exact ⟨_, rfl⟩

end NasdaqModel.GenFix
