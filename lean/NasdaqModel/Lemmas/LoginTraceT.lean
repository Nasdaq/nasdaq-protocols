import NasdaqModel.Lemmas.LoginTraceRecv
/-
Login at trace level (C11), part 2: global facts that tie the observable trace to the state — the invariant `InvT cfg sd lo s` and
what keeps it, operation by operation (every step keeps it: `LoginTraceW.lean`, `runEvs_InvWT`).  `sd` / `lo`: a `callSend` / a
`callLogout` occurred (fields `sent`, `logged`).

  msgd / quiet   a message callback was entered only with dispatching switched on; while a receive is pending on an open session
                 no message callback has been entered yet (so none precedes the consumption of a login reply that is accepted)
  lw / reply     a pending `login()` has written its request: every `loginReply` is preceded by `write login`
  dset           dispatching is on only if a message callback is configured and either the session dispatches on connect or a
                 login was accepted before
  fresh / fw     client configuration: the first write of a session is the login request, unless the user itself sent data or
                 logged out earlier
-/
namespace NasdaqModel.Sess

/-- an acceptance was consumed by a login that returned the session -/
def AcceptedIn (tr : List Obs) : Prop := ∃ a b u, tr = a ++ Obs.loginReply 0 :: Obs.ret u .ok :: b

theorem AcceptedIn.append {tr : List Obs} (h : AcceptedIn tr) (l : List Obs) : AcceptedIn (tr ++ l) := by
  obtain ⟨a, b, u, e⟩ := h
  exact ⟨a, b ++ l, u, by rw [e]; simp⟩

/-- observables the global trace invariants do not speak about -/
def boring (o : Obs) : Prop := (∀ n, o ≠ .msgEnter n) ∧ (∀ n, o ≠ .loginReply n) ∧ (∀ k, o ≠ .write k)

theorem closeObs_boring {c : Cont} {o : Obs} (h : closeObs c o) : boring o := by
  rcases h with h | h | h | ⟨n, _, h⟩ | ⟨u, r, _, h⟩ <;> subst h <;> exact ⟨by simp, by simp, by simp⟩

theorem mem_append_msgEnter {tr l : List Obs} (hl : ∀ o ∈ l, boring o) {n : Nat} (h : Obs.msgEnter n ∈ tr ++ l) :
    Obs.msgEnter n ∈ tr := by
  rcases List.mem_append.mp h with h | h
  · exact h
  · exact absurd rfl ((hl _ h).1 n)

theorem mem_append_write {tr l : List Obs} (hl : ∀ o ∈ l, boring o) {k : WKind} (h : Obs.write k ∈ tr ++ l) :
    Obs.write k ∈ tr := by
  rcases List.mem_append.mp h with h | h
  · exact h
  · exact absurd rfl ((hl _ h).2.2 k)

def PReply (l : List Obs) (y : Obs) : Prop := ∀ n, y = .loginReply n → Obs.write .login ∈ l

def PFirstW (l : List Obs) (y : Obs) : Prop :=
  ∀ k, y = .write k → (∀ k', Obs.write k' ∉ l) → k = .login ∨ k = .data ∨ k = .logout

structure InvT (cfg : Cfg) (sd lo : Prop) (s : St) : Prop where
  msgd : (∃ n, Obs.msgEnter n ∈ s.trace) → s.dispSet = true ∨ s.closed = true
  quiet : s.rcvBusy = true → s.closed = false → ∀ n, Obs.msgEnter n ∉ s.trace
  lw : ∀ a, alive (s.status (.U a)) = true → s.prog (.U a) = .loginWait a → Obs.write .login ∈ s.trace
  reply : Before PReply s.trace
  dset : s.dispSet = true → cfg.hasMsgCb = true ∧ (cfg.dispatchOnConnect = true ∨ AcceptedIn s.trace)
  fresh : cfg.dispatchOnConnect = false → (∀ k, Obs.write k ∉ s.trace) → s.status .L = .absent ∧ s.status .D = .absent
  fw : cfg.dispatchOnConnect = false → Before PFirstW s.trace
  sent : Obs.write .data ∈ s.trace → sd
  logged : Obs.write .logout ∈ s.trace → lo

/-- extension of the trace by boring observables, with a state change that keeps what the invariant reads -/
theorem InvT.ext {cfg : Cfg} {sd lo : Prop} {s s' : St} (i : InvT cfg sd lo s) (l : List Obs)
    (htr : s'.trace = s.trace ++ l) (hl : ∀ o ∈ l, boring o)
    (h1 : s'.closed = true ∨ (s'.dispSet = s.dispSet ∧ s'.closed = s.closed))
    (h2 : s'.rcvBusy = true → s'.closed = false → (s.rcvBusy = true ∧ s.closed = false) ∨ ∀ n, Obs.msgEnter n ∉ s.trace)
    (h3 : ∀ a, alive (s'.status (.U a)) = true → s'.prog (.U a) = .loginWait a →
      (alive (s.status (.U a)) = true ∧ s.prog (.U a) = .loginWait a) ∨ Obs.write .login ∈ s.trace)
    (h5 : s'.dispSet = true → s.dispSet = true)
    (h6 : (∃ k, Obs.write k ∈ s.trace) ∨
      ((s.status .L = .absent → s'.status .L = .absent) ∧ (s.status .D = .absent → s'.status .D = .absent))) :
    InvT cfg sd lo s' := by
  refine ⟨?_, ?_, ?_, ?_, ?_, ?_, ?_, ?_, ?_⟩
  · rintro ⟨n, hn⟩
    rw [htr] at hn
    have := i.msgd ⟨n, mem_append_msgEnter hl hn⟩
    rcases h1 with h | ⟨hd, hc⟩
    · exact Or.inr h
    · rw [hd, hc]; exact this
  · intro hb hc n hn
    rw [htr] at hn
    have hn' := mem_append_msgEnter hl hn
    rcases h2 hb hc with ⟨a, b⟩ | h
    · exact i.quiet a b n hn'
    · exact h n hn'
  · intro a ha hp
    rw [htr]
    rcases h3 a ha hp with ⟨a1, a2⟩ | h
    · exact List.mem_append_left _ (i.lw a a1 a2)
    · exact List.mem_append_left _ h
  · rw [htr]
    exact before_append i.reply (fun o ho l' n e => absurd e ((hl o ho).2.1 n))
  · intro hd
    obtain ⟨a, b⟩ := i.dset (h5 hd)
    refine ⟨a, ?_⟩
    rcases b with b | b
    · exact Or.inl b
    · rw [htr]; exact Or.inr (b.append l)
  · intro hdc hw
    have hw' : ∀ k, Obs.write k ∉ s.trace := by
      intro k hk; exact hw k (by rw [htr]; exact List.mem_append_left _ hk)
    obtain ⟨a, b⟩ := i.fresh hdc hw'
    rcases h6 with ⟨k, hk⟩ | ⟨h6a, h6b⟩
    · exact absurd hk (hw' k)
    · exact ⟨h6a a, h6b b⟩
  · intro hdc
    rw [htr]
    exact before_append (i.fw hdc) (fun o ho l' k e => absurd e ((hl o ho).2.2 k))
  · intro h; rw [htr] at h; exact i.sent (mem_append_write hl h)
  · intro h; rw [htr] at h; exact i.logged (mem_append_write hl h)

/-- what `InvT` reads -/
def viewT (s : St) :=
  (s.trace, s.dispSet, s.closed, s.rcvBusy, (fun a => s.status (.U a)), (fun a => s.prog (.U a)), s.status .L, s.status .D)

theorem InvT.of_view_ext {cfg : Cfg} {sd lo : Prop} {s s' : St} (l : List Obs)
    (h : viewT s' = (s.trace ++ l, s.dispSet, s.closed, s.rcvBusy, (fun a => s.status (.U a)), (fun a => s.prog (.U a)), s.status .L,
      s.status .D)) (hl : ∀ o ∈ l, boring o) (i : InvT cfg sd lo s) : InvT cfg sd lo s' := by
  simp only [viewT, Prod.mk.injEq] at h
  obtain ⟨h1, h2, h3, h4, h5, h6, h7, h8⟩ := h
  have e1 : ∀ a, s'.status (.U a) = s.status (.U a) := fun a => congrFun h5 a
  have e2 : ∀ a, s'.prog (.U a) = s.prog (.U a) := fun a => congrFun h6 a
  refine i.ext l h1 hl (Or.inr ⟨h2, h3⟩) ?_ ?_ (by rw [h2]; exact id) (Or.inr ⟨by rw [h7]; exact id, by rw [h8]; exact id⟩)
  · intro a b; rw [h4] at a; rw [h3] at b; exact Or.inl ⟨a, b⟩
  · intro a ha hp; rw [e1] at ha; rw [e2] at hp; exact Or.inl ⟨ha, hp⟩

theorem boring_nil : ∀ o ∈ ([] : List Obs), boring o := by intro o h; simp at h

theorem boring_one {o : Obs} (h : boring o) : ∀ o' ∈ [o], boring o' := by
  intro o' h'; simp at h'; subst h'; exact h

theorem InvT.same {cfg : Cfg} {sd lo : Prop} {s s' : St} (i : InvT cfg sd lo s) (h : viewT s' = viewT s) : InvT cfg sd lo s' :=
  InvT.of_view_ext [] (by rw [List.append_nil]; exact h) boring_nil i

/-- one observable the invariant does not speak about is emitted -/
theorem InvT.emit {cfg : Cfg} {sd lo : Prop} {s s' : St} {o : Obs} (i : InvT cfg sd lo s)
    (h : viewT s' = viewT (s.emit o)) (ho : boring o) : InvT cfg sd lo s' :=
  InvT.of_view_ext [o] h (boring_one ho) i

theorem mem_snoc {α} {x o : α} {tr : List α} : x ∈ tr ++ [o] ↔ x ∈ tr ∨ x = o := by simp

/-- one observable is emitted, with a state change that keeps what the invariant reads (the busy flag, now `b`, may be cleared) -/
theorem InvT.snoc {cfg : Cfg} {sd lo : Prop} {s s' : St} (i : InvT cfg sd lo s) (o : Obs) (b : Bool)
    (h : viewT s' = (s.trace ++ [o], s.dispSet, s.closed, b, (fun a => s.status (.U a)), (fun a => s.prog (.U a)), s.status .L,
      s.status .D))
    (hb : b = true → s.rcvBusy = true)
    (hme : ∀ n, o = .msgEnter n → b = false ∧ (s.dispSet = true ∨ s.closed = true))
    (hrp : ∀ n, o = .loginReply n → Obs.write .login ∈ s.trace)
    (hwr : ∀ k, o = .write k →
      (cfg.dispatchOnConnect = false → (k = .login ∨ k = .data ∨ k = .logout) ∨ ∃ k', Obs.write k' ∈ s.trace) ∧
      (k = .data → sd) ∧ (k = .logout → lo)) : InvT cfg sd lo s' := by
  simp only [viewT, Prod.mk.injEq] at h
  obtain ⟨h1, h2, h3, h4, h5, h6, h7, h8⟩ := h
  have e1 : ∀ a, s'.status (.U a) = s.status (.U a) := fun a => congrFun h5 a
  have e2 : ∀ a, s'.prog (.U a) = s.prog (.U a) := fun a => congrFun h6 a
  refine ⟨?_, ?_, ?_, ?_, ?_, ?_, ?_, ?_, ?_⟩
  · rintro ⟨n, hn⟩
    rw [h2, h3]
    rw [h1] at hn
    rcases mem_snoc.mp hn with hn | hn
    · exact i.msgd ⟨n, hn⟩
    · exact (hme n hn.symm).2
  · intro hb' hc n hn
    rw [h4] at hb'; rw [h3] at hc; rw [h1] at hn
    rcases mem_snoc.mp hn with hn | hn
    · exact i.quiet (hb hb') hc n hn
    · rw [(hme n hn.symm).1] at hb'; simp at hb'
  · intro a ha hp; rw [e1] at ha; rw [e2] at hp; rw [h1]; exact List.mem_append_left _ (i.lw a ha hp)
  · rw [h1]; exact before_snoc.mpr ⟨i.reply, hrp⟩
  · rw [h2, h1]; intro hd'
    obtain ⟨a, b⟩ := i.dset hd'
    exact ⟨a, b.imp id (fun b => b.append _)⟩
  · intro hdc hw
    rw [h7, h8]
    exact i.fresh hdc (fun k hk => hw k (by rw [h1]; exact List.mem_append_left _ hk))
  · intro hdc; rw [h1]
    refine before_snoc.mpr ⟨i.fw hdc, ?_⟩
    intro k e hno
    rcases (hwr k e).1 hdc with h | ⟨k', hk'⟩
    · exact h
    · exact absurd hk' (hno k')
  · rw [h1]; intro h
    rcases mem_snoc.mp h with h | h
    · exact i.sent h
    · exact (hwr .data h.symm).2.1 rfl
  · rw [h1]; intro h
    rcases mem_snoc.mp h with h | h
    · exact i.logged h
    · exact (hwr .logout h.symm).2.2 rfl

theorem InvT.emit_write {cfg : Cfg} {sd lo : Prop} {s s' : St} (i : InvT cfg sd lo s) (k : WKind)
    (h : viewT s' = (s.trace ++ [.write k], s.dispSet, s.closed, s.rcvBusy, (fun a => s.status (.U a)), (fun a => s.prog (.U a)),
      s.status .L, s.status .D))
    (hk : cfg.dispatchOnConnect = false → (k = .login ∨ k = .data ∨ k = .logout) ∨ ∃ k', Obs.write k' ∈ s.trace)
    (hsd : k = .data → sd) (hlo : k = .logout → lo) : InvT cfg sd lo s' :=
  i.snoc (.write k) s.rcvBusy h id (by simp) (by simp) (fun k' e => by injection e with e; subst e; exact ⟨hk, hsd, hlo⟩)

theorem InvT.accept {cfg : Cfg} {sd lo : Prop} {s s2 : St} (i : InvT cfg sd lo s) (u : Nat) (hlw : Obs.write .login ∈ s.trace)
    (etr : s2.trace = s.trace ++ [.loginReply 0])
    (e1 : ∀ a, s2.status (.U a) = s.status (.U a)) (e2 : ∀ a, s2.prog (.U a) = s.prog (.U a))
    (e3 : s2.closed = s.closed) (eb : s2.rcvBusy = false)
    (ed : (s2.dispSet = true ∧ cfg.hasMsgCb = true) ∨ s2.dispSet = s.dispSet) :
    InvT cfg sd lo ((s2.emit (.ret u .ok)).finish (.U u)) := by
  have htr : ((s2.emit (.ret u .ok)).finish (.U u)).trace = s.trace ++ [.loginReply 0, .ret u .ok] := by
    show s2.trace ++ [.ret u .ok] = _
    rw [etr]; simp
  have hlw' : Obs.write .login ∈ ((s2.emit (.ret u .ok)).finish (.U u)).trace := by
    rw [htr]; exact List.mem_append_left _ hlw
  refine ⟨?_, ?_, ?_, ?_, ?_, ?_, ?_, ?_, ?_⟩
  · rintro ⟨m, hm⟩
    rw [htr] at hm
    have hm' : Obs.msgEnter m ∈ s.trace := by simpa using hm
    show s2.dispSet = true ∨ s2.closed = true
    rcases i.msgd ⟨m, hm'⟩ with h | h
    · rcases ed with ⟨h', _⟩ | h'
      · exact Or.inl h'
      · rw [h']; exact Or.inl h
    · rw [e3]; exact Or.inr h
  · intro hb; have : s2.rcvBusy = true := hb; rw [eb] at this; simp at this
  · intro _ _ _; exact hlw'
  · rw [htr]
    have : s.trace ++ [Obs.loginReply 0, Obs.ret u .ok] = (s.trace ++ [Obs.loginReply 0]) ++ [Obs.ret u .ok] := by simp
    rw [this]
    exact before_snoc.mpr ⟨before_snoc.mpr ⟨i.reply, fun _ _ => hlw⟩, by intro m e; simp at e⟩
  · intro hd
    have hd' : s2.dispSet = true := hd
    refine ⟨?_, Or.inr ⟨s.trace, [], u, by rw [htr]⟩⟩
    rcases ed with ⟨_, h⟩ | h
    · exact h
    · rw [h] at hd'; exact (i.dset hd').1
  · intro _ hw; exact absurd hlw' (hw .login)
  · intro hdc
    rw [htr]
    have : s.trace ++ [Obs.loginReply 0, Obs.ret u .ok] = (s.trace ++ [Obs.loginReply 0]) ++ [Obs.ret u .ok] := by simp
    rw [this]
    exact before_snoc.mpr ⟨before_snoc.mpr ⟨i.fw hdc, by intro k e; simp at e⟩, by intro k e; simp at e⟩
  · rw [htr]; intro h; exact i.sent (by simpa using h)
  · rw [htr]; intro h; exact i.logged (by simpa using h)

theorem InvT.close {cfg : Cfg} {sd lo : Prop} {s s' : St} {ab : Bool} {t : Tid} {c : Cont} (i : InvT cfg sd lo s)
    (e : CloseStep ab t c s s') (hd : s'.dispSet = true → s.dispSet = true) : InvT cfg sd lo s' := by
  obtain ⟨l, el, ol⟩ := e.tr
  have hbor : ∀ o ∈ l, boring o := by
    intro o ho
    rcases ol o ho with h | ⟨_, u, r, _, h⟩
    · exact closeObs_boring h
    · subst h; exact ⟨by simp, by simp, by simp⟩
  refine i.ext l el hbor (Or.inl e.closed) ?_ ?_ hd ?_
  · intro _ hc; rw [e.closed] at hc; simp at hc
  · intro a ha hp
    obtain ⟨o1, o2⟩ := e.other (.U a) (e.rcving ⟨ha, Or.inl hp⟩).1 (stageOf_user a)
    rw [o1] at ha; rw [o2] at hp
    exact Or.inl ⟨ha, hp⟩
  · exact Or.inr ⟨fun h => (e.nabs .L).mpr h, fun h => (e.nabs .D).mpr h⟩

theorem InvT.enter {cfg : Cfg} {sd lo : Prop} {s s' : St} {t : Tid} {c : Cont} (i : InvT cfg sd lo s) (e : EnterSpec t c s s') :
    InvT cfg sd lo s' :=
  i.close e.closeStep e.disp

theorem InvT.finish {cfg : Cfg} {sd lo : Prop} {s : St} (i : InvT cfg sd lo s) (t : Tid) (hal : alive (s.status t) = true) :
    InvT cfg sd lo (s.finish t) := by
  have hab : ∀ y, s.status y = .absent → (s.finish t).status y = .absent := by
    intro y hy
    rcases absent_finish (t := t) hy with h | h
    · subst h; rw [hy] at hal; simp [alive] at hal
    · exact h
  refine i.ext [] (by simp [St.finish]) boring_nil (Or.inr ⟨rfl, rfl⟩) (fun a b => Or.inl ⟨a, b⟩) ?_ id (Or.inr ⟨hab .L, hab .D⟩)
  intro a ha hp
  rw [alive_finish] at ha
  split at ha
  · simp at ha
  · exact Or.inl ⟨ha, hp⟩

theorem InvT.put {cfg : Cfg} {sd lo : Prop} {s : St} (i : InvT cfg sd lo s) (m : Nat) : InvT cfg sd lo (s.put m) := by
  obtain ⟨f1, f2, _, f4, _, _, f7, f8⟩ := put_frame s m
  refine i.ext [] (by rw [f1, List.append_nil]) boring_nil (Or.inr ⟨f8, f4⟩) ?_ ?_ (by rw [f8]; exact id)
    (Or.inr ⟨by rw [s.put_status_of_ne m (by simp) (by simp)]; exact id, fun h => by rw [St.put_status, h]; simp⟩)
  · intro a b; rw [f7] at a; rw [f4] at b; exact Or.inl ⟨a, b⟩
  · intro a ha hp
    rw [s.put_status_of_ne m (by simp) (by simp)] at ha; rw [f2] at hp
    exact Or.inl ⟨ha, hp⟩

theorem InvT.initiateClose {cfg : Cfg} {sd lo : Prop} {s : St} (i : InvT cfg sd lo s) : InvT cfg sd lo s.initiateClose := by
  unfold St.initiateClose
  split
  · exact i
  · exact i.same rfl

theorem InvT.startHeartbeats {cfg : Cfg} {sd lo : Prop} {s : St} (i : InvT cfg sd lo s) (hw : ∃ k, Obs.write k ∈ s.trace) :
    InvT cfg sd lo s.startHeartbeats := by
  obtain ⟨h1, _, _, hcl, _, hb, _, htr, _, hd⟩ := startHeartbeats_spec s
  refine i.ext [] (by rw [htr, List.append_nil]) boring_nil (Or.inr ⟨hd, hcl⟩) ?_ ?_ (by rw [hd]; exact id) (Or.inl hw)
  · intro a b; rw [hb] at a; rw [hcl] at b; exact Or.inl ⟨a, b⟩
  · intro a ha hp
    rw [(h1 _ (by simp) (by simp)).1] at ha; rw [(h1 _ (by simp) (by simp)).2] at hp
    exact Or.inl ⟨ha, hp⟩

theorem InvT.ret_finish {cfg : Cfg} {sd lo : Prop} {s s1 : St} (i : InvT cfg sd lo s) (t : Tid) (o : Obs) (hbo : boring o)
    (hal : alive (s.status t) = true)
    (h : viewT s1 = (s.trace ++ [o], s.dispSet, s.closed, false, (fun a => s.status (.U a)), (fun a => s.prog (.U a)), s.status .L,
      s.status .D)) (hst : s1.status = s.status) : InvT cfg sd lo (s1.finish t) := by
  have i1 : InvT cfg sd lo s1 :=
    i.snoc o false h (fun e => nomatch e) (fun n e => absurd e (hbo.1 n)) (fun n e => absurd e (hbo.2.1 n))
      (fun k e => absurd e (hbo.2.2 k))
  exact i1.finish t (by rw [hst]; exact hal)

theorem InvT.init (cfg : Cfg) (sd lo : Prop) : InvT cfg sd lo {} :=
  ⟨by rintro ⟨n, h⟩; simp at h, by intro h; simp at h, by intro a h; simp [alive] at h, before_nil _, by intro h; simp at h,
    fun _ _ => ⟨rfl, rfl⟩, fun _ => before_nil _, by intro h; simp at h, by intro h; simp at h⟩

theorem InvT.weaken {sd lo sd' lo' : Prop} {s : St} (i : InvT cfg sd lo s) (h1 : sd → sd') (h2 : lo → lo') : InvT cfg sd' lo' s :=
  ⟨i.msgd, i.quiet, i.lw, i.reply, i.dset, i.fresh, i.fw, fun h => h1 (i.sent h), fun h => h2 (i.logged h)⟩

end NasdaqModel.Sess
