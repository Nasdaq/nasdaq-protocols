import NasdaqModel.Lemmas.AppSessionFlow
/-
The control invariants of the application-session product machine (C05App, C06App) and what a single task may do.

  InvY   how the position inside `_on_soup_close` (`cpc`) follows the inner close stage        (`AppSessionStage`)
  InvB2  the flags (`closed`, queue stopped, close event) and the shape of the application-level trace
  InvS   the application-level tasks: who is alive, who waits for what

Here: the definitions, the frames of `InvB2` and `InvS`, one lemma per kind of move of one task (`InvSg.finish2`, `InvSg.setP`, …), and
`innerStep_BS` (an inner step moves no flag and only wakes a getter).  The close sequence is `AppSessionCloseSeq`, the events are
`AppSessionEvents`; there and here the suffix `_BS` means: keeps `InvB2 ∧ InvS`.
-/
namespace NasdaqModel.App
open NasdaqModel

/-- inside `_on_soup_close`, suspended -/
def midStage : CPc → Bool
  | .waitD2 => true | .waitV2 => true | .user _ => true
  | _ => false

/-- `queue.stop()` is over: inside the user's close callback, or past it -/
def lateStage : CPc → Bool
  | .user _ => true | .finished => true | .aborted => true
  | _ => false

def allowed2 : ATid → AProg → Bool
  | .D2, .dispLoop => true | .D2, .handler _ _ => true | .D2, .handlerClose _ => true
  | .D2, .handlerCC _ _ => true | .D2, .cleanupClose _ => true
  | .V2, .vget => true
  | .W u, .recvWait u' => u == u' | .W u, .closeWait u' => u == u'
  | _, _ => false

/-- monitor over the application-level trace: 0 nothing yet, 1 inside the user's close callback, 2 it has returned; 9 = violation
    (close callback entered twice / left without being entered / a message callback started after it was entered) -/
def mon2 (p : Nat) (o : AObs) : Nat :=
  match o with
  | .cbEnter => if p = 0 then 1 else 9
  | .cbExit => if p = 1 then 2 else 9
  | .msgEnter _ => if p = 0 then 0 else 9
  | _ => p

def mon2Run (l : List AObs) : Nat := l.foldl mon2 0

theorem mon2Run_append (l : List AObs) (o : AObs) : mon2Run (l ++ [o]) = mon2 (mon2Run l) o := by
  simp [mon2Run, List.foldl_append]

/-- the phase of `mon2` that goes with the position inside `_on_soup_close` -/
def phase2 (a : ACfg) (s : St) : Nat :=
  match s.cpc with
  | .user _ => 1
  | .aborted => 1
  | .finished => if a.hasCb && s.built then 2 else 0
  | _ => 0

structure InvY (a : ACfg) (s : St) : Prop where
  /-- the inner component is a state of the inner machine reached by inner events -/
  reach : ∃ es, s.inner = Sess.runEvs (innerCfg a) {} es
  /-- before the inner close callback is entered `_on_soup_close` has not started -/
  s1 : Sess.preCb s.inner → s.cpc = .idle
  /-- inside the inner callback stage (which suspends once: `k = 0`) the closer is inside `_on_soup_close` -/
  s2 : ∀ t k c, s.inner.cstage = .cb t k c → k = 0 ∧ midStage s.cpc = true
  /-- the inner close has finished: `_on_soup_close` has returned -/
  s3 : s.inner.cstage = .finished → s.cpc = .finished
  /-- the inner close was aborted: `_on_soup_close` had returned, or was aborted in the user's callback -/
  s4 : s.inner.cstage = .aborted → s.cpc = .finished ∨ s.cpc = .aborted

structure InvB2 (a : ACfg) (s : St) : Prop where
  /-- `_on_soup_close` runs only on a soup session that reports closed -/
  b : s.cpc ≠ .idle → s.inner.closed = true
  /-- … whose transport has been closed -/
  tc : s.cpc ≠ .idle → Sess.Obs.tclose ∈ s.inner.trace
  /-- past its first line `_on_soup_close` runs on a constructed application session -/
  bu : midStage s.cpc = true ∨ s.cpc = .aborted → s.built = true
  /-- `_on_soup_close` stops the queue at once -/
  q : s.built = true → s.cpc ≠ .idle → s.q2Closed = true
  /-- the queue is stopped by `_on_soup_close` only -/
  q' : s.q2Closed = true → s.built = true ∧ s.cpc ≠ .idle
  /-- `closed` is set by `_on_soup_close` only -/
  ac1 : s.appClosed = true → s.built = true ∧ s.cpc ≠ .idle
  /-- `closed` is set before the user's close callback is entered -/
  ac2 : s.built = true → lateStage s.cpc = true → s.appClosed = true
  /-- with the order as it is, `closed` is set first -/
  ac3 : a.closedFirst = true → s.built = true → s.cpc ≠ .idle → s.appClosed = true
  /-- the event is set at the end of `_on_soup_close` only -/
  ev1 : s.evt = some true → s.cpc = .finished
  /-- when `_on_soup_close` has returned no event is left unset -/
  ev2 : s.cpc = .finished → s.evt ≠ some false
  /-- no event before the application session exists -/
  ev0 : s.built = false → s.evt = none
  /-- the closer suspends in the user's close callback only if there is one that awaits -/
  ub : (∃ k, s.cpc = .user k) ∨ s.cpc = .aborted → a.hasCb = true ∧ ∃ k0, a.cbBeh = .await k0
  /-- the phase of the close monitor over the application-level trace is determined by the position -/
  ph : mon2Run s.trace2 = phase2 a s

/-- `strict = false`: the state between the closer's last inner step and the return of a `close()` awaited from the message callback
    (`finishClose`: `cpc = finished` while `D2` is still `inSoup`); every state at the end of an event satisfies `InvS = InvSg true` -/
structure InvSg (strict : Bool) (a : ACfg) (s : St) : Prop where
  /-- no application-level task before the application session exists -/
  nb : s.built = false → ∀ t, s.astatus t = .absent
  /-- whoever waits for the event waits for an existing, unset event -/
  we : ∀ t, s.astatus t = .waitE → s.evt = some false
  /-- only a user task awaits the receive helper, and then the helper is alive -/
  wv : ∀ t, s.astatus t = .waitV → alive2 (s.astatus .V2) = true ∧ ∃ u, t = .W u
  /-- a live task is in a program of its own kind -/
  ty : ∀ t, alive2 (s.astatus t) = true → allowed2 t (s.aprog t) = true
  /-- only the dispatcher and the receive helper suspend on the queue -/
  wq : ∀ t, s.astatus t = .waitQ → t = .D2 ∨ t = .V2
  /-- the dispatcher `queue.stop()` awaits is cancelled or has ended (the third alternative is excluded by `ds`) -/
  d2 : s.cpc = .waitD2 → s.astatus .D2 = .cancelled ∨ alive2 (s.astatus .D2) = false ∨
        (s.astatus .D2 = .waitE ∧ ∃ v, s.aprog .D2 = .cleanupClose v)
  /-- a cancellation clean-up gets into `close()` only with the old order -/
  cc : ∀ v, s.aprog .D2 = .cleanupClose v → alive2 (s.astatus .D2) = true → a.closedFirst = false
  /-- a callback body gets into `close()` only if it is of a closing kind -/
  hc : ∀ v, s.aprog .D2 = .handlerClose v → alive2 (s.astatus .D2) = true → a.msgBeh v = .close ∨ ∃ k, a.msgBeh v = .awaitClose k
  /-- the dispatcher is cancelled by `queue.stop()` only -/
  can : s.astatus .D2 = .cancelled → s.cpc = .waitD2
  /-- the helper `queue.stop()` awaits is cancelled or has ended -/
  v2 : s.cpc = .waitV2 → s.astatus .V2 = .cancelled ∨ alive2 (s.astatus .V2) = false
  /-- past `stop_task(_dispatcher_task)` the dispatcher has ended or is the closer itself, and `_dispatcher_task` is `None` -/
  dn : s.built = true → (s.cpc = .waitV2 ∨ lateStage s.cpc = true) →
        (alive2 (s.astatus .D2) = false ∨ s.astatus .D2 = .inSoup) ∧ s.disp2Set = false
  /-- past `queue.stop()` the receive helper has ended -/
  vn : s.built = true → lateStage s.cpc = true → alive2 (s.astatus .V2) = false
  /-- a live dispatcher that is not the closer is registered as `_dispatcher_task` -/
  da : alive2 (s.astatus .D2) = true → s.astatus .D2 ≠ .inSoup → s.disp2Set = true
  /-- the receive helper never waits for the event -/
  vs : s.astatus .V2 ≠ .waitE
  /-- at the end of an event: when `_on_soup_close` has returned the dispatcher has ended -/
  dnf : strict = true → s.built = true → s.cpc = .finished → alive2 (s.astatus .D2) = false
  /-- only the dispatcher is ever inside `soup_session.close()`, and only inside a callback's `close()` -/
  ip : ∀ t, s.astatus t = .inSoup → t = .D2 ∧ ((∃ v, s.aprog .D2 = .handlerClose v) ∨ ∃ v, s.aprog .D2 = .cleanupClose v)
  /-- the dispatcher never waits for the event -/
  ds : s.astatus .D2 ≠ .waitE
  /-- a live dispatcher inside a callback's `close()` is carrying out `soup_session.close()` itself -/
  hs : ∀ v, s.aprog .D2 = .handlerClose v ∨ s.aprog .D2 = .cleanupClose v → alive2 (s.astatus .D2) = true → s.astatus .D2 = .inSoup

abbrev InvS := InvSg true

def bcore2 (s : St) : Bool × List Sess.Obs × CPc × Bool × Bool × Bool × Option Bool × List AObs :=
  (s.inner.closed, s.inner.trace, s.cpc, s.built, s.q2Closed, s.appClosed, s.evt, s.trace2)

theorem InvB2.of_bcore2 {a : ACfg} {s s' : St} (h : bcore2 s' = bcore2 s) (i : InvB2 a s) : InvB2 a s' := by
  simp only [bcore2, Prod.mk.injEq] at h
  obtain ⟨h1, h2, h3, h4, h5, h6, h7, h8⟩ := h
  obtain ⟨b, tc, bu, q, q', ac1, ac2, ac3, ev1, ev2, ev0, ub, ph⟩ := i
  -- every field reads the state through `bcore2` only
  constructor <;> simp only [phase2, h1, h2, h3, h4, h5, h6, h7, h8] <;> assumption

def score (s : St) : (ATid → AStatus) × (ATid → AProg) × CPc × Bool × Option Bool × Bool :=
  (s.astatus, s.aprog, s.cpc, s.built, s.evt, s.disp2Set)

theorem InvSg.of_score {st : Bool} {a : ACfg} {s s' : St} (h : score s' = score s) (i : InvSg st a s) : InvSg st a s' := by
  simp only [score, Prod.mk.injEq] at h
  obtain ⟨h1, h2, h3, h4, h5, h6⟩ := h
  obtain ⟨nb, we, wv, ty, wq, d2, cc, hc, can, v2, dn, vn, da, vs, dnf, ip, ds, hs⟩ := i
  -- every field reads the state through `score` only
  constructor <;> simp only [h1, h2, h3, h4, h5, h6] <;> assumption

@[simp] theorem score_emit2 (s : St) (o : AObs) : score (s.emit2 o) = score s := rfl

theorem InvS.emit2 {st : Bool} {a : ACfg} {s : St} {o : AObs} (i : InvSg st a s) : InvSg st a (s.emit2 o) := InvSg.of_score (s := s) rfl i

theorem InvSg.of_tasks {st : Bool} {a : ACfg} {s s' : St} (i : InvSg st a s) (hA : ∀ t, s'.astatus t = s.astatus t)
    (hP : ∀ t, s'.aprog t = s.aprog t)
    (h : (s'.cpc, s'.built, s'.evt, s'.disp2Set) = (s.cpc, s.built, s.evt, s.disp2Set)) : InvSg st a s' := by
  simp only [Prod.mk.injEq] at h
  exact InvSg.of_score (by rw [score, funext hA, funext hP, h.1, h.2.1, h.2.2.1, h.2.2.2]; rfl) i

theorem InvB2.setA {a : ACfg} {s : St} (i : InvB2 a s) (t : ATid) (x : AStatus) : InvB2 a (s.setA t x) := InvB2.of_bcore2 (s := s) rfl i
theorem InvB2.setP {a : ACfg} {s : St} (i : InvB2 a s) (t : ATid) (p : AProg) : InvB2 a (s.setP t p) := InvB2.of_bcore2 (s := s) rfl i
theorem InvB2.finish2 {a : ACfg} {s : St} (i : InvB2 a s) (t : ATid) : InvB2 a (s.finish2 t) := InvB2.of_bcore2 (s := s) rfl i
theorem InvB2.imm2 {a : ACfg} {s : St} (i : InvB2 a s) (b : Bool) : InvB2 a { s with imm2 := b } := InvB2.of_bcore2 (s := s) rfl i
theorem InvSg.imm2 {st : Bool} {a : ACfg} {s : St} (i : InvSg st a s) (b : Bool) : InvSg st a { s with imm2 := b } :=
  InvSg.of_score (s := s) rfl i

def neutral2 (o : AObs) : Bool :=
  match o with
  | .cbEnter => false | .cbExit => false | .msgEnter _ => false
  | _ => true

theorem mon2_neutral {o : AObs} (h : neutral2 o = true) (p : Nat) : mon2 p o = p := by
  cases o <;> simp_all [neutral2, mon2]

theorem InvB2.emit2 {a : ACfg} {s : St} {o : AObs} (h : neutral2 o = true) (i : InvB2 a s) : InvB2 a (s.emit2 o) := by
  obtain ⟨b, tc, bu, q, q', ac1, ac2, ac3, ev1, ev2, ev0, ub, ph⟩ := i
  refine ⟨b, tc, bu, q, q', ac1, ac2, ac3, ev1, ev2, ev0, ub, ?_⟩
  rw [trace2_emit2, mon2Run_append, mon2_neutral h]
  exact ph

/-! ### what a single task may do

Each lemma is one kind of move of one application-level task, for an arbitrary state; the events of the machine are
combinations of these (`stepRun2_BS`, `startRecv2_BS`, …). -/

/-- `field h`: in the state changed by the small algebra the field reads as the old one `h` does, up to the cases of which task's
    status or program it asks about; in the case of the task that moved the lemma's side conditions (in the context) are used:
    `finish2`: `h` for `nb`; `setP`: `h` for `ty`, `cc`, `hc`, `ip`, `hs`; `setA_waitQ`: `ht` for `wq`, and `hr` (the task was
    running, so `queue.stop()` is not waiting for it and is not over) for `d2`, `v2`, `dn`, `vn`, `dnf`; `setA_cancelled`: `hD` for
    `can`; `setW`: `he` for `we`, `hv` for `wv`, `hp` for `ty`, `hq` for `wq`, `hi` for `ip`, `hb` for `nb` -/
macro "field " h:term : tactic =>
  `(tactic| (have := $h
             simp only [St.finish2, St.setA, St.setP, St.spawn2, St.setEvent]
             grind [alive2]))

section tasks
variable {st : Bool} {a : ACfg} {s : St}

/-- a task that exists ends (whatever it was doing): nothing in `InvSg` asks a task to stay alive except the helper awaited by a
    `receive_message()` caller, and `finish2 .V2` wakes that caller -/
theorem InvSg.finish2 (i : InvSg st a s) (t : ATid) (h : s.astatus t ≠ .absent) : InvSg st a (s.finish2 t) := by
  constructor
  · field i.nb
  · field i.we
  · field i.wv
  · field i.ty
  · field i.wq
  · field i.d2
  · field i.cc
  · field i.hc
  · field i.can
  · field i.v2
  · field i.dn
  · field i.vn
  · field i.da
  · field i.vs
  · field i.dnf
  · field i.ip
  · field i.ds
  · field i.hs

/-- a task moves on to another program; while it is alive the program must be one of its own kind, and `close()` carried out
    by the task itself is entered by `InvSg.enterSoup` only -/
theorem InvSg.setP (i : InvSg st a s) (t : ATid) (p : AProg)
    (h : alive2 (s.astatus t) = true →
      allowed2 t p = true ∧ (∀ v, p ≠ .handlerClose v ∧ p ≠ .cleanupClose v) ∧ s.astatus t ≠ .inSoup) :
    InvSg st a (s.setP t p) :=
  { i with
    ty := by field i.ty
    d2 := by
      have := i.ds
      field i.d2
    cc := by field i.cc
    hc := by field i.hc
    ip := by field i.ip
    hs := by field i.hs }

/-- the second dispatcher, inside the message callback for `v`, starts carrying out `soup_session.close()` itself -/
theorem InvSg.enterSoup (i : InvSg st a s) (v : Nat) (hD : s.astatus .D2 = .ready)
    (hbeh : a.msgBeh v = .close ∨ ∃ k, a.msgBeh v = .awaitClose k) :
    InvSg st a ((s.setA .D2 .inSoup).setP .D2 (.handlerClose v)) :=
  { i with
    nb := by field i.nb
    we := by field i.we
    wv := by field i.wv
    ty := by
      have := i.ty
      simp only [St.setA, St.setP]
      grind [alive2, allowed2]
    wq := by field i.wq
    d2 := by field i.d2
    cc := by field i.cc
    hc := by field i.hc
    can := by field i.can
    dn := by field i.dn
    da := by field i.da
    dnf := by field i.dnf
    ip := by field i.ip
    ds := by field i.ds
    hs := by field i.hs }

/-- the second dispatcher or the receive helper suspends on the empty queue -/
theorem InvSg.setA_waitQ (i : InvSg st a s) (t : ATid) (hr : s.astatus t = .ready) (ht : t = .D2 ∨ t = .V2) :
    InvSg st a (s.setA t .waitQ) := by
  constructor
  · field i.nb
  · field i.we
  · field i.wv
  · field i.ty
  · field i.wq
  · field i.d2
  · field i.cc
  · field i.hc
  · field i.can
  · field i.v2
  · field i.dn
  · field i.vn
  · field i.da
  · field i.vs
  · field i.dnf
  · field i.ip
  · field i.ds
  · field i.hs

/-- `task.cancel()` reaches a task that is runnable or suspended on the queue or the event; the second dispatcher is cancelled
    only by `queue.stop()` (`cpc = waitD2`) -/
theorem InvSg.setA_cancelled (i : InvSg st a s) (t : ATid)
    (ha : s.astatus t = .ready ∨ s.astatus t = .waitQ ∨ s.astatus t = .waitE) (hD : t = .D2 → s.cpc = .waitD2) :
    InvSg st a (s.setA t .cancelled) := by
  constructor
  · field i.nb
  · field i.we
  · field i.wv
  · field i.ty
  · field i.wq
  · field i.d2
  · field i.cc
  · field i.hc
  · field i.can
  · field i.v2
  · field i.dn
  · field i.vn
  · field i.da
  · field i.vs
  · field i.dnf
  · field i.ip
  · field i.ds
  · field i.hs

theorem InvSg.cancel2 (i : InvSg st a s) (t : ATid) (hD : t = .D2 → s.cpc = .waitD2) : InvSg st a (s.cancel2 t) := by
  have hV : ATid.V2 = .D2 → s.cpc = .waitD2 := fun h => by cases h
  unfold St.cancel2
  split
  · rename_i h; exact i.setA_cancelled t (Or.inl h) hD
  · rename_i h; exact i.setA_cancelled t (Or.inr (Or.inl h)) hD
  · rename_i h; exact i.setA_cancelled t (Or.inr (Or.inr h)) hD
  · split
    · rename_i h; exact i.setA_cancelled .V2 (Or.inl h) hV
    · rename_i h; exact i.setA_cancelled .V2 (Or.inr (Or.inl h)) hV
    · exact i
  · exact i

/-- a user task `W u` of a constructed session takes status `x` and program `p`: the only constraints are those every task in
    that status is under (`we`, `wv`, `ty`); `waitQ` and `inSoup` are not for user tasks -/
theorem InvSg.setW (i : InvSg st a s) (u : Nat) (x : AStatus) (p : AProg) (hb : s.built = true)
    (hq : x ≠ .waitQ) (hi : x ≠ .inSoup) (he : x = .waitE → s.evt = some false)
    (hv : x = .waitV → alive2 (s.astatus .V2) = true) (hp : alive2 x = true → allowed2 (.W u) p = true) :
    InvSg st a ((s.setA (.W u) x).setP (.W u) p) :=
  { i with
    nb := by field i.nb
    we := by field i.we
    wv := by field i.wv
    ty := by field i.ty
    wq := by field i.wq
    ip := by field i.ip }

/-- `receive_message()` on the empty queue of an open session creates the helper task -/
theorem InvSg.spawn_V2 (i : InvSg st a s) (hb : s.built = true) (hc : s.cpc = .idle) : InvSg st a (s.spawn2 .V2 .vget) :=
  { i with
    nb := by field i.nb
    we := by field i.we
    wv := by field i.wv
    ty := by
      have := i.ty
      simp only [St.spawn2, St.setA, St.setP]
      grind [alive2, allowed2]
    wq := by field i.wq
    v2 := by field i.v2
    vn := by
      have := i.vn
      simp only [St.spawn2, St.setA, St.setP]
      grind [alive2, lateStage]
    vs := by field i.vs
    ip := by field i.ip }

/-- a call by the fresh user task `W u` that returns at once -/
theorem InvSg.setA_done (i : InvSg st a s) (u : Nat) (hb : s.built = true) : InvSg st a (s.setA (.W u) .done) :=
  { i with
    nb := by field i.nb
    we := by field i.we
    wv := by field i.wv
    ty := by field i.ty
    wq := by field i.wq
    ip := by field i.ip }

/-- `start_dispatching()`: the second dispatcher is created -/
theorem InvSg.spawn_D2 (i : InvSg st a s) (hb : s.built = true) (hc : s.cpc = .idle)
    (hd : s.disp2Set = true) : InvSg st a (s.spawn2 .D2 .dispLoop) := by
  constructor
  · field i.nb
  · field i.we
  · field i.wv
  · have := i.ty
    simp only [St.spawn2, St.setA, St.setP]
    grind [alive2, allowed2]
  · field i.wq
  · field i.d2
  · field i.cc
  · field i.hc
  · field i.can
  · field i.v2
  · have := i.dn
    simp only [St.spawn2, St.setA, St.setP]
    grind [alive2, lateStage]
  · field i.vn
  · field i.da
  · field i.vs
  · field i.dnf
  · field i.ip
  · field i.ds
  · field i.hs

/-- once the second dispatcher has ended nothing distinguishes the state between the closer's last inner step and the return of
    `close()` to the message callback from any other -/
theorem InvSg.strict (i : InvSg st a s)
    (h : s.built = true → s.cpc = .finished → alive2 (s.astatus .D2) = false) : InvS a s :=
  { i with dnf := fun _ => h }

end tasks

theorem InvSg.wake2 {st : Bool} {a : ACfg} {s : St} (i : InvSg st a s) (t : ATid) : InvSg st a (s.wake2 t) := by
  unfold St.wake2
  split
  · rename_i hw
    constructor
    · field i.nb
    · field i.we
    · field i.wv
    · field i.ty
    · field i.wq
    · field i.d2
    · field i.cc
    · field i.hc
    · field i.can
    · field i.v2
    · field i.dn
    · field i.vn
    · field i.da
    · field i.vs
    · field i.dnf
    · field i.ip
    · field i.ds
    · field i.hs
  · exact i

theorem bcore2_wake2 (s : St) (t : ATid) : bcore2 (s.wake2 t) = bcore2 s := by
  unfold St.wake2; split <;> rfl

theorem put2_BS {st : Bool} {a : ACfg} {s : St} (v : Nat) (ib : InvB2 a s) (is : InvSg st a s) :
    InvB2 a (s.put2 v) ∧ InvSg st a (s.put2 v) := by
  unfold St.put2
  constructor
  · refine InvB2.of_bcore2 ?_ ib
    rw [bcore2_wake2, bcore2_wake2]; rfl
  · apply InvSg.wake2
    apply InvSg.wake2
    exact InvSg.of_score (s := s) rfl is

theorem feed_BS {st : Bool} {a : ACfg} (ns : List Nat) {s : St} (ib : InvB2 a s) (is : InvSg st a s) :
    InvB2 a (feed a s ns) ∧ InvSg st a (feed a s ns) := by
  induction ns generalizing s with
  | nil => exact ⟨ib, is⟩
  | cons n ns ih =>
    have e : feed a s (n :: ns) = feed a (feed1 a s n) ns := rfl
    rw [e]
    have h1 : InvB2 a (feed1 a s n) ∧ InvSg st a (feed1 a s n) := by
      unfold feed1
      split
      · exact put2_BS _ ib is
      · exact ⟨ib, is⟩
    exact ih h1.1 h1.2

/-- the state after the inner step proper, before `_on_soup_message` runs -/
def innerPart (a : ACfg) (s : St) (e : Sess.Ev) : St :=
  { s with inner := Sess.step (innerCfg a) s.inner e,
           tr := s.tr ++ ((Sess.step (innerCfg a) s.inner e).trace.drop s.inner.trace.length).map .inner }

theorem innerStep_eq (a : ACfg) (s : St) (e : Sess.Ev) :
    innerStep a s e = feed a (innerPart a s e)
      (entered ((Sess.step (innerCfg a) s.inner e).trace.drop s.inner.trace.length)) := rfl

theorem innerStep_BS {st : Bool} {a : ACfg} {s : St} (e : Sess.Ev) (ib : InvB2 a s) (is : InvSg st a s) :
    InvB2 a (innerStep a s e) ∧ InvSg st a (innerStep a s e) := by
  have hb0 : InvB2 a (innerPart a s e) := by
    obtain ⟨b, tc, bu, q, q', ac1, ac2, ac3, ev1, ev2, ev0, ub, ph⟩ := ib
    refine ⟨?_, ?_, bu, q, q', ac1, ac2, ac3, ev1, ev2, ev0, ub, ?_⟩
    · intro h; exact Sess.step_closed_mono _ _ _ (b h)
    · intro h
      obtain ⟨d, hd⟩ := Sess.step_trace_prefix (innerCfg a) s.inner e
      show Sess.Obs.tclose ∈ (Sess.step (innerCfg a) s.inner e).trace
      rw [← hd]; exact List.mem_append_left _ (tc h)
    · have : (innerPart a s e).trace2 = s.trace2 :=
        trace2_tr_inner { s with inner := Sess.step (innerCfg a) s.inner e } _
      unfold phase2
      rw [this]; exact ph
  have hs0 : InvSg st a (innerPart a s e) := InvSg.of_score (s := s) rfl is
  rw [innerStep_eq]
  exact feed_BS _ hb0 hs0


@[simp] theorem trace2_setA (s : St) (t : ATid) (x : AStatus) : (s.setA t x).trace2 = s.trace2 := rfl
@[simp] theorem trace2_setP (s : St) (t : ATid) (p : AProg) : (s.setP t p).trace2 = s.trace2 := rfl
@[simp] theorem trace2_finish2 (s : St) (t : ATid) : (s.finish2 t).trace2 = s.trace2 := rfl
@[simp] theorem trace2_setEvent (s : St) : s.setEvent.trace2 = s.trace2 := by
  unfold St.setEvent; split <;> rfl
@[simp] theorem trace2_cancel2 (s : St) (t : ATid) : (s.cancel2 t).trace2 = s.trace2 := by
  unfold St.cancel2; split <;> try rfl
  split <;> rfl

@[simp] theorem built_setEvent (s : St) : s.setEvent.built = s.built := by unfold St.setEvent; split <;> rfl
@[simp] theorem cpc_setEvent (s : St) : s.setEvent.cpc = s.cpc := by unfold St.setEvent; split <;> rfl
@[simp] theorem tr_setEvent (s : St) : s.setEvent.tr = s.tr := by unfold St.setEvent; split <;> rfl

@[simp] theorem cpc_cancel2 (s : St) (t : ATid) : (s.cancel2 t).cpc = s.cpc := by
  unfold St.cancel2; split <;> try rfl
  split <;> rfl

theorem bcore2_cancel2 (s : St) (t : ATid) : bcore2 (s.cancel2 t) = bcore2 s := by
  unfold St.cancel2; split <;> try rfl
  split <;> rfl

theorem cancel2_alive (s : St) (t : ATid) (h : alive2 (s.astatus t) = true) (hv : s.astatus t ≠ .waitV)
    (hi : s.astatus t ≠ .inSoup) : s.cancel2 t = s.setA t .cancelled := by
  unfold St.cancel2
  cases hs : s.astatus t with
  | absent => rw [hs] at h; simp [alive2] at h
  | done => rw [hs] at h; simp [alive2] at h
  | waitV => exact absurd hs hv
  | inSoup => exact absurd hs hi
  | cancelled =>
    simp only
    cases s
    simp only [St.setA, St.mk.injEq, true_and, and_true]
    funext x
    split
    · rename_i e; subst e; exact hs
    · rfl
  | _ => rfl

theorem wake2_fields (s : St) (t : ATid) :
    (s.wake2 t).evt = s.evt ∧ (s.wake2 t).cpc = s.cpc ∧ (s.wake2 t).aprog = s.aprog ∧ (s.wake2 t).built = s.built ∧
    (s.wake2 t).appClosed = s.appClosed ∧ (s.wake2 t).q2Closed = s.q2Closed ∧ (s.wake2 t).disp2Set = s.disp2Set ∧
    ∀ x, s.astatus x ≠ .waitQ → (s.wake2 t).astatus x = s.astatus x := by
  unfold St.wake2
  split
  · refine ⟨rfl, rfl, rfl, rfl, rfl, rfl, rfl, ?_⟩
    intro x hx
    show (if x = t then AStatus.ready else s.astatus x) = s.astatus x
    split
    · rename_i e; subst e; contradiction
    · rfl
  · exact ⟨rfl, rfl, rfl, rfl, rfl, rfl, rfl, fun _ _ => rfl⟩

theorem feed_fields2 (a : ACfg) (ns : List Nat) (s : St) :
    (feed a s ns).evt = s.evt ∧ (feed a s ns).cpc = s.cpc ∧ (feed a s ns).aprog = s.aprog ∧ (feed a s ns).built = s.built ∧
    (feed a s ns).appClosed = s.appClosed ∧ (feed a s ns).q2Closed = s.q2Closed ∧ (feed a s ns).disp2Set = s.disp2Set ∧
    ∀ x, s.astatus x ≠ .waitQ → (feed a s ns).astatus x = s.astatus x := by
  induction ns generalizing s with
  | nil => exact ⟨rfl, rfl, rfl, rfl, rfl, rfl, rfl, fun _ _ => rfl⟩
  | cons n ns ih =>
    have e : feed a s (n :: ns) = feed a (feed1 a s n) ns := rfl
    rw [e]
    have h1 : (feed1 a s n).evt = s.evt ∧ (feed1 a s n).cpc = s.cpc ∧ (feed1 a s n).aprog = s.aprog ∧
        (feed1 a s n).built = s.built ∧ (feed1 a s n).appClosed = s.appClosed ∧ (feed1 a s n).q2Closed = s.q2Closed ∧
        (feed1 a s n).disp2Set = s.disp2Set ∧ ∀ x, s.astatus x ≠ .waitQ → (feed1 a s n).astatus x = s.astatus x := by
      unfold feed1
      split
      · rename_i v _
        unfold St.put2
        obtain ⟨a1, a2, a3, a4, a5, a6, a7, a8⟩ := wake2_fields ({ s with q2 := s.q2 ++ [v], fed := s.fed ++ [v] } : St) .D2
        obtain ⟨b1, b2, b3, b4, b5, b6, b7, b8⟩ :=
          wake2_fields (({ s with q2 := s.q2 ++ [v], fed := s.fed ++ [v] } : St).wake2 .D2) .V2
        refine ⟨by rw [b1, a1], by rw [b2, a2], by rw [b3, a3], by rw [b4, a4], by rw [b5, a5], by rw [b6, a6], by rw [b7, a7], ?_⟩
        intro x hx
        rw [b8 x (by rw [a8 x hx]; exact hx), a8 x hx]
      · exact ⟨rfl, rfl, rfl, rfl, rfl, rfl, rfl, fun _ _ => rfl⟩
    obtain ⟨a1, a2, a3, a4, a5, a6, a7, a8⟩ := h1
    obtain ⟨b1, b2, b3, b4, b5, b6, b7, b8⟩ := ih (feed1 a s n)
    refine ⟨by rw [b1, a1], by rw [b2, a2], by rw [b3, a3], by rw [b4, a4], by rw [b5, a5], by rw [b6, a6], by rw [b7, a7], ?_⟩
    intro x hx
    rw [b8 x (by rw [a8 x hx]; exact hx), a8 x hx]

theorem innerStep_fields2 (a : ACfg) (s : St) (e : Sess.Ev) :
    (innerStep a s e).evt = s.evt ∧ (innerStep a s e).cpc = s.cpc ∧ (innerStep a s e).aprog = s.aprog ∧
    (innerStep a s e).built = s.built ∧ (innerStep a s e).appClosed = s.appClosed ∧
    (innerStep a s e).q2Closed = s.q2Closed ∧ (innerStep a s e).disp2Set = s.disp2Set ∧
    ∀ x, s.astatus x ≠ .waitQ → (innerStep a s e).astatus x = s.astatus x := by
  rw [innerStep_eq]
  exact feed_fields2 a _ (innerPart a s e)

theorem innerStep_cpc (a : ACfg) (s : St) (e : Sess.Ev) : (innerStep a s e).cpc = s.cpc :=
  (innerStep_fields2 a s e).2.1

end NasdaqModel.App
