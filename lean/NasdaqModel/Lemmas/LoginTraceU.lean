import NasdaqModel.Lemmas.LoginTraceT
import NasdaqModel.Lemmas.MonitorLemmas
/-
Login at trace level (C11), part 3: the invariant of one login caller.

`u` is a user task that is used for `login()` only (no `callClose u`, `callRecv u`, `callRecvNowait u` event occurs: user tasks are
single-use in the model and `ret u r` is the result of the call made by task `u`).  `InvU cfg u can lg sp sp2 s`, kept by every
step (`LoginTraceW.lean`); `can`: the caller cancelled `u`, `lg`: `callLogin u` occurred (what the run supplies for them: `LoginInv.run`):

  nrecv, nidle   `u` is never inside `receive_msg()`; while alive it is inside `login()`'s receive or inside `close()`
  cont      a `close()` running on behalf of `u` will report a refusal, or the cancellation the caller asked for
  called, retst  `u` exists only if `callLogin u` occurred; a result of `u` is in the trace only if `u` exists

  rets      every `ret u r` in the trace has `r ∈ {ok, refused, cancelled, state}`; a `ret u ok` is immediately preceded by
            `loginReply 0`, no message callback was entered and the transport was not closed before it, and the login request
            was written before it; a `ret u state` happens only with a message callback configured and dispatching switched on
            by the configuration or by an earlier accepted login
  failed    `ret u refused` / `ret u cancelled` in the trace ⇒ the session is closed
  hb        `ret u ok` in the trace ⇒ both heartbeat monitors were started
  ncan, vcan, noreply, rcan   unless the caller cancelled `u` (`can`): `u` is never delivered a cancellation, its receive helper
            is cancelled and its receive comes back empty only when the queue was stopped, and it never returns `cancelled`
  spent1/2  (parameters `sp`, `sp2`, used from an arbitrary reachable state) once `u`'s attempt is past its receive without having
            returned the session, it never returns it
-/
namespace NasdaqModel.Sess

def okRes (r : Res) : Prop := r = .ok ∨ r = .refused ∨ r = .cancelled ∨ r = .state

/-- what must hold of the trace `l` that precedes an observable `y = ret u r` -/
def PRet (cfg : Cfg) (u : Nat) (l : List Obs) (y : Obs) : Prop :=
  ∀ r, y = .ret u r →
    okRes r ∧
    (r = .ok → (∃ l0, l = l0 ++ [Obs.loginReply 0]) ∧ (∀ n, Obs.msgEnter n ∉ l) ∧ Obs.tclose ∉ l ∧ Obs.write .login ∈ l) ∧
    (r = .state → cfg.hasMsgCb = true ∧ (cfg.dispatchOnConnect = true ∨ AcceptedIn l))

structure InvU (cfg : Cfg) (u : Nat) (can lg sp sp2 : Prop) (s : St) : Prop where
  nrecv : s.prog (.U u) ≠ .recvWait u
  nidle : alive (s.status (.U u)) = true → s.prog (.U u) = .loginWait u ∨ s.prog (.U u) = .inClose
  cont : ∀ r, contOf s.cstage = some (.userTail u r) → r = .refused ∨ (r = .cancelled ∧ can)
  rets : Before (PRet cfg u) s.trace
  failed : (Obs.ret u .refused ∈ s.trace ∨ Obs.ret u .cancelled ∈ s.trace) → s.closed = true
  hb : Obs.ret u .ok ∈ s.trace → s.status .L ≠ .absent ∧ s.status .M ≠ .absent
  called : s.status (.U u) ≠ .absent → lg
  retst : ∀ r, Obs.ret u r ∈ s.trace → s.status (.U u) ≠ .absent
  ncan : s.status (.U u) = .cancelled → can
  vcan : s.status (.U u) = .waitT .V → s.status .V = .cancelled → s.qClosed = true ∨ can
  noreply : s.status (.U u) = .ready → s.prog (.U u) = .loginWait u → s.vres = none → s.qClosed = true ∨ can
  rcan : Obs.ret u .cancelled ∈ s.trace → can
  spent1 : sp → Obs.ret u .ok ∉ s.trace
  spent2 : sp2 → s.status (.U u) ≠ .absent ∧ (s.prog (.U u) ≠ .loginWait u ∨ s.status (.U u) = .done)

variable {cfg : Cfg} {u : Nat} {can lg sp sp2 : Prop}

theorem mem_append_ret {tr l : List Obs} {u : Nat} (hl : ∀ o ∈ l, ∀ r, o ≠ .ret u r) {r : Res} (h : Obs.ret u r ∈ tr ++ l) :
    Obs.ret u r ∈ tr := by
  rcases List.mem_append.mp h with h | h
  · exact h
  · exact absurd rfl (hl _ h r)

/-- extension of the trace by observables other than `ret u _`, with a state change that does not touch task `u` -/
theorem InvU.ext {s s' : St} (i : InvU cfg u can lg sp sp2 s) (l : List Obs)
    (htr : s'.trace = s.trace ++ l) (hl : ∀ o ∈ l, ∀ r, o ≠ .ret u r)
    (hp : s'.prog (.U u) = s.prog (.U u)) (hs : s'.status (.U u) = s.status (.U u))
    (hc : contOf s'.cstage = contOf s.cstage) (hcl : s.closed = true → s'.closed = true)
    (hL : s'.status .L = .absent → s.status .L = .absent) (hM : s'.status .M = .absent → s.status .M = .absent)
    (hV : s.status (.U u) = .waitT .V → s'.status .V = .cancelled → s.status .V = .cancelled ∨ s'.qClosed = true ∨ can)
    (hq : s.qClosed = true → s'.qClosed = true)
    (hv : s.status (.U u) = .ready → s.prog (.U u) = .loginWait u → s'.vres = none → s.vres = none) :
    InvU cfg u can lg sp sp2 s' := by
  refine ⟨by rw [hp]; exact i.nrecv, by rw [hs, hp]; exact i.nidle, by rw [hc]; exact i.cont, ?_, ?_, ?_, by rw [hs]; exact i.called, ?_, by rw [hs]; exact i.ncan,
    ?_, ?_, ?_, ?_, by rw [hs, hp]; exact i.spent2⟩
  · rw [htr]; exact before_append i.rets (fun o ho l' r e => absurd e (hl o ho r))
  · rw [htr]; intro h
    exact hcl (i.failed (h.imp (mem_append_ret hl) (mem_append_ret hl)))
  · rw [htr]; intro h
    obtain ⟨a, b⟩ := i.hb (mem_append_ret hl h)
    exact ⟨fun e => a (hL e), fun e => b (hM e)⟩
  · rw [htr, hs]; intro r h; exact i.retst r (mem_append_ret hl h)
  · rw [hs]; intro h1 h2
    rcases hV h1 h2 with h | h | h
    · exact (i.vcan h1 h).imp hq id
    · exact Or.inl h
    · exact Or.inr h
  · rw [hs, hp]; intro h1 h2 h3
    exact (i.noreply h1 h2 (hv h1 h2 h3)).imp hq id
  · rw [htr]; intro h; exact i.rcan (mem_append_ret hl h)
  · rw [htr]; intro h1 h2; exact i.spent1 h1 (mem_append_ret hl h2)

/-- what `InvU` reads -/
def viewU (u : Nat) (s : St) :=
  (s.trace, s.prog (.U u), s.status (.U u), contOf s.cstage, s.closed, s.status .L, s.status .M, s.status .V, s.qClosed, s.vres)

theorem InvU.of_view_ext {s s' : St} (l : List Obs)
    (h : viewU u s' = (s.trace ++ l, s.prog (.U u), s.status (.U u), contOf s.cstage, s.closed, s.status .L, s.status .M, s.status .V,
      s.qClosed, s.vres)) (hl : ∀ o ∈ l, ∀ r, o ≠ .ret u r) (i : InvU cfg u can lg sp sp2 s) : InvU cfg u can lg sp sp2 s' := by
  simp only [viewU, Prod.mk.injEq] at h
  obtain ⟨h1, h2, h3, h4, h5, h6, h7, h8, h9, h10⟩ := h
  exact i.ext l h1 hl h2 h3 h4 (by rw [h5]; exact id) (by rw [h6]; exact id) (by rw [h7]; exact id)
    (by rw [h8]; exact fun _ h => Or.inl h) (by rw [h9]; exact id) (by rw [h10]; exact fun _ _ h => h)

theorem uboring_nil (u : Nat) : ∀ o ∈ ([] : List Obs), ∀ r, o ≠ .ret u r := by intro o h; simp at h

theorem uboring_one {u : Nat} {o : Obs} (h : ∀ r, o ≠ .ret u r) : ∀ o' ∈ [o], ∀ r, o' ≠ .ret u r := by
  intro o' h'; simp at h'; subst h'; exact h

theorem ret_ne {a u : Nat} (h : a ≠ u) (x : Res) : ∀ r, Obs.ret a x ≠ .ret u r := by
  intro r e; injection e with e; exact h e

theorem InvU.same {s s' : St} (i : InvU cfg u can lg sp sp2 s) (h : viewU u s' = viewU u s) : InvU cfg u can lg sp sp2 s' :=
  InvU.of_view_ext [] (by rw [List.append_nil]; exact h) (uboring_nil u) i

/-- one observable that is not an outcome of `u` is emitted -/
theorem InvU.emit {s s' : St} {o : Obs} (i : InvU cfg u can lg sp sp2 s)
    (h : viewU u s' = viewU u (s.emit o)) (ho : ∀ r, o ≠ .ret u r) : InvU cfg u can lg sp sp2 s' :=
  InvU.of_view_ext [o] h (uboring_one ho) i

theorem closeObs_ret {c : Cont} {u : Nat} {r : Res} (h : closeObs c (.ret u r)) : ∃ r', c = .userTail u r' ∧ r = r'.toRes := by
  rcases h with h | h | h | ⟨n, _, h⟩ | ⟨u', r', hc, h⟩
  · simp at h
  · simp at h
  · simp at h
  · simp at h
  · injection h with h1 h2; subst h1; exact ⟨r', hc, h2⟩

theorem contOk_user {t : Tid} {u : Nat} {r : CRes} (h : contOk t (.userTail u r)) : t = .U u := h

theorem contOk_of_user {c : Cont} {u : Nat} (h : contOk (.U u) c) : ∃ r, c = .userTail u r := by
  cases c with
  | userTail u' r => simp only [contOk] at h; injection h with h; subst h; exact ⟨r, rfl⟩
  | _ => simp [contOk] at h

/-- the close body run by task `t` with a continuation that, if it belongs to `u`, is a refusal (or the caller's cancellation) -/
theorem InvU.close {s s' : St} {ab : Bool} {t : Tid} {c : Cont} (i : InvU cfg u can lg sp sp2 s)
    (hcok : contOk t c) (hc : ∀ r, c = .userTail u r → r = .refused ∨ (r = .cancelled ∧ can))
    (hst : alive (s.status t) = true) (hpt : t = .U u → s.prog t ≠ .recvWait u)
    (hab : ab = true → s.status t = .cancelled) (e : CloseStep ab t c s s') : InvU cfg u can lg sp sp2 s' := by
  obtain ⟨l, el, ol⟩ := e.tr
  have hret : ∀ r, Obs.ret u r ∈ l → t = .U u ∧ (r = .refused ∨ (r = .cancelled ∧ can)) := by
    intro r hr
    rcases ol _ hr with h | ⟨hb, u', r', hc', h⟩
    · obtain ⟨r', hc', hr'⟩ := closeObs_ret h
      subst hc'
      refine ⟨contOk_user hcok, ?_⟩
      rcases hc r' rfl with h1 | ⟨h1, h2⟩
      · subst h1; exact Or.inl hr'
      · subst h1; exact Or.inr ⟨hr', h2⟩
    · injection h with h1 h2; subst h1; subst h2; subst hc'
      have htu : t = .U u := contOk_user hcok
      refine ⟨htu, Or.inr ⟨rfl, ?_⟩⟩
      exact i.ncan (by rw [← htu]; exact hab hb)
  have hnotok : Obs.ret u .ok ∉ l := by
    intro h
    rcases (hret _ h).2 with h | ⟨h, _⟩ <;> simp at h
  have hmem : ∀ r, Obs.ret u r ∈ s'.trace → Obs.ret u r ∈ s.trace ∨ Obs.ret u r ∈ l := by
    intro r h; rw [el] at h; exact List.mem_append.mp h
  have hother : Tid.U u ≠ t → s'.status (.U u) = s.status (.U u) ∧ s'.prog (.U u) = s.prog (.U u) :=
    fun h => e.other (.U u) h (stageOf_user u)
  refine ⟨?_, ?_, ?_, ?_, fun _ => e.closed, ?_, ?_, ?_, ?_, fun _ _ => Or.inl e.qclosed, fun _ _ _ => Or.inl e.qclosed, ?_, ?_, ?_⟩
  · by_cases htu : Tid.U u = t
    · subst htu
      rcases e.sprog with h | h | h | h
      · rw [h]; exact hpt rfl
      · rw [h]; simp
      · simp at h
      · simp at h
    · rw [(hother htu).2]; exact i.nrecv
  · intro hal'
    by_cases htu : Tid.U u = t
    · subst htu
      rcases e.sprog with h | h | h | h
      · rw [h]; exact i.nidle hst
      · exact Or.inr h
      · simp at h
      · simp at h
    · rw [(hother htu).1] at hal'; rw [(hother htu).2]; exact i.nidle hal'
  · intro r hr
    rcases e.stage with h | h | h
    · rw [h] at hr; exact i.cont r hr
    · rw [h] at hr; injection hr with hr; exact hc r hr
    · rw [h] at hr; simp at hr
  · rw [el]
    apply before_append i.rets
    intro o ho l' r er
    subst er
    rcases (hret r ho).2 with h | ⟨h, _⟩ <;> subst h <;>
      exact ⟨by simp [okRes], by intro h; simp at h, by intro h; simp at h⟩
  · intro h
    rcases hmem _ h with h | h
    · obtain ⟨a, b⟩ := i.hb h
      exact ⟨fun e' => a ((e.nabs .L).mp e'), fun e' => b ((e.nabs .M).mp e')⟩
    · exact absurd h hnotok
  · intro h; exact i.called (fun e' => h ((e.nabs _).mpr e'))
  · intro r h
    rcases hmem _ h with h | h
    · exact fun e' => i.retst r h ((e.nabs _).mp e')
    · intro e'
      have htu := (hret r h).1
      have := (e.nabs (.U u)).mp e'
      rw [htu] at hst; rw [this] at hst; simp [alive] at hst
  · intro h
    by_cases htu : Tid.U u = t
    · exfalso
      rcases e.fin with f | f | f | f
      · rw [← htu] at f; rw [f] at h; simp at h
      · rw [← htu] at f; exact f.2 h
      · rw [← htu] at f; simp at f
      · rw [← htu] at f; simp at f
    · rw [(hother htu).1] at h; exact i.ncan h
  · intro h
    rcases hmem _ h with h | h
    · exact i.rcan h
    · rcases (hret _ h).2 with h' | ⟨_, h'⟩
      · simp at h'
      · exact h'
  · intro hsp h
    rcases hmem _ h with h | h
    · exact i.spent1 hsp h
    · exact hnotok h
  · intro hsp
    obtain ⟨a, b⟩ := i.spent2 hsp
    refine ⟨fun e' => a ((e.nabs _).mp e'), ?_⟩
    by_cases htu : Tid.U u = t
    · rcases e.fin with f | f | f | f
      · rw [← htu] at f; exact Or.inr f
      · rw [← htu] at f; left; rw [f.1]; simp
      · rw [← htu] at f; simp at f
      · rw [← htu] at f; simp at f
    · rw [(hother htu).1, (hother htu).2]; exact b

/-- `close()` called by the running task `t` in state `s`; the invariant is given for a state `s0` that agrees with `s` on
    statuses, programs, trace and close stage (the pending-receive slot may differ: `login()` has just emptied it) -/
theorem InvU.enter {s0 s s' : St} {t : Tid} {c : Cont} (i : InvU cfg u can lg sp sp2 s0) (e : EnterSpec t c s s')
    (h1 : s0.status = s.status) (h2 : s0.prog = s.prog) (h3 : s0.trace = s.trace) (h4 : s0.cstage = s.cstage)
    (hcok : contOk t c) (hc : ∀ r, c = .userTail u r → r = .refused ∨ (r = .cancelled ∧ can))
    (hst : s.status t = .ready) (hpt : t = .U u → s.prog t ≠ .recvWait u) : InvU cfg u can lg sp sp2 s' :=
  i.close hcok hc (by rw [h1, hst]; rfl) (by rw [h2]; exact hpt) (by simp) (e.closeStep.of_same h1 h2 h3 h4)

theorem InvU.finish {s : St} (i : InvU cfg u can lg sp sp2 s) {t : Tid} (hne : t ≠ .U u)
    (hw : s.status (.U u) = .waitT t → t = .V ∨ s.prog (.U u) = .inClose)
    (hV : t = .V → s.status (.U u) = .waitT .V → s.vres = none → s.qClosed = true ∨ can) :
    InvU cfg u can lg sp sp2 (s.finish t) := by
  have hun : Tid.U u ≠ t := fun e => hne e.symm
  have hst : (s.finish t).status (.U u) = if s.status (.U u) = .waitT t then .ready else s.status (.U u) := by
    rw [finish_status]; simp [hun]
  refine ⟨i.nrecv, ?_, i.cont, i.rets, i.failed, ?_, ?_, ?_, ?_, ?_, ?_, i.rcan, i.spent1, ?_⟩
  · intro h
    apply i.nidle
    rw [hst] at h
    split at h
    · rename_i hw'; rw [hw']; rfl
    · exact h
  · intro h
    obtain ⟨a1, a2⟩ := i.hb h
    exact ⟨fun e => a1 (absent_of_finish e), fun e => a2 (absent_of_finish e)⟩
  · intro h; apply i.called; intro e; apply h; rw [hst, e]; simp
  · intro r h e; exact i.retst r h (absent_of_finish e)
  · intro h; rw [hst] at h; split at h
    · simp at h
    · exact i.ncan h
  · intro h1 h2
    have h1' := waitT_of_finish h1
    apply i.vcan h1'
    rw [finish_status] at h2
    split at h2
    · simp at h2
    · split at h2
      · simp at h2
      · exact h2
  · intro h1 h2 h3
    rw [hst] at h1
    split at h1
    · rename_i hwt
      rcases hw hwt with hV' | hpc
      · exact hV hV' (by rw [← hV']; exact hwt) h3
      · have h2' : s.prog (.U u) = .loginWait u := h2
        rw [hpc] at h2'; simp at h2'
    · exact i.noreply h1 h2 h3
  · intro hsp
    obtain ⟨a1, a2⟩ := i.spent2 hsp
    refine ⟨fun e => a1 (absent_of_finish e), a2.imp id ?_⟩
    intro hd; rw [hst, hd]; simp

theorem waits_of_invB {s : St} (b : InvB s) {x t : Tid} (h : s.status x = .waitT t) : t = .V ∨ s.prog x = .inClose := by
  rcases b.waitt _ _ h with ⟨pc, c, hb⟩ | ⟨_, _, hV⟩
  · exact Or.inr (b.bst _ pc c hb).1
  · exact Or.inl hV

theorem not_resuming {s : St} (w : InvW s) {a : Nat} (hra : rcving s a) (hau : a ≠ u) :
    ¬ (s.status (.U u) = .ready ∧ s.prog (.U u) = .loginWait u) := by
  rintro ⟨h1, h2⟩
  exact hau (w.uniq a u hra ⟨by rw [h1]; rfl, Or.inl h2⟩)

theorem InvU.other_leave {s : St} (i : InvU cfg u can lg sp sp2 s) (b : InvB s) (w : InvW s) {a : Nat} (hra : rcving s a)
    (hau : a ≠ u) (q : List Nat) (g : List (Nat × Bool)) (x : Res) :
    InvU cfg u can lg sp sp2 ((({ s with vres := none, rcvBusy := false, queue := q, gone := g } : St).emit (.ret a x)).finish (.U a)) := by
  have hnr := not_resuming (u := u) w hra hau
  have i1 : InvU cfg u can lg sp sp2 (({ s with vres := none, rcvBusy := false, queue := q, gone := g } : St).emit (.ret a x)) :=
    i.ext [.ret a x] rfl (uboring_one (ret_ne hau x)) rfl rfl rfl id id id (fun _ h => Or.inl h) id
      (fun h1 h2 _ => absurd ⟨h1, h2⟩ hnr)
  exact i1.finish (by intro e; injection e with e; exact hau e) (fun h => waits_of_invB b h) (by intro e; simp at e)

theorem InvU.other_leave' {s : St} (i : InvU cfg u can lg sp sp2 s) (b : InvB s) {a : Nat} (hau : a ≠ u) (x : Res) :
    InvU cfg u can lg sp sp2 ((({ s with rcvBusy := false } : St).emit (.ret a x)).finish (.U a)) := by
  have i1 : InvU cfg u can lg sp sp2 (({ s with rcvBusy := false } : St).emit (.ret a x)) :=
    i.ext [.ret a x] rfl (uboring_one (ret_ne hau x)) rfl rfl rfl id id id (fun _ h => Or.inl h) id (fun _ _ h => h)
  exact i1.finish (by intro e; injection e with e; exact hau e) (fun h => waits_of_invB b h) (by intro e; simp at e)

/-- `u`'s own call ends: after observables `l` that are not outcomes of `u` it reports `r`, and its task is done -/
theorem InvU.self_ends {s s' : St} (i : InvU cfg u can lg sp sp2 s) (l : List Obs) (r : Res) (hl : ∀ o ∈ l, ∀ r', o ≠ .ret u r')
    (hlg : lg) (htr : s'.trace = (s.trace ++ l) ++ [.ret u r]) (hP : PRet cfg u (s.trace ++ l) (.ret u r))
    (hpr : s'.prog (.U u) = s.prog (.U u)) (hdone : s'.status (.U u) = .done) (hcs : contOf s'.cstage = contOf s.cstage)
    (hcl : s.closed = true ∨ r = .refused ∨ r = .cancelled → s'.closed = true)
    (hmon : ∀ y, y = .L ∨ y = .M → s'.status y = .absent → s.status y = .absent ∧ r ≠ .ok)
    (hrc : r = .cancelled → can) (hsp : r = .ok → sp → False) : InvU cfg u can lg sp sp2 s' := by
  have hmem : ∀ r', Obs.ret u r' ∈ s'.trace → Obs.ret u r' ∈ s.trace ∨ r' = r := by
    intro r' h
    rw [htr] at h
    rcases mem_snoc.mp h with h | h
    · exact Or.inl (mem_append_ret hl h)
    · injection h with _ h; exact Or.inr h
  refine ⟨by rw [hpr]; exact i.nrecv, by rw [hdone]; intro h; simp [alive] at h, by rw [hcs]; exact i.cont, ?_, ?_, ?_, fun _ => hlg,
    fun _ _ => by rw [hdone]; simp, by rw [hdone]; simp, by rw [hdone]; simp, by rw [hdone]; simp, ?_, ?_,
    fun _ => by rw [hdone]; exact ⟨by simp, Or.inr rfl⟩⟩
  · rw [htr]
    exact before_snoc.mpr ⟨before_append i.rets (fun o ho l' r' e => absurd e (hl o ho r')), hP⟩
  · intro h
    rcases h with h | h <;> rcases hmem _ h with h | h
    · exact hcl (Or.inl (i.failed (Or.inl h)))
    · exact hcl (Or.inr (Or.inl h.symm))
    · exact hcl (Or.inl (i.failed (Or.inr h)))
    · exact hcl (Or.inr (Or.inr h.symm))
  · intro h
    rcases hmem _ h with h | h
    · obtain ⟨a1, a2⟩ := i.hb h
      exact ⟨fun e => a1 (hmon .L (Or.inl rfl) e).1, fun e => a2 (hmon .M (Or.inr rfl) e).1⟩
    · exact ⟨fun e => (hmon .L (Or.inl rfl) e).2 h.symm, fun e => (hmon .M (Or.inr rfl) e).2 h.symm⟩
  · intro h
    rcases hmem _ h with h | h
    · exact i.rcan h
    · exact hrc h.symm
  · intro hs h
    rcases hmem _ h with h | h
    · exact i.spent1 hs h
    · exact hsp h.symm hs

theorem InvU.self_refused {s s1 : St} (i : InvU cfg u can lg sp sp2 s)
    (hal : alive (s.status (.U u)) = true) (hcl : s.closed = true)
    (h1 : s1.trace = s.trace ++ [.ret u .refused]) (h2 : s1.prog (.U u) = s.prog (.U u)) (h4 : contOf s1.cstage = contOf s.cstage)
    (h5 : s1.closed = s.closed) (hst : s1.status = s.status) : InvU cfg u can lg sp sp2 (s1.finish (.U u)) := by
  refine i.self_ends [] .refused (uboring_nil u) (i.called (by intro e; rw [e] at hal; simp [alive] at hal))
    (by rw [List.append_nil]; exact h1) ?_ h2 (by rw [finish_status, if_pos rfl]) h4 (fun _ => h5.trans hcl) ?_ (by simp) (by simp)
  · intro r e; injection e with _ e; subst e
    exact ⟨by simp [okRes], by simp, by simp⟩
  · intro y _ e
    have := absent_of_finish e
    rw [hst] at this
    exact ⟨this, by simp⟩

theorem foldl_mon_tclose (l : List Obs) : ∀ p, Obs.tclose ∈ l → l.foldl mon p ≠ 0 := by
  induction l with
  | nil => intro p h; simp at h
  | cons o l ih =>
    intro p h
    simp only [List.foldl_cons]
    rcases List.mem_cons.mp h with h | h
    · subst h
      apply foldl_mon_ne_zero
      simp only [mon]; split <;> omega
    · exact ih _ h

theorem tclose_not_mem_of_open {cfg : Cfg} {s : St} (a : InvA cfg s) (h : s.closed = false) : Obs.tclose ∉ s.trace := by
  intro hm
  have := a.phase
  rw [idle_of_open a h] at this
  exact foldl_mon_tclose _ 0 hm this

theorem InvU.accept {s s2 : St} (i : InvU cfg u can lg sp sp2 s) (a : InvA cfg s) (w : InvW s) {sd lo : Prop}
    (tt : InvT cfg sd lo s) (hst : s.status (.U u) = .ready) (hp : s.prog (.U u) = .loginWait u) (hopen : s.closed = false)
    (hsp : sp → False)
    (etr : s2.trace = s.trace ++ [.loginReply 0])
    (e1 : s2.prog (.U u) = s.prog (.U u)) (e2 : s2.cstage = s.cstage) (e3 : s2.closed = s.closed)
    (eL : s2.status .L = .ready) (eM : s2.status .M = .ready) :
    InvU cfg u can lg sp sp2 ((s2.emit (.ret u .ok)).finish (.U u)) := by
  have hal : alive (s.status (.U u)) = true := by rw [hst]; rfl
  have hbusy : s.rcvBusy = true := w.busy u ⟨hal, Or.inl hp⟩
  refine i.self_ends [.loginReply 0] .ok (uboring_one (by simp)) (i.called (by rw [hst]; simp))
    (by show s2.trace ++ [.ret u .ok] = _; rw [etr]) ?_ e1 (by rw [finish_status, if_pos rfl]) (by rw [← e2]; rfl) ?_ ?_ (by simp)
    (fun _ => hsp)
  · intro r e; injection e with _ e; subst e
    refine ⟨by simp [okRes], fun _ => ⟨⟨s.trace, rfl⟩, ?_, ?_, ?_⟩, by simp⟩
    · intro n hn
      rcases mem_snoc.mp hn with h | h
      · exact tt.quiet hbusy hopen n h
      · simp at h
    · intro hn
      rcases mem_snoc.mp hn with h | h
      · exact tclose_not_mem_of_open a hopen h
      · simp at h
    · exact List.mem_append_left _ (tt.lw u hal hp)
  · intro h
    rcases h with h | h | h
    · rw [hopen] at h; simp at h
    · simp at h
    · simp at h
  · intro y hy e
    have e' : s2.status y = .absent := absent_of_finish e
    rcases hy with rfl | rfl
    · rw [eL] at e'; simp at e'
    · rw [eM] at e'; simp at e'

theorem InvU.put {s : St} (i : InvU cfg u can lg sp sp2 s) (m : Nat) : InvU cfg u can lg sp sp2 (s.put m) := by
  obtain ⟨f1, f2, f3, f4, f5, f6, _, _⟩ := put_frame s m
  refine i.ext [] (by rw [f1, List.append_nil]) (uboring_nil u) (by rw [f2]) (s.put_status_of_ne m (by simp) (by simp)) (by rw [f3])
    (by rw [f4]; exact id) (by rw [s.put_status_of_ne m (by simp) (by simp)]; exact id)
    (by rw [s.put_status_of_ne m (by simp) (by simp)]; exact id) ?_
    (by rw [f5]; exact id) (by rw [f6]; exact fun _ _ h => h)
  intro _ h
  rw [St.put_status] at h
  split at h
  · simp at h
  · exact Or.inl h

theorem InvU.initiateClose {s : St} (i : InvU cfg u can lg sp sp2 s) : InvU cfg u can lg sp sp2 s.initiateClose := by
  unfold St.initiateClose
  split
  · exact i
  · exact i.same rfl

theorem InvU.startHeartbeats {s : St} (i : InvU cfg u can lg sp sp2 s) : InvU cfg u can lg sp sp2 s.startHeartbeats := by
  obtain ⟨h1, hL, hM, hcl, hq, _, hv, htr, hcs, _⟩ := startHeartbeats_spec s
  refine i.ext [] (by rw [htr, List.append_nil]) (uboring_nil u) (h1 _ (by simp) (by simp)).2 (h1 _ (by simp) (by simp)).1 (by rw [hcs])
    (by rw [hcl]; exact id) (by rw [hL]; intro h; simp at h) (by rw [hM]; intro h; simp at h) ?_ (by rw [hq]; exact id)
    (by rw [hv]; exact fun _ _ h => h)
  rw [(h1 .V (by simp) (by simp)).1]
  exact fun _ h => Or.inl h

/-- a cancellation is delivered to `u` at its `login()` receive: it runs again (then closes the session and re-raises); the
    pending-receive slot (last component of the view) may change -/
theorem InvU.wake_cancelled {s s1 : St} (i : InvU cfg u can lg sp sp2 s) (hst : s.status (.U u) = .cancelled)
    (h : viewU u s1 = (s.trace, s.prog (.U u), .ready, contOf s.cstage, s.closed, s.status .L, s.status .M, s.status .V, s.qClosed,
      s1.vres)) : InvU cfg u can lg sp sp2 s1 := by
  simp only [viewU, Prod.mk.injEq] at h
  obtain ⟨h1, h2, h3, h4, h5, h6, h7, h8, h9, _⟩ := h
  have hcan : can := i.ncan hst
  have hal : alive (s.status (.U u)) = true := by rw [hst]; rfl
  refine ⟨by rw [h2]; exact i.nrecv, by rw [h2]; intro _; exact i.nidle hal, by rw [h4]; exact i.cont, by rw [h1]; exact i.rets,
    by rw [h1, h5]; exact i.failed, by rw [h1, h6, h7]; exact i.hb, fun _ => i.called (by rw [hst]; simp),
    by rw [h3]; intro _ _; simp, fun _ => hcan, fun _ _ => Or.inr hcan, fun _ _ _ => Or.inr hcan, fun _ => hcan,
    by rw [h1]; exact i.spent1, ?_⟩
  intro hsp
  obtain ⟨_, a2⟩ := i.spent2 hsp
  rw [h3, h2]
  refine ⟨by simp, Or.inl ?_⟩
  rcases a2 with a2 | a2
  · exact a2
  · rw [hst] at a2; simp at a2

theorem InvU.init (cfg : Cfg) (u : Nat) (can lg sp : Prop) : InvU cfg u can lg sp False {} :=
  ⟨by simp, by intro h; simp [alive] at h, by intro r h; simp [contOf] at h, before_nil _, by intro h; simp at h, by intro h; simp at h,
    by intro h; simp at h, by intro r h; simp at h, by simp, by simp, by simp, by simp, by intro _ h; simp at h, fun h => h.elim⟩

theorem InvU.weaken {can' lg' sp' sp2' : Prop} {s : St} (i : InvU cfg u can lg sp sp2 s) (hc : can → can') (hl : lg → lg')
    (h1 : sp' → Obs.ret u .ok ∉ s.trace)
    (h2 : sp2' → s.status (.U u) ≠ .absent ∧ (s.prog (.U u) ≠ .loginWait u ∨ s.status (.U u) = .done)) :
    InvU cfg u can' lg' sp' sp2' s :=
  ⟨i.nrecv, i.nidle, fun r h => (i.cont r h).imp id (fun ⟨a, b⟩ => ⟨a, hc b⟩), i.rets, i.failed, i.hb, fun h => hl (i.called h), i.retst,
    fun h => hc (i.ncan h), fun h1' h2' => (i.vcan h1' h2').imp id hc, fun h1' h2' h3' => (i.noreply h1' h2' h3').imp id hc,
    fun h => hc (i.rcan h), h1, h2⟩

/-- the step in which `login()` of user task `u` consumes an acceptance on an active session -/
def AcceptCond (s : St) (ev : Ev) (u : Nat) : Prop :=
  ev = .run (.U u) ∧ s.status (.U u) = .ready ∧ s.prog (.U u) = .loginWait u ∧ s.vres = some 0 ∧ s.closed = false ∧
    s.closingTask = false

/-- once `u` is past its receive it cannot be the task that consumes an acceptance -/
theorem InvU.not_accept {s : St} (i : InvU cfg u can lg sp True s) (ev : Ev) : ¬ AcceptCond s ev u := by
  rintro ⟨_, h1, h2, _⟩
  rcases (i.spent2 trivial).2 with h | h
  · exact h h2
  · rw [h1] at h; simp at h

end NasdaqModel.Sess
