import NasdaqModel.Lemmas.RefineSim
/-
One byte-level history driving both machines (`Refine.bstep`): the two components are the two existing machines run on the two
projections of the history (`traces`), and in every reachable state they are related (`PInv`): token buffer = tokenisation of
the byte buffer, frames on the wire = tokenisation of ALL bytes received, messages handed on equal.
-/
namespace NasdaqModel.Refine
open NasdaqModel Py
open NasdaqModel.Framing (Proto R Consuming Settled)
open NasdaqModel.Sess (St Cfg Frame Tid msgsOf rcore atLoop polls_iff)

variable {μ : Type}

section bstep
variable (P : Proto μ) (num : μ → Nat) (cfg : Cfg) (b : BSt μ)

theorem bstep_bytes (seg : Bytes) : bstep P num cfg b (.bytes seg) =
    ⟨Framing.step P b.r (.data seg), Sess.step cfg b.s (.data (newFrames P num b.r seg)), b.all ++ seg⟩ := rfl

theorem bstep_data (fs : List Frame) : bstep P num cfg b (.ev (.data fs)) = b := rfl

theorem bstep_run_R : bstep P num cfg b (.ev (.run .R)) =
    ⟨if polls b.s then Framing.step P b.r .tick else b.r, Sess.step cfg b.s (.run .R), b.all⟩ := by
  unfold bstep
  simp only [rdrEv, tokEv]
  cases polls b.s <;> rfl

theorem bstep_ev_all (e : Sess.Ev) : (bstep P num cfg b (.ev e)).all = b.all := rfl

theorem bstep_ev_s (e : Sess.Ev) (h : ∀ fs, e ≠ .data fs) : (bstep P num cfg b (.ev e)).s = Sess.step cfg b.s e := by
  cases e <;> first | rfl | exact absurd rfl (h _)

theorem bstep_ev_r (e : Sess.Ev) (h : e ≠ .run .R) : (bstep P num cfg b (.ev e)).r = b.r := by
  cases e with
  | run t => cases t <;> first | rfl | exact absurd rfl h
  | _ => rfl

end bstep

theorem bfold_cons (P : Proto μ) (num : μ → Nat) (cfg : Cfg) (b : BSt μ) (e : BEv) (es : List BEv) :
    bfold P num cfg b (e :: es) = bfold P num cfg (bstep P num cfg b e) es := rfl

/-- the session component is the session machine run on the token-level projection of the history -/
theorem bfold_s (P : Proto μ) (num : μ → Nat) (cfg : Cfg) : ∀ (evs : List BEv) (b : BSt μ),
    (bfold P num cfg b evs).s = Sess.runEvs cfg b.s (traces P num cfg b evs).1 := by
  intro evs
  induction evs with
  | nil => intro b; rfl
  | cons e es ih =>
    intro b
    rw [bfold_cons, ih]
    simp only [traces, Sess.runEvs, List.foldl_append]
    congr 1
    unfold bstep
    cases tokEv P num b e <;> rfl

/-- the reader component is the C03 reader machine run on the reader-level projection of the history -/
theorem bfold_r (P : Proto μ) (num : μ → Nat) (cfg : Cfg) : ∀ (evs : List BEv) (b : BSt μ),
    (bfold P num cfg b evs).r = (traces P num cfg b evs).2.foldl (Framing.step P) b.r := by
  intro evs
  induction evs with
  | nil => intro b; rfl
  | cons e es ih =>
    intro b
    rw [bfold_cons, ih]
    simp only [traces, List.foldl_append]
    congr 1
    unfold bstep
    cases rdrEv b e <;> rfl

theorem bfold_all (P : Proto μ) (num : μ → Nat) (cfg : Cfg) : ∀ (evs : List BEv) (b : BSt μ),
    (bfold P num cfg b evs).all = b.all ++ bytesOf evs := by
  intro evs
  induction evs with
  | nil => intro b; simp [bfold, bytesOf]
  | cons e es ih =>
    intro b
    rw [bfold_cons, ih]
    cases e with
    | bytes seg => simp [bstep_bytes, bytesOf]
    | ev e => rw [bstep_ev_all]; rfl

theorem traces_received (P : Proto μ) (num : μ → Nat) (cfg : Cfg) : ∀ (evs : List BEv) (b : BSt μ),
    Framing.received (traces P num cfg b evs).2 = bytesOf evs := by
  intro evs
  induction evs with
  | nil => intro b; rfl
  | cons e es ih =>
    intro b
    simp only [traces, Framing.received_append, ih]
    cases e with
    | bytes seg => simp [rdrEv, Framing.received, bytesOf]
    | ev e =>
      have : Framing.received (rdrEv b (.ev e)).toList = [] := by
        cases e with
        | run t =>
          cases t <;> simp [rdrEv, Framing.received]
          split <;> simp [Framing.received]
        | _ => simp [rdrEv, Framing.received]
      rw [this]; rfl

theorem brun_s (P : Proto μ) (num : μ → Nat) (cfg : Cfg) (evs : List BEv) :
    (brun P num cfg evs).s = Sess.runEvs cfg {} (traces P num cfg {} evs).1 := bfold_s P num cfg evs {}

theorem brun_r (P : Proto μ) (num : μ → Nat) (cfg : Cfg) (evs : List BEv) :
    (brun P num cfg evs).r = Framing.run P (traces P num cfg {} evs).2 := bfold_r P num cfg evs {}

theorem brun_all (P : Proto μ) (num : μ → Nat) (cfg : Cfg) (evs : List BEv) :
    (brun P num cfg evs).all = bytesOf evs := by
  have := bfold_all P num cfg evs {}
  simpa [brun] using this

structure PInv (P : Proto μ) (num : μ → Nat) (st : Bytes → Bool) (b : BSt μ) : Prop where
  rel : Rel P num b.r b.s
  g : Sess.InvG b.s
  pre : ∃ pre : List (Tok μ), pre.map (Tok.frame num) = b.s.consumed ∧ tokMsgs pre = b.r.out ∧
    (b.r.stopped = false → tokens P b.all = (tokens P b.r.buf).prepend pre) ∧
    (b.r.stopped = true → tokens P b.all = ⟨pre, b.r.buf, true⟩)
  stab : b.r.stopped = false → ∀ more, stable P st (b.all ++ more) = true → stable P st (b.r.buf ++ more) = true

theorem PInv.init (P : Proto μ) (num : μ → Nat) (st : Bytes → Bool) : PInv P num st ({} : BSt μ) where
  rel := ⟨fun _ => rfl, (fun h => by cases h), rfl⟩
  g := Sess.InvG.init
  pre := ⟨[], rfl, rfl, fun _ => rfl, fun h => by cases h⟩
  stab := fun _ more h => h

/-- nothing the invariant reads changed, except that the session may have become closed -/
theorem PInv.frame {P : Proto μ} {num : μ → Nat} {st : Bytes → Bool} {b b' : BSt μ} (h : PInv P num st b)
    (hr : b'.r = b.r) (ha : b'.all = b.all) (hrel : Rel P num b.r b'.s) (hg : Sess.InvG b'.s)
    (hc : b'.s.consumed = b.s.consumed) : PInv P num st b' where
  rel := by rw [hr]; exact hrel
  g := hg
  pre := by rw [hr, ha, hc]; exact h.pre
  stab := by rw [hr, ha]; exact h.stab

theorem PInv.step {P : Proto μ} {st : Bytes → Bool} (F : Framer P st) (num : μ → Nat) (cfg : Cfg) {b : BSt μ}
    (h : PInv P num st b) (e : BEv) (hs : stable P st (bstep P num cfg b e).all = true) :
    PInv P num st (bstep P num cfg b e) := by
  cases e with
  | bytes seg =>
    rw [bstep_bytes] at hs ⊢
    simp only at hs
    have hsb : b.r.stopped = false → stable P st (b.r.buf ++ seg) = true := fun h0 => h.stab h0 seg hs
    refine ⟨h.rel.data F num cfg seg hsb,
      (show Sess.InvG (Sess.step cfg b.s (.data (newFrames P num b.r seg))) from Sess.step_InvG h.g _), ?_, ?_⟩
    · obtain ⟨pre, p1, p2, p3, p4⟩ := h.pre
      refine ⟨pre, p1, by simpa using p2, ?_, ?_⟩
      · intro h0
        simp only [Framing.step_data_stopped] at h0
        simp only [Framing.step_data_buf]
        rw [tokens_append F b.all seg hs, p3 h0, Toks.prepend_extend, ← tokens_append F b.r.buf seg (hsb h0)]
      · intro h0
        simp only [Framing.step_data_stopped] at h0
        simp only [Framing.step_data_buf]
        rw [tokens_append F b.all seg hs, p4 h0, Toks.extend_fin _ _ _ rfl]
    · intro h0 more hm
      simp only [Framing.step_data_stopped] at h0
      simp only [Framing.step_data_buf]
      rw [List.append_assoc] at hm ⊢
      exact h.stab h0 _ hm
  | ev e =>
    by_cases hd : ∃ fs, e = .data fs
    · obtain ⟨fs, rfl⟩ := hd
      rw [bstep_data]; exact h
    · have hd' : ∀ fs, e ≠ .data fs := fun fs he => hd ⟨fs, he⟩
      have hg : Sess.InvG (bstep P num cfg b (.ev e)).s := by
        rw [bstep_ev_s P num cfg b e hd']; exact Sess.step_InvG h.g _
      by_cases hR : e = .run .R ∧ polls b.s = true
      · -- the reader task polls: one `tick` of the byte-level reader
        obtain ⟨rfl, hp⟩ := hR
        obtain ⟨hl, hrs⟩ := (polls_iff _).1 hp
        rw [bstep_run_R, hp] at hg ⊢
        simp only [if_true] at hg ⊢
        have hrel := h.rel.tick F.consuming num cfg hl hrs
        cases hst : b.r.stopped with
        | true =>
          have e1 := Framing.step_tick_stopped P b.r hst
          obtain ⟨h1, _⟩ := h.rel.dead hst
          have hc := Sess.rcore_poll_nil cfg b.s hl h1
          simp only [rcore, Prod.mk.injEq] at hc
          exact h.frame e1 rfl (by rw [← e1]; exact hrel) hg hc.2.2.1
        | false =>
          have hbuf := h.rel.live hst
          obtain ⟨pre, p1, p2, p3, p4⟩ := h.pre
          rcases tick_toks P F.consuming b.r hst with i | ⟨k, t⟩ | ⟨m, rest, t⟩
          · have hb : b.s.buf = [] := by rw [hbuf, i.toks]; rfl
            have hc := Sess.rcore_poll_nil cfg b.s hl hb
            simp only [rcore, Prod.mk.injEq] at hc
            exact h.frame i.step rfl (by rw [← i.step]; exact hrel) hg hc.2.2.1
          · have hb : b.s.buf = [k.frame num] := by rw [hbuf, Toks.frames, t.toks]; rfl
            obtain ⟨_, c2, _, _, _⟩ := Sess.poll_cons cfg b.s hl hrs hb
            refine ⟨hrel, hg, ⟨pre ++ [k], ?_, ?_, ?_, ?_⟩, ?_⟩
            · simp only; rw [c2, List.map_append, p1]; rfl
            · simp only; rw [t.out, tokMsgs_append, p2]
              rcases t.kind with rfl | rfl <;> simp [tokMsgs]
            · intro h0; simp only at h0; rw [t.stopped] at h0; cases h0
            · intro _
              simp only
              rw [p3 hst, t.buf]
              have : tokens P b.r.buf = ⟨[k], (tokens P b.r.buf).rest, true⟩ := by
                rw [← t.toks, ← t.fin]
              rw [this]; rfl
            · intro h0; simp only at h0; rw [t.stopped] at h0; cases h0
          · have hb : b.s.buf = (classify P m).frame num :: (tokens P rest).frames num := by
              rw [hbuf, t.toks]; rfl
            obtain ⟨_, c2, _, _, _⟩ := Sess.poll_cons cfg b.s hl hrs hb
            refine ⟨hrel, hg, ⟨pre ++ [classify P m], ?_, ?_, ?_, ?_⟩, ?_⟩
            · simp only; rw [c2, List.map_append, p1]; rfl
            · simp only; rw [t.out, tokMsgs_append, p2]
            · intro _
              simp only
              rw [p3 hst, t.toks, t.buf, Toks.prepend_prepend]
            · intro h0; simp only at h0; rw [t.running] at h0; cases h0
            · intro _ more hm
              simp only at hm ⊢
              rw [t.buf]
              have hsm := h.stab hst more hm
              have hab : b.r.buf ++ more ≠ [] := by simp [t.ne]
              have hsth : st b.r.buf = true := F.st_prefix (stable_head P st hab hsm)
              have hd' := F.some_mono more hsth t.deser
              rw [stable_cons P st F.consuming hab hd' t.notLogout, Bool.and_eq_true] at hsm
              exact hsm.2
      · -- any other event: the byte-level reader is not touched, the reader's data on the session side neither
        have hr : e = .run .R → polls b.s = false := fun he => by
          cases hp : polls b.s with
          | false => rfl
          | true => exact absurd ⟨he, hp⟩ hR
        have hc := Sess.rcore_step_other cfg b.s e hd' hr
        simp only [rcore, Prod.mk.injEq] at hc
        have hrr : (bstep P num cfg b (.ev e)).r = b.r := by
          by_cases he : e = .run .R
          · subst he
            rw [bstep_run_R, hr rfl]
            rfl
          · exact bstep_ev_r P num cfg b e he
        refine h.frame hrr rfl ?_ hg ?_
        · rw [bstep_ev_s P num cfg b e hd']; exact h.rel.other num cfg e hd' hr
        · rw [bstep_ev_s P num cfg b e hd']; exact hc.2.2.1

/-- **the invariant holds along every byte-level history** whose byte stream is stable -/
theorem bfold_pinv {P : Proto μ} {st : Bytes → Bool} (F : Framer P st) (num : μ → Nat) (cfg : Cfg) :
    ∀ (evs : List BEv) (b : BSt μ), PInv P num st b → stable P st (b.all ++ bytesOf evs) = true →
      PInv P num st (bfold P num cfg b evs) := by
  intro evs
  induction evs with
  | nil => intro b h _; exact h
  | cons e es ih =>
    intro b h hs
    rw [bfold_cons]
    have hall : (bstep P num cfg b e).all ++ bytesOf es = b.all ++ bytesOf (e :: es) := by
      cases e with
      | bytes seg => simp [bstep_bytes, bytesOf]
      | ev e => rw [bstep_ev_all]; rfl
    apply ih
    · apply h.step F num cfg e
      exact stable_prefix F _ (bytesOf es) (by rw [hall]; exact hs)
    · rw [hall]; exact hs

theorem brun_pinv {P : Proto μ} {st : Bytes → Bool} (F : Framer P st) (num : μ → Nat) (cfg : Cfg) (evs : List BEv)
    (hs : stable P st (bytesOf evs) = true) : PInv P num st (brun P num cfg evs) :=
  bfold_pinv F num cfg evs {} (PInv.init P num st) (by simpa using hs)

section consequences
variable {P : Proto μ} {num : μ → Nat} {st : Bytes → Bool} {b : BSt μ}

/-- the frames the session machine counts as received are the tokens of all the bytes received -/
theorem PInv.wire (h : PInv P num st b) : b.s.wire = (tokens P b.all).frames num := by
  obtain ⟨pre, p1, _, p3, p4⟩ := h.pre
  rw [← h.g.wire, ← p1]
  cases hst : b.r.stopped with
  | false => rw [p3 hst, Toks.frames_prepend, h.rel.live hst]
  | true => rw [p4 hst, (h.rel.dead hst).1]; simp [Toks.frames]

theorem PInv.msgs_wire (h : PInv P num st b) : msgsOf b.s.wire = (carried P b.all).map num := by
  rw [h.wire, Toks.frames, msgsOf_frames]; rfl

theorem PInv.out_prefix (h : PInv P num st b) : b.r.out <+: carried P b.all := by
  obtain ⟨pre, _, p2, p3, p4⟩ := h.pre
  unfold carried
  cases hst : b.r.stopped with
  | false => rw [p3 hst, Toks.msgs_prepend, p2]; exact List.prefix_append _ _
  | true => rw [p4 hst, ← p2]; exact List.prefix_refl _

theorem PInv.out_all (h : PInv P num st b) (hst : b.r.stopped = true) : b.r.out = carried P b.all := by
  obtain ⟨pre, _, p2, _, p4⟩ := h.pre
  unfold carried
  rw [p4 hst, ← p2]; rfl

end consequences

end NasdaqModel.Refine
