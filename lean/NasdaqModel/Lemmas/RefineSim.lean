import NasdaqModel.Lemmas.Refine
import NasdaqModel.Lemmas.RefineSess
/-
The simulation: the byte-level reader machine (`Framing.step`, C03) against the reader of the session machine
(`Sess.step … (.data fs)` / `(.run .R)`), and the invariant of one byte-level history driving both (`Refine.bstep`).
-/
namespace NasdaqModel.Refine
open NasdaqModel Py
open NasdaqModel.Framing (Proto R Consuming Settled)
open NasdaqModel.Sess (St Cfg Frame Tid msgsOf rcore atLoop polls_iff)

variable {μ : Type}

/-- **the simulation relation**: the session machine's token buffer is the tokenisation of the reader's byte buffer; once the
    byte-level reader has stopped (logout or malformed frame met) the token buffer is empty and the session is flagged closed
    (`Reader._stopped` itself is set only after `close()` returned to the reader — `s.rStopped` lags behind `r.stopped`, `s.closed`
    does not); the messages handed on are the same. -/
structure Rel (P : Proto μ) (num : μ → Nat) (r : R μ) (s : St) : Prop where
  live : r.stopped = false → s.buf = (tokens P r.buf).frames num
  dead : r.stopped = true → s.buf = [] ∧ s.closed = true
  out : s.recvd = r.out.map num

theorem frames_length (num : μ → Nat) (t : Toks μ) : (t.frames num).length = t.toks.length := by
  simp [Toks.frames]

/-- the frames a segment completes are exactly what the tokenisation of the buffer gains -/
theorem newFrames_spec {P : Proto μ} {st : Bytes → Bool} (F : Framer P st) (num : μ → Nat) (r : R μ) (seg : Bytes)
    (hst : r.stopped = false) (hs : stable P st (r.buf ++ seg) = true) :
    (tokens P r.buf).frames num ++ newFrames P num r seg = (tokens P (r.buf ++ seg)).frames num := by
  unfold newFrames
  rw [if_neg (by simp [hst])]
  have pre : (tokens P r.buf).frames num <+: (tokens P (r.buf ++ seg)).frames num :=
    (tokens_toks_prefix F r.buf seg hs).map _
  have := List.prefix_iff_eq_append.mp pre
  rw [frames_length] at this
  exact this

/-- the frames a segment completes are what an incremental tokeniser (keep the remainder, append the segment, cut) produces -/
theorem newFrames_incremental {P : Proto μ} {st : Bytes → Bool} (F : Framer P st) (num : μ → Nat) (r : R μ) (seg : Bytes)
    (hst : r.stopped = false) (hs : stable P st (r.buf ++ seg) = true) :
    newFrames P num r seg =
      if (tokens P r.buf).fin then [] else (tokens P ((tokens P r.buf).rest ++ seg)).frames num := by
  have h := newFrames_spec F num r seg hst hs
  rw [tokens_append F r.buf seg hs] at h
  cases hf : (tokens P r.buf).fin with
  | true =>
    rw [Toks.extend_fin _ _ _ hf] at h
    simp only [Toks.frames] at h
    simpa using h
  | false =>
    rw [Toks.extend_nfin _ _ _ hf, Toks.frames_prepend] at h
    simp only [Toks.frames] at h ⊢
    simpa using h

/-- **Simulation, data.**  `on_data(seg)` on the byte level is matched by the delivery of the frames `seg` completes. -/
theorem Rel.data {P : Proto μ} {st : Bytes → Bool} (F : Framer P st) (num : μ → Nat) (cfg : Cfg) {r : R μ} {s : St}
    (h : Rel P num r s) (seg : Bytes) (hs : r.stopped = false → stable P st (r.buf ++ seg) = true) :
    Rel P num (Framing.step P r (.data seg)) (Sess.step cfg s (.data (newFrames P num r seg))) := by
  refine ⟨?_, ?_, ?_⟩
  · intro hst
    rw [Framing.step_data_stopped] at hst
    rw [Framing.step_data_buf]
    show s.buf ++ newFrames P num r seg = _
    rw [h.live hst]
    exact newFrames_spec F num r seg hst (hs hst)
  · intro hst
    rw [Framing.step_data_stopped] at hst
    obtain ⟨h1, h2⟩ := h.dead hst
    refine ⟨?_, h2⟩
    show s.buf ++ newFrames P num r seg = []
    rw [h1]; simp [newFrames, hst]
  · rw [Framing.step_data_out]; exact h.out

/-- a poll that finds nothing complete: the reader is settled and stays as it is -/
structure TickIdle (P : Proto μ) (r : R μ) : Prop where
  toks : tokens P r.buf = ⟨[], r.buf, false⟩
  settled : Settled P r
  step : Framing.step P r .tick = r

/-- a poll that meets the malformed frame or the logout `k`: the reader stops -/
structure TickStop (P : Proto μ) (r : R μ) (k : Tok μ) : Prop where
  toks : (tokens P r.buf).toks = [k]
  kind : k = .bad ∨ k = .logout
  fin : (tokens P r.buf).fin = true
  stopped : (Framing.step P r .tick).stopped = true
  buf : (Framing.step P r .tick).buf = (tokens P r.buf).rest
  out : (Framing.step P r .tick).out = r.out

/-- a poll that cuts off the frame `m` and goes on with `rest` -/
structure TickCons (P : Proto μ) (r : R μ) (m : μ) (rest : Bytes) : Prop where
  ne : r.buf ≠ []
  deser : P.deser r.buf = .ok (some (m, rest))
  notLogout : P.isLogout m = false
  toks : tokens P r.buf = (tokens P rest).prepend [classify P m]
  running : (Framing.step P r .tick).stopped = false
  buf : (Framing.step P r .tick).buf = rest
  out : (Framing.step P r .tick).out = r.out ++ tokMsgs [classify P m]

theorem tick_toks (P : Proto μ) (hC : Consuming P) (r : R μ) (hst : r.stopped = false) :
    TickIdle P r ∨ (∃ k, TickStop P r k) ∨ (∃ m rest, TickCons P r m rest) := by
  by_cases hb : r.buf = []
  · left
    refine ⟨by rw [hb]; rfl, Or.inr (Or.inl hb), Framing.step_tick_empty P r hb⟩
  · have hl : ¬ r.buf.length = 0 := fun h0 => hb (List.eq_nil_of_length_eq_zero h0)
    cases hd : P.deser r.buf with
    | error e =>
      right; left
      refine ⟨.bad, by rw [tokens_err P hb hd], Or.inl rfl, by rw [tokens_err P hb hd], ?_, ?_, ?_⟩ <;>
        simp [Framing.step, Framing.stepObs, hst, hl, hd, tokens_err P hb hd]
    | ok o =>
      cases o with
      | none =>
        left
        exact ⟨tokens_none P hd, Or.inr (Or.inr hd), Framing.step_tick_none P r hst hd⟩
      | some mr =>
        obtain ⟨m, rest⟩ := mr
        have hstep := Framing.step_tick_some P r hst hb hd
        cases hlo : P.isLogout m with
        | true =>
          right; left
          rw [hlo, if_pos rfl] at hstep
          refine ⟨.logout, by rw [tokens_logout P hb hd hlo], Or.inr rfl, by rw [tokens_logout P hb hd hlo], ?_, ?_, ?_⟩ <;>
            rw [hstep]
          rw [tokens_logout P hb hd hlo]
        | false =>
          right; right
          rw [hlo] at hstep
          simp only [Bool.false_eq_true, if_false] at hstep
          refine ⟨m, rest, hb, hd, hlo, tokens_cons P hC hb hd hlo, ?_, ?_, ?_⟩
          · rw [hstep]; split <;> exact hst
          · rw [hstep]; split <;> rfl
          · rw [hstep]
            cases hhb : P.isHeartbeat m with
            | true => simp [classify, hlo, hhb, tokMsgs]
            | false => simp [classify, hlo, hhb, tokMsgs]

/-- **`tokens` is the reader loop run to quiescence**: `len(buffer)` polls of a running byte-level reader with no data in
    between hand on exactly the messages of the tokenisation of its buffer, leave its remainder, and stop iff it ends in a
    logout / malformed frame -/
theorem ticks_tokens (P : Proto μ) (hC : Consuming P) : ∀ (n : Nat) (r : R μ), r.stopped = false → r.buf.length ≤ n →
    (Framing.ticks P n r).out = r.out ++ (tokens P r.buf).msgs ∧ (Framing.ticks P n r).buf = (tokens P r.buf).rest ∧
    (Framing.ticks P n r).stopped = (tokens P r.buf).fin := by
  intro n
  induction n with
  | zero =>
    intro r hst hn
    have hb : r.buf = [] := List.eq_nil_of_length_eq_zero (Nat.le_zero.mp hn)
    rw [hb]
    exact ⟨by simp [Framing.ticks, Toks.msgs, tokMsgs], by simpa [Framing.ticks] using hb, by simpa [Framing.ticks] using hst⟩
  | succ n ih =>
    intro r hst hn
    rw [Framing.ticks_succ]
    rcases tick_toks P hC r hst with i | ⟨k, t⟩ | ⟨m, rest, t⟩
    · rw [i.step, Framing.ticks_settled P n i.settled, i.toks]
      exact ⟨by simp [Toks.msgs, tokMsgs], rfl, hst⟩
    · rw [Framing.ticks_settled P n (Or.inl t.stopped)]
      refine ⟨?_, t.buf, by rw [t.stopped, t.fin]⟩
      rw [t.out, Toks.msgs, t.toks]
      rcases t.kind with rfl | rfl <;> simp [tokMsgs]
    · have hlt := hC _ _ _ t.deser
      obtain ⟨i1, i2, i3⟩ := ih (Framing.step P r .tick) t.running (by rw [t.buf]; omega)
      rw [t.buf] at i1 i2 i3
      rw [t.toks]
      refine ⟨?_, i2, i3⟩
      rw [i1, t.out, Toks.msgs_prepend, List.append_assoc]

/-- **Simulation, poll.**  One poll of the reader task is one `tick` of the byte-level reader: one frame on both sides. -/
theorem Rel.tick {P : Proto μ} (hC : Consuming P) (num : μ → Nat) (cfg : Cfg) {r : R μ} {s : St}
    (h : Rel P num r s) (hl : atLoop s) (hs : s.rStopped = false) :
    Rel P num (Framing.step P r .tick) (Sess.step cfg s (.run .R)) := by
  cases hst : r.stopped with
  | true =>
    rw [Framing.step_tick_stopped P r hst]
    obtain ⟨h1, h2⟩ := h.dead hst
    have hc := Sess.rcore_poll_nil cfg s hl h1
    simp only [rcore, Prod.mk.injEq] at hc
    refine ⟨(fun h0 => by rw [hst] at h0; cases h0), fun _ => ⟨by rw [hc.1]; exact h1, Sess.step_closed_mono cfg s _ h2⟩, ?_⟩
    rw [hc.2.2.2]; exact h.out
  | false =>
    have hbuf := h.live hst
    rcases tick_toks P hC r hst with i | ⟨k, t⟩ | ⟨m, rest, t⟩
    · rw [i.step]
      have hb : s.buf = [] := by rw [hbuf, i.toks]; rfl
      have hc := Sess.rcore_poll_nil cfg s hl hb
      simp only [rcore, Prod.mk.injEq] at hc
      refine ⟨(fun _ => by rw [hc.1]; exact hbuf), (fun h0 => by rw [hst] at h0; cases h0), ?_⟩
      rw [hc.2.2.2]; exact h.out
    · have hb : s.buf = [k.frame num] := by rw [hbuf, Toks.frames, t.toks]; rfl
      obtain ⟨c1, _, _, c4, c5⟩ := Sess.poll_cons cfg s hl hs hb
      refine ⟨(fun h0 => by rw [t.stopped] at h0; cases h0), fun _ => ⟨c1, c5 ?_⟩, ?_⟩
      · rcases t.kind with rfl | rfl
        · exact Or.inr rfl
        · exact Or.inl rfl
      · rw [c4, t.out, h.out]
        rcases t.kind with rfl | rfl <;> simp [msgsOf, Tok.frame]
    · have hb : s.buf = (classify P m).frame num :: (tokens P rest).frames num := by
        rw [hbuf, t.toks]; rfl
      obtain ⟨c1, _, _, c4, _⟩ := Sess.poll_cons cfg s hl hs hb
      refine ⟨(fun _ => by rw [c1, t.buf]), (fun h0 => by rw [t.running] at h0; cases h0), ?_⟩
      rw [c4, t.out, h.out, List.map_append]
      congr 1
      exact msgsOf_frames num [classify P m]

/-- **Simulation, everything else.**  No other event of the session machine — and no `run R` that does not find the reader task
    polling — touches what the relation reads (a close may set the closed flag, never clears it). -/
theorem Rel.other {P : Proto μ} (num : μ → Nat) (cfg : Cfg) {r : R μ} {s : St} (h : Rel P num r s) (ev : Sess.Ev)
    (hd : ∀ fs, ev ≠ .data fs) (hr : ev = .run .R → polls s = false) : Rel P num r (Sess.step cfg s ev) := by
  have hc := Sess.rcore_step_other cfg s ev hd hr
  simp only [rcore, Prod.mk.injEq] at hc
  refine ⟨(fun h0 => by rw [hc.1]; exact h.live h0), fun h0 => ?_, by rw [hc.2.2.2]; exact h.out⟩
  obtain ⟨h1, h2⟩ := h.dead h0
  exact ⟨by rw [hc.1]; exact h1, Sess.step_closed_mono cfg s ev h2⟩

end NasdaqModel.Refine
