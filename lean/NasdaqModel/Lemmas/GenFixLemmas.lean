import NasdaqModel.Lemmas.PyLemmas
import NasdaqModel.Model.GenFix
/-
Lemmas for C16 (FIX generator model), part 1: association lists with `dict` semantics (`aget` / `aset`), injectivity of the unique
group names.
-/
namespace NasdaqModel.GenFix
open NasdaqModel Py

def keys {α : Type} (l : List (Str × α)) : List Str := l.map (·.1)

@[simp] theorem keys_nil {α : Type} : keys ([] : List (Str × α)) = [] := rfl
@[simp] theorem keys_cons {α : Type} (k : Str) (v : α) (l : List (Str × α)) : keys ((k, v) :: l) = k :: keys l := rfl
@[simp] theorem keys_append {α : Type} (a b : List (Str × α)) : keys (a ++ b) = keys a ++ keys b := by simp [keys]

theorem aget_none_of_not_mem {α : Type} {k : Str} : ∀ {l : List (Str × α)}, k ∉ keys l → aget k l = none
  | [], _ => rfl
  | (k', v) :: t, h => by
    simp only [keys_cons, List.mem_cons, not_or] at h
    have hne : ¬ k' = k := fun e => h.1 e.symm
    simp only [aget, if_neg hne]
    exact aget_none_of_not_mem h.2

theorem mem_keys_of_aget {α : Type} {k : Str} {v : α} : ∀ {l : List (Str × α)}, aget k l = some v → k ∈ keys l
  | [], h => by simp [aget] at h
  | (k', v') :: t, h => by
    simp only [aget] at h
    by_cases e : k' = k
    · simp [e]
    · simp only [if_neg e] at h
      simp [mem_keys_of_aget h]

theorem aget_isSome_of_mem {α : Type} {k : Str} : ∀ {l : List (Str × α)}, k ∈ keys l → ∃ v, aget k l = some v
  | [], h => by simp at h
  | (k', v') :: t, h => by
    by_cases e : k' = k
    · exact ⟨v', by simp [aget, e]⟩
    · simp only [keys_cons, List.mem_cons] at h
      have : k ∈ keys t := by
        rcases h with h | h
        · exact absurd h.symm e
        · exact h
      obtain ⟨v, hv⟩ := aget_isSome_of_mem this
      exact ⟨v, by simp [aget, e, hv]⟩

theorem aget_append_of_not_mem {α : Type} {k : Str} : ∀ {a : List (Str × α)} (b : List (Str × α)), k ∉ keys a →
    aget k (a ++ b) = aget k b
  | [], _, _ => rfl
  | (k', v) :: t, b, h => by
    simp only [keys_cons, List.mem_cons, not_or] at h
    have hne : ¬ k' = k := fun e => h.1 e.symm
    simp only [List.cons_append, aget, if_neg hne]
    exact aget_append_of_not_mem b h.2

theorem aget_append_of_some {α : Type} {k : Str} {v : α} : ∀ {a : List (Str × α)} (b : List (Str × α)), aget k a = some v →
    aget k (a ++ b) = some v
  | [], _, h => by simp [aget] at h
  | (k', v') :: t, b, h => by
    simp only [aget] at h
    by_cases e : k' = k
    · simp only [if_pos e] at h
      simp [aget, e, h]
    · simp only [if_neg e] at h
      simp only [List.cons_append, aget, if_neg e]
      exact aget_append_of_some b h

theorem aset_of_not_mem {α : Type} {k : Str} {v : α} : ∀ {l : List (Str × α)}, k ∉ keys l → aset k v l = l ++ [(k, v)]
  | [], _ => rfl
  | (k', v') :: t, h => by
    simp only [keys_cons, List.mem_cons, not_or] at h
    have hne : ¬ k' = k := fun e => h.1 e.symm
    simp only [aset, if_neg hne, List.cons_append]
    rw [aset_of_not_mem h.2]

theorem aget_aset_same {α : Type} (k : Str) (v : α) : ∀ (l : List (Str × α)), aget k (aset k v l) = some v
  | [] => by simp [aset, aget]
  | (k', v') :: t => by
    by_cases e : k' = k
    · simp [aset, aget, e]
    · simp only [aset, if_neg e, aget]
      exact aget_aset_same k v t

theorem aget_aset_other {α : Type} {k k' : Str} (v : α) (h : k' ≠ k) : ∀ (l : List (Str × α)), aget k (aset k' v l) = aget k l
  | [] => by simp [aset, aget, h]
  | (k2, v2) :: t => by
    by_cases e : k2 = k'
    · subst e
      simp [aset, aget, h]
    · simp only [aset, if_neg e, aget]
      by_cases e2 : k2 = k
      · simp [e2]
      · simp only [if_neg e2]
        exact aget_aset_other v h t

theorem append_sep_inj : ∀ (n n' d d' : List Nat), (∀ c ∈ d, c ≠ 95) → (∀ c ∈ d', c ≠ 95) →
    n ++ 95 :: d = n' ++ 95 :: d' → n = n' ∧ d = d'
  | [], [], d, d', _, _, h => by simpa using h
  | [], c :: t, d, d', hd, _, h => by
    simp only [List.nil_append, List.cons_append, List.cons.injEq] at h
    exact absurd rfl (hd 95 (by rw [h.2]; simp))
  | c :: t, [], d, d', _, hd', h => by
    simp only [List.nil_append, List.cons_append, List.cons.injEq] at h
    exact absurd rfl (hd' 95 (by rw [← h.2]; simp))
  | c :: t, c' :: t', d, d', hd, hd', h => by
    simp only [List.cons_append, List.cons.injEq] at h
    obtain ⟨h1, h2⟩ := append_sep_inj t t' d d' hd hd' h.2
    exact ⟨by rw [h.1, h1], h2⟩

theorem natDigits_no_sep (k : Nat) : ∀ c ∈ natDigits k, c ≠ 95 := by
  intro c hc
  have := natDigits_all_digit k c hc
  simp [isDigit] at this
  omega

theorem natDigits_inj {a b : Nat} (h : natDigits a = natDigits b) : a = b := by
  have := congrArg digitsVal h
  simpa [digitsVal_natDigits] using this

theorem uniqueName_inj {n n' : Str} {k k' : Nat} (h : uniqueName n k = uniqueName n' k') : n = n' ∧ k = k' := by
  unfold uniqueName at h
  simp only [List.append_assoc, List.singleton_append] at h
  obtain ⟨h1, h2⟩ := append_sep_inj n n' _ _ (natDigits_no_sep k) (natDigits_no_sep k') h
  exact ⟨h1, natDigits_inj h2⟩

end NasdaqModel.GenFix
