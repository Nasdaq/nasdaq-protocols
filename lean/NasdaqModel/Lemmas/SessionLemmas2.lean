import NasdaqModel.Lemmas.SessionLemmas
/-
`InvR` — while the session is open and connected its reader task is alive and polling (C07: never open-and-deaf); before it, what
is final about the close: `closed` never reverts, a close that is over (`finished`, `aborted`) stays so.
-/
namespace NasdaqModel.Sess

/-- the reader of an open session is alive, in its poll loop, not stopped; and while the session is open the only
    task anybody waits for is the receive helper -/
def InvR (s : St) : Prop :=
  s.closed = false →
    s.rStopped = false ∧
    (s.status .R = .absent ∨ (s.status .R = .ready ∧ s.prog .R = .readerLoop)) ∧
    (∀ x y, s.status x = .waitT y → y = .V)

theorem closeTail_closed (cfg : Cfg) (s : St) (t : Tid) (c : Cont) : (closeTail cfg s t c).closed = s.closed := by
  obtain ⟨st, l, h⟩ := core_closeTail cfg s t c
  exact congrArg (·.1) h

theorem suspendOn_closed (s : St) (t x : Tid) (pc : Nat) (c : Cont) : (suspendOn s t x pc c).closed = s.closed :=
  congrArg (·.1) (core_suspendOn s t x pc c)

theorem execClose_closed (cfg : Cfg) (t : Tid) (c : Cont) (pc : Nat) (s : St) (h : s.closed = true) :
    (execClose cfg s t c pc).closed = true := by
  refine execClose_rule cfg t c (fun s => s.closed = true) (fun s => s.closed = true) ?_ ?_ ?_ ?_ pc s h
  · intro s h; exact h
  · intro s h; exact h
  · intro s x pc h _ _ _; rw [suspendOn_closed]; exact h
  · intro s h; rw [closeTail_closed]; exact h

theorem enterClose_closed (cfg : Cfg) (s : St) (t : Tid) (c : Cont) : (enterClose cfg s t c).closed = true := by
  unfold enterClose
  split
  · rename_i h; rw [runCont_closed]; exact h
  · exact execClose_closed cfg t c 0 _ rfl

theorem InvR.of_closed {s : St} (h : s.closed = true) : InvR s := by
  intro hc; rw [h] at hc; contradiction

theorem InvR.frame {s s' : St} (i : InvR s) (h1 : s'.closed = s.closed) (h2 : s'.rStopped = s.rStopped)
    (h3 : s'.status .R = s.status .R) (h4 : s'.prog .R = s.prog .R)
    (h5 : ∀ x y, s'.status x = .waitT y → y = .V ∨ s.status x = .waitT y) : InvR s' := by
  intro hc
  rw [h1] at hc
  obtain ⟨a, b, c⟩ := i hc
  refine ⟨by rw [h2]; exact a, by rw [h3, h4]; exact b, ?_⟩
  intro x y hxy
  rcases h5 x y hxy with h | h
  · exact h
  · exact c x y h

theorem not_R_of_prog {s : St} (i : InvR s) (hc : s.closed = false) {t : Tid} {p : Prog}
    (hst : s.status t ≠ .absent) (hp : s.prog t = p) (hne : p ≠ .readerLoop) : t ≠ .R := by
  intro h; subst h
  rcases (i hc).2.1 with h | h
  · exact hst h
  · rw [h.2] at hp; exact hne hp.symm

theorem not_R_of_status {s : St} (i : InvR s) (hc : s.closed = false) {t : Tid}
    (hst : s.status t ≠ .absent) (hst' : s.status t ≠ .ready) : t ≠ .R := by
  intro h; subst h
  rcases (i hc).2.1 with h | h
  · exact hst h
  · exact hst' h.1

theorem InvR.finish {s : St} {t : Tid} (hne : t ≠ .R) (i : InvR s) : InvR (s.finish t) := by
  by_cases hc : s.closed = true
  · exact InvR.of_closed hc
  · have hc' : s.closed = false := by simpa using hc
    have hR : s.status .R ≠ .waitT t := by
      rcases (i hc').2.1 with h | h
      · rw [h]; simp
      · rw [h.1]; simp
    refine i.frame rfl rfl ?_ rfl ?_
    · simp [St.finish, Ne.symm hne, hR]
    · intro x y h
      right
      simp only [St.finish] at h
      split at h
      · simp at h
      · split at h
        · simp at h
        · exact h

theorem InvR.setStatus {s : St} {t : Tid} {x : Status} (hne : t ≠ .R) (hx : ∀ y, x ≠ .waitT y) (i : InvR s) :
    InvR (s.setStatus t x) := by
  refine i.frame rfl rfl ?_ rfl ?_
  · simp [St.setStatus, Ne.symm hne]
  · intro a y h
    right
    simp only [St.setStatus] at h
    split at h
    · exact absurd h (hx y)
    · exact h

theorem InvR.setProg {s : St} {t : Tid} {p : Prog} (hne : t ≠ .R) (i : InvR s) : InvR (s.setProg t p) := by
  refine i.frame rfl rfl rfl ?_ (fun _ _ h => Or.inr h)
  simp [St.setProg, Ne.symm hne]

theorem InvR.spawn {s : St} {t : Tid} {p : Prog} (hne : t ≠ .R) (i : InvR s) : InvR (s.spawn t p) :=
  InvR.setProg hne (InvR.setStatus hne (by simp) i)

theorem InvR.emit {s : St} {o : Obs} (i : InvR s) : InvR (s.emit o) :=
  i.frame rfl rfl rfl rfl (fun _ _ h => Or.inr h)

theorem InvR.same {s s' : St} (i : InvR s) (h1 : s'.closed = s.closed) (h2 : s'.rStopped = s.rStopped)
    (h3 : s'.status = s.status) (h4 : s'.prog = s.prog) : InvR s' :=
  i.frame h1 h2 (by rw [h3]) (by rw [h4]) (fun x y h => Or.inr (by rw [h3] at h; exact h))

/-- close a goal `InvR s'` from `i : InvR s` when `s'` differs from `s` only in fields `InvR` does not read -/
macro "ir" i:ident : tactic => `(tactic| first | exact $i | exact InvR.same $i rfl rfl rfl rfl)

theorem InvR.wakeGetter {s : St} {t : Tid} (hne : t ≠ .R) (i : InvR s) : InvR (s.wakeGetter t) := by
  unfold St.wakeGetter
  split
  · exact InvR.setStatus hne (by simp) i
  · exact i

theorem InvR.put {s : St} {m : Nat} (i : InvR s) : InvR (s.put m) := by
  unfold St.put
  apply InvR.wakeGetter (by decide)
  apply InvR.wakeGetter (by decide)
  ir i

theorem InvR.initiateClose {s : St} (i : InvR s) : InvR s.initiateClose := by
  unfold St.initiateClose
  split
  · exact i
  · apply InvR.spawn (by decide)
    ir i

theorem InvR.startDispatching {s : St} {cfg : Cfg} (i : InvR s) : InvR (s.startDispatching cfg) := by
  unfold St.startDispatching
  split
  · apply InvR.spawn (by decide)
    ir i
  · exact i

theorem InvR.startHeartbeats {s : St} (i : InvR s) : InvR s.startHeartbeats := by
  unfold St.startHeartbeats
  apply InvR.spawn (by decide)
  apply InvR.spawn (by decide)
  ir i

theorem InvR.enterClose (cfg : Cfg) (s : St) (t : Tid) (c : Cont) : InvR (enterClose cfg s t c) :=
  InvR.of_closed (enterClose_closed cfg s t c)

theorem stepInClose_open {cfg : Cfg} {s : St} (a : InvA cfg s) (hc : s.closed = false) (t : Tid) (b : Bool) :
    stepInClose cfg s t b = s := by
  unfold stepInClose
  rw [idle_of_open a hc]

theorem stepInClose_closed (cfg : Cfg) (s : St) (t : Tid) (b : Bool) (h : s.closed = true) :
    (stepInClose cfg s t b).closed = true := by
  refine stepInClose_rule cfg s t b (fun s' => s'.closed = true) h ?_ ?_ ?_ ?_ ?_
  · intro pc c _
    unfold resumeClose
    apply execClose_closed
    split
    · exact h
    · exact h
  · intro k u r _ _; exact h
  · intro k c _ _ _; exact h
  · intro c _ _; rw [runCont_closed]; exact h
  · intro k c _ _; exact h

theorem closedHoare (cfg : Cfg) : CoreHoare cfg (fun _ => True) (fun s => s.closed = true) (fun s => s.closed = true) where
  of_core := fun hc h => (closed_of_core hc).trans h
  emit_neutral := fun _ h => h
  emit_msgEnter := fun _ _ _ h => h
  weaken := id
  enterClose' := fun _ t c => enterClose_closed cfg _ t c
  stepInClose' := fun h t b _ => stepInClose_closed cfg _ t b h

theorem step_closed_mono (cfg : Cfg) (s : St) (ev : Ev) (h : s.closed = true) : (step cfg s ev).closed = true :=
  step_inv (closedHoare cfg) h ev

/-- once the close is over (completed, or aborted by the user's cancellation inside the close callback) its stage never moves again -/
theorem closeOverHoare (cfg : Cfg) (st : CStage) (hst : st = .finished ∨ st = .aborted) :
    CoreHoare cfg (fun _ => True) (fun s => s.closed = true ∧ s.cstage = st) (fun s => s.closed = true ∧ s.cstage = st) where
  of_core := fun hc h => ⟨(closed_of_core hc).trans h.1, (cstage_of_core hc).trans h.2⟩
  emit_neutral := fun _ h => h
  emit_msgEnter := fun _ _ _ h => h
  weaken := id
  enterClose' := by
    intro s h t c
    unfold enterClose
    rw [if_pos h.1, runCont_closed, runCont_cstage]
    exact h
  stepInClose' := by
    intro s h t b _
    unfold stepInClose
    rw [h.2]
    rcases hst with rfl | rfl
    · exact h
    · exact h

theorem step_finished_final (cfg : Cfg) (s : St) (ev : Ev) (hc : s.closed = true) (hf : s.cstage = .finished) :
    (step cfg s ev).cstage = .finished :=
  (step_inv (closeOverHoare cfg .finished (Or.inl rfl)) (J := fun s => s.closed = true ∧ s.cstage = .finished) ⟨hc, hf⟩ ev).2

theorem step_aborted_final (cfg : Cfg) (s : St) (ev : Ev) (hc : s.closed = true) (hf : s.cstage = .aborted) :
    (step cfg s ev).cstage = .aborted :=
  (step_inv (closeOverHoare cfg .aborted (Or.inr rfl)) (J := fun s => s.closed = true ∧ s.cstage = .aborted) ⟨hc, hf⟩ ev).2

theorem stepReader_InvR {cfg : Cfg} {s : St} (i : InvR s) (hc' : s.closed = false) : InvR (stepReader cfg s) := by
  have hr := (i hc').1
  unfold stepReader
  rw [if_neg (by simp [hr])]
  split
  · exact i
  · split
    · apply InvR.put; ir i
    · ir i
    · exact InvR.enterClose _ _ _ _
    · exact InvR.enterClose _ _ _ _

theorem dispHandle_InvR {cfg : Cfg} {s : St} (i : InvR s) (n : Nat) : InvR (dispHandle cfg s n) := by
  unfold dispHandle
  split
  · have := i.emit (o := .msgExit n); ir this
  · exact InvR.setProg (by decide) i
  · exact InvR.enterClose _ _ _ _
  · have := i.initiateClose.emit (o := .msgExit n); ir this
  · have := i.emit (o := .msgRaise n); ir this
  · have := ((i.emit (o := .write .reply)).startHeartbeats).emit (o := .msgExit n); ir this
  · exact InvR.enterClose _ _ _ _

theorem stepDisp_InvR {cfg : Cfg} {s : St} (i : InvR s) : InvR (stepDisp cfg s) := by
  unfold stepDisp
  split
  · exact InvR.finish (by decide) i
  · split
    · exact i
    · split
      · exact InvR.setStatus (by decide) (by simp) i
      · apply dispHandle_InvR
        apply InvR.emit
        ir i

theorem stepMon_InvR {cfg : Cfg} {s : St} (i : InvR s) (b : Bool) : InvR (stepMon cfg s b) := by
  unfold stepMon
  split
  · split
    · ir i
    · exact i.emit
  · split
    · ir i
    · exact InvR.enterClose _ _ _ _

theorem loginResume_InvR {cfg : Cfg} {s : St} (i : InvR s) {t : Tid} (hne : t ≠ .R) (u : Nat) :
    InvR (loginResume cfg s t u) := by
  unfold loginResume
  split
  · simp only
    split
    · apply InvR.finish hne
      apply InvR.emit
      apply InvR.startDispatching
      apply InvR.startHeartbeats
      apply InvR.emit
      ir i
    · exact InvR.enterClose _ _ _ _
  · split
    · apply InvR.finish hne
      apply InvR.emit
      ir i
    · exact InvR.enterClose _ _ _ _

theorem stepRun_InvR {cfg : Cfg} {s : St} (a : InvA cfg s) (i : InvR s) (hc : s.closed = false) (t : Tid) :
    InvR (stepRun cfg s t) := by
  unfold stepRun
  have i0 : InvR { s with imm := none } := by ir i
  have a0 : InvA cfg { s with imm := none } := InvA.of_core (s := s) rfl a
  have hc0 : ({ s with imm := none } : St).closed = false := hc
  generalize ({ s with imm := none } : St) = s0 at i0 a0 hc0
  simp only
  split
  · -- cancelled: not the reader
    rename_i hst
    have hne : t ≠ .R := not_R_of_status i0 hc0 (by rw [hst]; simp) (by rw [hst]; simp)
    split
    · exact InvR.finish hne i0.emit
    · apply InvR.finish hne; ir i0
    · split
      · apply InvR.finish hne; apply InvR.emit; ir i0
      · apply InvR.finish hne; apply InvR.emit; ir i0
    · split
      · apply InvR.finish hne; apply InvR.emit; ir i0
      · exact InvR.enterClose _ _ _ _
    · rw [stepInClose_open a0 hc0]; exact i0
    · exact InvR.finish hne i0
  · -- ready
    rename_i hst
    have hab : s0.status t ≠ .absent := by rw [hst]; simp
    split
    · split
      · exact stepReader_InvR i0 hc0
      · exact i0
    · split
      · exact stepDisp_InvR i0
      · exact i0
    · rename_i hp
      have hne : t ≠ .R := not_R_of_prog i0 hc0 hab hp (by simp)
      split
      · rename_i n _
        have := InvR.setProg (p := .dispLoop) hne (i0.emit (o := .msgExit n)); ir this
      · exact InvR.setProg hne i0
    · rename_i hp
      exact InvR.setProg (not_R_of_prog i0 hc0 hab hp (by simp)) i0
    · split
      · exact stepMon_InvR i0 _
      · split
        · exact stepMon_InvR i0 _
        · exact i0
    · exact InvR.enterClose _ _ _ _
    · rw [stepInClose_open a0 hc0]; exact i0
    · rename_i hp
      have hne : t ≠ .R := not_R_of_prog i0 hc0 hab hp (by simp)
      split
      · exact InvR.setStatus hne (by simp) i0
      · split
        · exact i0
        · apply InvR.finish hne; ir i0
    · rename_i hp
      have hne : t ≠ .R := not_R_of_prog i0 hc0 hab hp (by simp)
      split
      · apply InvR.finish hne; apply InvR.emit; ir i0
      · split
        · apply InvR.finish hne; apply InvR.emit; ir i0
        · apply InvR.finish hne; apply InvR.emit; ir i0
    · rename_i hp
      exact loginResume_InvR i0 (not_R_of_prog i0 hc0 hab hp (by simp)) _
    · exact i0
  · exact i0

theorem startRecv_InvR {s : St} (i : InvR s) (u : Nat) (b : Bool) : InvR (startRecv s u b) := by
  unfold startRecv
  split
  · exact i
  · split
    · exact InvR.setStatus (by simp) (by simp) i.emit
    · split
      · apply InvR.setProg (by simp)
        apply InvR.setStatus (by simp) (by simp)
        ir i
      · split
        · split
          · exact InvR.setStatus (by simp) (by simp) i.emit
          · exact InvR.setStatus (by simp) (by simp) i.emit
        · -- the caller waits for the helper task
          have i1 : InvR (({ s with rcvBusy := true } : St).spawn .V .vget) := by
            apply InvR.spawn (by decide); ir i
          apply InvR.setProg (by simp)
          refine InvR.frame i1 rfl rfl ?_ rfl ?_
          · simp [St.setStatus]
          · intro x y h
            simp only [St.setStatus] at h
            split at h
            · left; injection h with h; exact h.symm
            · right; exact h

theorem step_InvR {cfg : Cfg} {s : St} (a : InvA cfg s) (i : InvR s) (ev : Ev) : InvR (step cfg s ev) := by
  by_cases hc : s.closed = true
  · exact InvR.of_closed (step_closed_mono cfg s ev hc)
  · have hc' : s.closed = false := by simpa using hc
    cases ev with
    | connect =>
      simp only [step]
      split
      · exact i
      · have i1 : InvR (s.spawn .R .readerLoop) := by
          intro _
          obtain ⟨r, _, w⟩ := i hc'
          refine ⟨r, Or.inr ⟨by simp [St.spawn, St.setStatus, St.setProg], by simp [St.spawn, St.setProg]⟩, ?_⟩
          intro x y hxy
          simp only [St.spawn, St.setProg, St.setStatus] at hxy
          split at hxy
          · simp at hxy
          · exact w x y hxy
        split
        · exact i1.startDispatching
        · exact i1
    | data fs => ir i
    | eof => exact i.initiateClose
    | run t =>
      simp only [step]
      split
      · exact stepRun_InvR a i hc' t
      · exact i
    | callClose u =>
      simp only [step]
      split
      · exact i
      · exact InvR.enterClose _ _ _ _
    | callInitiateClose => exact i.initiateClose
    | callLogout =>
      simp only [step]
      apply InvR.initiateClose
      have := i.emit (o := .write .logout); ir this
    | callRecv u =>
      simp only [step]
      split
      · exact i
      · exact startRecv_InvR i u false
    | callRecvNowait u =>
      simp only [step]
      split
      · exact i
      · split
        · exact i.emit
        · split
          · apply InvR.emit; ir i
          · split <;> exact i.emit
    | callLogin u =>
      simp only [step]
      split
      · exact i
      · apply startRecv_InvR
        have := i.emit (o := .write .login); ir this
    | callSend =>
      have := i.emit (o := .write .data); ir this
    | cancel u =>
      simp only [step]
      -- cancelling a user task: the only task it can be waiting for is the receive helper
      obtain ⟨r, rr, w⟩ := i hc'
      rcases cancelTask_setStatus s (.U u) with h | ⟨y, hy, _, h⟩
      · rw [h]; exact i
      · rw [h]
        rcases hy with rfl | hy
        · exact InvR.setStatus (by simp) (by simp) i
        · rw [w _ _ hy]; exact InvR.setStatus (by decide) (by simp) i

theorem InvR.init : InvR {} := by
  intro _
  exact ⟨rfl, Or.inl rfl, by intro x y h; simp at h⟩

theorem runEvs_InvR (cfg : Cfg) (evs : List Ev) : InvR (runEvs cfg {} evs) := by
  have : ∀ (s : St), InvA cfg s → InvR s → InvA cfg (runEvs cfg s evs) ∧ InvR (runEvs cfg s evs) := by
    induction evs with
    | nil => intro s a i; exact ⟨a, i⟩
    | cons ev evs ih => intro s a i; exact ih _ (step_InvA a ev) (step_InvR a i ev)
  exact (this _ (InvA.init cfg) InvR.init).2

end NasdaqModel.Sess
