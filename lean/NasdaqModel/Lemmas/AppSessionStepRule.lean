import NasdaqModel.Lemmas.AppSessionLemmas
/-
One proof rule for the product machine, for predicates that do not read its control part (flags, statuses, programs, position
inside `_on_soup_close`): such a predicate is kept by every event as soon as it is kept by

* a change outside the data view `dview` (inner state, merged trace, second queue, held value, ghost lists),
* an application observable that hands nothing to the consumer (`silentObs`),
* an inner step with its `_on_soup_message` (`innerStep`)                                   — `CloseInv`: the close sequence,
* the four moves of a value through the second stage (`deliver`, `hold`, `unhold`, `handOver`) — `DataInv`: every event.

For such predicates the walk over the transition functions is done once, here (the control invariants `InvY`, `InvB2 ∧ InvS`, `InvL`
walk them on their own: `AppSessionStage`, `AppSessionEvents`, `AppSessionLink`).  Instances: `IReach` (below), `InvF`, `gone2 = g`
(`AppSessionFlow`), `InvO` (`AppSessionObs`).
-/
namespace NasdaqModel.App
open NasdaqModel

/-- the observables a step can append: everything except an `await app.close()` that ended with something else than a normal
    return or the cancellation of a user task (the transition kept in `Witness/C05AppOld.lean` emits such a one) -/
def plainObs : AObs → Bool
  | .closeRet _ .ok => true
  | .closeRet (.user _) .cancelled => true
  | .closeRet _ _ => false
  | _ => true

def silentObs : AObs → Bool
  | .msgEnter _ => false
  | .ret _ (.msg _) => false
  | o => plainObs o

def dview (s : St) : Sess.St × List PObs × List Nat × Option Nat × List (Nat × Bool) × List Nat :=
  (s.inner, s.tr, s.q2, s.vres2, s.gone2, s.fed)

theorem dview_cancel2 (s : St) (t : ATid) : dview (s.cancel2 t) = dview s := by
  unfold St.cancel2; split <;> try rfl
  split <;> rfl

theorem dview_setEvent (s : St) : dview s.setEvent = dview s := by
  unfold St.setEvent; split <;> rfl

structure CloseInv (a : ACfg) (P : St → Prop) : Prop where
  frame : ∀ {s s' : St}, dview s' = dview s → P s → P s'
  emit : ∀ {s : St} {o : AObs}, silentObs o = true → P s → P (s.emit2 o)
  inner : ∀ {s : St} (e : Sess.Ev), P s → P (innerStep a s e)

structure DataInv (a : ACfg) (P : St → Prop) : Prop extends CloseInv a P where
  deliver : ∀ {s : St} {v : Nat} {q : List Nat} {o : AObs}, s.q2 = v :: q → s.vres2 = none →
    (o = .msgEnter v ∨ ∃ u, o = .ret u (.msg v)) → P s →
    P (({ s with q2 := q, gone2 := s.gone2 ++ [(v, true)] } : St).emit2 o)
  hold : ∀ {s : St} {v : Nat} {q : List Nat}, s.q2 = v :: q → s.vres2 = none → P s → P { s with q2 := q, vres2 := some v }
  unhold : ∀ {s : St}, P s → P { s with vres2 := none, q2 := s.vres2.toList ++ s.q2 }
  handOver : ∀ {s : St} {v : Nat} (u : Nat), s.vres2 = some v → P s →
    P (({ s with vres2 := none, gone2 := s.gone2 ++ [(v, true)] } : St).emit2 (.ret u (.msg v)))

namespace CloseInv
variable {a : ACfg} {P : St → Prop} (h : CloseInv a P)
include h

theorem setA {s : St} (p : P s) (t : ATid) (x : AStatus) : P (s.setA t x) := h.frame (s := s) rfl p
theorem setP {s : St} (p : P s) (t : ATid) (x : AProg) : P (s.setP t x) := h.frame (s := s) rfl p
theorem finish2 {s : St} (p : P s) (t : ATid) : P (s.finish2 t) := h.frame (s := s) rfl p
theorem imm2 {s : St} (p : P s) (b : Bool) : P { s with imm2 := b } := h.frame (s := s) rfl p
theorem cancel2 {s : St} (p : P s) (t : ATid) : P (s.cancel2 t) := h.frame (dview_cancel2 s t) p
theorem setEvent {s : St} (p : P s) : P s.setEvent := h.frame (dview_setEvent s) p

theorem d2Return {s : St} (p : P s) : P (d2Return s) := by
  rcases d2Return_cases s with e | ⟨v, e⟩ | ⟨v, e⟩ | ⟨v, e⟩ <;> rw [e]
  · exact p
  · exact h.finish2 (h.emit rfl (h.emit rfl p)) _
  · exact h.imm2 (h.setP (h.setA (h.emit rfl (h.emit rfl p)) _ _) _ _) _
  · exact h.finish2 (h.emit rfl (h.emit rfl p)) _

theorem finishClose {s : St} (p : P s) (t : Sess.Tid) : P (finishClose a s t) :=
  h.d2Return (h.inner (s := { s with cpc := .finished }) _ (h.frame (s := s) rfl p))

theorem endCb {s : St} (p : P s) (t : Sess.Tid) : P (endCb a s t) :=
  h.finishClose (h.setEvent (h.emit rfl p)) t

theorem afterStop {s : St} (p : P s) (t : Sess.Tid) : P (afterStop a s t) := by
  unfold App.afterStop
  have p1 : P { s with appClosed := true } := h.frame (s := s) rfl p
  simp only
  split
  · exact h.finishClose (h.setEvent p1) t
  · have p2 := h.emit (o := .cbEnter) rfl p1
    split
    · exact h.frame (s := ({ s with appClosed := true } : St).emit2 .cbEnter) rfl p2
    · exact h.endCb (h.emit rfl p2) t
    · exact h.endCb p2 t

theorem stopV2 {s : St} (p : P s) (t : Sess.Tid) : P (stopV2 a s t) := by
  unfold App.stopV2
  split
  · exact h.frame (s := s.cancel2 .V2) rfl (h.cancel2 p _)
  · exact h.afterStop p t

theorem stopD2 {s : St} (p : P s) (t : Sess.Tid) : P (stopD2 a s t) := by
  unfold App.stopD2
  split
  · exact h.frame (s := s.cancel2 .D2) rfl (h.cancel2 p _)
  · exact h.stopV2 (s := { s with disp2Set := false }) (h.frame (s := s) rfl p) t

theorem onSoupClose {s : St} (p : P s) (t : Sess.Tid) : P (onSoupClose a s t) := by
  unfold App.onSoupClose
  split
  · exact h.finishClose p t
  · have key : ∀ s1 : St, P s1 →
        P (if s1.q2Closed = true then App.afterStop a s1 t else App.stopD2 a { s1 with q2Closed := true } t) := by
      intro s1 p1
      split
      · exact h.afterStop p1 t
      · exact h.stopD2 (s := { s1 with q2Closed := true }) (h.frame (s := s1) rfl p1) t
    apply key
    split
    · exact h.frame (s := s) rfl p
    · exact p

theorem resumeSoupClose {s : St} (p : P s) (t : Sess.Tid) : P (resumeSoupClose a s t) := by
  unfold App.resumeSoupClose
  split
  · exact h.stopV2 (s := { s with disp2Set := false }) (h.frame (s := s) rfl p) t
  · exact h.afterStop p t
  · split
    · exact h.inner (s := { s with cpc := .aborted }) _ (h.frame (s := s) rfl p)
    · split
      · exact h.endCb p t
      · exact h.frame (s := s) rfl p
  · exact p

theorem construct {s : St} (p : P s) : P (construct a s) := by
  unfold App.construct
  split
  · simp only
    split
    · exact h.frame (s := s) rfl p
    · exact h.frame (s := s) rfl p
  · exact p

theorem passInner {s : St} (p : P s) (e : Sess.Ev) : P (passInner a s e) := by
  unfold App.passInner
  simp only
  have p1 : P (App.construct a (innerStep a s e)) := h.construct (h.inner e p)
  split
  · exact h.onSoupClose p1 _
  · exact p1

theorem stepInner {s : St} (p : P s) (e : Sess.Ev) : P (stepInner a s e) := by
  unfold App.stepInner
  split
  · split
    · split
      · exact h.resumeSoupClose p _
      · exact p
    · exact h.passInner p _
  · split
    · exact h.cancel2 p _
    · split
      · exact h.cancel2 p _
      · exact h.passInner p _
  · exact h.passInner p _

theorem startClose {s : St} (p : P s) (t : ATid) (x : AProg) : P (startClose a s t x) :=
  h.setP (h.setA (h.inner (s := { s with evt := some false }) _ (h.frame (s := s) rfl p)) _ _) _ _

theorem closeOnD2 {s : St} (p : P s) (x : AProg) : P (closeOnD2 a s x) := by
  unfold App.closeOnD2
  have p1 : P ((({ s with evt := some false } : St).setA .D2 .inSoup).setP .D2 x) := h.frame (s := s) rfl p
  simp only
  split
  · exact h.d2Return p1
  · exact h.passInner p1 _

theorem dispHandle2 {s : St} (p : P s) (v : Nat) : P (dispHandle2 a s v) := by
  unfold App.dispHandle2
  split
  · exact h.imm2 (h.emit rfl p) _
  · exact h.setP p _ _
  · exact h.imm2 (h.emit rfl p) _
  · split
    · exact h.imm2 (h.emit rfl (h.emit rfl p)) _
    · exact h.closeOnD2 p _
  · exact h.setP p _ _
  · exact h.setP p _ _

theorem handlerDone {s : St} (p : P s) (t : ATid) (v : Nat) : P (handlerDone a s t v) := by
  unfold App.handlerDone
  split
  · split
    · exact h.imm2 (h.setP (h.emit rfl (h.emit rfl p)) _ _) _
    · exact h.closeOnD2 p _
  · exact h.imm2 (h.setP (h.emit rfl p) _ _) _

end CloseInv

theorem vres2_none_of_idle {s : St} {b : Bool} (hb : ¬ (s.rcv2Busy || s.vres2.isSome || b) = true) : s.vres2 = none := by
  cases e : s.vres2 with
  | none => rfl
  | some x => simp [e] at hb

namespace DataInv
variable {a : ACfg} {P : St → Prop} (h : DataInv a P)
include h

theorem stepDisp2 {s : St} (p : P s) : P (stepDisp2 a s) := by
  unfold App.stepDisp2
  split
  · exact h.finish2 p _
  · split
    · exact p
    · rename_i hb
      split
      · exact h.setA p _ _
      · rename_i v q hq
        exact h.dispHandle2 (h.deliver hq (vres2_none_of_idle (b := false) (by simpa using hb)) (Or.inl rfl) p) v

theorem stepRun2 {s : St} (p : P s) (t : ATid) : P (stepRun2 a s t) := by
  unfold App.stepRun2
  have p0 : P { s with imm2 := false } := h.imm2 p _
  generalize ({ s with imm2 := false } : St) = s0 at p0
  simp only
  split
  · -- cancelled
    split
    · exact h.finish2 (h.emit rfl p0) _
    · split
      · exact h.finish2 (h.emit rfl (h.emit rfl p0)) _
      · exact h.closeOnD2 p0 _
    · -- a cancelled receive: whatever the helper held goes back in front of the queue
      have p1 : P { s0 with vres2 := none, rcv2Busy := false, q2 := s0.vres2.toList ++ s0.q2 } :=
        h.frame (s := { s0 with vres2 := none, q2 := s0.vres2.toList ++ s0.q2 }) rfl (h.unhold p0)
      split
      · exact h.finish2 (h.emit rfl p1) _
      · exact h.finish2 (h.emit rfl p1) _
    · exact h.finish2 (h.emit rfl p0) _
    · exact h.finish2 p0 _
  · -- ready
    split
    · split
      · exact h.stepDisp2 p0
      · exact p0
    · split
      · exact h.handlerDone p0 _ _
      · exact h.setP p0 _ _
    · split
      · exact h.imm2 (h.setP (h.emit rfl p0) _ _) _
      · exact h.setP p0 _ _
    · -- the helper takes the head of the queue
      split
      · exact h.setA p0 _ _
      · rename_i v q hq
        split
        · exact p0
        · rename_i hv
          exact h.finish2 (h.hold hq (Option.not_isSome_iff_eq_none.mp hv) p0) _
    · -- the caller resumes
      rename_i u _
      split
      · rename_i v hv
        have p1 : P (({ s0 with vres2 := none, rcv2Busy := false, gone2 := s0.gone2 ++ [(v, true)] } : St).emit2
            (.ret u (.msg v))) :=
          h.frame (s := ({ s0 with vres2 := none, gone2 := s0.gone2 ++ [(v, true)] } : St).emit2 (.ret u (.msg v))) rfl
            (h.handOver u hv p0)
        exact h.finish2 p1 _
      · have p1 : P { s0 with rcv2Busy := false } := h.frame (s := s0) rfl p0
        split
        · exact h.finish2 (h.emit rfl p1) _
        · exact h.finish2 (h.emit rfl p1) _
    · exact h.finish2 (h.emit rfl p0) _
    · exact p0
  · exact p0

theorem startRecv2 {s : St} (p : P s) (u : Nat) : P (startRecv2 s u) := by
  unfold App.startRecv2
  split
  · exact p
  · rename_i hb
    split
    · exact h.setA (h.emit rfl p) _ _
    · split
      · rename_i v q hq
        exact h.setA (h.deliver hq (vres2_none_of_idle hb) (Or.inr ⟨u, rfl⟩) p) _ _
      · split
        · exact h.setA (h.emit rfl p) _ _
        · have p1 : P { s with rcv2Busy := true } := h.frame (s := s) rfl p
          exact h.setP (h.setA (h.setP (h.setA p1 .V2 .ready) .V2 .vget) _ _) _ _

theorem step {s : St} (p : P s) (ev : Ev) : P (step a s ev) := by
  cases ev with
  | inner e =>
    simp only [App.step]
    split
    · exact p
    · exact h.stepInner p e
  | run t =>
    simp only [App.step]
    split
    · exact h.stepRun2 p t
    · split
      · exact h.stepInner (h.imm2 p false) _
      · exact p
  | appClose u =>
    simp only [App.step]
    split
    · exact p
    · split
      · exact h.setA (h.emit rfl p) _ _
      · exact h.startClose p _ _
  | appRecv u =>
    simp only [App.step]
    split
    · exact p
    · exact h.startRecv2 p u
  | appCancel u => exact h.cancel2 p _

theorem runEvs (evs : List Ev) : ∀ {s : St}, P s → P (runEvs a s evs) := by
  induction evs with
  | nil => exact fun p => p
  | cons ev evs ih => exact fun p => ih (h.step p ev)

end DataInv

theorem IReach.data (a : ACfg) (s0 : St) : DataInv a (IReach a s0) where
  frame := fun e p => p.trans (IReach.of_eq (congrArg (·.1) e))
  emit := fun _ p => p
  inner := fun e p => p.trans (IReach.innerStep a _ e)
  deliver := fun _ _ _ p => p
  hold := fun _ _ p => p
  unhold := fun p => p
  handOver := fun _ _ p => p

theorem step_reach (a : ACfg) (s : St) (ev : Ev) : IReach a s (step a s ev) :=
  (IReach.data a s).step (IReach.refl a s) ev

/-- **The inner component of every reachable product state is a reachable state of the inner session machine**: every
    theorem about `Sess.runEvs` (C04–C07, C11) holds for it. -/
theorem runEvs_reach (a : ACfg) (evs : List Ev) :
    ∃ es, (runEvs a {} evs).inner = Sess.runEvs (innerCfg a) {} es :=
  (IReach.data a {}).runEvs evs (IReach.refl a {})

end NasdaqModel.App
