import NasdaqModel.Lemmas.FixLemmas
/-
FIX codec: every entry of a dictionary reads back what it wrote.  Repeating groups may SHARE tags with what surrounds them:
the hypothesis on the dictionary is per LEVEL only (`ldEntry` / `ldLevel`: the entries of one segment / one group have distinct tags,
at every depth) and what ends a group instance / a group is carried by a value-dependent condition:

  `ceVal e v nxt`   - `nxt` is the tag that follows the value `v` of entry `e` on the wire (`none`: end of the bytes).  For a group:
                      every instance, looked at together with the tag that follows IT (`instFollows`: the group's first tag between
                      two instances, `nxt` after the last one), satisfies `levelOK` (that tag is no entry of the group, or the
                      instance already holds it: the instance loop stops there) and, recursively, `ceFields` (the same for every
                      nested group value, read in dictionary order).
  `Next nxt rest`   - the bytes `rest` begin with `<nxt>=` (or are empty for `none`).
  `DecIff e`        - the decoding statement for one entry: on its encoding followed by `nxt`, the decoder returns the canonical
                      value EXACTLY when it consumes the encoding and `ceVal` holds - the condition is sufficient and necessary.
The invariant of `segLoop_items_iff`: `(keysOf acc ++ itemTags fs).Nodup` (the pending items are new to the accumulated instance),
`ceItemsL fs follow` (each pending item is followed by a tag that ends it) and the stop clause "the tag after the last item is held
already, or is pending - impossible -, or is unknown to this level".  Necessity rests on the loops only ever appending to what they
have accumulated (`segLoop_mono`, `grpLoop_mono`): what a decoder returned can be read off the result.
With pairwise distinct tags at every depth (`wfDef`) the levels are distinct (`ldLevel_of_nodup`) and the condition holds by itself
(`countEndsS_of_wfDef`, `Lemmas/FixMessage.lean`).
-/
namespace NasdaqModel.Fix
open NasdaqModel Py

mutual
/-- inside the entry, the entries of every group have distinct tags (at every depth) -/
def ldEntry : Entry → Bool
  | .field .. => true
  | .group _ sub _ => decide (tagsOf sub).Nodup && ldList sub
def ldList : List Entry → Bool
  | [] => true
  | e :: es => ldEntry e && ldList es
end

/-- a segment: its own entries have distinct tags and so have the entries of every group nested in it -/
def ldLevel (es : List Entry) : Bool := decide (tagsOf es).Nodup && ldList es

theorem ldList_mem {es : List Entry} (h : ldList es = true) : ∀ e ∈ es, ldEntry e = true := by
  induction es with
  | nil => intro e he; simp at he
  | cons x xs ih =>
    simp only [ldList, Bool.and_eq_true] at h
    intro e he
    rcases List.mem_cons.mp he with he | he
    · rw [he]; exact h.1
    · exact ih h.2 e he

theorem ldList_of_mem {es : List Entry} (h : ∀ e ∈ es, ldEntry e = true) : ldList es = true := by
  induction es with
  | nil => rfl
  | cons x xs ih =>
    simp only [ldList, Bool.and_eq_true]
    exact ⟨h x (by simp), ih (fun e he => h e (by simp [he]))⟩

theorem ld_ind {P : Entry → Prop} (hf : ∀ t ty r, P (.field t ty r))
    (hg : ∀ t sub r, (tagsOf sub).Nodup → (∀ e ∈ sub, ldEntry e = true) → (∀ e ∈ sub, P e) → P (.group t sub r)) :
    ∀ e : Entry, ldEntry e = true → P e := by
  apply entry_ind
  · intro t ty r _; exact hf t ty r
  · intro t sub r ih h
    simp only [ldEntry, Bool.and_eq_true, decide_eq_true_eq] at h
    exact hg t sub r h.1 (ldList_mem h.2) (fun e he => ih e he (ldList_mem h.2 e he))

theorem ldLevel_parts {es : List Entry} (h : ldLevel es = true) : (tagsOf es).Nodup ∧ ∀ e ∈ es, ldEntry e = true := by
  simp only [ldLevel, Bool.and_eq_true, decide_eq_true_eq] at h
  exact ⟨h.1, ldList_mem h.2⟩

theorem ldEntry_of_nodup : ∀ e : Entry, (deepTags e).Nodup → ldEntry e = true := by
  apply entry_ind
  · intro t ty r _
    rfl
  · intro t sub r ih hnd
    simp only [deepTags, List.nodup_cons] at hnd
    simp only [ldEntry, Bool.and_eq_true, decide_eq_true_eq]
    exact ⟨nodup_tagsOf hnd.2, ldList_of_mem (fun e he => ih e he (nodup_deepTags_of_mem he hnd.2))⟩

theorem ldLevel_of_nodup {es : List Entry} (hnd : (deepTagsL es).Nodup) : ldLevel es = true := by
  simp only [ldLevel, Bool.and_eq_true, decide_eq_true_eq]
  exact ⟨nodup_tagsOf hnd, ldList_of_mem (fun e he => ldEntry_of_nodup e (nodup_deepTags_of_mem he hnd))⟩

def Next : Option Nat → Bytes → Prop
  | none, rest => rest = []
  | some t, rest => ∃ tail, rest = natDigits t ++ 61 :: tail

def headTag (fs : List Item) (follow : Option Nat) : Option Nat :=
  match fs with
  | [] => follow
  | x :: _ => some x.1.tag

theorem next_wireItems_cons (x : Item) (fs : List Item) (rest : Bytes) (hx : encEntry x.1 x.2.1 = .ok x.2.2) :
    Next (some x.1.tag) (wireItems (x :: fs) ++ rest) := by
  obtain ⟨tl, htl⟩ := enc_head hx
  exact ⟨tl ++ 1 :: (wireItems fs ++ rest), by rw [wireItems_cons, htl]; simp⟩

theorem next_wireItems (fs : List Item) (rest : Bytes) (follow : Option Nat)
    (hfs : ∀ x ∈ fs, encEntry x.1 x.2.1 = .ok x.2.2) (h : Next follow rest) :
    Next (headTag fs follow) (wireItems fs ++ rest) := by
  cases fs with
  | nil => simpa [wireItems, termAll, headTag] using h
  | cons x fs => exact next_wireItems_cons x fs rest (hfs x (by simp))

/-- every instance of a group value with the tag that follows it: the group's first tag, `nxt` after the last instance -/
def instFollows (first : Option Nat) : List Seg → Option Nat → List (Seg × Option Nat)
  | [], _ => []
  | [i], nxt => [(i, nxt)]
  | i :: j :: r, nxt => (i, first) :: instFollows first (j :: r) nxt

def followOf (first : Option Nat) (insts : List Seg) (nxt : Option Nat) : Option Nat :=
  match insts with
  | [] => nxt
  | _ :: _ => first

theorem instFollows_cons (first : Option Nat) (inst : Seg) (insts : List Seg) (nxt : Option Nat) :
    instFollows first (inst :: insts) nxt = (inst, followOf first insts nxt) :: instFollows first insts nxt := by
  cases insts <;> simp [instFollows, followOf]

theorem mem_instFollows {first nxt : Option Nat} {insts : List Seg} {p : Seg × Option Nat}
    (h : p ∈ instFollows first insts nxt) : p.1 ∈ insts ∧ (p.2 = first ∨ p.2 = nxt) := by
  induction insts with
  | nil => simp [instFollows] at h
  | cons i r ih =>
    rw [instFollows_cons] at h
    rcases List.mem_cons.mp h with rfl | h
    · refine ⟨by simp, ?_⟩
      cases r with
      | nil => exact Or.inr rfl
      | cons _ _ => exact Or.inl rfl
    · exact ⟨by simp [(ih h).1], (ih h).2⟩

/-- the tag that follows a segment / an instance ends it: it is no entry of this level or the instance holds it already -/
def levelOK (es : List Entry) (s : Seg) : Option Nat → Bool
  | none => true
  | some f => !((tagsOf es).contains f && !hasKey s f)

theorem levelOK_some {es : List Entry} {s : Seg} {f : Nat} :
    levelOK es s (some f) = true ↔ f ∉ tagsOf es ∨ hasKey s f = true := by
  simp only [levelOK, Bool.not_eq_true', Bool.and_eq_false_iff, List.contains_eq_mem, decide_eq_false_iff_not,
    Bool.not_eq_false']

def nextTag : List Entry → Seg → Option Nat → Option Nat
  | [], _, follow => follow
  | e :: es, inst, follow => if hasKey inst e.tag then some e.tag else nextTag es inst follow

mutual
/-- the count is what ends the group value `v` (and every group nested in it) when `nxt` follows it on the wire -/
def ceVal : Entry → Val → Option Nat → Bool
  | .group _ sub _, .grp insts, nxt =>
      (instFollows (sub.head?.map Entry.tag) insts nxt).all (fun p => levelOK sub p.1 p.2 && ceFields sub p.1 p.2)
  | _, _, _ => true
def ceFields : List Entry → Seg → Option Nat → Bool
  | [], _, _ => true
  | e :: es, inst, follow =>
      match lookupV inst e.tag with
      | some v => ceVal e v (nextTag es inst follow) && ceFields es inst follow
      | none => ceFields es inst follow
end

def ceItemsL : List Item → Option Nat → Bool
  | [], _ => true
  | x :: r, follow => ceVal x.1 x.2.1 (headTag r follow) && ceItemsL r follow

def tagOr (l : List Nat) (follow : Option Nat) : Option Nat :=
  match l with
  | [] => follow
  | t :: _ => some t

theorem tagOr_some {l : List Nat} {follow : Option Nat} {t : Nat} (h : tagOr l follow = some t) : t ∈ l ∨ follow = some t := by
  cases l with
  | nil => exact Or.inr h
  | cons a l => exact Or.inl (by simp only [tagOr, Option.some.injEq] at h; simp [h])

def ceTop (es : List Entry) : Seg → Option Nat → Bool
  | [], _ => true
  | (t, v) :: rest, follow =>
      (match lookupE es t with
       | some e => ceVal e v (tagOr (keysOf rest) follow)
       | none => true) && ceTop es rest follow

theorem headTag_eq (fs : List Item) (follow : Option Nat) : headTag fs follow = tagOr (itemTags fs) follow := by
  cases fs <;> simp [headTag, itemTags, tagOr]

theorem nextTag_eq (es : List Entry) (inst : Seg) (follow : Option Nat) :
    nextTag es inst follow = tagOr ((es.filter (fun e => hasKey inst e.tag)).map Entry.tag) follow := by
  induction es with
  | nil => simp [nextTag, tagOr]
  | cons e es ih =>
    simp only [nextTag, List.filter_cons]
    by_cases hk : hasKey inst e.tag = true
    · simp [hk, tagOr]
    · simp only [hk, Bool.false_eq_true, if_false]
      exact ih

theorem nextTag_some {es : List Entry} {inst : Seg} {follow : Option Nat} {t : Nat} (h : nextTag es inst follow = some t) :
    t ∈ tagsOf es ∨ follow = some t := by
  rw [nextTag_eq] at h
  rcases tagOr_some h with h | h
  · obtain ⟨e, he, rfl⟩ := List.mem_map.mp h
    exact Or.inl (List.mem_map.mpr ⟨e, (List.mem_filter.mp he).1, rfl⟩)
  · exact Or.inr h

/-- `Group.to_bytes` on one instance, no well-formedness assumed: its items are the entries present in it, in dictionary order -/
theorem encGroupFields_layout (inst : Seg) :
    ∀ (es' : List Entry) (fbs : List Bytes), encGroupFields es' inst = .ok fbs →
      ∃ fs : List Item, fs.map (fun x => x.2.2) = fbs ∧
        (∀ x ∈ fs, x.1 ∈ es' ∧ lookupV inst x.1.tag = some x.2.1 ∧ encEntry x.1 x.2.1 = .ok x.2.2) ∧
        itemTags fs = (es'.filter (fun e => hasKey inst e.tag)).map Entry.tag ∧
        canonFields es' inst = canonItems fs ∧
        ∀ follow, ceFields es' inst follow = ceItemsL fs follow := by
  intro es'
  induction es' with
  | nil =>
    intro fbs h
    obtain rfl := Except.ok.inj h
    exact ⟨[], rfl, by simp, rfl, rfl, fun _ => rfl⟩
  | cons e es' ih =>
    intro fbs h
    simp only [encGroupFields] at h
    cases hl : lookupV inst e.tag with
    | none =>
      rw [hl] at h
      obtain ⟨fs, h1, h2, h3, h4, h5⟩ := ih fbs h
      have hk : hasKey inst e.tag = false := by simp [hasKey, hl]
      exact ⟨fs, h1, fun x hx => ⟨by simp [(h2 x hx).1], (h2 x hx).2⟩, by simp [h3, hk], by simp [canonFields, hl, h4],
        by intro f; simp [ceFields, hl, h5]⟩
    | some v =>
      rw [hl] at h
      obtain ⟨b, hb, h⟩ := bind_ok_inv h
      obtain ⟨r, hr, h⟩ := bind_ok_inv h
      obtain rfl := Except.ok.inj h
      obtain ⟨fs, h1, h2, h3, h4, h5⟩ := ih r hr
      have hk : hasKey inst e.tag = true := by simp [hasKey, hl]
      have h3' : itemTags ((e, v, b) :: fs) = ((e :: es').filter (fun e => hasKey inst e.tag)).map Entry.tag := by
        simp [itemTags, hk, ← h3]
      refine ⟨(e, v, b) :: fs, by simp [h1], ?_, h3', by simp [canonFields, hl, h4, canonItems], ?_⟩
      · intro x hx
        rcases List.mem_cons.mp hx with rfl | hx
        · exact ⟨by simp, hl, hb⟩
        · exact ⟨by simp [(h2 x hx).1], (h2 x hx).2⟩
      · intro f
        simp only [ceFields, hl, ceItemsL, h5]
        rw [nextTag_eq, headTag_eq, h3]

theorem encGroupFields_items (sub : List Entry) (hnd : (tagsOf sub).Nodup) (inst : Seg) (hwf : wfFields sub inst = true)
    (fbs : List Bytes) (h : encGroupFields sub inst = .ok fbs) :
    ∃ fs : List Item, fs.map (fun x => x.2.2) = fbs ∧
      (∀ x ∈ fs, x.1 ∈ sub ∧ wfVal x.1 x.2.1 = true ∧ encEntry x.1 x.2.1 = .ok x.2.2) ∧
      itemTags fs = (sub.filter (fun e => hasKey inst e.tag)).map Entry.tag ∧
      canonFields sub inst = canonItems fs ∧
      ∀ follow, ceFields sub inst follow = ceItemsL fs follow := by
  obtain ⟨fs, h1, h2, h3, h4, h5⟩ := encGroupFields_layout inst sub fbs h
  exact ⟨fs, h1, fun x hx => ⟨(h2 x hx).1, wfVal_of_lookupV hnd hwf (h2 x hx).1 (h2 x hx).2.1, (h2 x hx).2.2⟩, h3, h4, h5⟩

theorem mem_presentTags {sub : List Entry} {inst : Seg} {t : Nat} (ht : t ∈ tagsOf sub) :
    t ∈ (sub.filter (fun e => hasKey inst e.tag)).map Entry.tag ↔ hasKey inst t = true := by
  constructor
  · intro h
    obtain ⟨e, he, rfl⟩ := List.mem_map.mp h
    exact (List.mem_filter.mp he).2
  · intro hk
    obtain ⟨e, he, rfl⟩ := List.mem_map.mp ht
    exact List.mem_map.mpr ⟨e, List.mem_filter.mpr ⟨he, hk⟩, rfl⟩

theorem mem_itemTags_iff {sub : List Entry} {inst : Seg} {fs : List Item}
    (h3 : itemTags fs = (sub.filter (fun e => hasKey inst e.tag)).map Entry.tag) :
    ∀ t ∈ tagsOf sub, t ∈ itemTags fs ↔ hasKey inst t = true := by
  intro t ht
  rw [h3]
  exact mem_presentTags ht

/-- `levelOK` is the stop clause of the segment loop (`segLoop_items_iff`) started, with nothing accumulated, on the items of a
    segment / an instance: the items are the tags of this level that the segment holds -/
theorem levelOK_iff_stop {es : List Entry} {s : Seg} {fs : List Item} {f : Option Nat}
    (hmem : ∀ t ∈ tagsOf es, t ∈ itemTags fs ↔ hasKey s t = true) :
    levelOK es s f = true ↔ ∀ t, f = some t → t ∈ itemTags fs ∨ t ∉ tagsOf es := by
  cases f with
  | none => simp [levelOK]
  | some t =>
    rw [levelOK_some]
    simp only [Option.some.injEq, forall_eq']
    by_cases hm : t ∈ tagsOf es
    · rw [hmem t hm]
      simp [hm]
    · simp [hm]

theorem termAll_join_items (x : Item) (fs : List Item) (gs : List Bytes) :
    termAll (joinSOH ((x :: fs).map (fun y => y.2.2)) :: gs) = wireItems (x :: fs) ++ termAll gs := by
  rw [termAll_cons, ← joinSOH_items]
  simp

theorem next_after_inst (sub : List Entry) (htn : (tagsOf sub).Nodup) (insts : List Seg)
    (gs : List Bytes) (rest : Bytes) (nxt : Option Nat) (hwf : wfInsts sub insts = true)
    (hgs : All₂ (fun inst g => ∃ fbs, encGroupFields sub inst = .ok fbs ∧ g = joinSOH fbs) insts gs)
    (hrest : Next nxt rest) :
    Next (followOf (sub.head?.map Entry.tag) insts nxt) (termAll gs ++ rest) := by
  cases hgs with
  | nil => simpa [termAll_nil, followOf] using hrest
  | @cons inst2 g2 insts2 gs2 hg2 _ =>
    obtain ⟨fbs2, hfbs2, rfl⟩ := hg2
    obtain ⟨hwff2, hfirst2, _⟩ := wfInsts_mem hwf inst2 (by simp)
    obtain ⟨fs2, k1, k2, k3, _, _⟩ := encGroupFields_items sub htn inst2 hwff2 fbs2 hfbs2
    obtain ⟨y, fs2', rfl, hy⟩ := items_first k3 hfirst2
    rw [← k1, termAll_join_items, List.append_assoc, followOf, hy]
    exact next_wireItems_cons y fs2' _ (k2 y (by simp)).2.2

/-- every exit of the two loops returns the accumulator as it is -/
theorem unchanged_ext {α : Type} {c c' : Nat} {acc acc' : List α}
    (h : (Except.ok (c, acc) : Except Err (Nat × List α)) = .ok (c', acc')) : ∃ ext, acc' = acc ++ ext :=
  ⟨[], by simp [(Prod.mk.inj (Except.ok.inj h)).2]⟩

theorem segLoop_mono (tbl : Table) : ∀ (fuel : Nat) (bs : Bytes) (c : Nat) (acc : Seg) (c' : Nat) (acc' : Seg),
    segLoop tbl fuel bs c acc = .ok (c', acc') → ∃ ext, acc' = acc ++ ext := by
  intro fuel
  induction fuel with
  | zero => intro bs c acc c' acc' h; simp [segLoop] at h
  | succ fuel ih =>
    intro bs c acc c' acc' h
    rw [segLoop] at h
    split at h
    · exact unchanged_ext h
    · simp only at h
      obtain ⟨s, _, h⟩ := bind_ok_inv h
      obtain ⟨tag, _, h⟩ := bind_ok_inv h
      split at h
      · exact unchanged_ext h
      · split at h
        · exact unchanged_ext h
        · obtain ⟨r, _, h⟩ := bind_ok_inv h
          obtain ⟨ext, he⟩ := ih _ _ _ _ _ h
          exact ⟨(tag.toNat, r.2) :: ext, by rw [he]; simp⟩

theorem grpLoop_mono (tbl : Table) : ∀ (k : Nat) (bs : Bytes) (c : Nat) (acc : List Seg) (c' : Nat) (acc' : List Seg),
    grpLoop tbl k bs c acc = .ok (c', acc') → ∃ ext, acc' = acc ++ ext := by
  intro k
  induction k with
  | zero =>
    intro bs c acc c' acc' h
    simp only [grpLoop] at h
    exact unchanged_ext h
  | succ k ih =>
    intro bs c acc c' acc' h
    rw [grpLoop] at h
    split at h
    · exact unchanged_ext h
    · obtain ⟨r, _, h⟩ := bind_ok_inv h
      split at h
      · exact unchanged_ext h
      · obtain ⟨ext, he⟩ := ih _ _ _ _ _ h
        exact ⟨r.2 :: ext, by rw [he]; simp⟩

/-- the decoding statement for one entry: on its encoding, followed by SOH and by bytes that begin with the tag `nxt`, the decoder
    returns the canonical value exactly when it consumes the encoding and `nxt` ends the value -/
def DecIff (e : Entry) : Prop :=
  ∀ v b rest nxt n, wfVal e v = true → encEntry e v = .ok b → Next nxt rest →
    (entryDec e (b ++ 1 :: rest) = .ok (n, canonVal e v) ↔ n = b.length + 1 ∧ ceVal e v nxt = true)

theorem segLoop_items_iff (es : List Entry) (htn : (tagsOf es).Nodup) (hD : ∀ e ∈ es, DecIff e) :
    ∀ (fs : List Item) (acc : Seg) (c fuel : Nat) (rest : Bytes) (follow : Option Nat) (c' : Nat),
      (∀ x ∈ fs, x.1 ∈ es ∧ wfVal x.1 x.2.1 = true ∧ encEntry x.1 x.2.1 = .ok x.2.2) →
      (keysOf acc ++ itemTags fs).Nodup →
      fs.length < fuel →
      Next follow rest →
      (segLoop (tableOf es) fuel (wireItems fs ++ rest) c acc = .ok (c', acc ++ canonItems fs) ↔
        c' = c + (wireItems fs).length ∧ ceItemsL fs follow = true ∧
          ∀ t, follow = some t → t ∈ keysOf acc ++ itemTags fs ∨ t ∉ tagsOf es) := by
  intro fs
  induction fs with
  | nil =>
    intro acc c fuel rest follow c' _ _ hfuel hnext
    obtain ⟨fuel, rfl⟩ : ∃ f, fuel = f + 1 := ⟨fuel - 1, by simp at hfuel; omega⟩
    simp only [wireItems, List.map_nil, termAll_nil, List.nil_append, List.length_nil, Nat.add_zero, canonItems,
      List.append_nil, ceItemsL, true_and, itemTags]
    -- the loop stops at once, returning `(c, acc)`, unless the tag that follows is new to `acc` and known to this level
    have stops : ∀ {r : Except Err (Nat × Seg)}, r = .ok (c, acc) → ∀ {P : Prop}, P → (r = .ok (c', acc) ↔ c' = c ∧ P) := by
      intro r hr P hP
      rw [hr]
      exact ⟨fun h => ⟨(Prod.mk.inj (Except.ok.inj h)).1.symm, hP⟩, fun h => by rw [h.1]⟩
    cases follow with
    | none =>
      simp only [Next] at hnext
      subst hnext
      exact stops (by rw [segLoop]; simp) (by intro t ht; simp at ht)
    | some t =>
      obtain ⟨tail, rfl⟩ := hnext
      rw [segLoop_step]
      simp only [Option.some.injEq, forall_eq']
      by_cases hk : hasKey acc t = true
      · exact stops (by simp [hk]) (Or.inl (hasKey_iff.mp hk))
      · simp only [hk, Bool.false_eq_true, if_false]
        cases hl : lookupT (tableOf es) (t : Int) with
        | none =>
          refine stops rfl (Or.inr (fun hm => ?_))
          obtain ⟨e, he, rfl⟩ := List.mem_map.mp hm
          rw [lookupT_tableOf htn he] at hl
          exact absurd hl (by simp)
        | some dec =>
          -- the loop goes on and appends to `acc`
          constructor
          · intro h
            obtain ⟨r, _, h⟩ := bind_ok_inv h
            obtain ⟨ext, he⟩ := segLoop_mono _ _ _ _ _ _ _ h
            have := congrArg List.length he
            simp at this
          · intro ⟨_, hq⟩
            rcases hq with hq | hq
            · exact absurd (hasKey_iff.mpr hq) hk
            · rw [lookupT_tableOf_none hq] at hl
              exact absurd hl (by simp)
  | cons x fs ih =>
    intro acc c fuel rest follow c' hfs hnodup hfuel hnext
    obtain ⟨fuel, rfl⟩ : ∃ f, fuel = f + 1 := ⟨fuel - 1, by simp at hfuel; omega⟩
    obtain ⟨hxes, hxwf, hxenc⟩ := hfs x (by simp)
    have hxk : x.1.tag ∉ keysOf acc :=
      fun hk => (List.nodup_append.mp hnodup).2.2 _ hk _ (by simp [itemTags]) rfl
    have hfollow : Next (headTag fs follow) (wireItems fs ++ rest) :=
      next_wireItems fs rest follow (fun y hy => (hfs y (by simp [hy])).2.2) hnext
    have hDx := fun n => hD x.1 hxes x.2.1 x.2.2 (wireItems fs ++ rest) (headTag fs follow) n hxwf hxenc hfollow
    have ih' := ih (acc ++ [(x.1.tag, canonVal x.1 x.2.1)]) (c + (x.2.2.length + 1)) fuel rest follow c'
      (fun y hy => hfs y (by simp [hy])) (by rw [keys_snoc_items]; exact hnodup) (by simp at hfuel; omega) hnext
    rw [keys_snoc_items] at ih'
    have hlen : (wireItems (x :: fs)).length = x.2.2.length + 1 + (wireItems fs).length := by
      rw [wireItems_cons]
      simp
      omega
    rw [wireItems_cons, List.append_assoc, List.cons_append, segLoop_item htn hxes hxenc hxk, ← wireItems_cons, hlen]
    simp only [ceItemsL, Bool.and_eq_true]
    constructor
    · intro h
      obtain ⟨r, hr, h⟩ := bind_ok_inv h
      -- the loop only appends: what the decoder of `x` returned is the first new item of the result
      obtain ⟨ext, he⟩ := segLoop_mono _ _ _ _ _ _ _ h
      have hr2 : r.2 = canonVal x.1 x.2.1 := by
        simp only [canonItems, List.map_cons, List.append_assoc, List.cons_append, List.nil_append] at he
        exact (Prod.mk.inj (List.cons.inj (List.append_cancel_left he)).1).2.symm
      obtain ⟨hn, hcv⟩ := (hDx r.1).mp (by rw [hr, ← hr2])
      rw [hn, drop_append_cons, hr2] at h
      obtain ⟨k1, k2, k3⟩ := ih'.mp (by rw [h]; simp [canonItems])
      exact ⟨by omega, ⟨hcv, k2⟩, k3⟩
    · intro ⟨hc, ⟨hcv, hce⟩, hstop⟩
      rw [(hDx _).mpr ⟨rfl, hcv⟩]
      simp only [ok_bind, drop_append_cons]
      rw [ih'.mpr ⟨by omega, hce, hstop⟩]
      simp [canonItems]

theorem grpLoop_insts_iff (sub : List Entry) (htn : (tagsOf sub).Nodup) (hD : ∀ e ∈ sub, DecIff e) :
    ∀ (insts : List Seg) (gs : List Bytes) (acc : List Seg) (c : Nat) (rest : Bytes) (nxt : Option Nat) (c' : Nat),
      wfInsts sub insts = true →
      All₂ (fun inst g => ∃ fbs, encGroupFields sub inst = .ok fbs ∧ g = joinSOH fbs) insts gs →
      Next nxt rest →
      (grpLoop (tableOf sub) insts.length (termAll gs ++ rest) c acc = .ok (c', acc ++ insts.map (canonFields sub)) ↔
        c' = c + (termAll gs).length ∧
          (instFollows (sub.head?.map Entry.tag) insts nxt).all (fun p => levelOK sub p.1 p.2 && ceFields sub p.1 p.2) = true) := by
  intro insts
  induction insts with
  | nil =>
    intro gs acc c rest nxt c' _ hgs _
    cases hgs
    simp only [List.length_nil, grpLoop, termAll_nil, List.map_nil, List.append_nil, Nat.add_zero, instFollows, List.all_nil,
      and_true]
    exact ⟨fun h => (Prod.mk.inj (Except.ok.inj h)).1.symm, fun h => by rw [h]⟩
  | cons inst insts ih =>
    intro gs acc c rest nxt c' hwf hgs hrest
    cases hgs with
    | @cons _ g _ gs' hg hgs' =>
      obtain ⟨fbs, hfbs, rfl⟩ := hg
      simp only [wfInsts, Bool.and_eq_true, decide_eq_true_eq] at hwf
      obtain ⟨⟨⟨hwff, hfirst⟩, _⟩, hwf'⟩ := hwf
      obtain ⟨fs, h1, h2, h3, h4, h5⟩ := encGroupFields_items sub htn inst hwff fbs hfbs
      obtain ⟨x, fs', rfl, _⟩ := items_first h3 hfirst
      have hlen := wireItems_length_ge (x :: fs')
      have hseg := fun n => segLoop_items_iff sub htn hD (x :: fs') [] 0
        ((wireItems (x :: fs') ++ (termAll gs' ++ rest)).length + 1) (termAll gs' ++ rest)
        (followOf (sub.head?.map Entry.tag) insts nxt) n h2
        (by simpa [keysOf, h3] using (List.filter_sublist.map Entry.tag).nodup htn)
        (by simp only [List.length_append]; omega) (next_after_inst sub htn insts gs' rest nxt hwf' hgs' hrest)
      have hne : (wireItems (x :: fs') ++ (termAll gs' ++ rest)).isEmpty = false := by
        rw [wireItems_cons]; simp
      have ih' := ih gs' (acc ++ [canonItems (x :: fs')]) (c + (wireItems (x :: fs')).length) rest nxt c' hwf' hgs' hrest
      rw [← h1, termAll_join_items, List.append_assoc, List.length_cons, grpLoop, hne, instFollows_cons]
      rw [show (wireItems (x :: fs') ++ termAll gs').length = (wireItems (x :: fs')).length + (termAll gs').length
        from List.length_append]
      simp only [Bool.false_eq_true, if_false, segFromBytes, List.all_cons, Bool.and_eq_true,
        levelOK_iff_stop (mem_itemTags_iff h3), h5]
      constructor
      · intro h
        obtain ⟨r, hr, h⟩ := bind_ok_inv h
        split at h
        · -- `end == 0`: the result would be `acc`
          have := congrArg List.length (Prod.mk.inj (Except.ok.inj h)).2
          simp at this
        · -- the loop only appends: what the segment loop returned is the first new instance of the result
          obtain ⟨ext, he⟩ := grpLoop_mono _ _ _ _ _ _ _ h
          have hr2 : r.2 = canonItems (x :: fs') := by
            simp only [List.map_cons, List.append_assoc, List.cons_append, List.nil_append] at he
            rw [← (List.cons.inj (List.append_cancel_left he)).1, h4]
          obtain ⟨k1, k2, k3⟩ := (hseg r.1).mp (by rw [hr, ← hr2]; rfl)
          rw [k1, Nat.zero_add, List.drop_left' rfl, hr2] at h
          obtain ⟨j1, j2⟩ := ih'.mp (by rw [h, ← h4]; simp)
          exact ⟨by omega, ⟨k3, k2⟩, j2⟩
      · intro ⟨hc, ⟨hstop, hcef⟩, hce'⟩
        rw [(hseg _).mpr ⟨rfl, hcef, hstop⟩]
        simp only [ok_bind, Nat.zero_add, List.nil_append]
        rw [if_neg (by simp only [List.length_cons] at hlen; omega), List.drop_left' rfl, ih'.mpr ⟨by omega, hce'⟩, ← h4]
        simp

theorem decIff_field (t : Nat) (ty : FTy) (r : Bool) : DecIff (.field t ty r) := by
  intro v b rest nxt n hwf henc _
  obtain ⟨vb, hvb, rfl⟩ := encEntry_field_ok henc
  obtain ⟨h1, hback⟩ := prim_roundtrip (by simpa only [wfVal] using hwf) hvb
  simp only [entryDec, fieldFromBytes_field ty t vb rest v h1 hback, canonVal_field, ceVal, and_true]
  exact ⟨fun h => (Prod.mk.inj (Except.ok.inj h)).1.symm, fun h => by rw [h]⟩

theorem decIff_group (t : Nat) (sub : List Entry) (r : Bool) (htn : (tagsOf sub).Nodup)
    (hD : ∀ e ∈ sub, DecIff e) : DecIff (.group t sub r) := by
  intro v b rest nxt n hwf henc hrest
  obtain ⟨insts, rfl, hwf⟩ := wfVal_group hwf
  obtain ⟨gs, hgs, rfl⟩ := encEntry_group_ok henc
  have hloop := fun c' => grpLoop_insts_iff sub htn hD insts gs [] ((fieldBytes t (intStr (insts.length : Int))).length + 1)
    rest nxt c' hwf hgs hrest
  simp only [entryDec, containerFromBytes_enc, ceVal, canonVal, joinSOH_cons_length]
  constructor
  · intro h
    obtain ⟨q, hq, h⟩ := bind_ok_inv h
    split at h
    · simp at h
    · obtain ⟨hq1, hq2⟩ := Prod.mk.inj (Except.ok.inj h)
      obtain ⟨k1, k2⟩ := (hloop q.1).mp (by rw [hq, ← Val.grp.inj hq2]; rfl)
      exact ⟨by rw [← hq1, k1], k2⟩
  · intro ⟨hn, hce⟩
    rw [(hloop _).mpr ⟨rfl, hce⟩, hn]
    simp

theorem decIff_all : ∀ e : Entry, ldEntry e = true → DecIff e := by
  apply ld_ind
  · intro t ty r
    exact decIff_field t ty r
  · intro t sub r htn _ ih
    exact decIff_group t sub r htn ih

theorem encSegFields_items (es : List Entry) :
    ∀ (s : Seg) (fbs : List Bytes), wfFields es s = true → encSegFields es s = .ok fbs →
      ∃ fs : List Item, fs.map (fun x => x.2.2) = fbs ∧
        (∀ x ∈ fs, x.1 ∈ es ∧ wfVal x.1 x.2.1 = true ∧ encEntry x.1 x.2.1 = .ok x.2.2) ∧
        itemTags fs = keysOf s ∧ canonSeg es s = canonItems fs ∧
        ∀ follow, ceTop es s follow = ceItemsL fs follow := by
  intro s
  induction s with
  | nil =>
    intro fbs _ h
    have := mapE_nil_ok h
    exact ⟨[], by simp [this], by simp, by simp [itemTags, keysOf], by simp [canonSeg, canonItems],
      by intro f; simp [ceTop, ceItemsL]⟩
  | cons p s ih =>
    intro fbs hwf h
    obtain ⟨k, v⟩ := p
    obtain ⟨b, bs, hb, hbs, rfl⟩ := mapE_cons_ok h
    simp only [wfFields, Bool.and_eq_true] at hwf
    cases hl : lookupE es k with
    | none => rw [hl] at hwf; simp at hwf
    | some e =>
      rw [hl] at hwf
      simp only [hl] at hb
      obtain ⟨hmem, htag⟩ := lookupE_some hl
      obtain ⟨fs, h1, h2, h3, h4, h5⟩ := ih bs hwf.2 hbs
      refine ⟨(e, v, b) :: fs, by simp [h1], ?_, by simp [itemTags, keysOf, htag] at h3 ⊢; exact h3, ?_, ?_⟩
      · intro x hx
        rcases List.mem_cons.mp hx with hx | hx
        · subst hx; exact ⟨hmem, hwf.1, hb⟩
        · exact h2 x hx
      · simp only [canonSeg, List.map_cons, hl, canonItems, htag] at h4 ⊢
        rw [h4]
      · intro f
        simp only [ceTop, hl, ceItemsL, h5]
        rw [headTag_eq, h3]

theorem segFromBytes_seg_iff (es : List Entry) (hld : ldLevel es = true) (s : Seg) (fbs : List Bytes)
    (hwf : wfSeg es s = true) (henc : encSegFields es s = .ok fbs) (rest : Bytes) (follow : Option Nat)
    (hrest : Next follow rest) (n : Nat) :
    segFromBytes (tableOf es) (termAll fbs ++ rest) = .ok (n, canonSeg es s) ↔
      n = (termAll fbs).length ∧ levelOK es s follow = true ∧ ceTop es s follow = true := by
  obtain ⟨htn, hlds⟩ := ldLevel_parts hld
  simp only [wfSeg, Bool.and_eq_true, decide_eq_true_eq] at hwf
  obtain ⟨fs, h1, h2, h3, h4, h5⟩ := encSegFields_items es s fbs hwf.1 henc
  have hw : termAll fbs = wireItems fs := by simp [wireItems, h1]
  have hlen := wireItems_length_ge fs
  have := segLoop_items_iff es htn (fun e he => decIff_all e (hlds e he)) fs [] 0 ((wireItems fs ++ rest).length + 1) rest follow n h2
    (by simpa [keysOf, h3] using hwf.2) (by simp only [List.length_append]; omega) hrest
  rw [segFromBytes, hw, h4, h5, levelOK_iff_stop (fs := fs) (fun t _ => by rw [h3]; exact hasKey_iff.symm)]
  simpa [and_comm, and_left_comm, keysOf] using this

end NasdaqModel.Fix
