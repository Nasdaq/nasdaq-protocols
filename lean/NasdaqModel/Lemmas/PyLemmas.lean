import NasdaqModel.Py.Dec
/-
Lemmas about the Python-semantics layer: strip/ljust, slice bounds, `isspace` as a finite set, decimal round trip.
-/
namespace NasdaqModel.Py

def edgeOk (p : Nat → Bool) (s : List Nat) : Bool :=
  s.head?.all (fun c => !p c) && s.getLast?.all (fun c => !p c)

theorem dropWhile_eq_self_of_head {p : Nat → Bool} {l : List Nat}
    (h : l.head?.all (fun c => !p c) = true) : l.dropWhile p = l := by
  cases l with
  | nil => rfl
  | cons a t =>
    have ha : p a = false := by simpa using h
    rw [List.dropWhile_cons, ha]
    rfl

theorem dropWhile_replicate_append {p : Nat → Bool} {c : Nat} (hc : p c = true) (k : Nat) (l : List Nat) :
    (List.replicate k c ++ l).dropWhile p = l.dropWhile p := by
  induction k with
  | zero => simp
  | succ k ih => simp [List.replicate_succ, hc, ih]

theorem stripBy_of_edgeOk {p : Nat → Bool} {s : List Nat} (h : edgeOk p s = true) : stripBy p s = s := by
  unfold edgeOk at h
  simp only [Bool.and_eq_true] at h
  unfold stripBy
  rw [dropWhile_eq_self_of_head h.1]
  rw [dropWhile_eq_self_of_head (by rw [List.head?_reverse]; exact h.2)]
  simp

theorem edgeOk_of_all {p : Nat → Bool} {s : List Nat} (h : ∀ c ∈ s, p c = false) : edgeOk p s = true := by
  simp only [edgeOk, Bool.and_eq_true, Option.all_eq_true_iff_get, Bool.not_eq_true']
  exact ⟨fun _ => h _ (List.mem_of_mem_head? (Option.get_mem _)), fun _ => h _ (List.mem_of_mem_getLast? (Option.get_mem _))⟩

theorem stripBy_append_replicate {p : Nat → Bool} {s : List Nat} {c : Nat} (k : Nat)
    (h : edgeOk p s = true) (hc : p c = true) : stripBy p (s ++ List.replicate k c) = s := by
  cases s with
  | nil =>
    unfold stripBy
    have : (List.replicate k c).dropWhile p = [] := by
      have := dropWhile_replicate_append hc k []
      simpa using this
    simp [this]
  | cons a t =>
    unfold edgeOk at h
    simp only [Bool.and_eq_true] at h
    have ha : p a = false := by simpa using h.1
    unfold stripBy
    have h1 : ((a :: t) ++ List.replicate k c).dropWhile p = (a :: t) ++ List.replicate k c := by
      simp [ha]
    rw [h1, List.reverse_append, List.reverse_replicate, dropWhile_replicate_append hc]
    rw [dropWhile_eq_self_of_head (by rw [List.head?_reverse]; exact h.2)]
    simp

theorem strip_ljust {s : Str} (n : Nat) (h : edgeOk isSpace s = true) : strip (ljust s n) = s := by
  unfold strip ljust
  exact stripBy_append_replicate _ h (by decide)

/-- a non-negative slice bound `n` against a sequence of length `len`, as Python normalises it: the common body of `BinCodec.pyIdx`,
    `FixFrame.pyIdx` and `Framing.normIdx` -/
theorem sliceBound_natCast (len n : Nat) :
    (if (n : Int) < 0 then ((len : Int) + (n : Int)).toNat else min (n : Int).toNat len) = min n len := by
  rw [if_neg (by omega), Int.toNat_natCast]

def spaceCodes : List Nat :=
  List.range' 9 5 ++ List.range' 28 5 ++ [133, 160, 0x1680] ++ List.range' 0x2000 11 ++ [0x2028, 0x2029, 0x202f, 0x205f, 0x3000]

theorem isSpace_eq_contains (c : Nat) : isSpace c = spaceCodes.contains c := by
  rw [Bool.eq_iff_iff, List.contains_iff_mem]
  -- both sides unfold to the same disjunction once `a ≤ c ∧ c ≤ b` and `a ≤ c ∧ c < a + n` are written with `<`
  simp only [isSpace, spaceCodes, List.mem_append, List.mem_range'_1, List.mem_cons, List.not_mem_nil, or_false,
    Bool.or_eq_true, Bool.and_eq_true, decide_eq_true_eq, beq_iff_eq, or_assoc, Nat.le_iff_lt_add_one, Nat.reduceAdd]

theorem natDigitsAux_fuel : ∀ (f1 f2 n : Nat), n ≤ f1 → n ≤ f2 → natDigitsAux f1 n = natDigitsAux f2 n := by
  intro f1
  induction f1 with
  | zero =>
    intro f2 n h1 _
    have : n = 0 := by omega
    subst this
    cases f2 <;> simp [natDigitsAux]
  | succ f1 ih =>
    intro f2 n h1 h2
    by_cases hn : n < 10
    · cases f2 with
      | zero => have : n = 0 := by omega
                subst this; simp [natDigitsAux]
      | succ f2 => simp [natDigitsAux, hn]
    · cases f2 with
      | zero => omega
      | succ f2 =>
        simp only [natDigitsAux, hn, if_false]
        rw [ih f2 (n / 10) (by omega) (by omega)]

theorem natDigits_eq (n : Nat) :
    natDigits n = if n < 10 then [48 + n] else natDigits (n / 10) ++ [48 + n % 10] := by
  unfold natDigits
  cases n with
  | zero => simp [natDigitsAux]
  | succ m =>
    simp only [natDigitsAux]
    split
    · rfl
    · rw [natDigitsAux_fuel m ((m + 1) / 10) ((m + 1) / 10) (by omega) (by omega)]

theorem natDigits_ne_nil (n : Nat) : natDigits n ≠ [] := by
  rw [natDigits_eq]
  split <;> simp

theorem natDigits_all_digit (n : Nat) : ∀ d ∈ natDigits n, isDigit d = true := by
  induction n using Nat.strongRecOn with
  | _ n ih =>
    rw [natDigits_eq]
    split
    · intro d hd
      simp at hd
      subst hd
      simp [isDigit]; omega
    · intro d hd
      simp only [List.mem_append, List.mem_singleton] at hd
      rcases hd with hd | hd
      · exact ih (n / 10) (by omega) d hd
      · subst hd
        simp [isDigit]; omega

theorem digitsVal_append (a : List Nat) (d : Nat) : digitsVal (a ++ [d]) = digitsVal a * 10 + (d - 48) := by
  simp [digitsVal, List.foldl_append]

theorem digitsVal_natDigits (n : Nat) : digitsVal (natDigits n) = n := by
  induction n using Nat.strongRecOn with
  | _ n ih =>
    rw [natDigits_eq]
    split
    · simp [digitsVal]
    · rw [digitsVal_append, ih (n / 10) (by omega)]
      omega

theorem cleanDigits_of_all_digit : ∀ (ds : List Nat), ds ≠ [] → (∀ d ∈ ds, isDigit d = true) →
    cleanDigits ds = some ds
  | [], h, _ => absurd rfl h
  | [d], _, h => by simp [cleanDigits, h d (by simp)]
  | d :: e :: rest, _, h => by
    have hd : isDigit d = true := h d (by simp)
    have he : isDigit e = true := h e (by simp)
    have hne : e ≠ 95 := by
      intro h95; subst h95; simp [isDigit] at he
    have ih := cleanDigits_of_all_digit (e :: rest) (by simp) (fun x hx => h x (by simp [hx]))
    simp [cleanDigits, hd, hne, ih]

theorem isDigit_not_space {d : Nat} (h : isDigit d = true) : isAsciiSpace d = false ∧ isSpace d = false := by
  simp [isDigit] at h
  simp [isAsciiSpace, isSpace]
  omega

theorem mem_intStr {i : Int} {c : Nat} (h : c ∈ intStr i) : c = 45 ∨ isDigit c = true := by
  unfold intStr at h
  split at h
  · exact (List.mem_cons.mp h).imp id (natDigits_all_digit _ c)
  · exact Or.inr (natDigits_all_digit _ c h)

theorem intStr_edgeOk {p : Nat → Bool} (hd : ∀ d, isDigit d = true → p d = false) (hm : p 45 = false) (i : Int) :
    edgeOk p (intStr i) = true :=
  edgeOk_of_all fun c hc => (mem_intStr hc).elim (fun e => e ▸ hm) (hd c)

theorem parseIntWith_digits (ws : Nat → Bool) (hws : ∀ d, isDigit d = true → ws d = false) {ds : List Nat}
    (hne : ds ≠ []) (hd : ∀ d ∈ ds, isDigit d = true) : parseIntWith ws ds = .ok (digitsVal ds : Int) := by
  obtain ⟨d0, t, rfl⟩ := List.exists_cons_of_ne_nil hne
  have hd0 : isDigit d0 = true := hd d0 List.mem_cons_self
  have h43 : d0 ≠ 43 := by intro h; subst h; simp [isDigit] at hd0
  have h45 : d0 ≠ 45 := by intro h; subst h; simp [isDigit] at hd0
  unfold parseIntWith
  rw [stripBy_of_edgeOk (edgeOk_of_all fun c hc => hws c (hd c hc))]
  simp [h43, h45, cleanDigits_of_all_digit _ hne hd]

theorem parseIntWith_minus_digits (ws : Nat → Bool) (hws : ∀ d, isDigit d = true → ws d = false) (hminus : ws 45 = false)
    {ds : List Nat} (hne : ds ≠ []) (hd : ∀ d ∈ ds, isDigit d = true) :
    parseIntWith ws (45 :: ds) = .ok (-(digitsVal ds : Int)) := by
  have hedge : edgeOk ws (45 :: ds) = true :=
    edgeOk_of_all fun c hc => (List.mem_cons.mp hc).elim (fun e => e ▸ hminus) (fun hc => hws c (hd c hc))
  unfold parseIntWith
  rw [stripBy_of_edgeOk hedge]
  simp [cleanDigits_of_all_digit _ hne hd]

theorem parseIntWith_intStr (ws : Nat → Bool) (hws : ∀ d, isDigit d = true → ws d = false)
    (hminus : ws 45 = false) (i : Int) : parseIntWith ws (intStr i) = .ok i := by
  have hne := natDigits_ne_nil i.natAbs
  have hd := natDigits_all_digit i.natAbs
  unfold intStr
  split
  · rw [parseIntWith_minus_digits ws hws hminus hne hd, digitsVal_natDigits]
    congr 1
    omega
  · rw [parseIntWith_digits ws hws hne hd, digitsVal_natDigits]
    congr 1
    omega

theorem parseIntBytes_intStr (i : Int) : parseIntBytes (intStr i) = .ok i :=
  parseIntWith_intStr _ (fun _ h => (isDigit_not_space h).1) (by decide) i

theorem parseIntStr_intStr (i : Int) : parseIntStr (intStr i) = .ok i :=
  parseIntWith_intStr _ (fun _ h => (isDigit_not_space h).2) (by decide) i

theorem intStr_all_lt (i : Int) : ∀ c ∈ intStr i, c < 128 := by
  intro c hc
  rcases mem_intStr hc with rfl | h
  · decide
  · simp [isDigit] at h
    omega

theorem intStr_ascii (i : Int) : (intStr i).all (· < 128) = true := by
  simp only [List.all_eq_true, decide_eq_true_eq]
  exact intStr_all_lt i

end NasdaqModel.Py

namespace NasdaqModel

theorem mem_takeWhile_true {α : Type} (p : α → Bool) : ∀ (l : List α) (b : α), b ∈ l.takeWhile p → p b = true := by
  intro l
  induction l with
  | nil => intro b h; simp at h
  | cons x l ih =>
    intro b h
    by_cases hx : p x = true
    · simp only [List.takeWhile_cons, hx, if_true, List.mem_cons] at h
      rcases h with h | h
      · rw [h]; exact hx
      · exact ih b h
    · simp [hx] at h

end NasdaqModel
