import NasdaqModel.Model.Monitor
/-
Heartbeat monitors (Model/Monitor.lean), C08 and C09.  The file holds the vocabulary of the property statements (`lastLive`, `appIn`,
`monCount`, `due` for what is written; `recvIn`, `lastRecv` for what arrives), four invariants of `Sess.step`, each proved per small
step and lifted over event lists — `InvL` (local monitor: no silence longer than two intervals) and `InvT` (exactly which instants
carry a monitor heartbeat), `InvR` (remote monitor: silence closes in bounded time) and `InvQ` (a close by the monitor was preceded by a
silent interval) — and three simulations: the session does not look at what kind of bytes arrive (`forget_run`), tolerance 0 behaves as
1 (`tol01_run`), heartbeats the application sends itself are no activity (`dropAppHb_run`).
(Named HeartbeatLemmas because Lemmas/MonitorLemmas.lean is used by the session-machine work for something else.)
-/
namespace NasdaqModel.Monitor

theorem run_nil (s : Sess) : s.run [] = s := rfl
theorem run_cons (s : Sess) (e : Ev) (evs : List Ev) : s.run (e :: evs) = (s.step e).run evs := rfl
theorem run_append (s : Sess) (a b : List Ev) : s.run (a ++ b) = (s.run a).run b := by
  simp [Sess.run, List.foldl_append]

theorem run_inv {P : Sess → Prop} (hstep : ∀ s e, P s → P (s.step e)) :
    ∀ (evs : List Ev) (s : Sess), P s → P (s.run evs) := by
  intro evs
  induction evs with
  | nil => intro s h; exact h
  | cons e evs ih => intro s h; exact ih _ (hstep s e h)

section fields
variable (s : Sess)

@[simp] theorem bump_now : s.bump.now = s.now + 1 := rfl
@[simp] theorem bump_loc : s.bump.loc = s.loc := rfl
@[simp] theorem bump_rem : s.bump.rem = s.rem := rfl
@[simp] theorem bump_closed : s.bump.closed = s.closed := rfl
@[simp] theorem bump_closeT : s.bump.closeT = s.closeT := rfl
@[simp] theorem bump_closedByMon : s.bump.closedByMon = s.closedByMon := rfl
@[simp] theorem bump_writes : s.bump.writes = s.writes := rfl
@[simp] theorem bump_recvs : s.bump.recvs = s.recvs := rfl

@[simp] theorem sendMsg_now (o : Origin) : (s.sendMsg o).now = s.now := rfl
@[simp] theorem sendMsg_rem (o : Origin) : (s.sendMsg o).rem = s.rem := rfl
@[simp] theorem sendMsg_closed (o : Origin) : (s.sendMsg o).closed = s.closed := rfl
@[simp] theorem sendMsg_closeT (o : Origin) : (s.sendMsg o).closeT = s.closeT := rfl
@[simp] theorem sendMsg_closedByMon (o : Origin) : (s.sendMsg o).closedByMon = s.closedByMon := rfl
@[simp] theorem sendMsg_recvs (o : Origin) : (s.sendMsg o).recvs = s.recvs := rfl
@[simp] theorem sendMsg_writes (o : Origin) :
    (s.sendMsg o).writes = { t := s.now, origin := o, live := !s.closed } :: s.writes := rfl
@[simp] theorem sendMsg_loc (o : Origin) : (s.sendMsg o).loc = if o.isHb then s.loc else s.loc.ping := rfl

@[simp] theorem dataReceived_now (k : RecvKind) : (s.dataReceived k).now = s.now := rfl
@[simp] theorem dataReceived_loc (k : RecvKind) : (s.dataReceived k).loc = s.loc := rfl
@[simp] theorem dataReceived_rem (k : RecvKind) : (s.dataReceived k).rem = s.rem.ping := rfl
@[simp] theorem dataReceived_closed (k : RecvKind) : (s.dataReceived k).closed = s.closed := rfl
@[simp] theorem dataReceived_closeT (k : RecvKind) : (s.dataReceived k).closeT = s.closeT := rfl
@[simp] theorem dataReceived_closedByMon (k : RecvKind) : (s.dataReceived k).closedByMon = s.closedByMon := rfl
@[simp] theorem dataReceived_writes (k : RecvKind) : (s.dataReceived k).writes = s.writes := rfl
@[simp] theorem dataReceived_recvs (k : RecvKind) : (s.dataReceived k).recvs = (s.now, k) :: s.recvs := rfl

@[simp] theorem close_now (b : Bool) : (s.close b).now = s.now := by unfold Sess.close; split <;> rfl
@[simp] theorem close_writes (b : Bool) : (s.close b).writes = s.writes := by unfold Sess.close; split <;> rfl
@[simp] theorem close_recvs (b : Bool) : (s.close b).recvs = s.recvs := by unfold Sess.close; split <;> rfl
@[simp] theorem close_closed (b : Bool) : (s.close b).closed = true := by
  unfold Sess.close; split <;> simp_all
theorem close_of_closed (b : Bool) (h : s.closed = true) : s.close b = s := by
  unfold Sess.close; simp [h]
theorem close_of_open (b : Bool) (h : s.closed = false) :
    s.close b = { s with closed := true, closeT := s.now, closedByMon := b, loc := s.loc.stop, rem := s.rem.stop } := by
  unfold Sess.close; simp [h]

end fields

@[simp] theorem ping_interval (m : Mon) : m.ping.interval = m.interval := rfl
@[simp] theorem ping_tol (m : Mon) : m.ping.tol = m.tol := rfl
@[simp] theorem ping_stop (m : Mon) : m.ping.stopWhenNoActivity = m.stopWhenNoActivity := rfl
@[simp] theorem ping_pinged (m : Mon) : m.ping.pinged = true := rfl
@[simp] theorem ping_missed (m : Mon) : m.ping.missed = m.missed := rfl
@[simp] theorem ping_left (m : Mon) : m.ping.left = m.left := rfl
@[simp] theorem ping_running (m : Mon) : m.ping.running = m.running := rfl
@[simp] theorem stop_interval (m : Mon) : m.stop.interval = m.interval := rfl
@[simp] theorem stop_tol (m : Mon) : m.stop.tol = m.tol := rfl
@[simp] theorem stop_stop (m : Mon) : m.stop.stopWhenNoActivity = m.stopWhenNoActivity := rfl
@[simp] theorem stop_pinged (m : Mon) : m.stop.pinged = m.pinged := rfl
@[simp] theorem stop_missed (m : Mon) : m.stop.missed = m.missed := rfl
@[simp] theorem stop_left (m : Mon) : m.stop.left = m.left := rfl
@[simp] theorem stop_running (m : Mon) : m.stop.running = false := rfl

theorem life_open (s : Sess) (h : s.closed = false) : s.life = s.now := by simp [Sess.life, h]
theorem life_closed (s : Sess) (h : s.closed = true) : s.life = s.closeT := by simp [Sess.life, h]

/-- every call site of `start_heartbeats`: own role's interval for the local monitor, the peer's for the remote one -/
theorem login_eq (role : Role) (c : Cfg) :
    login role c = startWith (ownInterval role c) (peerInterval role c) 1 1 := by
  cases role <;> rfl

theorem tickLocal_stopped (s : Sess) (h : s.loc.running = false) : s.tickLocal = s := by
  simp [Sess.tickLocal, Mon.adv, h]

theorem tickLocal_wait (s : Sess) (h : s.loc.running = true) (h2 : 1 < s.loc.left) :
    s.tickLocal = { s with loc := { s.loc with left := s.loc.left - 1 } } := by
  have : ¬ s.loc.left ≤ 1 := by omega
  simp [Sess.tickLocal, Mon.adv, h, this]

/-- the local timer of a running monitor that tolerates no miss and never stops by itself: it waits, clears `_pinged`, or
    sends a heartbeat -/
theorem tickLocal_running (s : Sess) (h : s.loc.running = true) (ht : s.loc.tol ≤ 1) (hs : s.loc.stopWhenNoActivity = false) :
    (1 < s.loc.left ∧ s.tickLocal = { s with loc := { s.loc with left := s.loc.left - 1 } }) ∨
    (s.loc.left ≤ 1 ∧ s.loc.pinged = true ∧
      s.tickLocal = { s with loc := { s.loc with pinged := false, missed := 0, left := s.loc.interval } }) ∨
    (s.loc.left ≤ 1 ∧ s.loc.pinged = false ∧
      s.tickLocal = Sess.sendMsg { s with loc := { s.loc with missed := s.loc.missed + 1, left := s.loc.interval } } .mon) := by
  by_cases hw : 1 < s.loc.left
  · exact .inl ⟨hw, tickLocal_wait s h hw⟩
  · have hl : s.loc.left ≤ 1 := by omega
    have : s.loc.tol ≤ s.loc.missed + 1 := by omega
    cases hp : s.loc.pinged
    · exact .inr (.inr ⟨hl, rfl, by simp [Sess.tickLocal, Mon.adv, Mon.wake, h, hl, hp, hs, this]⟩)
    · exact .inr (.inl ⟨hl, rfl, by simp [Sess.tickLocal, Mon.adv, Mon.wake, h, hl, hp]⟩)

theorem tickRemote_stopped (s : Sess) (h : s.rem.running = false) : s.tickRemote = s := by
  simp [Sess.tickRemote, Mon.adv, h]

theorem tickRemote_wait (s : Sess) (h : s.rem.running = true) (h2 : 1 < s.rem.left) :
    s.tickRemote = { s with rem := { s.rem with left := s.rem.left - 1 } } := by
  have : ¬ s.rem.left ≤ 1 := by omega
  simp [Sess.tickRemote, Mon.adv, h, this]

/-- the remote timer of a running monitor that closes on silence: it waits, re-arms (`_pinged` cleared, or one more miss
    within the tolerance; `m` is the new count), or trips -/
theorem tickRemote_running (s : Sess) (h : s.rem.running = true) (hs : s.rem.stopWhenNoActivity = true) :
    (1 < s.rem.left ∧ s.tickRemote = { s with rem := { s.rem with left := s.rem.left - 1 } }) ∨
    (s.rem.left ≤ 1 ∧ ∃ m, ((s.rem.pinged = true ∧ m = 0) ∨ (s.rem.pinged = false ∧ m = s.rem.missed + 1 ∧ m < s.rem.tol)) ∧
      s.tickRemote = { s with rem := { s.rem with pinged := false, missed := m, left := s.rem.interval } }) ∨
    (s.rem.left ≤ 1 ∧ s.rem.pinged = false ∧ s.rem.tol ≤ s.rem.missed + 1 ∧
      s.tickRemote = Sess.close { s with rem := { s.rem with missed := s.rem.missed + 1, running := false } } true) := by
  by_cases hw : 1 < s.rem.left
  · exact .inl ⟨hw, tickRemote_wait s h hw⟩
  · have hl : s.rem.left ≤ 1 := by omega
    right
    cases hp : s.rem.pinged with
    | true => exact .inl ⟨hl, 0, .inl ⟨rfl, rfl⟩, by simp [Sess.tickRemote, Mon.adv, Mon.wake, h, hl, hp]⟩
    | false =>
      by_cases ht : s.rem.tol ≤ s.rem.missed + 1
      · exact .inr ⟨hl, rfl, ht, by simp [Sess.tickRemote, Mon.adv, Mon.wake, h, hl, hp, hs, ht]⟩
      · exact .inl ⟨hl, _, .inr ⟨rfl, rfl, by omega⟩, by simp [Sess.tickRemote, Mon.adv, Mon.wake, h, hl, hp, ht]⟩

theorem tickRemote_cases (s : Sess) :
    (∃ r, s.tickRemote = { s with rem := r }) ∨ (∃ r, s.tickRemote = Sess.close { s with rem := r } true) := by
  by_cases h : s.rem.adv.2 = true
  · right; exact ⟨s.rem.adv.1, by simp [Sess.tickRemote, h]⟩
  · left; exact ⟨s.rem.adv.1, by simp [Sess.tickRemote, h]⟩

/-- time of the newest live write, 0 if there is none -/
def lastLive : List Write → Nat
  | [] => 0
  | w :: ws => if w.live then w.t else lastLive ws

@[simp] theorem lastLive_cons_live (w : Write) (ws : List Write) (h : w.live = true) : lastLive (w :: ws) = w.t := by
  simp [lastLive, h]
@[simp] theorem lastLive_cons_dead (w : Write) (ws : List Write) (h : w.live = false) : lastLive (w :: ws) = lastLive ws := by
  simp [lastLive, h]

theorem lastLive_real (ws : List Write) : lastLive ws = 0 ∨ ∃ w ∈ ws, w.live = true ∧ w.t = lastLive ws := by
  induction ws with
  | nil => left; rfl
  | cons w ws ih =>
    unfold lastLive
    split
    · right; exact ⟨w, by simp, by assumption, rfl⟩
    · rcases ih with h | ⟨w', hm, hl, ht⟩
      · left; exact h
      · right; exact ⟨w', by simp [hm], hl, ht⟩

/-- the local monitor's side of a session with local interval `l` -/
structure InvL (l : Nat) (s : Sess) : Prop where
  int : s.loc.interval = l
  nostop : s.loc.stopWhenNoActivity = false
  tol : s.loc.tol ≤ 1
  running : s.loc.running = !s.closed
  left : s.closed = false → 1 ≤ s.loc.left ∧ s.loc.left ≤ l
  prog : s.closed = false → s.now + s.loc.left ≤ lastLive s.writes + (if s.loc.pinged then l else 2 * l)
  last_le : lastLive s.writes ≤ s.now
  cov : ∀ t, t + 2 * l ≤ s.life → ∃ w ∈ s.writes, w.live = true ∧ t < w.t ∧ w.t ≤ t + 2 * l

theorem invL_start (l r tl tr : Nat) (hl : 1 ≤ l) (htl : tl ≤ 1) : InvL l (startWith l r tl tr) := by
  constructor <;> simp [startWith, Mon.start, lastLive, Sess.life, *]
  omega

/-- the new window that ends at `now + 1` is covered as soon as the newest live write is recent enough and real -/
theorem cov_extend (l : Nat) (ws : List Write) (n : Nat)
    (hcov : ∀ t, t + 2 * l ≤ n → ∃ w ∈ ws, w.live = true ∧ t < w.t ∧ w.t ≤ t + 2 * l)
    (hlast : lastLive ws ≤ n + 1) (hrecent : n + 2 ≤ lastLive ws + 2 * l) (hreal : lastLive ws = 0 → n + 1 < 2 * l) :
    ∀ t, t + 2 * l ≤ n + 1 → ∃ w ∈ ws, w.live = true ∧ t < w.t ∧ w.t ≤ t + 2 * l := by
  intro t ht
  by_cases h : t + 2 * l ≤ n
  · exact hcov t h
  · have ht' : t + 2 * l = n + 1 := by omega
    rcases lastLive_real ws with h0 | ⟨w, hm, hl, hw⟩
    · have := hreal h0; omega
    · exact ⟨w, hm, hl, by omega, by omega⟩

theorem invL_advLocal (l : Nat) (hl : 1 ≤ l) (s : Sess) (h : InvL l s) : InvL l s.bump.tickLocal := by
  obtain ⟨hint, hns, htol, hrun, hleft, hprog, hlast, hcov⟩ := h
  cases hc : s.closed with
  | true =>
    have hr : s.bump.loc.running = false := by simp [hrun, hc]
    rw [tickLocal_stopped _ hr]
    have hcl : s.bump.closed = false → False := fun h => by rw [bump_closed, hc] at h; cases h
    exact ⟨hint, hns, htol, hrun, fun h => (hcl h).elim, fun h => (hcl h).elim, Nat.le_succ_of_le hlast,
      fun t ht => hcov t (by rwa [show s.bump.life = s.life by simp [Sess.life, hc]] at ht)⟩
  | false =>
    have hr : s.bump.loc.running = true := by simp [hrun, hc]
    obtain ⟨hl1, hl2⟩ := hleft hc
    have hp := hprog hc
    rw [life_open s hc] at hcov
    rcases tickLocal_running s.bump hr htol hns with ⟨hw, e⟩ | ⟨hl, hpg, e⟩ | ⟨hl, hpg, e⟩ <;> rw [e] <;>
      simp only [bump_loc] at *
    · refine ⟨hint, hns, htol, hrun, fun _ => ?_, fun _ => ?_, Nat.le_succ_of_le hlast, ?_⟩
      · show 1 ≤ s.loc.left - 1 ∧ s.loc.left - 1 ≤ l
        omega
      · show s.now + 1 + (s.loc.left - 1) ≤ lastLive s.writes + (if s.loc.pinged then l else 2 * l)
        have e : s.now + 1 + (s.loc.left - 1) = s.now + s.loc.left := by omega
        rw [e]; exact hp
      · show ∀ t, t + 2 * l ≤ (if s.closed then s.closeT else s.now + 1) → _
        rw [hc]
        apply cov_extend l s.writes s.now hcov (by omega)
        · split at hp <;> omega
        · intro h0; split at hp <;> omega
    · have hl1' : s.loc.left = 1 := by omega
      rw [hpg, if_pos rfl] at hp
      refine ⟨hint, hns, htol, hrun, fun _ => ?_, fun _ => ?_, Nat.le_succ_of_le hlast, ?_⟩
      · show 1 ≤ s.loc.interval ∧ s.loc.interval ≤ l
        omega
      · show s.now + 1 + s.loc.interval ≤ lastLive s.writes + (if false = true then l else 2 * l)
        rw [if_neg nofun]; omega
      · show ∀ t, t + 2 * l ≤ (if s.closed then s.closeT else s.now + 1) → _
        rw [hc]
        exact cov_extend l s.writes s.now hcov (by omega) (by omega) (fun h0 => by omega)
    · have hl1' : s.loc.left = 1 := by omega
      rw [hpg, if_neg nofun] at hp
      -- the heartbeat written now is live and covers the window that ends now
      refine ⟨hint, hns, htol, hrun, fun _ => ?_, fun _ => ?_, ?_, ?_⟩
      · show 1 ≤ s.loc.interval ∧ s.loc.interval ≤ l
        omega
      · simp only [sendMsg_now, sendMsg_loc, sendMsg_writes, bump_now, bump_closed, Origin.isHb, if_true, hc,
          Bool.not_false, lastLive_cons_live]
        show s.now + 1 + s.loc.interval ≤ s.now + 1 + (if s.loc.pinged then l else 2 * l)
        rw [hpg, if_neg nofun]; omega
      · simp only [sendMsg_now, sendMsg_writes, bump_now, bump_closed, hc, Bool.not_false, lastLive_cons_live]
        exact Nat.le_refl _
      · intro t ht
        have ht : t + 2 * l ≤ s.now + 1 := by simpa [Sess.life, hc] using ht
        by_cases h : t + 2 * l ≤ s.now
        · obtain ⟨w, hm, hw⟩ := hcov t h
          exact ⟨w, List.mem_cons_of_mem _ hm, hw⟩
        · exact ⟨_, List.mem_cons_self, by simp [hc], by show t < s.now + 1; omega, by show s.now + 1 ≤ _; omega⟩

theorem invL_congr (l : Nat) (s s' : Sess) (h1 : s'.now = s.now) (h2 : s'.loc = s.loc) (h3 : s'.closed = s.closed)
    (h4 : s'.closeT = s.closeT) (h5 : s'.writes = s.writes) (h : InvL l s) : InvL l s' := by
  obtain ⟨a1, a2, a3, a4, a5, a6, a7, a8⟩ := h
  constructor <;> simp only [Sess.life, h1, h2, h3, h4, h5] <;> assumption

theorem invL_setRem (l : Nat) (s : Sess) (r : Mon) (h : InvL l s) : InvL l { s with rem := r } :=
  invL_congr l s _ rfl rfl rfl rfl rfl h

theorem invL_close (l : Nat) (s : Sess) (b : Bool) (h : InvL l s) : InvL l (s.close b) := by
  cases hc : s.closed with
  | true => rw [close_of_closed _ _ hc]; exact h
  | false =>
    rw [close_of_open _ _ hc]
    obtain ⟨hint, hns, htol, hrun, hleft, hprog, hlast, hcov⟩ := h
    exact ⟨hint, hns, htol, rfl, nofun, nofun, hlast, by rwa [life_open s hc] at hcov⟩

theorem invL_tickRemote (l : Nat) (s : Sess) (h : InvL l s) : InvL l s.tickRemote := by
  rcases tickRemote_cases s with ⟨r, e⟩ | ⟨r, e⟩
  · rw [e]; exact invL_setRem l s r h
  · rw [e]; exact invL_close l _ true (invL_setRem l s r h)

theorem invL_dataReceived (l : Nat) (s : Sess) (k : RecvKind) (h : InvL l s) : InvL l (s.dataReceived k) :=
  invL_congr l s _ rfl rfl rfl rfl rfl h

theorem sendMsg_loc_frame (s : Sess) (o : Origin) :
    (s.sendMsg o).loc.interval = s.loc.interval ∧ (s.sendMsg o).loc.stopWhenNoActivity = s.loc.stopWhenNoActivity ∧
    (s.sendMsg o).loc.tol = s.loc.tol ∧ (s.sendMsg o).loc.running = s.loc.running ∧
    (s.sendMsg o).loc.left = s.loc.left := by
  simp only [sendMsg_loc]
  split <;> exact ⟨rfl, rfl, rfl, rfl, rfl⟩

theorem invL_sendMsg (l : Nat) (s : Sess) (o : Origin) (h : InvL l s) : InvL l (s.sendMsg o) := by
  obtain ⟨hint, hns, htol, hrun, hleft, hprog, hlast, hcov⟩ := h
  obtain ⟨e1, e2, e3, e4, e5⟩ := sendMsg_loc_frame s o
  refine ⟨e1.trans hint, e2.trans hns, e3 ▸ htol, e4.trans hrun, fun hc => e5 ▸ hleft hc, fun hc => ?_, ?_, ?_⟩
  · obtain ⟨hl1, hl2⟩ := hleft hc
    rw [e5]
    simp only [sendMsg_loc, sendMsg_writes, sendMsg_now]
    rw [lastLive_cons_live _ _ (by simp [show s.closed = false from hc])]
    split <;> (try split) <;> simp <;> omega
  · cases hc : s.closed <;> simp [hc, hlast]
  · intro t ht
    obtain ⟨w, hm, hw⟩ := hcov t ht
    exact ⟨w, List.mem_cons_of_mem _ hm, hw⟩

theorem invL_step (l : Nat) (hl : 1 ≤ l) (s : Sess) (e : Ev) (h : InvL l s) : InvL l (s.step e) := by
  cases e with
  | adv => exact invL_tickRemote l _ (invL_advLocal l hl s h)
  | send | sendHb => exact invL_sendMsg l s _ h
  | recv k => exact invL_dataReceived l s k h
  | close => exact invL_close l s _ h
  | sendFailed => exact h

theorem invL_run (l r tl tr : Nat) (hl : 1 ≤ l) (htl : tl ≤ 1) (evs : List Ev) :
    InvL l ((startWith l r tl tr).run evs) :=
  run_inv (P := InvL l) (fun s e h => invL_step l hl s e h) evs _ (invL_start l r tl tr hl htl)

/-- an application (non-heartbeat) write with time in `[a, b)` -/
def appIn (ws : List Write) (a b : Nat) : Bool :=
  ws.any fun w => w.origin == .app && decide (a ≤ w.t) && decide (w.t < b)

/-- number of monitor heartbeats written at instant `T` -/
def monCount (ws : List Write) (T : Nat) : Nat :=
  (ws.filter fun w => w.origin == .mon && w.t == T).length

/-- the local monitor owes a heartbeat at instant `T`: `T` is a tick (multiple of the interval) from the second one on,
    the session has lived until `T`, and the application wrote nothing in `[T - l, T)` -/
def due (l life : Nat) (ws : List Write) (T : Nat) : Bool :=
  decide (l ∣ T) && decide (2 * l ≤ T) && decide (T ≤ life) && !appIn ws (T - l) T

@[simp] theorem appIn_nil (a b : Nat) : appIn [] a b = false := rfl
@[simp] theorem appIn_cons (w : Write) (ws : List Write) (a b : Nat) :
    appIn (w :: ws) a b = ((w.origin == .app && decide (a ≤ w.t) && decide (w.t < b)) || appIn ws a b) := by
  simp [appIn]
@[simp] theorem monCount_nil (T : Nat) : monCount [] T = 0 := rfl
theorem monCount_cons (w : Write) (ws : List Write) (T : Nat) :
    monCount (w :: ws) T = (if w.origin == .mon && w.t == T then 1 else 0) + monCount ws T := by
  unfold monCount
  rw [List.filter_cons]
  split <;> simp <;> omega

theorem appIn_false_iff (ws : List Write) (a b : Nat) :
    appIn ws a b = false ↔ ∀ w ∈ ws, w.origin = .app → ¬ (a ≤ w.t ∧ w.t < b) := by
  induction ws with
  | nil => simp
  | cons w ws ih =>
    simp only [appIn_cons, Bool.or_eq_false_iff, ih, List.mem_cons, forall_eq_or_imp]
    constructor
    · rintro ⟨h1, h2⟩
      refine ⟨?_, h2⟩
      intro ho hab
      simp [ho, hab.1, hab.2] at h1
    · rintro ⟨h1, h2⟩
      refine ⟨?_, h2⟩
      by_cases ho : w.origin = .app
      · have := h1 ho
        simp [ho]
        omega
      · simp [ho]

theorem monCount_pos_of_mem (ws : List Write) (w : Write) (hm : w ∈ ws) (ho : w.origin = .mon) :
    1 ≤ monCount ws w.t := by
  unfold monCount
  have : w ∈ ws.filter fun x => x.origin == .mon && x.t == w.t := by
    simp [List.mem_filter, hm, ho]
  exact List.length_pos_of_mem this

theorem exists_of_monCount_pos (ws : List Write) (T : Nat) (h : 1 ≤ monCount ws T) :
    ∃ w ∈ ws, w.origin = .mon ∧ w.t = T := by
  unfold monCount at h
  obtain ⟨w, hw⟩ := List.exists_mem_of_length_pos h
  simp [List.mem_filter] at hw
  exact ⟨w, hw.1, hw.2.1, hw.2.2⟩

theorem not_dvd_between (l a b : Nat) (ha : l ∣ a) (h1 : a < b + l) (h2 : b < a) : ¬ l ∣ b := by
  rintro ⟨k, rfl⟩
  obtain ⟨m, rfl⟩ := ha
  have hkm : k < m := by
    apply Nat.lt_of_mul_lt_mul_left (a := l)
    exact h2
  have : l * (k + 1) ≤ l * m := Nat.mul_le_mul_left l hkm
  rw [Nat.mul_succ] at this
  omega

theorem two_le_of_dvd (l a : Nat) (ha : l ∣ a) (h1 : l ≤ a) (h2 : a ≠ l) : 2 * l ≤ a := by
  obtain ⟨m, rfl⟩ := ha
  match m with
  | 0 => simp at h1; omega
  | 1 => simp at h2
  | m + 2 =>
    have : l * 2 ≤ l * (m + 2) := Nat.mul_le_mul_left l (by omega)
    omega

theorem appIn_eq_false_of_lt (ws : List Write) (a b : Nat) (h : ∀ w ∈ ws, w.t < a) : appIn ws a b = false := by
  rw [appIn_false_iff]
  intro w hm _ hab
  have := h w hm
  omega

theorem appIn_upper (ws : List Write) (a b b' : Nat) (h : ∀ w ∈ ws, w.t < b) (hb : b ≤ b') :
    appIn ws a b' = appIn ws a b := by
  induction ws with
  | nil => rfl
  | cons w ws ih =>
    have hw := h w (by simp)
    have := ih (fun x hx => h x (by simp [hx]))
    simp only [appIn_cons, this]
    have e : decide (w.t < b') = decide (w.t < b) := by
      have h1 : w.t < b' := by omega
      simp [h1, hw]
    rw [e]

@[simp] theorem appHb_beq_app : (Origin.appHb == Origin.app) = false := by decide
@[simp] theorem mon_beq_app : (Origin.mon == Origin.app) = false := by decide
@[simp] theorem app_beq_app : (Origin.app == Origin.app) = true := by decide
@[simp] theorem app_beq_mon : (Origin.app == Origin.mon) = false := by decide
@[simp] theorem appHb_beq_mon : (Origin.appHb == Origin.mon) = false := by decide
@[simp] theorem mon_beq_mon : (Origin.mon == Origin.mon) = true := by decide

theorem due_cons_nonapp (l life : Nat) (w : Write) (ws : List Write) (T : Nat) (h : w.origin ≠ .app) :
    due l life (w :: ws) T = due l life ws T := by
  cases ho : w.origin <;> simp_all [due]

theorem due_cons_app (l life : Nat) (w : Write) (ws : List Write) (T : Nat) (h : life ≤ w.t) :
    due l life (w :: ws) T = due l life ws T := by
  by_cases hT : T ≤ life
  · have : ¬ w.t < T := by omega
    simp [due, this]
  · simp [due, hT]

theorem due_life_succ_ne (l n : Nat) (ws : List Write) (T : Nat) (hT : T ≠ n + 1) :
    due l (n + 1) ws T = due l n ws T := by
  by_cases h2 : T ≤ n
  · have : T ≤ n + 1 := by omega
    simp [due, h2, this]
  · have : ¬ T ≤ n + 1 := by omega
    simp [due, h2, this]

theorem due_life_succ (l n : Nat) (ws : List Write) (T : Nat)
    (h : due l (n + 1) ws (n + 1) = false) : due l (n + 1) ws T = due l n ws T := by
  by_cases hT : T = n + 1
  · subst hT
    rw [h]
    simp [due]
    intros; omega
  · exact due_life_succ_ne l n ws T hT

/-- the local monitor's side, exact version: which instants carry a monitor heartbeat -/
structure InvT (l : Nat) (s : Sess) : Prop where
  int : s.loc.interval = l
  nostop : s.loc.stopWhenNoActivity = false
  tol : s.loc.tol ≤ 1
  running : s.loc.running = !s.closed
  left : s.closed = false → 1 ≤ s.loc.left ∧ s.loc.left ≤ l
  /-- the pending sleep ends at a multiple of the interval … -/
  align : s.closed = false → l ∣ s.now + s.loc.left
  /-- … from the first one on -/
  ge : s.closed = false → l ≤ s.now + s.loc.left
  /-- nothing is stamped in the future -/
  times : ∀ w ∈ s.writes, w.t ≤ s.now
  life_le : s.life ≤ s.now
  /-- `_pinged` says: first interval, or the application wrote since the last tick -/
  pinged : s.closed = false →
    (s.loc.pinged = true ↔ (s.now + s.loc.left = l ∨ appIn s.writes (s.now + s.loc.left - l) (s.now + 1) = true))
  /-- a monitor heartbeat at `T` exactly when one is due -/
  mon : ∀ T, monCount s.writes T = (due l s.life s.writes T).toNat
  /-- the monitor writes only on the open session -/
  monLive : ∀ w ∈ s.writes, w.origin = .mon → w.live = true

theorem invT_start (l r tl tr : Nat) (hl : 1 ≤ l) (htl : tl ≤ 1) : InvT l (startWith l r tl tr) := by
  constructor <;> simp [startWith, Mon.start, Sess.life, due, *]
  intro T
  have : ¬ (2 * l ≤ T ∧ T = 0) := by omega
  cases h : decide (l ∣ T) <;> cases h2 : decide (2 * l ≤ T) <;> cases h3 : decide (T = 0) <;> simp_all

theorem invT_setRem (l : Nat) (s : Sess) (r : Mon) (h : InvT l s) : InvT l { s with rem := r } := by
  obtain ⟨iInt, iNostop, iTol, iRun, iLeft, iAlign, iGe, iTimes, iLife, iPinged, iMon, iMonLive⟩ := h
  exact ⟨iInt, iNostop, iTol, iRun, iLeft, iAlign, iGe, iTimes, iLife, iPinged, iMon, iMonLive⟩

theorem invT_dataReceived (l : Nat) (s : Sess) (k : RecvKind) (h : InvT l s) : InvT l (s.dataReceived k) := by
  obtain ⟨iInt, iNostop, iTol, iRun, iLeft, iAlign, iGe, iTimes, iLife, iPinged, iMon, iMonLive⟩ := h
  exact ⟨iInt, iNostop, iTol, iRun, iLeft, iAlign, iGe, iTimes, iLife, iPinged, iMon, iMonLive⟩

theorem invT_close (l : Nat) (s : Sess) (b : Bool) (h : InvT l s) : InvT l (s.close b) := by
  cases hc : s.closed with
  | true => rw [close_of_closed _ _ hc]; exact h
  | false =>
    rw [close_of_open _ _ hc]
    obtain ⟨iInt, iNostop, iTol, iRun, iLeft, iAlign, iGe, iTimes, iLife, iPinged, iMon, iMonLive⟩ := h
    have hl : s.life = s.now := life_open s hc
    rw [hl] at iMon
    refine ⟨iInt, iNostop, iTol, by simp, by simp, by simp, by simp, iTimes, by simp [Sess.life], by simp, ?_, iMonLive⟩
    simpa [Sess.life] using iMon

theorem invT_tickRemote (l : Nat) (s : Sess) (h : InvT l s) : InvT l s.tickRemote := by
  rcases tickRemote_cases s with ⟨r, e⟩ | ⟨r, e⟩
  · rw [e]; exact invT_setRem l s r h
  · rw [e]; exact invT_close l _ true (invT_setRem l s r h)

theorem invT_sendMsg (l : Nat) (s : Sess) (o : Origin) (ho : o ≠ .mon) (h : InvT l s) : InvT l (s.sendMsg o) := by
  obtain ⟨iInt, iNostop, iTol, iRun, iLeft, iAlign, iGe, iTimes, iLife, iPinged, iMon, iMonLive⟩ := h
  have hlife : (s.sendMsg o).life = s.life := rfl
  obtain ⟨e1, e2, e3, e4, e5⟩ := sendMsg_loc_frame s o
  refine ⟨by rw [e1]; exact iInt, by rw [e2]; exact iNostop, by rw [e3]; exact iTol, by rw [e4]; exact iRun,
          by rw [e5]; exact iLeft, by rw [e5]; exact iAlign, by rw [e5]; exact iGe, ?_, by rw [hlife]; exact iLife, ?_, ?_, ?_⟩
  · intro w hw
    simp only [sendMsg_writes, List.mem_cons] at hw
    rcases hw with rfl | hw
    · simp
    · exact iTimes w hw
  · intro hc
    simp only [sendMsg_closed] at hc
    obtain ⟨hl1, hl2⟩ := iLeft hc
    rw [e5]
    simp only [sendMsg_now, sendMsg_writes, appIn_cons]
    cases o with
    | app =>
      have a1 : s.now + s.loc.left - l ≤ s.now := by omega
      simp [Origin.isHb, a1]
    | appHb => simpa [Origin.isHb] using iPinged hc
    | mon => exact absurd rfl ho
  · intro T
    rw [hlife]
    simp only [sendMsg_writes, monCount_cons]
    cases o with
    | app =>
      rw [due_cons_app l s.life _ s.writes T (by simpa using iLife)]
      simpa using iMon T
    | appHb =>
      rw [due_cons_nonapp l s.life _ s.writes T (by simp)]
      simpa using iMon T
    | mon => exact absurd rfl ho
  · intro w hw hwo
    simp only [sendMsg_writes, List.mem_cons] at hw
    rcases hw with rfl | hw
    · exact absurd hwo ho
    · exact iMonLive w hw hwo

theorem invT_advLocal (l : Nat) (hl : 1 ≤ l) (s : Sess) (h : InvT l s) : InvT l s.bump.tickLocal := by
  obtain ⟨iInt, iNostop, iTol, iRun, iLeft, iAlign, iGe, iTimes, iLife, iPinged, iMon, iMonLive⟩ := h
  have htimes : ∀ w ∈ s.writes, w.t < s.now + 1 := fun w hw => Nat.lt_succ_of_le (iTimes w hw)
  cases hc : s.closed with
  | true =>
    have hr : s.bump.loc.running = false := by simp [iRun, hc]
    rw [tickLocal_stopped _ hr]
    have hlife : s.bump.life = s.life := by simp [Sess.life, hc]
    refine ⟨iInt, iNostop, iTol, iRun, by simp [hc], by simp [hc], by simp [hc], ?_, ?_, by simp [hc], ?_, iMonLive⟩
    · intro w hw; have := iTimes w hw; simp; omega
    · rw [hlife]; simp; omega
    · intro T; rw [hlife]; exact iMon T
  | false =>
    have hr : s.bump.loc.running = true := by simp [iRun, hc]
    obtain ⟨hl1, hl2⟩ := iLeft hc
    have hal := iAlign hc
    have hge := iGe hc
    have hpg := iPinged hc
    have hlife : s.life = s.now := life_open s hc
    rw [hlife] at iMon
    rcases tickLocal_running s.bump hr iTol iNostop with ⟨hw, e⟩ | ⟨hl, hp, e⟩ | ⟨hl, hp, e⟩ <;> rw [e]
    · simp only [bump_loc] at hw
      have hsum : s.now + 1 + (s.loc.left - 1) = s.now + s.loc.left := by omega
      have hnd : ¬ l ∣ s.now + 1 := not_dvd_between l (s.now + s.loc.left) (s.now + 1) hal (by omega) (by omega)
      have hdue : due l (s.now + 1) s.writes (s.now + 1) = false := by simp [due, hnd]
      refine ⟨iInt, iNostop, iTol, by simpa using iRun, ?_, ?_, ?_, ?_, ?_, ?_, ?_, iMonLive⟩
      · intro _; simp; omega
      · intro _; simp only [bump_now, bump_loc]; rw [hsum]; exact hal
      · intro _; simp only [bump_now, bump_loc]; rw [hsum]; exact hge
      · intro w hw'; have := iTimes w hw'; simp; omega
      · simp [Sess.life, hc]
      · intro _
        simp only [bump_now, bump_loc, bump_writes]
        rw [hsum, appIn_upper s.writes _ (s.now + 1) (s.now + 1 + 1) htimes (by omega)]
        exact hpg
      · intro T
        have : (Sess.life { s.bump with loc := { s.bump.loc with left := s.bump.loc.left - 1 } }) = s.now + 1 := by
          simp [Sess.life, hc]
        rw [this]
        simp only [bump_writes]
        rw [due_life_succ l s.now s.writes T hdue]
        exact iMon T
    · simp only [bump_loc] at hl hp
      have hl1' : s.loc.left = 1 := by omega
      rw [hl1'] at hal hge hpg
      have hdue : due l (s.now + 1) s.writes (s.now + 1) = false := by
        rcases hpg.mp hp with e | e
        · have : ¬ 2 * l ≤ s.now + 1 := by omega
          simp [due, this]
        · simp [due, e]
      refine ⟨by simpa using iInt, by simpa using iNostop, by simpa using iTol, by simpa using iRun, ?_, ?_, ?_, ?_, ?_, ?_, ?_, iMonLive⟩
      · intro _; simp [iInt]; omega
      · intro _; simp only [bump_now, bump_loc, iInt]; exact Nat.dvd_add hal (Nat.dvd_refl l)
      · intro _; simp [iInt]
      · intro w hw'; have := iTimes w hw'; simp; omega
      · simp [Sess.life, hc]
      · intro _
        simp only [bump_now, bump_loc, bump_writes, iInt]
        have e : s.now + 1 + l - l = s.now + 1 := by omega
        have : appIn s.writes (s.now + 1) (s.now + 1 + 1) = false :=
          appIn_eq_false_of_lt _ _ _ (fun w hw' => by have := htimes w hw'; omega)
        rw [e, this]
        simp
      · intro T
        have : (Sess.life { s.bump with loc := { s.bump.loc with pinged := false, missed := 0, left := s.bump.loc.interval } }) = s.now + 1 := by
          simp [Sess.life, hc]
        rw [this]
        simp only [bump_writes]
        rw [due_life_succ l s.now s.writes T hdue]
        exact iMon T
    · simp only [bump_loc] at hl hp
      have hl1' : s.loc.left = 1 := by omega
      rw [hl1'] at hal hge hpg
      have hne : s.now + 1 ≠ l := by
        intro e; have := hpg.mpr (Or.inl e); simp [hp] at this
      have hno : appIn s.writes (s.now + 1 - l) (s.now + 1) = false := by
        cases e : appIn s.writes (s.now + 1 - l) (s.now + 1) with
        | false => rfl
        | true => have := hpg.mpr (Or.inr e); simp [hp] at this
      have h2l : 2 * l ≤ s.now + 1 := two_le_of_dvd l _ hal hge hne
      have hdue : due l (s.now + 1) s.writes (s.now + 1) = true := by simp [due, hal, h2l, hno]
      refine ⟨by simpa [Origin.isHb] using iInt, by simpa [Origin.isHb] using iNostop, by simpa [Origin.isHb] using iTol,
              by simpa [Origin.isHb] using iRun, ?_, ?_, ?_, ?_, ?_, ?_, ?_, ?_⟩
      · intro _; simp [Origin.isHb, iInt]; omega
      · intro _; simp only [sendMsg_now, sendMsg_loc, Origin.isHb, bump_now, bump_loc, iInt, if_true]
        exact Nat.dvd_add hal (Nat.dvd_refl l)
      · intro _; simp [Origin.isHb, iInt]
      · intro w hw'
        simp only [sendMsg_writes, List.mem_cons] at hw'
        rcases hw' with rfl | hw'
        · simp
        · have := iTimes w hw'; simp; omega
      · simp [Sess.life, hc]
      · intro _
        simp only [sendMsg_now, sendMsg_loc, sendMsg_writes, Origin.isHb, bump_now, bump_loc, bump_writes, iInt, if_true, appIn_cons]
        have e : s.now + 1 + l - l = s.now + 1 := by omega
        have : appIn s.writes (s.now + 1) (s.now + 1 + 1) = false :=
          appIn_eq_false_of_lt _ _ _ (fun w hw' => by have := htimes w hw'; omega)
        rw [e, this]
        simp [hp]
      · intro T
        have : (Sess.life (Sess.sendMsg { s.bump with loc := { s.bump.loc with missed := s.bump.loc.missed + 1, left := s.bump.loc.interval } } .mon)) = s.now + 1 := by
          simp [Sess.life, hc]
        rw [this]
        simp only [sendMsg_writes, bump_writes, bump_now, monCount_cons]
        rw [due_cons_nonapp l (s.now + 1) _ s.writes T (by simp)]
        by_cases hT : T = s.now + 1
        · subst hT
          rw [hdue, iMon (s.now + 1)]
          simp [due]
          intros; omega
        · rw [due_life_succ_ne l s.now s.writes T hT, iMon T]
          have : ¬ s.now + 1 = T := fun e => hT e.symm
          simp [this]
      · intro w hw' hwo
        simp only [sendMsg_writes, List.mem_cons] at hw'
        rcases hw' with rfl | hw'
        · simp [hc]
        · exact iMonLive w hw' hwo

theorem invT_step (l : Nat) (hl : 1 ≤ l) (s : Sess) (e : Ev) (h : InvT l s) : InvT l (s.step e) := by
  cases e with
  | adv => exact invT_tickRemote l _ (invT_advLocal l hl s h)
  | send | sendHb => exact invT_sendMsg l s _ (by decide) h
  | recv k => exact invT_dataReceived l s k h
  | close => exact invT_close l s _ h
  | sendFailed => exact h

theorem invT_run (l r tl tr : Nat) (hl : 1 ≤ l) (htl : tl ≤ 1) (evs : List Ev) :
    InvT l ((startWith l r tl tr).run evs) :=
  run_inv (P := InvT l) (fun s e h => invT_step l hl s e h) evs _ (invT_start l r tl tr hl htl)

/-- an arrival with time in `[a, b)` -/
def recvIn (rs : List (Nat × RecvKind)) (a b : Nat) : Bool :=
  rs.any fun x => decide (a ≤ x.1) && decide (x.1 < b)

/-- time of the newest arrival, 0 if there is none -/
def lastRecv : List (Nat × RecvKind) → Nat
  | [] => 0
  | x :: _ => x.1

@[simp] theorem recvIn_nil (a b : Nat) : recvIn [] a b = false := rfl
@[simp] theorem recvIn_cons (x : Nat × RecvKind) (rs : List (Nat × RecvKind)) (a b : Nat) :
    recvIn (x :: rs) a b = ((decide (a ≤ x.1) && decide (x.1 < b)) || recvIn rs a b) := by
  simp [recvIn]

theorem recvIn_false_iff (rs : List (Nat × RecvKind)) (a b : Nat) :
    recvIn rs a b = false ↔ ∀ x ∈ rs, ¬ (a ≤ x.1 ∧ x.1 < b) := by
  induction rs with
  | nil => simp
  | cons x rs ih =>
    simp only [recvIn_cons, Bool.or_eq_false_iff, ih, List.mem_cons, forall_eq_or_imp]
    constructor
    · rintro ⟨h1, h2⟩
      refine ⟨?_, h2⟩
      intro hab
      simp [hab.1, hab.2] at h1
    · rintro ⟨h1, h2⟩
      refine ⟨?_, h2⟩
      simp; omega

theorem recvIn_true_of_mem (rs : List (Nat × RecvKind)) (a b : Nat) (x : Nat × RecvKind) (hx : x ∈ rs)
    (h1 : a ≤ x.1) (h2 : x.1 < b) : recvIn rs a b = true := by
  cases h : recvIn rs a b with
  | true => rfl
  | false => exact absurd ⟨h1, h2⟩ ((recvIn_false_iff rs a b).mp h x hx)

theorem lastRecv_real (rs : List (Nat × RecvKind)) : lastRecv rs = 0 ∨ ∃ x ∈ rs, x.1 = lastRecv rs := by
  cases rs with
  | nil => left; rfl
  | cons x rs => right; exact ⟨x, by simp, rfl⟩

theorem recent_not_silent (rs : List (Nat × RecvKind)) (n B t : Nat)
    (h1 : n + 2 ≤ lastRecv rs + B) (h2 : lastRecv rs ≤ n + 1) (ht : t + B = n + 1) :
    recvIn rs (t + 1) (t + B + 1) = true := by
  rcases lastRecv_real rs with h0 | ⟨x, hx, hq⟩
  · omega
  · exact recvIn_true_of_mem rs _ _ x hx (by omega) (by omega)

theorem tickLocal_frame (s : Sess) : ∃ m ws, s.tickLocal = { s with loc := m, writes := ws } := by
  unfold Sess.tickLocal
  simp only []
  split
  · exact ⟨_, _, rfl⟩
  · exact ⟨_, s.writes, rfl⟩

theorem tickLocal_rem (s : Sess) : s.tickLocal.rem = s.rem := by
  obtain ⟨m, ws, e⟩ := tickLocal_frame s
  rw [e]

/-- the remote monitor's side of a session with remote interval `r`, tolerance `n` (a tolerance 0 counts as 1: `max n 1`) -/
structure InvR (r n : Nat) (s : Sess) : Prop where
  int : s.rem.interval = r
  stop : s.rem.stopWhenNoActivity = true
  tol : s.rem.tol = n
  running : s.rem.running = !s.closed
  left : s.closed = false → 1 ≤ s.rem.left ∧ s.rem.left ≤ r
  deadline : s.closed = false →
    ∃ k, (if s.rem.pinged then k = max n 1 else s.rem.missed + 1 + k = max n 1) ∧
      s.now + s.rem.left + k * r ≤ lastRecv s.recvs + (max n 1 + 1) * r
  last_le : lastRecv s.recvs ≤ s.now
  closeT_le : s.closed = true → s.closeT ≤ s.now
  silence : ∀ t, t + (max n 1 + 1) * r ≤ s.now → recvIn s.recvs (t + 1) (t + (max n 1 + 1) * r + 1) = false →
    s.closed = true ∧ s.closeT ≤ t + (max n 1 + 1) * r

theorem invR_start (l r tl n : Nat) (hr : 1 ≤ r) : InvR r n (startWith l r tl n) := by
  refine ⟨rfl, rfl, rfl, rfl, ?_, ?_, ?_, ?_, ?_⟩
  · intro _; simp [startWith, Mon.start]; omega
  · intro _
    refine ⟨max n 1, by simp [startWith, Mon.start], ?_⟩
    simp [startWith, Mon.start, lastRecv, Nat.succ_mul]
    omega
  · simp [startWith, lastRecv]
  · simp [startWith]
  · intro t ht
    simp [startWith] at ht
    have : 1 ≤ max n 1 := by omega
    have : 1 * r ≤ (max n 1 + 1) * r := Nat.mul_le_mul_right r (by omega)
    omega

theorem invR_congr (r n : Nat) (s s' : Sess) (h1 : s'.now = s.now) (h2 : s'.rem = s.rem) (h3 : s'.closed = s.closed)
    (h4 : s'.closeT = s.closeT) (h5 : s'.recvs = s.recvs) (h : InvR r n s) : InvR r n s' := by
  obtain ⟨rInt, rStop, rTol, rRun, rLeft, rDeadline, rLast, rCloseT, rSilence⟩ := h
  constructor <;> simp only [h1, h2, h3, h4, h5] <;> assumption

theorem invR_sendMsg (r n : Nat) (s : Sess) (o : Origin) (h : InvR r n s) : InvR r n (s.sendMsg o) :=
  invR_congr r n s _ rfl rfl rfl rfl rfl h

theorem invR_close (r n : Nat) (s : Sess) (b : Bool) (h : InvR r n s) : InvR r n (s.close b) := by
  cases hc : s.closed with
  | true => rw [close_of_closed _ _ hc]; exact h
  | false =>
    rw [close_of_open _ _ hc]
    obtain ⟨rInt, rStop, rTol, rRun, rLeft, rDeadline, rLast, rCloseT, rSilence⟩ := h
    refine ⟨rInt, rStop, rTol, by simp, by simp, by simp, rLast, by simp, ?_⟩
    intro t ht hs
    have := (rSilence t ht hs).1
    simp [hc] at this

theorem invR_dataReceived (r n : Nat) (s : Sess) (k : RecvKind) (h : InvR r n s) : InvR r n (s.dataReceived k) := by
  obtain ⟨rInt, rStop, rTol, rRun, rLeft, rDeadline, rLast, rCloseT, rSilence⟩ := h
  refine ⟨rInt, rStop, rTol, rRun, rLeft, ?_, by simp [lastRecv], rCloseT, ?_⟩
  · intro hc
    obtain ⟨hl1, hl2⟩ := rLeft hc
    refine ⟨max n 1, by simp, ?_⟩
    simp [lastRecv, Nat.succ_mul]
    omega
  · intro t ht hs
    simp only [dataReceived_recvs, recvIn_cons, Bool.or_eq_false_iff] at hs
    exact rSilence t ht hs.2

/-- the remote timer at the new instant, after whatever the local timer did -/
theorem invR_tick (r n : Nat) (s0 s : Sess) (h : InvR r n s0) (h1 : s.now = s0.now + 1) (h2 : s.rem = s0.rem)
    (h3 : s.closed = s0.closed) (h4 : s.closeT = s0.closeT) (h5 : s.recvs = s0.recvs) : InvR r n s.tickRemote := by
  obtain ⟨rInt, rStop, rTol, rRun, rLeft, rDeadline, rLast, rCloseT, rSilence⟩ := h
  rw [← h2] at rInt rStop rTol rRun rLeft rDeadline
  rw [← h3] at rRun rLeft rDeadline rCloseT rSilence
  rw [← h4] at rCloseT rSilence
  rw [← h5] at rDeadline rLast rSilence
  cases hc : s.closed with
  | true =>
    have hr : s.rem.running = false := by simp [rRun, hc]
    rw [tickRemote_stopped _ hr]
    refine ⟨rInt, rStop, rTol, rRun, by simp [hc], by simp [hc], by omega, ?_, ?_⟩
    · intro _; have := rCloseT hc; omega
    · intro t ht hs
      have hcl := rCloseT hc
      by_cases h' : t + (max n 1 + 1) * r ≤ s0.now
      · exact rSilence t h' hs
      · exact ⟨hc, by omega⟩
  | false =>
    have hr : s.rem.running = true := by simp [rRun, hc]
    obtain ⟨hl1, hl2⟩ := rLeft hc
    obtain ⟨k, hk, hd⟩ := rDeadline hc
    -- while the session stays open no window that has ended is silent: an old one would have closed it, and as long as
    -- the deadline is not reached the newest arrival lies in the window that ends now
    have hsil : 2 ≤ s.rem.left + k * r → ∀ t, t + (max n 1 + 1) * r ≤ s.now →
        recvIn s.recvs (t + 1) (t + (max n 1 + 1) * r + 1) = false → False := by
      intro hk2 t ht hs
      by_cases h' : t + (max n 1 + 1) * r ≤ s0.now
      · have := (rSilence t h' hs).1
        rw [hc] at this; cases this
      · rw [recent_not_silent s.recvs s0.now ((max n 1 + 1) * r) t (by omega) (by omega) (by omega)] at hs
        cases hs
    rcases tickRemote_running s hr rStop with ⟨hw, e⟩ | ⟨hl, m, hm, e⟩ | ⟨hl, hp, htr, e⟩ <;> rw [e]
    · refine ⟨rInt, rStop, rTol, rRun, fun _ => ?_, fun _ => ⟨k, hk, ?_⟩, (show lastRecv s.recvs ≤ s.now by omega), fun h => ?_,
        fun t ht hs => (hsil (by omega) t ht hs).elim⟩
      · show 1 ≤ s.rem.left - 1 ∧ s.rem.left - 1 ≤ r
        omega
      · show s.now + (s.rem.left - 1) + k * r ≤ lastRecv s.recvs + (max n 1 + 1) * r
        omega
      · rw [hc] at h; cases h
    · -- a check that does not trip uses up one of the `k` intervals left
      obtain ⟨k', rfl, hk'⟩ : ∃ k', k = k' + 1 ∧ m + 1 + k' = max n 1 := by
        rcases hm with ⟨hp, rfl⟩ | ⟨hp, rfl, _⟩ <;> rw [hp] at hk <;> exact ⟨k - 1, by simp at hk; omega, by simp at hk; omega⟩
      rw [Nat.succ_mul] at hd hsil
      refine ⟨rInt, rStop, rTol, rRun, fun _ => ?_, fun _ => ⟨k', hk', ?_⟩, (show lastRecv s.recvs ≤ s.now by omega), fun h => ?_,
        fun t ht hs => (hsil (by omega) t ht hs).elim⟩
      · show 1 ≤ s.rem.interval ∧ s.rem.interval ≤ r
        omega
      · show s.now + s.rem.interval + k' * r ≤ lastRecv s.recvs + (max n 1 + 1) * r
        omega
      · rw [hc] at h; cases h
    · rw [hp, if_neg nofun] at hk
      have hopen : Sess.closed { s with rem := { s.rem with missed := s.rem.missed + 1, running := false } } = false := hc
      rw [close_of_open _ _ hopen]
      refine ⟨rInt, rStop, rTol, rfl, nofun, nofun, (show lastRecv s.recvs ≤ s.now by omega), fun _ => Nat.le_refl _, ?_⟩
      intro t ht hs
      refine ⟨rfl, ?_⟩
      show s.now ≤ t + (max n 1 + 1) * r
      by_cases h' : t + (max n 1 + 1) * r ≤ s0.now
      · have := (rSilence t h' hs).1
        rw [hc] at this; cases this
      · omega

theorem invR_step (r n : Nat) (s : Sess) (e : Ev) (h : InvR r n s) : InvR r n (s.step e) := by
  cases e with
  | adv =>
    obtain ⟨m, ws, e⟩ := tickLocal_frame s.bump
    show InvR r n s.bump.tickLocal.tickRemote
    rw [e]
    exact invR_tick r n s _ h rfl rfl rfl rfl rfl
  | send | sendHb => exact invR_sendMsg r n s _ h
  | recv k => exact invR_dataReceived r n s k h
  | close => exact invR_close r n s _ h
  | sendFailed => exact h

theorem invR_run (l r tl n : Nat) (hr : 1 ≤ r) (evs : List Ev) : InvR r n ((startWith l r tl n).run evs) :=
  run_inv (P := InvR r n) (fun s e h => invR_step r n s e h) evs _ (invR_start l r tl n hr)

theorem tickLocal_writes_origin (s : Sess) (w : Write) (hw : w ∈ s.tickLocal.writes) : w ∈ s.writes ∨ w.origin = .mon := by
  unfold Sess.tickLocal at hw
  simp only [] at hw
  split at hw
  · simp only [sendMsg_writes, List.mem_cons] at hw
    rcases hw with rfl | hw
    · right; rfl
    · left; exact hw
  · left; exact hw

theorem tickRemote_writes (s : Sess) : s.tickRemote.writes = s.writes := by
  rcases tickRemote_cases s with ⟨r, e⟩ | ⟨r, e⟩ <;> rw [e] <;> simp

theorem no_app_writes (evs : List Ev) (s : Sess) (hno : ∀ e ∈ evs, e ≠ .send)
    (h : ∀ w ∈ s.writes, w.origin ≠ .app) : ∀ w ∈ (s.run evs).writes, w.origin ≠ .app := by
  induction evs generalizing s with
  | nil => exact h
  | cons e evs ih =>
    rw [run_cons]
    apply ih
    · intro e' he'; exact hno e' (by simp [he'])
    · have hne : e ≠ .send := hno e (by simp)
      cases e with
      | adv =>
        intro w hw
        simp only [Sess.step, tickRemote_writes] at hw
        rcases tickLocal_writes_origin _ w hw with h' | h'
        · exact h w (by simpa using h')
        · simp [h']
      | send => exact absurd rfl hne
      | sendHb =>
        intro w hw
        simp only [Sess.step, sendMsg_writes, List.mem_cons] at hw
        rcases hw with rfl | hw
        · simp
        · exact h w hw
      | recv k | close => intro w hw; exact h w (by simpa [Sess.step] using hw)
      | sendFailed => exact h

theorem recvIn_eq_false_of_lt (rs : List (Nat × RecvKind)) (a b : Nat) (h : ∀ x ∈ rs, x.1 < a) : recvIn rs a b = false := by
  rw [recvIn_false_iff]
  intro x hx hab
  have := h x hx
  omega

theorem recvIn_upper (rs : List (Nat × RecvKind)) (a b b' : Nat) (h : ∀ x ∈ rs, x.1 < b) (hb : b ≤ b') :
    recvIn rs a b' = recvIn rs a b := by
  induction rs with
  | nil => rfl
  | cons x rs ih =>
    have hx := h x (by simp)
    have := ih (fun y hy => h y (by simp [hy]))
    simp only [recvIn_cons, this]
    have e : decide (x.1 < b') = decide (x.1 < b) := by
      have h1 : x.1 < b' := by omega
      simp [h1, hx]
    rw [e]

/-- the remote monitor's side, exact version: a trip is preceded by a silent period between two ticks -/
structure InvQ (r : Nat) (s : Sess) : Prop where
  int : s.rem.interval = r
  stop : s.rem.stopWhenNoActivity = true
  running : s.rem.running = !s.closed
  left : s.closed = false → 1 ≤ s.rem.left ∧ s.rem.left ≤ r
  ge : s.closed = false → r ≤ s.now + s.rem.left
  times : ∀ x ∈ s.recvs, x.1 ≤ s.now
  /-- `_pinged` clear means: nothing arrived since the pending sleep began -/
  quiet : s.closed = false → s.rem.pinged = false → recvIn s.recvs (s.now + s.rem.left - r) (s.now + 1) = false
  closeT_le : s.closed = true → s.closeT ≤ s.now
  /-- a close by the monitor came after a full interval without arrival -/
  witness : s.closed = true → s.closedByMon = true → r ≤ s.closeT ∧ recvIn s.recvs (s.closeT - r) s.closeT = false

theorem invQ_start (l r tl n : Nat) (hr : 1 ≤ r) : InvQ r (startWith l r tl n) := by
  refine ⟨rfl, rfl, rfl, ?_, ?_, ?_, ?_, ?_, ?_⟩ <;> simp [startWith, Mon.start]
  omega

theorem invQ_congr (r : Nat) (s s' : Sess) (h1 : s'.now = s.now) (h2 : s'.rem = s.rem) (h3 : s'.closed = s.closed)
    (h4 : s'.closeT = s.closeT) (h5 : s'.recvs = s.recvs) (h6 : s'.closedByMon = s.closedByMon)
    (h : InvQ r s) : InvQ r s' := by
  obtain ⟨qInt, qStop, qRun, qLeft, qGe, qTimes, qQuiet, qCloseT, qWitness⟩ := h
  constructor <;> simp only [h1, h2, h3, h4, h5, h6] <;> assumption

theorem invQ_sendMsg (r : Nat) (s : Sess) (o : Origin) (h : InvQ r s) : InvQ r (s.sendMsg o) :=
  invQ_congr r s _ rfl rfl rfl rfl rfl rfl h

theorem invQ_close (r : Nat) (s : Sess) (h : InvQ r s) : InvQ r (s.close false) := by
  cases hc : s.closed with
  | true => rw [close_of_closed _ _ hc]; exact h
  | false =>
    rw [close_of_open _ _ hc]
    obtain ⟨qInt, qStop, qRun, qLeft, qGe, qTimes, qQuiet, qCloseT, qWitness⟩ := h
    exact ⟨qInt, qStop, by simp, by simp, by simp, qTimes, by simp, by simp, by simp⟩

theorem invQ_dataReceived (r : Nat) (s : Sess) (k : RecvKind) (h : InvQ r s) : InvQ r (s.dataReceived k) := by
  obtain ⟨qInt, qStop, qRun, qLeft, qGe, qTimes, qQuiet, qCloseT, qWitness⟩ := h
  refine ⟨qInt, qStop, qRun, qLeft, qGe, ?_, by simp, qCloseT, ?_⟩
  · intro x hx
    simp only [dataReceived_recvs, List.mem_cons] at hx
    rcases hx with rfl | hx
    · simp
    · exact qTimes x hx
  · intro hc hm
    obtain ⟨b1, b2⟩ := qWitness hc hm
    have := qCloseT hc
    refine ⟨b1, ?_⟩
    simp only [dataReceived_recvs, dataReceived_closeT, recvIn_cons, b2, Bool.or_false]
    have : ¬ s.now < s.closeT := by omega
    simp [this]

theorem invQ_tick (r : Nat) (s0 s : Sess) (h : InvQ r s0) (h1 : s.now = s0.now + 1) (h2 : s.rem = s0.rem)
    (h3 : s.closed = s0.closed) (h4 : s.closeT = s0.closeT) (h5 : s.recvs = s0.recvs)
    (h6 : s.closedByMon = s0.closedByMon) : InvQ r s.tickRemote := by
  obtain ⟨qInt, qStop, qRun, qLeft, qGe, qTimes, qQuiet, qCloseT, qWitness⟩ := h
  rw [← h2] at qInt qStop qRun qLeft qGe qQuiet
  rw [← h3] at qRun qLeft qGe qQuiet qCloseT qWitness
  rw [← h4] at qCloseT qWitness
  rw [← h5] at qTimes qQuiet qWitness
  rw [← h6] at qWitness
  have htimes : ∀ x ∈ s.recvs, x.1 < s0.now + 1 := fun x hx => Nat.lt_succ_of_le (qTimes x hx)
  cases hc : s.closed with
  | true =>
    have hr : s.rem.running = false := by simp [qRun, hc]
    rw [tickRemote_stopped _ hr]
    refine ⟨qInt, qStop, qRun, by simp [hc], by simp [hc], ?_, by simp [hc], ?_, qWitness⟩
    · intro x hx; have := qTimes x hx; omega
    · intro _; have := qCloseT hc; omega
  | false =>
    have hr : s.rem.running = true := by simp [qRun, hc]
    obtain ⟨hl1, hl2⟩ := qLeft hc
    have hge := qGe hc
    have hq := qQuiet hc
    rcases tickRemote_running s hr qStop with ⟨hw, e⟩ | ⟨hl, m, -, e⟩ | ⟨hl, hp, -, e⟩ <;> rw [e]
    · refine ⟨qInt, qStop, qRun, ?_, ?_, ?_, ?_, by simp [hc], by simp [hc]⟩
      · intro _; simp; omega
      · intro _; simp; omega
      · intro x hx; have := qTimes x hx; simp at hx ⊢; omega
      · intro _ hp
        have e : s.now + (s.rem.left - 1) - r = s0.now + s.rem.left - r := by omega
        simp only [] at hp ⊢
        rw [e, h1, recvIn_upper s.recvs _ (s0.now + 1) (s0.now + 1 + 1) htimes (by omega)]
        exact hq hp
    · refine ⟨by simpa using qInt, by simpa using qStop, by simpa using qRun, ?_, ?_, ?_, ?_, by simp [hc], by simp [hc]⟩
      · intro _; simp [qInt]; omega
      · intro _; simp [qInt]
      · intro x hx; have := qTimes x hx; simp at hx ⊢; omega
      · -- the new window starts now: nothing has arrived in it yet
        intro _ _
        have e : s.now + r - r = s0.now + 1 := by omega
        simp only [qInt, h1] at e ⊢
        rw [e]; exact recvIn_eq_false_of_lt _ _ _ htimes
    · have hl1' : s.rem.left = 1 := by omega
      have hopen : Sess.closed { s with rem := { s.rem with missed := s.rem.missed + 1, running := false } } = false := hc
      rw [close_of_open _ _ hopen]
      refine ⟨qInt, qStop, by simp, by simp, by simp, ?_, by simp, by simp, ?_⟩
      · intro x hx; have := qTimes x hx; simp at hx ⊢; omega
      · intro _ _
        have := hq hp
        rw [hl1'] at this hge
        show r ≤ s.now ∧ recvIn s.recvs (s.now - r) s.now = false
        rw [h1]
        exact ⟨hge, this⟩

theorem invQ_step (r : Nat) (s : Sess) (e : Ev) (h : InvQ r s) : InvQ r (s.step e) := by
  cases e with
  | adv =>
    obtain ⟨m, ws, e⟩ := tickLocal_frame s.bump
    show InvQ r s.bump.tickLocal.tickRemote
    rw [e]
    exact invQ_tick r s _ h rfl rfl rfl rfl rfl rfl
  | send | sendHb => exact invQ_sendMsg r s _ h
  | recv k => exact invQ_dataReceived r s k h
  | close => exact invQ_close r s h
  | sendFailed => exact h

theorem invQ_run (l r tl n : Nat) (hr : 1 ≤ r) (evs : List Ev) : InvQ r ((startWith l r tl n).run evs) :=
  run_inv (P := InvQ r) (fun s e h => invQ_step r s e h) evs _ (invQ_start l r tl n hr)

def Ev.eraseKind : Ev → Ev
  | .recv _ => .recv .hb
  | e => e

def Sess.forgetKinds (s : Sess) : Sess := { s with recvs := s.recvs.map fun x => (x.1, RecvKind.hb) }

theorem forget_tickLocal (s : Sess) : s.tickLocal.forgetKinds = s.forgetKinds.tickLocal := by
  have e : s.forgetKinds.loc = s.loc := rfl
  by_cases h : s.loc.adv.2 = true
  · simp only [Sess.tickLocal, e, h, if_true]; rfl
  · simp only [Sess.tickLocal, e, h]; rfl

theorem forget_close (s : Sess) (b : Bool) : (s.close b).forgetKinds = s.forgetKinds.close b := by
  have e : s.forgetKinds.closed = s.closed := rfl
  cases h : s.closed
  · simp only [Sess.close, e, h]; rfl
  · simp only [Sess.close, e, h, if_true]

theorem forget_tickRemote (s : Sess) : s.tickRemote.forgetKinds = s.forgetKinds.tickRemote := by
  have e : s.forgetKinds.rem = s.rem := rfl
  by_cases h : s.rem.adv.2 = true
  · simp only [Sess.tickRemote, e, h, if_true]; rw [forget_close]; rfl
  · simp only [Sess.tickRemote, e, h]; rfl

theorem forget_step (s : Sess) (e : Ev) : (s.step e).forgetKinds = s.forgetKinds.step e.eraseKind := by
  cases e with
  | adv =>
    show s.bump.tickLocal.tickRemote.forgetKinds = s.forgetKinds.bump.tickLocal.tickRemote
    rw [forget_tickRemote, forget_tickLocal]; rfl
  | send | sendHb | recv k => rfl
  | close => exact forget_close s false
  | sendFailed => rfl

theorem forget_run (evs : List Ev) (s : Sess) : (s.run evs).forgetKinds = s.forgetKinds.run (evs.map Ev.eraseKind) := by
  induction evs generalizing s with
  | nil => rfl
  | cons e evs ih => rw [run_cons, ih, forget_step]; rfl

def Sess.withTolR (s : Sess) (n : Nat) : Sess := { s with rem := { s.rem with tol := n } }

theorem wake_tol01 (m : Mon) (h : m.tol = 0) :
    Mon.wake { m with tol := 1 } = ({ m.wake.1 with tol := 1 }, m.wake.2) := by
  unfold Mon.wake
  simp only [h]
  split
  · rfl
  · have h1 : m.missed + 1 ≥ 0 := by omega
    have h2 : m.missed + 1 ≥ 1 := by omega
    simp only [h1, h2, if_true]
    split <;> rfl

theorem adv_tol01 (m : Mon) (h : m.tol = 0) :
    Mon.adv { m with tol := 1 } = ({ m.adv.1 with tol := 1 }, m.adv.2) := by
  unfold Mon.adv
  simp only []
  split
  · split
    · exact wake_tol01 m h
    · rfl
  · rfl

theorem adv_tol (m : Mon) : m.adv.1.tol = m.tol := by
  unfold Mon.adv Mon.wake
  split
  · split
    · split
      · rfl
      · simp only []; split
        · split <;> rfl
        · rfl
    · rfl
  · rfl

theorem tol01_tickLocal (s : Sess) : (s.tickLocal).withTolR 1 = (s.withTolR 1).tickLocal := by
  have e : (s.withTolR 1).loc = s.loc := rfl
  by_cases h : s.loc.adv.2 = true
  · simp only [Sess.tickLocal, e, h, if_true]; rfl
  · simp only [Sess.tickLocal, e, h]; rfl

theorem tol01_close (s : Sess) (b : Bool) : (s.close b).withTolR 1 = (s.withTolR 1).close b := by
  have e : (s.withTolR 1).closed = s.closed := rfl
  cases h : s.closed
  · simp only [Sess.close, e, h]; rfl
  · simp only [Sess.close, e, h, if_true]

theorem tol01_tickRemote (s : Sess) (h0 : s.rem.tol = 0) : (s.tickRemote).withTolR 1 = (s.withTolR 1).tickRemote := by
  have e : (s.withTolR 1).rem = { s.rem with tol := 1 } := rfl
  by_cases h : s.rem.adv.2 = true
  · simp only [Sess.tickRemote, e, adv_tol01 s.rem h0, h, if_true]; rw [tol01_close]; rfl
  · simp only [Sess.tickRemote, e, adv_tol01 s.rem h0, h]; rfl

theorem tickRemote_tol (s : Sess) : s.tickRemote.rem.tol = s.rem.tol := by
  by_cases h : s.rem.adv.2 = true
  · simp only [Sess.tickRemote, h, if_true]
    unfold Sess.close
    simp only []
    split
    · exact adv_tol s.rem
    · exact adv_tol s.rem
  · simp only [Sess.tickRemote, h]
    exact adv_tol s.rem

theorem step_tolR (s : Sess) (e : Ev) : (s.step e).rem.tol = s.rem.tol := by
  cases e with
  | adv =>
    show s.bump.tickLocal.tickRemote.rem.tol = s.rem.tol
    rw [tickRemote_tol, tickLocal_rem]; rfl
  | send | sendHb | recv k => rfl
  | close => unfold Sess.step Sess.close; simp only []; split <;> rfl
  | sendFailed => rfl

theorem tol01_step (s : Sess) (e : Ev) (h0 : s.rem.tol = 0) : (s.step e).withTolR 1 = (s.withTolR 1).step e := by
  cases e with
  | adv =>
    show s.bump.tickLocal.tickRemote.withTolR 1 = (s.withTolR 1).bump.tickLocal.tickRemote
    rw [tol01_tickRemote _ (by rw [tickLocal_rem]; exact h0), tol01_tickLocal]; rfl
  | send | sendHb | recv k => rfl
  | close => exact tol01_close s false
  | sendFailed => rfl

theorem tol01_run (evs : List Ev) (s : Sess) (h0 : s.rem.tol = 0) : (s.run evs).withTolR 1 = (s.withTolR 1).run evs := by
  induction evs generalizing s with
  | nil => rfl
  | cons e evs ih =>
    rw [run_cons, run_cons, ih _ (by rw [step_tolR]; exact h0), tol01_step s e h0]

def Sess.dropAppHb (s : Sess) : Sess := { s with writes := s.writes.filter fun w => w.origin != .appHb }

theorem dropAppHb_tickLocal (s : Sess) : s.tickLocal.dropAppHb = s.dropAppHb.tickLocal := by
  have e : s.dropAppHb.loc = s.loc := rfl
  by_cases h : s.loc.adv.2 = true
  · simp only [Sess.tickLocal, e, h, if_true]
    simp [Sess.dropAppHb, Sess.sendMsg, Origin.isHb]
  · simp only [Sess.tickLocal, e, h]; rfl

theorem dropAppHb_close (s : Sess) (b : Bool) : (s.close b).dropAppHb = s.dropAppHb.close b := by
  have e : s.dropAppHb.closed = s.closed := rfl
  cases h : s.closed
  · simp only [Sess.close, e, h]; rfl
  · simp only [Sess.close, e, h, if_true]

theorem dropAppHb_tickRemote (s : Sess) : s.tickRemote.dropAppHb = s.dropAppHb.tickRemote := by
  have e : s.dropAppHb.rem = s.rem := rfl
  by_cases h : s.rem.adv.2 = true
  · simp only [Sess.tickRemote, e, h, if_true]; rw [dropAppHb_close]; rfl
  · simp only [Sess.tickRemote, e, h]; rfl

theorem dropAppHb_step (s : Sess) (e : Ev) (he : e ≠ .sendHb) : (s.step e).dropAppHb = s.dropAppHb.step e := by
  cases e with
  | adv =>
    show s.bump.tickLocal.tickRemote.dropAppHb = s.dropAppHb.bump.tickLocal.tickRemote
    rw [dropAppHb_tickRemote, dropAppHb_tickLocal]; rfl
  | send => simp [Sess.step, Sess.dropAppHb, Sess.sendMsg, Origin.isHb]
  | sendHb => exact absurd rfl he
  | recv k => rfl
  | close => exact dropAppHb_close s false
  | sendFailed => rfl

theorem dropAppHb_sendHb (s : Sess) : (s.step .sendHb).dropAppHb = s.dropAppHb := by
  simp [Sess.step, Sess.dropAppHb, Sess.sendMsg, Origin.isHb]

theorem dropAppHb_run (evs : List Ev) (s : Sess) :
    (s.run evs).dropAppHb = s.dropAppHb.run (evs.filter fun e => e != .sendHb) := by
  induction evs generalizing s with
  | nil => rfl
  | cons e evs ih =>
    rw [run_cons, ih]
    by_cases he : e = .sendHb
    · subst he
      rw [dropAppHb_sendHb]
      simp
    · rw [dropAppHb_step s e he]
      have : (e != Ev.sendHb) = true := by simp [he]
      simp [this, run_cons]

end NasdaqModel.Monitor
