import NasdaqModel.Model.AppSession
import NasdaqModel.Lemmas.AppSessionLemmas0
/-
The application-session product machine (`Model/AppSession.lean`): projections of its small state algebra, what `d2Return` does,
and `IReach` — the inner component moves by inner events only.
-/
namespace NasdaqModel.App
open NasdaqModel

@[simp] theorem inner_setA (s : St) (t : ATid) (x : AStatus) : (s.setA t x).inner = s.inner := rfl
@[simp] theorem inner_setP (s : St) (t : ATid) (p : AProg) : (s.setP t p).inner = s.inner := rfl
@[simp] theorem inner_emit2 (s : St) (o : AObs) : (s.emit2 o).inner = s.inner := rfl
@[simp] theorem inner_spawn2 (s : St) (t : ATid) (p : AProg) : (s.spawn2 t p).inner = s.inner := rfl
@[simp] theorem inner_finish2 (s : St) (t : ATid) : (s.finish2 t).inner = s.inner := rfl
@[simp] theorem inner_cancel2 (s : St) (t : ATid) : (s.cancel2 t).inner = s.inner := by
  unfold St.cancel2; split <;> try rfl
  split <;> rfl
@[simp] theorem inner_wake2 (s : St) (t : ATid) : (s.wake2 t).inner = s.inner := by
  unfold St.wake2; split <;> rfl
@[simp] theorem inner_put2 (s : St) (v : Nat) : (s.put2 v).inner = s.inner := by
  unfold St.put2; rw [inner_wake2, inner_wake2]
@[simp] theorem inner_setEvent (s : St) : s.setEvent.inner = s.inner := by
  unfold St.setEvent; split <;> rfl

theorem d2Return_cases (s : St) :
    d2Return s = s ∨
    (∃ v, d2Return s = ((s.emit2 (.closeRet (.handler v) .ok)).emit2 (.msgExit v)).finish2 .D2) ∨
    (∃ v, d2Return s =
      { ((((s.emit2 (.closeRet (.handler v) .ok)).emit2 (.msgExit v)).setA .D2 .ready).setP .D2 .dispLoop) with imm2 := true }) ∨
    (∃ v, d2Return s = ((s.emit2 (.closeRet (.handler v) .ok)).emit2 (.msgAbandon v)).finish2 .D2) := by
  unfold d2Return
  split
  · split
    · rename_i v _
      split
      · exact Or.inr (Or.inl ⟨v, rfl⟩)
      · exact Or.inr (Or.inr (Or.inl ⟨v, rfl⟩))
    · rename_i v _
      exact Or.inr (Or.inr (Or.inr ⟨v, rfl⟩))
    · exact Or.inl rfl
  · exact Or.inl rfl

theorem d2Return_handlerClose (s : St) (v : Nat) (h1 : s.astatus .D2 = .inSoup) (h2 : s.aprog .D2 = .handlerClose v) :
    d2Return s = if s.q2Closed then ((s.emit2 (.closeRet (.handler v) .ok)).emit2 (.msgExit v)).finish2 .D2
      else { ((((s.emit2 (.closeRet (.handler v) .ok)).emit2 (.msgExit v)).setA .D2 .ready).setP .D2 .dispLoop) with imm2 := true } := by
  simp [d2Return, h1, h2]

theorem d2Return_cleanupClose (s : St) (v : Nat) (h1 : s.astatus .D2 = .inSoup) (h2 : s.aprog .D2 = .cleanupClose v) :
    d2Return s = ((s.emit2 (.closeRet (.handler v) .ok)).emit2 (.msgAbandon v)).finish2 .D2 := by
  simp [d2Return, h1, h2]

@[simp] theorem inner_d2Return (s : St) : (d2Return s).inner = s.inner := by
  rcases d2Return_cases s with h | ⟨v, h⟩ | ⟨v, h⟩ | ⟨v, h⟩ <;> simp only [h, St.emit2, St.setA, St.setP, St.finish2]

@[simp] theorem inner_feed1 (a : ACfg) (s : St) (n : Nat) : (feed1 a s n).inner = s.inner := by
  unfold feed1; split <;> simp

theorem feed_inner (a : ACfg) (ns : List Nat) (s : St) : (feed a s ns).inner = s.inner := by
  induction ns generalizing s with
  | nil => rfl
  | cons n ns ih =>
    show (feed a (feed1 a s n) ns).inner = s.inner
    rw [ih]; simp

theorem innerStep_inner (a : ACfg) (s : St) (e : Sess.Ev) :
    (innerStep a s e).inner = Sess.step (innerCfg a) s.inner e := by
  simp only [innerStep, feed_inner]

theorem closerOf_some {i : Sess.St} {t : Sess.Tid} (h : closerOf i = some t) : ∃ k c, i.cstage = .cb t k c := by
  unfold closerOf at h
  split at h
  · rename_i t' k c hs
    cases h
    exact ⟨k, c, hs⟩
  · cases h

def IReach (a : ACfg) (s s' : St) : Prop := ∃ es, s'.inner = Sess.runEvs (innerCfg a) s.inner es

theorem IReach.refl (a : ACfg) (s : St) : IReach a s s := ⟨[], rfl⟩
theorem IReach.of_eq {a : ACfg} {s s' : St} (h : s'.inner = s.inner) : IReach a s s' := ⟨[], h⟩
theorem IReach.trans {a : ACfg} {s1 s2 s3 : St} (h1 : IReach a s1 s2) (h2 : IReach a s2 s3) : IReach a s1 s3 := by
  obtain ⟨e1, h1⟩ := h1
  obtain ⟨e2, h2⟩ := h2
  exact ⟨e1 ++ e2, by rw [h2, h1]; simp [Sess.runEvs, List.foldl_append]⟩
theorem IReach.innerStep (a : ACfg) (s : St) (e : Sess.Ev) : IReach a s (innerStep a s e) :=
  ⟨[e], by rw [innerStep_inner]; rfl⟩
@[simp] theorem construct_inner (a : ACfg) (s : St) : (construct a s).inner = s.inner := by
  unfold construct
  split
  · simp only; split <;> rfl
  · rfl

end NasdaqModel.App
