import NasdaqModel.Lemmas.SessionLemmas4
/-
Login at trace level (C11), part 0: tools.

* `Before P tr` — "whenever `y` occurs in the trace, `P` holds of what precedes it and `y`": the form in which every
  "… occurs before …" clause of C11 is stated, with the rule for extending a trace by one observable.
* `CE ab t c s s'` — a *specification of the close machinery* (`enterClose`, `stepInClose`, i.e. `AsyncSession.close()` run by
  task `t` with continuation `c`): which parts of the state it leaves alone, what it may emit, where the closer ends up.
  Every login invariant is carried through the close body by this one specification instead of by a traversal of its own
  (`EnterSpec`: the same for the whole call `await self.close()`, which also sets the closed flags, whereas `CE` describes a
  part of the body on a session already closed; `CloseStep`: what the call and a later step inside it have in common).
The operations of the state algebra and the proof rules for `loginResume`, `startRecv`, `stepRun` are in `Lemmas/SessionOps.lean`.
-/
namespace NasdaqModel.Sess

/-- for every occurrence of an observable `y` in `tr`, `P (what precedes it) y` -/
def Before (P : List Obs → Obs → Prop) (tr : List Obs) : Prop := ∀ l1 y l2, tr = l1 ++ y :: l2 → P l1 y

theorem before_nil (P : List Obs → Obs → Prop) : Before P [] := by
  intro l1 y l2 h; simp at h

theorem snoc_split {α} {tr l1 l2 : List α} {o y : α} (h : tr ++ [o] = l1 ++ y :: l2) :
    (l2 = [] ∧ l1 = tr ∧ y = o) ∨ ∃ l2', l2 = l2' ++ [o] ∧ tr = l1 ++ y :: l2' := by
  rcases List.eq_nil_or_concat l2 with h2 | ⟨l2', z, h2⟩
  · subst h2
    left
    have : tr ++ [o] = l1 ++ [y] := h
    have := List.append_inj' this rfl
    simp_all
  · subst h2
    right
    have : tr ++ [o] = (l1 ++ y :: l2') ++ [z] := by simpa using h
    have := List.append_inj' this rfl
    refine ⟨l2', ?_, this.1⟩
    simp_all

theorem before_snoc {P : List Obs → Obs → Prop} {tr : List Obs} {o : Obs} :
    Before P (tr ++ [o]) ↔ Before P tr ∧ P tr o := by
  constructor
  · intro h
    refine ⟨?_, h tr o [] rfl⟩
    intro l1 y l2 e
    exact h l1 y (l2 ++ [o]) (by simp [e])
  · rintro ⟨h1, h2⟩ l1 y l2 e
    rcases snoc_split e with ⟨_, rfl, rfl⟩ | ⟨l2', _, e'⟩
    · exact h2
    · exact h1 l1 y l2' e'

theorem before_append {P : List Obs → Obs → Prop} {tr l : List Obs} (h : Before P tr) (hl : ∀ o ∈ l, ∀ l', P l' o) :
    Before P (tr ++ l) := by
  induction l generalizing tr with
  | nil => simpa using h
  | cons o l ih =>
    have e : tr ++ o :: l = (tr ++ [o]) ++ l := by simp
    rw [e]
    exact ih (before_snoc.mpr ⟨h, hl o (by simp) _⟩) (fun o' ho' => hl o' (by simp [ho']))

theorem Before.mono {P Q : List Obs → Obs → Prop} {tr : List Obs} (h : Before P tr) (hpq : ∀ l y, P l y → Q l y) : Before Q tr :=
  fun l1 y l2 e => hpq _ _ (h l1 y l2 e)

theorem mem_of_split {α} {tr l1 l2 : List α} {y : α} (h : tr = l1 ++ y :: l2) : y ∈ tr := by
  rw [h]; simp

theorem mem_left_of_split {α} {tr l1 l2 : List α} {x y : α} (h : tr = l1 ++ y :: l2) (hx : x ∈ l1) : x ∈ tr := by
  rw [h]; simp [hx]

/-- what the close body may emit, given the continuation of the closer -/
def closeObs (c : Cont) (o : Obs) : Prop :=
  o = .tclose ∨ o = .cbEnter ∨ o = .cbExit ∨ (∃ n, c = .handlerTail n ∧ o = .msgExit n) ∨
    (∃ u r, c = .userTail u r ∧ o = .ret u r.toRes)

def contOf : CStage → Option Cont
  | .body _ _ c => some c
  | .cb _ _ c => some c
  | _ => none

/-- effect of (a part of) the close body run by task `t` with continuation `c`; `ab`: the step may be the one in which a
    user's cancellation lands inside the user's close callback -/
structure CE (ab : Bool) (t : Tid) (c : Cont) (s s' : St) : Prop where
  vres : s'.vres = s.vres
  busy : s'.rcvBusy = s.rcvBusy
  ctask : s'.closingTask = s.closingTask
  queue : s'.queue = s.queue
  closed : s'.closed = s.closed
  qclosed : s'.qClosed = s.qClosed
  disp : s'.dispSet = true → s.dispSet = true
  /-- user tasks other than the closer, and the closing task, are not touched -/
  other : ∀ y, y ≠ t → (∀ j, stageOf y ≠ some j) → s'.status y = s.status y ∧ s'.prog y = s.prog y
  nabs : ∀ y, s'.status y = .absent ↔ s.status y = .absent
  /-- the closer's own program: unchanged, inside `close()`, or (reader / dispatcher) back in its loop -/
  sprog : s'.prog t = s.prog t ∨ s'.prog t = .inClose ∨ t = .R ∨ t = .D
  tr : ∃ l, s'.trace = s.trace ++ l ∧
    ∀ o ∈ l, closeObs c o ∨ (ab = true ∧ ∃ u r, c = .userTail u r ∧ o = .ret u .cancelled)
  stage : s'.cstage = s.cstage ∨ (∃ pc, s'.cstage = .body t pc c) ∨ (∃ k, s'.cstage = .cb t k c) ∨ s'.cstage = .finished ∨
    (ab = true ∧ s'.cstage = .aborted)

/-- what became of the closer when the step ends: it has ended, it is (still) inside `close()`, or it is the reader /
    dispatcher back in its loop -/
def Fin (t : Tid) (s' : St) : Prop :=
  s'.status t = .done ∨ (s'.prog t = .inClose ∧ s'.status t ≠ .cancelled) ∨ t = .R ∨ t = .D

theorem CE.refl (ab : Bool) (t : Tid) (c : Cont) (s : St) : CE ab t c s s :=
  ⟨rfl, rfl, rfl, rfl, rfl, rfl, id, fun _ _ _ => ⟨rfl, rfl⟩, fun _ => Iff.rfl, Or.inl rfl, ⟨[], by simp, by simp⟩, Or.inl rfl⟩

theorem CE.trans {ab : Bool} {t : Tid} {c : Cont} {s s1 s2 : St} (h1 : CE ab t c s s1) (h2 : CE ab t c s1 s2) :
    CE ab t c s s2 := by
  obtain ⟨l1, e1, o1⟩ := h1.tr
  obtain ⟨l2, e2, o2⟩ := h2.tr
  refine ⟨h2.vres.trans h1.vres, h2.busy.trans h1.busy, h2.ctask.trans h1.ctask, h2.queue.trans h1.queue,
    h2.closed.trans h1.closed, h2.qclosed.trans h1.qclosed, fun h => h1.disp (h2.disp h), ?_, ?_, ?_, ?_, ?_⟩
  · intro y hy hj
    obtain ⟨a1, b1⟩ := h1.other y hy hj
    obtain ⟨a2, b2⟩ := h2.other y hy hj
    exact ⟨a2.trans a1, b2.trans b1⟩
  · intro y; exact (h2.nabs y).trans (h1.nabs y)
  · rcases h2.sprog with h | h
    · rw [h]; exact h1.sprog
    · exact Or.inr h
  · refine ⟨l1 ++ l2, by rw [e2, e1, List.append_assoc], ?_⟩
    intro o ho
    rcases List.mem_append.mp ho with h | h
    · exact o1 o h
    · exact o2 o h
  · rcases h2.stage with h | h
    · rw [h]; exact h1.stage
    · exact Or.inr h

/-! The close body is a sequence of small state changes.  Each of them satisfies the specification (the lemmas up to
    `CE.cancel`), and the specification is transitive: that is how every piece of the machinery is handled below. -/

theorem CE.of_frame {ab : Bool} {t : Tid} {c : Cont} {s s' : St} (l : List Obs)
    (h1 : s'.vres = s.vres) (h2 : s'.rcvBusy = s.rcvBusy) (h3 : s'.closingTask = s.closingTask) (h4 : s'.queue = s.queue)
    (h5 : s'.closed = s.closed) (h6 : s'.qClosed = s.qClosed) (h7 : s'.dispSet = true → s.dispSet = true)
    (h8 : s'.status = s.status) (h9 : s'.prog = s.prog) (h10 : s'.trace = s.trace ++ l)
    (h11 : ∀ o ∈ l, closeObs c o ∨ (ab = true ∧ ∃ u r, c = .userTail u r ∧ o = .ret u .cancelled))
    (h12 : s'.cstage = s.cstage ∨ (∃ pc, s'.cstage = .body t pc c) ∨ (∃ k, s'.cstage = .cb t k c) ∨ s'.cstage = .finished ∨
      (ab = true ∧ s'.cstage = .aborted)) :
    CE ab t c s s' :=
  ⟨h1, h2, h3, h4, h5, h6, h7, fun y _ _ => by rw [h8, h9]; exact ⟨rfl, rfl⟩, fun y => by rw [h8], Or.inl (by rw [h9]),
    ⟨l, h10, h11⟩, h12⟩

/-- what `CE` reads, apart from the dispatcher flag -/
def viewCE (s : St) :=
  (s.vres, s.rcvBusy, s.closingTask, s.queue, s.closed, s.qClosed, s.status, s.prog, s.trace, s.cstage)

theorem CE.frame {ab : Bool} {t : Tid} {c : Cont} {s s' : St} (h : viewCE s' = viewCE s) (hd : s'.dispSet = true → s.dispSet = true) :
    CE ab t c s s' := by
  simp only [viewCE, Prod.mk.injEq] at h
  obtain ⟨h1, h2, h3, h4, h5, h6, h8, h9, h10, h12⟩ := h
  exact CE.of_frame [] h1 h2 h3 h4 h5 h6 hd h8 h9 (by rw [h10, List.append_nil]) (fun _ h => nomatch h) (Or.inl h12)

theorem CE.emit {ab : Bool} {t : Tid} {c : Cont} {s : St} {o : Obs}
    (h : closeObs c o ∨ (ab = true ∧ ∃ u r, c = .userTail u r ∧ o = .ret u .cancelled)) : CE ab t c s (s.emit o) :=
  CE.of_frame [o] rfl rfl rfl rfl rfl rfl id rfl rfl rfl (fun o' ho => by rw [List.mem_singleton.mp ho]; exact h) (Or.inl rfl)

theorem CE.setStage {ab : Bool} {t : Tid} {c : Cont} {s : St} {cs : CStage}
    (h : (∃ pc, cs = .body t pc c) ∨ (∃ k, cs = .cb t k c) ∨ cs = .finished ∨ (ab = true ∧ cs = .aborted)) :
    CE ab t c s { s with cstage := cs } :=
  CE.of_frame [] rfl rfl rfl rfl rfl rfl id rfl rfl (List.append_nil _).symm (fun _ h => nomatch h) (Or.inr h)

theorem CE.restatus {ab : Bool} {t : Tid} {c : Cont} {s : St} {x : Status} (hal : alive (s.status t) = true) (hx : x ≠ .absent) :
    CE ab t c s (s.setStatus t x) := by
  refine ⟨rfl, rfl, rfl, rfl, rfl, rfl, id, fun y hy _ => ⟨if_neg hy, rfl⟩, ?_, Or.inl rfl,
    ⟨[], (List.append_nil _).symm, fun _ h => nomatch h⟩, Or.inl rfl⟩
  intro y
  simp only [St.setStatus]
  split
  · rename_i h; subst h
    exact ⟨fun h => absurd h hx, fun h => by rw [h] at hal; simp [alive] at hal⟩
  · rfl

theorem CE.setProg {ab : Bool} {t : Tid} {c : Cont} {s : St} {p : Prog} (hp : p = .inClose ∨ t = .R ∨ t = .D) :
    CE ab t c s (s.setProg t p) := by
  refine ⟨rfl, rfl, rfl, rfl, rfl, rfl, id, fun y hy _ => ⟨rfl, if_neg hy⟩, fun _ => Iff.rfl, Or.inr ?_,
    ⟨[], (List.append_nil _).symm, fun _ h => nomatch h⟩, Or.inl rfl⟩
  rcases hp with h | h
  · exact Or.inl ((if_pos rfl).trans h)
  · exact Or.inr h

theorem CE.finish {ab : Bool} {t : Tid} {c : Cont} {s : St} (hnw : ∀ y, s.status y ≠ .waitT t)
    (hal : alive (s.status t) = true) : CE ab t c s (s.finish t) := by
  have hst : ∀ y, (s.finish t).status y = if y = t then .done else s.status y := by
    intro y
    rw [finish_status, if_neg (hnw y)]
  refine ⟨rfl, rfl, rfl, rfl, rfl, rfl, id, ?_, ?_, Or.inl rfl, ⟨[], (List.append_nil _).symm, fun _ h => nomatch h⟩, Or.inl rfl⟩
  · intro y hy _
    rw [hst, if_neg hy]
    exact ⟨rfl, rfl⟩
  · intro y
    rw [hst]
    split
    · rename_i h; subst h
      exact ⟨fun h => by simp at h, fun h => by rw [h] at hal; simp [alive] at hal⟩
    · rfl

theorem Fin.finish (s : St) (t : Tid) : Fin t (s.finish t) := Or.inl (if_pos rfl)

theorem stopTarget_stageOf {pc : Nat} {x : Tid} (h : stopTarget pc = some x) : stageOf x = some pc := by
  unfold stopTarget at h
  split at h <;> simp at h <;> subst h <;> rfl

theorem CE.cancel {ab : Bool} {t : Tid} {c : Cont} {s : St} {x : Tid} {pc : Nat} (hx : stageOf x = some pc)
    (ha : alive (s.status x) = true) (hxw : ∀ z, s.status x ≠ .waitT z) : CE ab t c s (s.cancelTask x) := by
  obtain ⟨f1, f2, f3, f4, f5, f6, f7, f8, f9⟩ := cancelTask_flags s x
  refine ⟨f4, f1, f2, f5, f6, f7, by rw [f3]; exact id, ?_, ?_, Or.inl (by rw [cancelTask_prog]),
    ⟨[], by rw [f8, List.append_nil], fun _ h => nomatch h⟩, Or.inl f9⟩
  · intro y _ hj
    have hyx : y ≠ x := fun e => hj pc (e ▸ hx)
    rw [cancelTask_status ha hxw, if_neg hyx, cancelTask_prog]
    exact ⟨rfl, rfl⟩
  · intro y
    rw [cancelTask_status ha hxw]
    split
    · rename_i h; subst h
      exact ⟨fun h => by simp at h, fun h => by rw [h] at ha; simp [alive] at ha⟩
    · rfl

theorem closeObs_tclose (c : Cont) : closeObs c .tclose := Or.inl rfl
theorem closeObs_cbEnter (c : Cont) : closeObs c .cbEnter := Or.inr (Or.inl rfl)
theorem closeObs_cbExit (c : Cont) : closeObs c .cbExit := Or.inr (Or.inr (Or.inl rfl))

/-- the waiting structure outside the closer: only user calls wait, and only for the receive helper -/
def UWait (s : St) : Prop := ∀ y z, s.status y = .waitT z → ∃ u, y = .U u ∧ z = .V

theorem UWait.of_status {s s' : St} (h : s'.status = s.status) (w : UWait s) : UWait s' := by
  intro y z hy; rw [h] at hy; exact w y z hy

theorem UWait.nobody {s : St} {t : Tid} {c : Cont} (w : UWait s) (hc : contOk t c) : ∀ y, s.status y ≠ .waitT t := by
  intro y hy
  obtain ⟨_, _, hz⟩ := w y t hy
  exact contOk_ne_V hc hz

theorem runCont_CE {ab : Bool} {s : St} {t : Tid} {c : Cont} (hnw : ∀ y, s.status y ≠ .waitT t) (hc : contOk t c)
    (hst : s.status t = .ready) : CE ab t c s (runCont s t c) ∧ Fin t (runCont s t c) := by
  have hal : alive (s.status t) = true := by rw [hst]; rfl
  have resume : ∀ (s1 : St) (p : Prog), s1.status = s.status → t = .R ∨ t = .D →
      CE ab t c s1 ((s1.setStatus t .ready).setProg t p) := by
    intro s1 p h1 ht
    exact (CE.restatus (by rw [h1]; exact hal) (by simp)).trans (CE.setProg (Or.inr ht))
  cases c with
  | readerTail =>
    exact ⟨(CE.frame (s := s) (s' := { s with rStopped := true }) rfl id).trans (resume _ .readerLoop rfl (Or.inl hc)), Or.inr (Or.inr (Or.inl hc))⟩
  | handlerTail n =>
    have e1 : CE ab t (.handlerTail n) s (s.emit (.msgExit n)) := CE.emit (Or.inl (Or.inr (Or.inr (Or.inr (Or.inl ⟨n, rfl, rfl⟩)))))
    exact ⟨(e1.trans (resume _ .dispLoop rfl (Or.inr hc))).trans (CE.frame rfl id), Or.inr (Or.inr (Or.inr hc))⟩
  | monitorTail => exact ⟨CE.finish hnw hal, Fin.finish s t⟩
  | closingTail => exact ⟨CE.finish hnw hal, Fin.finish s t⟩
  | userTail u r =>
    have e1 : CE ab t (.userTail u r) s (s.emit (.ret u r.toRes)) := CE.emit (Or.inl (Or.inr (Or.inr (Or.inr (Or.inr ⟨u, r, rfl, rfl⟩)))))
    exact ⟨e1.trans (CE.finish hnw hal), Fin.finish _ t⟩

theorem closeTail_CE {ab : Bool} {cfg : Cfg} {s : St} {t : Tid} {c : Cont} (hw : UWait s) (hc : contOk t c)
    (hst : s.status t = .ready) : CE ab t c s (closeTail cfg s t c) ∧ Fin t (closeTail cfg s t c) := by
  have hnw := hw.nobody hc
  have ret : ∀ (s1 : St), s1.status = s.status → CE ab t c s s1 →
      CE ab t c s (runCont { s1 with cstage := .finished } t c) ∧ Fin t (runCont { s1 with cstage := .finished } t c) := by
    intro s1 h1 e1
    obtain ⟨e, f⟩ := runCont_CE (ab := ab) (s := { s1 with cstage := .finished }) (t := t) (c := c)
      (by rw [show ({ s1 with cstage := .finished } : St).status = s.status from h1]; exact hnw) hc
      (by rw [show ({ s1 with cstage := .finished } : St).status = s.status from h1]; exact hst)
    exact ⟨(e1.trans (CE.setStage (Or.inr (Or.inr (Or.inl rfl))))).trans e, f⟩
  have e1 : CE ab t c s (s.emit .tclose) := CE.emit (Or.inl (closeObs_tclose c))
  unfold closeTail
  simp only
  split
  · exact ret _ rfl e1
  · have e2 : CE ab t c s ((s.emit .tclose).emit .cbEnter) := e1.trans (CE.emit (Or.inl (closeObs_cbEnter c)))
    split
    · rename_i k _
      refine ⟨e2.trans ((CE.restatus (by rw [show ((s.emit .tclose).emit .cbEnter).status = s.status from rfl, hst]; rfl) (by simp)).trans
        ((CE.setProg (Or.inl rfl)).trans (CE.setStage (Or.inr (Or.inl ⟨k, rfl⟩))))), Or.inr (Or.inl ⟨?_, ?_⟩)⟩
      · simp only [St.setProg, if_true]
      · simp [St.setProg, St.setStatus]
    · exact ret _ rfl (e2.trans (CE.emit (Or.inl (closeObs_cbExit c))))

theorem suspendOn_CE {ab : Bool} {s : St} {t x : Tid} {c : Cont} {pc : Nat} (hw : UWait s) (hx : stopTarget pc = some x)
    (hne : x ≠ t) (ha : alive (s.status x) = true) (hstt : s.status t = .ready) :
    CE ab t c s (suspendOn s t x pc c) ∧ Fin t (suspendOn s t x pc c) := by
  have hsx := stopTarget_stageOf hx
  have hxw : ∀ z, s.status x ≠ .waitT z := by
    intro z hz
    obtain ⟨u, hu, _⟩ := hw x z hz
    subst hu; exact stageOf_user u pc hsx
  have hal : alive ((s.cancelTask x).status t) = true := by
    rw [cancelTask_status ha hxw, if_neg (Ne.symm hne), hstt]; rfl
  refine ⟨(CE.cancel hsx ha hxw).trans ((CE.restatus hal (by simp)).trans
    ((CE.setProg (Or.inl rfl)).trans (CE.setStage (Or.inl ⟨pc + 1, rfl⟩)))), Or.inr (Or.inl ⟨?_, ?_⟩)⟩
  · simp only [suspendOn, St.setProg, if_true]
  · simp [suspendOn, St.setProg, St.setStatus]

theorem execClose_CE {ab : Bool} {cfg : Cfg} {s : St} {t : Tid} {c : Cont} (pc : Nat) (hw : UWait s) (hc : contOk t c)
    (hst : s.status t = .ready) : CE ab t c s (execClose cfg s t c pc) ∧ Fin t (execClose cfg s t c pc) := by
  refine execClose_rule cfg t c (fun s' => UWait s' ∧ s'.status t = .ready ∧ CE ab t c s s')
    (fun s' => CE ab t c s s' ∧ Fin t s') ?_ ?_ ?_ ?_ pc s ⟨hw, hst, CE.refl ab t c s⟩
  · rintro s' ⟨w, st, e⟩
    exact ⟨w.of_status rfl, st, e.trans (CE.frame rfl (by intro h; simp at h))⟩
  · rintro s' ⟨w, st, e⟩
    exact ⟨w.of_status rfl, st, e.trans (CE.frame rfl id)⟩
  · rintro s' x pc' ⟨w, st, e⟩ hx hne ha
    have := suspendOn_CE (ab := ab) (c := c) w hx hne ha st
    exact ⟨e.trans this.1, this.2⟩
  · rintro s' ⟨w, st, e⟩
    have := closeTail_CE (ab := ab) (cfg := cfg) w hc st
    exact ⟨e.trans this.1, this.2⟩

/-- specification of `await self.close()` called by the running task `t` -/
structure EnterSpec (t : Tid) (c : Cont) (s s' : St) : Prop where
  vres : s'.vres = s.vres
  busy : s'.rcvBusy = s.rcvBusy
  ctask : s'.closingTask = s.closingTask
  queue : s'.queue = s.queue
  closed : s'.closed = true
  qclosed : s'.qClosed = true
  disp : s'.dispSet = true → s.dispSet = true
  other : ∀ y, y ≠ t → (∀ j, stageOf y ≠ some j) → s'.status y = s.status y ∧ s'.prog y = s.prog y
  nabs : ∀ y, s'.status y = .absent ↔ s.status y = .absent
  sprog : s'.prog t = s.prog t ∨ s'.prog t = .inClose ∨ t = .R ∨ t = .D
  tr : ∃ l, s'.trace = s.trace ++ l ∧ ∀ o ∈ l, closeObs c o
  stage : (s.closed = true ∧ s'.cstage = s.cstage) ∨ (∃ pc, s'.cstage = .body t pc c) ∨ (∃ k, s'.cstage = .cb t k c) ∨
    s'.cstage = .finished
  fin : Fin t s'

structure ClosePre (s : St) (t : Tid) : Prop where
  hq : s.closed = true → s.qClosed = true
  hw : s.closed = false → UWait s
  hnw : s.closed = true → ∀ y, s.status y ≠ .waitT t
  hst : s.status t = .ready

theorem ClosePre.of_inv {cfg : Cfg} {s : St} (a : InvA cfg s) (i : InvB s) {t : Tid} {c : Cont}
    (hst : s.status t = .ready) (hc : contOk t c) : ClosePre s t := by
  refine ⟨fun h => a.qclosed (a.closed_iff.mp h), fun h => i.idle_waitt (idle_of_open a h), ?_, hst⟩
  intro _ y hy
  rcases i.waitt y t hy with ⟨pc, c', hb⟩ | ⟨u, _, hz⟩
  · have := (i.bwait y pc c' t hb hy).2; rw [hst] at this; simp at this
  · exact contOk_ne_V hc hz

theorem ClosePre.same {s s' : St} {t : Tid} (p : ClosePre s t) (h1 : s'.closed = s.closed) (h2 : s'.qClosed = s.qClosed)
    (h3 : s'.status = s.status) : ClosePre s' t :=
  ⟨by rw [h1, h2]; exact p.hq, by rw [h1]; intro h; exact (p.hw h).of_status h3, by rw [h1, h3]; exact p.hnw, by rw [h3]; exact p.hst⟩

/-- a cancelled task that is about to call `close()` (`except CancelledError: await self.close()`) -/
theorem ClosePre.of_cancelled {cfg : Cfg} {s s' : St} (a : InvA cfg s) (i : InvB s) {t : Tid} {c : Cont}
    (hc : contOk t c) (hus : ∀ j, stageOf t ≠ some j)
    (h1 : s'.closed = s.closed) (h2 : s'.qClosed = s.qClosed)
    (h3 : ∀ y, s'.status y = if y = t then .ready else s.status y) : ClosePre s' t := by
  refine ⟨by rw [h1, h2]; exact fun h => a.qclosed (a.closed_iff.mp h), ?_, ?_, by rw [h3]; simp⟩
  · intro h y z hy
    rw [h1] at h
    rw [h3] at hy
    split at hy
    · simp at hy
    · exact i.idle_waitt (idle_of_open a h) y z hy
  · intro _ y hy
    rw [h3] at hy
    split at hy
    · simp at hy
    · rcases i.waitt y t hy with ⟨pc, c', hb⟩ | ⟨u, _, hz⟩
      · -- a closer awaits stop targets only
        exact absurd (i.bwait y pc c' t hb hy).1 (hus _)
      · exact contOk_ne_V hc hz

theorem enterClose_spec {cfg : Cfg} {s : St} {t : Tid} {c : Cont} (p : ClosePre s t) (hc : contOk t c) :
    EnterSpec t c s (enterClose cfg s t c) := by
  have hst := p.hst
  unfold enterClose
  split
  · rename_i hcl
    obtain ⟨e, f⟩ := runCont_CE (ab := false) (p.hnw hcl) hc hst
    obtain ⟨l, el, ol⟩ := e.tr
    refine ⟨e.vres, e.busy, e.ctask, e.queue, by rw [e.closed]; exact hcl, ?_, e.disp, e.other, e.nabs, e.sprog,
      ⟨l, el, fun o ho => (ol o ho).resolve_right (by simp)⟩, ?_, f⟩
    · rw [e.qclosed]; exact p.hq hcl
    · rcases e.stage with h | h | h | h | h
      · exact Or.inl ⟨hcl, h⟩
      · exact Or.inr (Or.inl h)
      · exact Or.inr (Or.inr (Or.inl h))
      · exact Or.inr (Or.inr (Or.inr h))
      · simp at h
  · rename_i hcl
    have hw : UWait ({ s with closed := true, qClosed := true, cstage := .body t 0 c } : St) := p.hw (by simpa using hcl)
    obtain ⟨e, f⟩ := execClose_CE (ab := false) (cfg := cfg)
      (s := ({ s with closed := true, qClosed := true, cstage := .body t 0 c } : St)) 0 hw hc hst
    obtain ⟨l, el, ol⟩ := e.tr
    refine ⟨e.vres, e.busy, e.ctask, e.queue, e.closed, e.qclosed, e.disp, e.other, e.nabs, e.sprog,
      ⟨l, el, fun o ho => (ol o ho).resolve_right (by simp)⟩, ?_, f⟩
    rcases e.stage with h | h | h | h | h
    · exact Or.inr (Or.inl ⟨0, h⟩)
    · exact Or.inr (Or.inl h)
    · exact Or.inr (Or.inr (Or.inl h))
    · exact Or.inr (Or.inr (Or.inr h))
    · simp at h

/-- specification of a step of the task that is inside `close()`; `b`: a cancellation is delivered in this step -/
theorem stepInClose_spec {cfg : Cfg} {s : St} (i : InvB s) (t : Tid) (b : Bool)
    (hrun : s.status t = .ready ∨ s.status t = .cancelled) (hbs : b = false → s.status t = .ready) :
    stepInClose cfg s t b = s ∨
    ∃ c, contOf s.cstage = some c ∧ contOk t c ∧ CE b t c s (stepInClose cfg s t b) ∧ Fin t (stepInClose cfg s t b) := by
  have halive : alive (s.status t) = true := by rcases hrun with h | h <;> rw [h] <;> rfl
  unfold stepInClose
  split
  · rename_i t' pc c hs
    split
    · rename_i htt; subst htt
      right
      obtain ⟨_, _, _, _, _, cok⟩ := i.bst t' pc c hs
      refine ⟨c, by rw [hs]; rfl, cok, ?_⟩
      have e0 : CE b t' c s (s.setStatus t' .ready) := CE.restatus halive (by simp)
      have hr : (s.setStatus t' .ready).status t' = .ready := if_pos rfl
      have hw : UWait (s.setStatus t' .ready) := by
        intro y z hy
        simp only [St.setStatus] at hy
        split at hy
        · simp at hy
        · rename_i hyt
          rcases i.waitt y z hy with ⟨pc', c', hb⟩ | h
          · rw [hs] at hb; injection hb with e _ _; exact absurd e.symm hyt
          · exact h
      unfold resumeClose
      simp only
      split
      · obtain ⟨e, f⟩ := execClose_CE (ab := b) (cfg := cfg) (s := ({ (s.setStatus t' .ready) with dispSet := false } : St))
          pc (hw.of_status rfl) cok hr
        exact ⟨(e0.trans (CE.frame (s' := { (s.setStatus t' .ready) with dispSet := false }) rfl (by intro h; simp at h))).trans e, f⟩
      · obtain ⟨e, f⟩ := execClose_CE (ab := b) (cfg := cfg) (s := s.setStatus t' .ready) pc hw cok hr
        exact ⟨e0.trans e, f⟩
    · exact Or.inl rfl
  · rename_i t' k c hs
    split
    · rename_i htt; subst htt
      right
      obtain ⟨hpr, _, cok, _⟩ := i.cb t' k c hs
      refine ⟨c, by rw [hs]; rfl, cok, ?_⟩
      have hnw : ∀ y, s.status y ≠ .waitT t' := by
        intro y hy
        rcases i.waitt y t' hy with ⟨pc', c', hb⟩ | ⟨u, _, hz⟩
        · rw [hs] at hb; contradiction
        · exact contOk_ne_V cok hz
      split
      · -- cancelled by the user inside the user's own close callback
        rename_i hb; subst hb
        have e1 : CE true t' c s { s with cstage := .aborted } := CE.setStage (Or.inr (Or.inr (Or.inr ⟨rfl, rfl⟩)))
        split
        · rename_i u r
          have e2 : CE true t' (.userTail u r) ({ s with cstage := .aborted } : St)
              (({ s with cstage := .aborted } : St).emit (.ret u .cancelled)) := CE.emit (Or.inr ⟨rfl, u, r, rfl, rfl⟩)
          exact ⟨e1.trans (e2.trans (CE.finish hnw halive)), Fin.finish _ t'⟩
        · exact ⟨e1.trans (CE.finish hnw halive), Fin.finish _ t'⟩
      · rename_i hb
        have hready : s.status t' = .ready := hbs (by simpa using hb)
        split
        · obtain ⟨e, f⟩ := runCont_CE (ab := b) (s := ({ (s.emit .cbExit) with cstage := .finished } : St)) (t := t') (c := c)
            hnw cok hready
          exact ⟨((CE.emit (Or.inl (closeObs_cbExit c))).trans (CE.setStage (Or.inr (Or.inr (Or.inl rfl))))).trans e, f⟩
        · rename_i k'
          exact ⟨CE.setStage (Or.inr (Or.inl ⟨k', rfl⟩)), Or.inr (Or.inl ⟨hpr, by show s.status t' ≠ _; rw [hready]; simp⟩)⟩
    · exact Or.inl rfl
  · exact Or.inl rfl

/-- the common part of `EnterSpec` (task `t` calls `close()`) and of `CE` with `Fin` (a later step of `t` inside `close()`): the
    session is closed afterwards, and the step is that of the closer alone -/
structure CloseStep (ab : Bool) (t : Tid) (c : Cont) (s s' : St) : Prop where
  other : ∀ y, y ≠ t → (∀ j, stageOf y ≠ some j) → s'.status y = s.status y ∧ s'.prog y = s.prog y
  nabs : ∀ y, s'.status y = .absent ↔ s.status y = .absent
  sprog : s'.prog t = s.prog t ∨ s'.prog t = .inClose ∨ t = .R ∨ t = .D
  tr : ∃ l, s'.trace = s.trace ++ l ∧
    ∀ o ∈ l, closeObs c o ∨ (ab = true ∧ ∃ u r, c = .userTail u r ∧ o = .ret u .cancelled)
  fin : Fin t s'
  closed : s'.closed = true
  qclosed : s'.qClosed = true
  stage : s'.cstage = s.cstage ∨ contOf s'.cstage = some c ∨ contOf s'.cstage = none

theorem EnterSpec.closeStep {t : Tid} {c : Cont} {s s' : St} (e : EnterSpec t c s s') : CloseStep false t c s s' := by
  obtain ⟨l, el, ol⟩ := e.tr
  refine ⟨e.other, e.nabs, e.sprog, ⟨l, el, fun o ho => Or.inl (ol o ho)⟩, e.fin, e.closed, e.qclosed, ?_⟩
  rcases e.stage with ⟨_, h⟩ | ⟨pc, h⟩ | ⟨k, h⟩ | h
  · exact Or.inl h
  · exact Or.inr (Or.inl (by rw [h]; rfl))
  · exact Or.inr (Or.inl (by rw [h]; rfl))
  · exact Or.inr (Or.inr (by rw [h]; rfl))

theorem CE.closeStep {cfg : Cfg} {ab : Bool} {t : Tid} {c : Cont} {s s' : St} (a : InvA cfg s) (hc : contOf s.cstage = some c)
    (e : CE ab t c s s') (f : Fin t s') : CloseStep ab t c s s' := by
  have hne : s.cstage ≠ .idle := by intro h; rw [h] at hc; simp [contOf] at hc
  refine ⟨e.other, e.nabs, e.sprog, e.tr, f, by rw [e.closed]; exact a.closed_iff.mpr hne, by rw [e.qclosed]; exact a.qclosed hne, ?_⟩
  rcases e.stage with h | ⟨pc, h⟩ | ⟨k, h⟩ | h | ⟨_, h⟩
  · exact Or.inl h
  · exact Or.inr (Or.inl (by rw [h]; rfl))
  · exact Or.inr (Or.inl (by rw [h]; rfl))
  · exact Or.inr (Or.inr (by rw [h]; rfl))
  · exact Or.inr (Or.inr (by rw [h]; rfl))

theorem CloseStep.of_same {ab : Bool} {t : Tid} {c : Cont} {s0 s s' : St} (e : CloseStep ab t c s s') (h1 : s0.status = s.status)
    (h2 : s0.prog = s.prog) (h3 : s0.trace = s.trace) (h4 : s0.cstage = s.cstage) : CloseStep ab t c s0 s' :=
  ⟨by rw [h1, h2]; exact e.other, by rw [h1]; exact e.nabs, by rw [h2]; exact e.sprog, by rw [h3]; exact e.tr, e.fin, e.closed,
    e.qclosed, by rw [h4]; exact e.stage⟩

/-- user task `a` is inside a receive (`receive_msg()` or the receive of `login()`) -/
def rcving (s : St) (a : Nat) : Prop :=
  alive (s.status (.U a)) = true ∧ (s.prog (.U a) = .loginWait a ∨ s.prog (.U a) = .recvWait a)

theorem CloseStep.rcving {ab : Bool} {t : Tid} {c : Cont} {s s' : St} (e : CloseStep ab t c s s') {a : Nat} (h : rcving s' a) :
    Tid.U a ≠ t ∧ rcving s a := by
  obtain ⟨h1, h2⟩ := h
  have hat : Tid.U a ≠ t := by
    intro hat
    rcases e.fin with f | f | f | f
    · rw [← hat] at f; rw [f] at h1; simp [alive] at h1
    · rw [← hat] at f; rw [f.1] at h2; simp at h2
    · rw [← hat] at f; simp at f
    · rw [← hat] at f; simp at f
  obtain ⟨o1, o2⟩ := e.other (.U a) hat (stageOf_user a)
  rw [o1] at h1; rw [o2] at h2
  exact ⟨hat, h1, h2⟩

end NasdaqModel.Sess
