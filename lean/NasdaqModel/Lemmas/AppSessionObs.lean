import NasdaqModel.Lemmas.AppSessionFlow
/-
Properties of every observable of the application-level trace (`InvO`, an instance of the step rule `DataInv`), used for
"close calls never raise" (C05App).
-/
namespace NasdaqModel.App
open NasdaqModel

def InvO (P : AObs → Prop) (s : St) : Prop := ∀ o ∈ s.trace2, P o

theorem plainObs_silent {o : AObs} (h : silentObs o = true) : plainObs o = true := by
  cases o with
  | msgEnter v => rfl
  | ret u r => rfl
  | _ => exact h

theorem InvO.emit2 {P : AObs → Prop} {s : St} {o : AObs} (i : InvO P s) (ho : P o) : InvO P (s.emit2 o) := by
  unfold InvO
  rw [trace2_emit2]
  intro x hx
  rcases List.mem_append.mp hx with h | h
  · exact i x h
  · simp at h; rw [h]; exact ho

theorem InvO.data (a : ACfg) {P : AObs → Prop} (hpl : ∀ o, plainObs o = true → P o) : DataInv a (InvO P) where
  frame := by
    intro s s' e i
    have e2 : s'.tr = s.tr := congrArg (·.2.1) e
    unfold InvO St.trace2
    rw [e2]
    exact i
  emit := fun ho i => i.emit2 (hpl _ (plainObs_silent ho))
  inner := by
    intro s e i
    unfold InvO
    rw [innerStep_trace2]
    exact i
  deliver := by
    intro s v q o _ _ ho i
    refine InvO.emit2 (s := { s with q2 := q, gone2 := s.gone2 ++ [(v, true)] }) i (hpl _ ?_)
    rcases ho with rfl | ⟨u, rfl⟩ <;> rfl
  hold := fun _ _ i => i
  unhold := fun i => i
  handOver := by
    intro s v u _ i
    exact InvO.emit2 (s := { s with vres2 := none, gone2 := s.gone2 ++ [(v, true)] }) i (hpl _ rfl)

theorem step_InvO {a : ACfg} {P : AObs → Prop} (hpl : ∀ o, plainObs o = true → P o)
    {s : St} (i : InvO P s) (ev : Ev) : InvO P (step a s ev) :=
  (InvO.data a hpl).step i ev

theorem runEvs_InvO {a : ACfg} {P : AObs → Prop} (hpl : ∀ o, plainObs o = true → P o)
    (evs : List Ev) : InvO P (runEvs a {} evs) :=
  (InvO.data a hpl).runEvs evs (by intro o h; simp [St.trace2] at h)

end NasdaqModel.App
