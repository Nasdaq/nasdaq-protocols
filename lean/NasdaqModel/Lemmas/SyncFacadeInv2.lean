import NasdaqModel.Lemmas.SyncFacadeLemmas
/-
Second invariant of the C20 model: what a caller's history says about the executor thread
(a returned close()/logout() ⇒ the thread has exited ⇒ later calls end as the property demands).
-/
namespace NasdaqModel.SyncFacade

/-- some close()/logout() of this thread has returned normally -/
def closedIn (h : List (Op × Outcome)) : Bool := h.any fun p => p.1.isClose && p.2 == .ok

theorem closedIn_cons (op : Op) (o : Outcome) (h : List (Op × Outcome)) :
    closedIn ((op, o) :: h) = ((op.isClose && o == .ok) || closedIn h) := by
  simp [closedIn]

/-- how a call made after close()/logout() returned must end: the state error (close/logout return at once) -/
def expectedAfterClose : Op → Outcome
  | .recv | .send | .sendUnseq | .execTimed => .state
  | .close | .logout => .ok

/-- every call finished after a returned close()/logout() of the same thread ended as `expectedAfterClose` says
(history is most recent first) -/
def goodHist : List (Op × Outcome) → Bool
  | [] => true
  | (op, o) :: rest => goodHist rest && (!closedIn rest || o == expectedAfterClose op)

theorem expectedAfterClose_of_close {op : Op} (h : op.isClose = true) : expectedAfterClose op = .ok := by
  cases op <;> first | rfl | cases h

theorem expectedAfterClose_of_not_close {op : Op} (h : op.isClose = false) : expectedAfterClose op = .state := by
  cases op <;> first | rfl | cases h

def headIsClose (c : Caller) : Bool :=
  match c.prog with
  | op :: _ => op.isClose
  | [] => false

def jobFits (c : Caller) : Bool :=
  match c.job, c.prog with
  | .none, _ => true
  | .submitted k, op :: _ => k == op.jobKind
  | .blocked _, op :: _ => op == .recv
  | .running, op :: _ => op == .execTimed
  | .done _, _ :: _ => true
  | _, [] => false

/-- where a thread can be once one of its own close()/logout() calls has returned -/
def afterClosePc (c : Caller) : Bool :=
  match c.pc with
  | .idle | .acq | .chkEvt | .rel | .waitEvt | .join => true
  | .chk1 | .chk2 => !headIsClose c
  | .submit | .wait => false

/-- what one caller record says about the executor thread (`alive`) and the close procedure (`cpc`) -/
structure cinv2 (alive : Bool) (cpc : ClosePc) (c : Caller) : Prop where
  /-- a close()/logout() of this thread has returned: the executor thread has exited -/
  gone : closedIn c.hist = true → alive = false
  /-- past the `with` block of `_shutdown`: the close procedure has been started -/
  started : (c.pc = .rel ∨ c.pc = .waitEvt ∨ c.pc = .join) → cpc ≠ .idle
  /-- … and already when the `initiate_close` / `logout` coroutine has finished (it is what starts it) -/
  startedByJob : headIsClose c = true → (∃ o, c.job = .done o) → cpc ≠ .idle
  fits : jobFits c = true
  /-- after a returned close()/logout() the thread is never at `submit` or `wait`, nor past a check of a close call -/
  afterClose : closedIn c.hist = true → afterClosePc c = true
  good : goodHist c.hist = true

def Inv2 (s : St) : Prop := ∀ (i : Nat) (c : Caller), s.callers[i]? = some c → cinv2 s.loopAlive s.closePc c

theorem callerStep_cinv2 {lock : Option Tid} {evt alive : Bool} {cpc : ClosePc} {i : Nat} {c c' : Caller}
    {lk : Option Tid} (hA : alive = false → evt = true) (hE : evt = true → cpc ≠ .idle)
    (h1 : cinv lock i c) (h2 : cinv2 alive cpc c) (h : callerStep lock evt alive i c = some (c', lk)) :
    cinv2 alive cpc c' := by
  obtain ⟨p1, p2, -⟩ := h1
  obtain ⟨a, b, b', f, e, g⟩ := h2
  rcases c with ⟨prog, pc, job, hist⟩
  cases callerStep_spec h with
  | goto hp hg =>
    cases hp
    refine ⟨a, ?_, b', f, ?_, g⟩
    · cases hg with
      | enter => rename_i op _; cases op <;> simp [Op.entry]
      | evtSet he | evtSeen he => exact fun _ => hE he
      | swallow1 ha | swallow2 ha => exact fun _ => hE (hA ha)
      | evtClear | active1 | active2 => simp
    · -- after a returned close() the thread is gone and the event set: the checks cannot see otherwise
      intro hcl
      have ha := a hcl
      have he := hA ha
      cases hg with
      | enter => rename_i op _; cases op <;> rfl
      | evtSet | swallow1 | swallow2 | evtSeen => rfl
      | evtClear he' => rw [he] at he'; cases he'
      | active1 ha' | active2 ha' => rw [ha] at ha'; cases ha'
  | acquire hp hpc hl =>
    cases hp; cases hpc
    exact ⟨a, by simp, b', f, fun _ => rfl, g⟩
  | release hp hpc =>
    cases hp; cases hpc
    exact ⟨a, fun _ => b (.inl rfl), b', f, fun _ => rfl, g⟩
  | submit hp hpc =>
    cases hp; cases hpc
    exact ⟨a, by simp, by simp, by simp [jobFits], (fun hcl => nomatch e hcl), g⟩
  | swallow hp hpc hcl hd =>
    cases hp; cases hpc
    refine ⟨a, fun _ => ?_, by simp, rfl, (fun hcl => nomatch e hcl), g⟩
    rcases hd with hd | ha
    · exact b' hcl hd
    · exact hE (hA ha)
  | @ret op rest o hp hr =>
    cases hp
    refine ⟨?_, by simp [finish], by simp [finish], rfl, fun _ => rfl, ?_⟩
    · simp only [finish, closedIn_cons, Bool.or_eq_true, Bool.and_eq_true]
      rintro (⟨hc, -⟩ | hcl)
      · -- a close()/logout() returns only from `join`, when the thread is gone
        cases hr with
        | inactive1 ha | inactive2 ha | gone _ _ _ ha | joined ha => exact ha
        | expired he => subst he; cases hc
        | result _ hnc => rw [hnc] at hc; cases hc
      · exact a hcl
    · simp only [finish, goodHist, g, Bool.true_and, Bool.or_eq_true, Bool.not_eq_true', beq_iff_eq]
      cases hcl : closedIn hist with
      | false => exact .inl rfl
      | true =>
        have hpc := e hcl
        right
        cases hr with
        | inactive1 _ hop | inactive2 _ hop => exact (expectedAfterClose_of_not_close hop).symm
        | joined => exact (expectedAfterClose_of_close (by simpa [pcOk] using p1)).symm
        | expired | result | gone => cases hpc

theorem jobKind_of_isClose {op : Op} (h : op.isClose = true) : op.jobKind = .initClose ∨ op.jobKind = .logout := by
  cases op with
  | close => exact .inl rfl
  | logout => exact .inr rfl
  | _ => cases h

theorem jobFits_submitted {prog : List Op} {pc : Pc} {k : JobKind} {hist : List (Op × Outcome)}
    (hf : jobFits ⟨prog, pc, .submitted k, hist⟩ = true) : ∃ op rest, prog = op :: rest ∧ k = op.jobKind := by
  cases prog with
  | nil => cases hf
  | cons op rest => exact ⟨op, rest, rfl, by simpa [jobFits] using hf⟩

theorem jobFits_blocked {prog : List Op} {pc : Pc} {t : Nat} {hist : List (Op × Outcome)}
    (hf : jobFits ⟨prog, pc, .blocked t, hist⟩ = true) : ∃ rest, prog = .recv :: rest := by
  cases prog with
  | nil => cases hf
  | cons op rest => exact ⟨rest, by simpa [jobFits] using hf⟩

theorem jobFits_jobRes {op : Op} {rest : List Op} {pc : Pc} {j : Job} {hist : List (Op × Outcome)}
    (hr : JobRes op.jobKind j) : jobFits ⟨op :: rest, pc, j, hist⟩ = true := by
  cases op <;> simp only [Op.jobKind, JobRes] at hr
  case recv => rcases hr with ⟨t, rfl⟩ | ⟨o, rfl⟩ <;> rfl
  all_goals subst hr; rfl

theorem cinv2_jobUpd {alive alive' : Bool} {cpc cpc' : ClosePc} {r : Bool} {c c' : Caller}
    (h : cinv2 alive cpc c) (u : JobUpd r c c') (hal : alive = false → alive' = false)
    (hcp : cpc ≠ .idle → cpc' ≠ .idle)
    (hrun : ∀ k, c.job = .submitted k → (k = .initClose ∨ k = .logout) → c'.job ≠ c.job → cpc' ≠ .idle) :
    cinv2 alive' cpc' c' := by
  obtain ⟨a, b, b', f, e, g⟩ := h
  obtain ⟨uo, uj⟩ := u
  rcases c with ⟨prog, pc, job, hist⟩
  rcases c' with ⟨prog', pc', job', hist'⟩
  cases uo
  simp only at uj hrun
  refine ⟨fun x => hal (a x), fun x => hcp (b x), ?_, ?_, e, g⟩
  · intro hh ⟨o, ho⟩
    cases ho
    rcases uj with rfl | ⟨t, o', rfl, _⟩ | ⟨_, k, rfl, hr⟩
    · exact hcp (b' hh ⟨o, rfl⟩)
    · -- a waiting future is that of receive(), not of close()/logout()
      obtain ⟨rest, rfl⟩ := jobFits_blocked f
      cases hh
    · obtain ⟨op, rest, rfl, rfl⟩ := jobFits_submitted f
      exact hrun _ rfl (jobKind_of_isClose hh) nofun
  · rcases uj with rfl | ⟨t, o', rfl, rfl⟩ | ⟨_, k, rfl, hr⟩
    · exact f
    · obtain ⟨rest, rfl⟩ := jobFits_blocked f
      rfl
    · obtain ⟨op, rest, rfl, rfl⟩ := jobFits_submitted f
      exact jobFits_jobRes hr

theorem ginv_alive_evt {s : St} (hg : ginv s = true) (ha : s.loopAlive = false) : s.closedEvent = true := by
  rcases (ginv_cases hg).2 with ⟨_, _, he⟩ | ⟨_, _, ha', _⟩
  · exact he
  · rw [ha] at ha'; cases ha'

theorem ginv_evt_cpc {s : St} (hg : ginv s = true) (he : s.closedEvent = true) : s.closePc ≠ .idle := by
  rcases (ginv_cases hg).2 with ⟨hd, _, _⟩ | ⟨_, he', _, _⟩
  · rw [hd]; nofun
  · rw [he] at he'; cases he'

theorem inv2_step {s s' : St} {l : Label} (h1 : Inv1 s) (hI : Inv2 s) (h : step s l = some s') : Inv2 s' := by
  have mono := step_mono h
  have quiet : LoopStep false s s' → Inv2 s' := by
    intro hr j c' hc'
    obtain ⟨c, hc, u⟩ := hr.callers j c' hc'
    apply cinv2_jobUpd (hI j c hc) u mono.1 mono.2
    intro k hk _ hne
    rcases u.2 with e | ⟨t, o, hb, _⟩ | ⟨hr, _⟩
    · exact absurd e hne
    · rw [hk] at hb; cases hb
    · cases hr
  cases l with
  | caller i =>
    obtain ⟨c, c', lk, hc, hcs, rfl⟩ := stepCaller_spec h
    have hc2 := callerStep_cinv2 (ginv_alive_evt h1.1) (ginv_evt_cpc h1.1) (h1.2 i c hc) (hI i c hc) hcs
    intro j cj hj
    simp only at hj ⊢
    rw [getElem?_updAt] at hj
    split at hj
    · subst j; simp [hc] at hj; subst hj; exact hc2
    · exact hI j cj hj
  | job i =>
    obtain ⟨ci, ki, ji, hs⟩ := stepJob_spec h
    intro j c' hc'
    obtain ⟨c, hc, u⟩ := hs.loop.callers j c' hc'
    apply cinv2_jobUpd (hI j c hc) u mono.1 mono.2
    intro k hk hcl hne
    by_cases hji : j = i
    · subst hji
      rw [hs.caller] at hc; cases hc
      rw [hs.kind] at hk; cases hk
      rw [hs.closePc, if_pos hcl]
      exact initiate_ne_idle _
    · rw [hs.callers, getElem?_updAt_ne _ _ hji, hc] at hc'
      cases hc'
      exact absurd rfl hne
  | close => exact quiet (stepClose_loop h)
  | stop => exact quiet (stepStop_loop h)
  | peer => exact quiet (stepPeer_loop h)

theorem inv2_init (cfg : Cfg) : Inv2 (init cfg) := by
  intro i c hc
  simp only [init, List.getElem?_map] at hc
  cases hp : cfg.progs[i]? with
  | none => simp [hp] at hc
  | some p =>
    simp [hp] at hc; subst hc
    constructor <;> simp [initCaller, closedIn, jobFits, goodHist, headIsClose]

theorem inv12_reachable {cfg : Cfg} {s : St} (h : Reachable cfg s) : Inv1 s ∧ Inv2 s :=
  reachable_invariant (fun s => Inv1 s ∧ Inv2 s) cfg ⟨inv1_init cfg, inv2_init cfg⟩
    (fun _ _ _ hI hs => ⟨inv1_step hI.1 hs, inv2_step hI.1 hI.2 hs⟩) s h

end NasdaqModel.SyncFacade
