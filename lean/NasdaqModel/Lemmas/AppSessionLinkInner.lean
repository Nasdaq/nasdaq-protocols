import NasdaqModel.Lemmas.AppSessionLemmas0
/-
Facts about single steps of the inner session machine needed for the link invariant of the application-close repair
(`Lemmas/AppSessionLink.lean`, `Props/C05AppLink.lean`):

* `step_absent`: a user task that has never been created stays uncreated under every event except the three user calls that name
  it (`callClose u`, `callRecv u`, `callLogin u`) — the inner machine never creates a user task on its own;
* `step_closerOrFinal`: the identity of the closer is stable — once task `t` is the closer, every event leaves it the closer or
  ends the close (`finished` / `aborted`), and an ended close stays ended;
* `step_callClose_closer`: `callClose u` for a fresh `u` on a session that is not closed makes `U u` the closer (or runs the
  close to its end in the same step).
-/
namespace NasdaqModel.Sess

/-- user task `u` has never been created -/
def Absent (u : Nat) (s : St) : Prop := s.status (.U u) = .absent

section absent
variable {u : Nat} {s : St}

theorem Absent.ne (h : Absent u s) {t : Tid} (ht : s.status t ≠ .absent) : t ≠ .U u := by
  rintro rfl; exact ht h

theorem Absent.of_status {s' : St} (h : Absent u s) (e : s'.status (.U u) = s.status (.U u)) : Absent u s' := by
  unfold Absent; rw [e]; exact h

theorem Absent.setStatus (h : Absent u s) {t : Tid} (ht : t ≠ .U u) (x : Status) : Absent u (s.setStatus t x) := by
  show (if Tid.U u = t then x else s.status (.U u)) = .absent
  rw [if_neg (fun e => ht e.symm)]; exact h

theorem Absent.setProg (h : Absent u s) (t : Tid) (p : Prog) : Absent u (s.setProg t p) := h

theorem Absent.emit (h : Absent u s) (o : Obs) : Absent u (s.emit o) := h

theorem Absent.finish (h : Absent u s) {t : Tid} (ht : t ≠ .U u) : Absent u (s.finish t) := by
  have h' : s.status (.U u) = .absent := h
  show (if Tid.U u = t then Status.done else if s.status (.U u) = .waitT t then .ready else s.status (.U u)) = .absent
  rw [if_neg (fun e => ht e.symm), h']; simp

theorem Absent.cancelTask (h : Absent u s) (t : Tid) : Absent u (s.cancelTask t) := by
  unfold St.cancelTask
  split
  · rename_i hs; exact h.setStatus (h.ne (by rw [hs]; simp)) _
  · rename_i hs; exact h.setStatus (h.ne (by rw [hs]; simp)) _
  · split
    · rename_i hs; exact h.setStatus (h.ne (by rw [hs]; simp)) _
    · rename_i hs; exact h.setStatus (h.ne (by rw [hs]; simp)) _
    · exact h
  · exact h

theorem Absent.wakeGetter (h : Absent u s) (t : Tid) : Absent u (s.wakeGetter t) := by
  unfold St.wakeGetter
  split
  · rename_i hs; exact h.setStatus (h.ne (by rw [hs]; simp)) _
  · exact h

theorem Absent.put (h : Absent u s) (m : Nat) : Absent u (s.put m) := by
  unfold St.put
  exact (Absent.wakeGetter (s := { s with queue := s.queue ++ [m] }) h .D).wakeGetter .V

theorem Absent.spawn (h : Absent u s) {t : Tid} (ht : t ≠ .U u) (p : Prog) : Absent u (s.spawn t p) :=
  (h.setStatus ht .ready).setProg t p

theorem Absent.initiateClose (h : Absent u s) : Absent u s.initiateClose := by
  unfold St.initiateClose
  split
  · exact h
  · exact Absent.spawn (s := { s with closingTask := true }) h (by simp) _

theorem Absent.startDispatching (h : Absent u s) (cfg : Cfg) : Absent u (s.startDispatching cfg) := by
  unfold St.startDispatching
  split
  · exact Absent.spawn (s := { s with dispSet := true }) h (by simp) _
  · exact h

theorem Absent.startHeartbeats (h : Absent u s) : Absent u s.startHeartbeats := by
  unfold St.startHeartbeats
  exact (Absent.spawn (s := { s with pingL := true, pingM := true }) h (by simp) _).spawn (by simp) _

theorem Absent.runCont (h : Absent u s) {t : Tid} (ht : t ≠ .U u) (c : Cont) : Absent u (runCont s t c) := by
  have h' : s.status (.U u) = .absent := h
  have ht' : ¬ Tid.U u = t := fun e => ht e.symm
  unfold Absent
  cases c <;> simp [Sess.runCont, St.setStatus, St.setProg, St.emit, St.finish, h', ht']

theorem Absent.closeTail (cfg : Cfg) (h : Absent u s) {t : Tid} (ht : t ≠ .U u) (c : Cont) :
    Absent u (closeTail cfg s t c) := by
  have h1 : Absent u { (s.emit .tclose) with cstage := .finished } := h
  have h2 : Absent u { (((s.emit .tclose).emit .cbEnter).emit .cbExit) with cstage := .finished } :=
    h.of_status (by simp only [St.emit])
  unfold Sess.closeTail
  simp only
  split
  · exact h1.runCont ht c
  · split
    · have ht' : ¬ Tid.U u = t := fun e => ht e.symm
      have h' : s.status (.U u) = .absent := h
      simp only [Absent, St.setStatus, St.setProg, St.emit, if_neg ht', h']
    · exact h2.runCont ht c

theorem Absent.execClose (cfg : Cfg) {t : Tid} (ht : t ≠ .U u) (c : Cont) (pc : Nat) (s : St) (h : Absent u s) :
    Absent u (execClose cfg s t c pc) := by
  refine execClose_rule cfg t c (Absent u) (Absent u) ?_ ?_ ?_ ?_ pc s h
  · intro s p; exact p
  · intro s p; exact p
  · intro s x pc p _ _ _
    exact ((p.cancelTask x).setStatus ht _)
  · intro s p; exact p.closeTail cfg ht c

theorem Absent.enterClose (cfg : Cfg) (h : Absent u s) {t : Tid} (ht : t ≠ .U u) (c : Cont) :
    Absent u (enterClose cfg s t c) := by
  unfold Sess.enterClose
  split
  · exact h.runCont ht c
  · exact Absent.execClose cfg ht c 0 _ h

theorem Absent.stepInClose (cfg : Cfg) (h : Absent u s) {t : Tid} (ht : t ≠ .U u) (b : Bool) :
    Absent u (stepInClose cfg s t b) := by
  unfold Sess.stepInClose
  split
  · split
    · unfold resumeClose
      apply Absent.execClose cfg ht
      split
      · exact h.setStatus ht _
      · exact h.setStatus ht _
    · exact h
  · split
    · split
      · split
        · exact Absent.finish (s := ({ s with cstage := .aborted } : St).emit _) h ht
        · exact Absent.finish (s := { s with cstage := .aborted }) h ht
      · split
        · exact Absent.runCont (s := { (s.emit .cbExit) with cstage := .finished }) h ht _
        · exact h
    · exact h
  · exact h

theorem Absent.stepReader (cfg : Cfg) (h : Absent u s) : Absent u (stepReader cfg s) := by
  unfold Sess.stepReader
  split
  · exact h.finish (by simp)
  · split
    · exact h
    · rename_i f rest _
      cases f with
      | msg n => exact Absent.put (s := { s with buf := rest, consumed := s.consumed ++ [.msg n], recvd := s.recvd ++ [n] }) h n
      | hb => exact h
      | logout => exact Absent.enterClose (s := { s with buf := rest, consumed := s.consumed ++ [.logout] }) cfg h (by simp) _
      | bad => exact Absent.enterClose (s := { s with buf := rest, consumed := s.consumed ++ [.bad] }) cfg h (by simp) _

theorem Absent.dispHandle (cfg : Cfg) (h : Absent u s) (n : Nat) : Absent u (dispHandle cfg s n) := by
  unfold Sess.dispHandle
  split
  · exact h
  · exact h
  · exact h.enterClose cfg (by simp) _
  · exact h.initiateClose
  · exact h
  · exact Absent.startHeartbeats (s := s.emit (.write .reply)) h
  · exact Absent.enterClose (s := s.emit (.write .reply)) cfg h (by simp) _

theorem Absent.stepDisp (cfg : Cfg) (h : Absent u s) : Absent u (stepDisp cfg s) := by
  unfold Sess.stepDisp
  split
  · exact h.finish (by simp)
  · split
    · exact h
    · split
      · exact h.setStatus (by simp) _
      · rename_i n q _
        exact Absent.dispHandle (s := ({ s with queue := q, gone := s.gone ++ [(n, true)] } : St).emit (.msgEnter n)) cfg h n

theorem Absent.stepMon (cfg : Cfg) (h : Absent u s) (b : Bool) : Absent u (stepMon cfg s b) := by
  unfold Sess.stepMon
  split
  · split
    · exact h
    · exact h
  · split
    · exact h
    · exact h.enterClose cfg (by simp) _

theorem Absent.loginResume (cfg : Cfg) (h : Absent u s) {t : Tid} (ht : t ≠ .U u) (v : Nat) :
    Absent u (loginResume cfg s t v) := by
  unfold Sess.loginResume
  split
  · rename_i n _
    simp only
    split
    · exact Absent.finish (s := (((({ s with vres := none, rcvBusy := false, gone := s.gone ++ [(n, true)] } : St).emit
        (.loginReply n)).startHeartbeats).startDispatching cfg).emit (.ret v .ok))
        ((Absent.startHeartbeats (s := ({ s with vres := none, rcvBusy := false, gone := s.gone ++ [(n, true)] } : St).emit
          (.loginReply n)) h).startDispatching cfg) ht
    · exact Absent.enterClose (s := ({ s with vres := none, rcvBusy := false, gone := s.gone ++ [(n, true)] } : St).emit
        (.loginReply n)) cfg h ht _
  · split
    · exact Absent.finish (s := ({ s with rcvBusy := false } : St).emit (.ret v .refused)) h ht
    · exact Absent.enterClose (s := { s with rcvBusy := false }) cfg h ht _

theorem Absent.stepRun (cfg : Cfg) (h : Absent u s) (t : Tid) : Absent u (stepRun cfg s t) := by
  unfold Sess.stepRun
  have h0 : Absent u { s with imm := none } := h
  generalize ({ s with imm := none } : St) = s0 at h0
  simp only
  split
  · -- cancelled
    rename_i hst
    have ht : t ≠ .U u := h0.ne (by rw [hst]; simp)
    split
    · exact Absent.finish (s := s0.emit _) h0 ht
    · exact h0.finish ht
    · split
      · exact Absent.finish (s := ({ s0 with vres := none, rcvBusy := false, queue := s0.vres.toList ++ s0.queue } : St).emit _) h0 ht
      · exact Absent.finish (s := ({ s0 with vres := none, rcvBusy := false, queue := s0.vres.toList ++ s0.queue } : St).emit _) h0 ht
    · split
      · exact Absent.finish (s := ({ s0 with vres := none, rcvBusy := false, queue := s0.vres.toList ++ s0.queue } : St).emit _) h0 ht
      · exact Absent.enterClose cfg
          (Absent.setStatus (s := { s0 with vres := none, rcvBusy := false, queue := s0.vres.toList ++ s0.queue }) h0 ht _) ht _
    · exact h0.stepInClose cfg ht _
    · exact h0.finish ht
  · -- ready
    rename_i hst
    have ht : t ≠ .U u := h0.ne (by rw [hst]; simp)
    split
    · split
      · exact h0.stepReader cfg
      · exact h0
    · split
      · exact h0.stepDisp cfg
      · exact h0
    · split
      · exact h0
      · exact h0
    · exact h0
    · split
      · exact h0.stepMon cfg _
      · split
        · exact h0.stepMon cfg _
        · exact h0
    · exact h0.enterClose cfg ht _
    · exact h0.stepInClose cfg ht _
    · split
      · exact h0.setStatus ht _
      · split
        · exact h0
        · exact Absent.finish (s := { s0 with queue := _, vres := _ }) h0 ht
    · split
      · exact Absent.finish (s := ({ s0 with vres := none, rcvBusy := false, gone := _ } : St).emit _) h0 ht
      · split
        · exact Absent.finish (s := ({ s0 with rcvBusy := false } : St).emit _) h0 ht
        · exact Absent.finish (s := ({ s0 with rcvBusy := false } : St).emit _) h0 ht
    · exact h0.loginResume cfg ht _
    · exact h0
  · exact h0

theorem Absent.startRecv (h : Absent u s) {v : Nat} (hv : v ≠ u) (b : Bool) : Absent u (startRecv s v b) := by
  have h' : s.status (.U u) = .absent := h
  have hne : ¬ Tid.U u = Tid.U v := by intro e; cases e; exact hv rfl
  unfold Absent Sess.startRecv
  split
  · exact h
  · split
    · simp only [St.setStatus, St.emit, if_neg hne, h']
    · split
      · simp only [St.setStatus, St.setProg, if_neg hne, h']
      · split
        · split <;> simp only [St.setStatus, St.emit, if_neg hne, h']
        · simp [St.setStatus, St.setProg, St.spawn, hne, h']

/-- **The inner machine never creates a user task on its own**: a user task that does not exist still does not exist after any
    event other than the three user calls that name it. -/
theorem step_absent (cfg : Cfg) (s : St) (u : Nat) (ev : Ev) (h : Absent u s)
    (h1 : ev ≠ .callClose u) (h2 : ev ≠ .callRecv u) (h3 : ev ≠ .callLogin u) : Absent u (step cfg s ev) := by
  cases ev with
  | connect =>
    simp only [step]
    split
    · exact h
    · split
      · exact (h.spawn (by simp) _).startDispatching cfg
      · exact h.spawn (by simp) _
  | data fs => exact h
  | eof => exact h.initiateClose
  | run t =>
    simp only [step]
    split
    · exact h.stepRun cfg t
    · exact h
  | callClose v =>
    have hv : v ≠ u := fun e => h1 (by rw [e])
    have hne : Tid.U v ≠ Tid.U u := by intro e; cases e; exact hv rfl
    simp only [step]
    split
    · exact h
    · exact Absent.enterClose (s := (s.setStatus (.U v) .ready).setProg (.U v) .idle) cfg (h.setStatus hne _) hne _
  | callInitiateClose => exact h.initiateClose
  | callLogout => exact Absent.initiateClose (s := { (s.emit (.write .logout)) with pingL := true }) h
  | callRecv v =>
    have hv : v ≠ u := fun e => h2 (by rw [e])
    simp only [step]
    split
    · exact h
    · exact h.startRecv hv _
  | callRecvNowait v =>
    simp only [step]
    split
    · exact h
    · split
      · exact h
      · split
        · exact h
        · split <;> exact h
  | callLogin v =>
    have hv : v ≠ u := fun e => h3 (by rw [e])
    simp only [step]
    split
    · exact h
    · exact Absent.startRecv (s := { (s.emit (.write .login)) with pingL := true }) h hv _
  | callSend => exact h
  | cancel v => exact h.cancelTask _

end absent

/-- the close has run to its end (or was aborted by the user inside the user's close callback) -/
def finalStage (s : St) : Prop := s.cstage = .finished ∨ s.cstage = .aborted

def CloserOrFinal (t : Tid) (s : St) : Prop := s.closed = true ∧ (isCloser s t ∨ finalStage s)

theorem isCloser_unique {s : St} {t t' : Tid} (h : isCloser s t) (h' : isCloser s t') : t = t' := by
  rcases h with ⟨pc, c, h⟩ | ⟨k, c, h⟩ <;> rcases h' with ⟨pc', c', h'⟩ | ⟨k', c', h'⟩ <;> rw [h] at h' <;> cases h' <;> rfl

theorem isCloser_not_final {s : St} {t : Tid} (h : isCloser s t) : ¬ finalStage s := by
  rcases h with ⟨pc, c, h⟩ | ⟨k, c, h⟩ <;> rintro (h' | h') <;> rw [h] at h' <;> cases h'

theorem closeTail_closerOrFinal (cfg : Cfg) (s : St) (t : Tid) (c : Cont) (h : s.closed = true) :
    CloserOrFinal t (closeTail cfg s t c) := by
  refine ⟨by rw [closeTail_closed]; exact h, ?_⟩
  unfold closeTail
  simp only
  split
  · exact Or.inr (Or.inl (by rw [runCont_cstage]))
  · split
    · exact Or.inl (Or.inr ⟨_, c, rfl⟩)
    · exact Or.inr (Or.inl (by rw [runCont_cstage]))

theorem execClose_closerOrFinal (cfg : Cfg) (t : Tid) (c : Cont) (pc : Nat) (s : St) (h : s.closed = true) :
    CloserOrFinal t (execClose cfg s t c pc) := by
  refine execClose_rule cfg t c (fun s => s.closed = true) (CloserOrFinal t) ?_ ?_ ?_ ?_ pc s h
  · intro s p; exact p
  · intro s p; exact p
  · intro s x pc p _ _ _
    refine ⟨?_, Or.inl (Or.inl ⟨pc + 1, c, by simp only [suspendOn]⟩)⟩
    rw [suspendOn_closed]; exact p
  · intro s p; exact closeTail_closerOrFinal cfg s t c p

theorem closerHoare (cfg : Cfg) (t0 : Tid) : CoreHoare cfg (fun _ => True) (CloserOrFinal t0) (CloserOrFinal t0) where
  of_core := by
    intro s s' hc h
    simp only [core, Prod.mk.injEq] at hc
    unfold CloserOrFinal isCloser finalStage
    rw [hc.1, hc.2.1]; exact h
  emit_neutral := fun _ h => h
  emit_msgEnter := fun _ _ _ h => h
  weaken := fun h => h
  enterClose' := by
    intro s h t c
    unfold enterClose
    rw [if_pos h.1]
    unfold CloserOrFinal isCloser finalStage
    rw [runCont_closed, runCont_cstage]; exact h
  stepInClose' := by
    intro s h t b _
    obtain ⟨hcl, hrole⟩ := h
    unfold stepInClose
    split
    · rename_i t' pc c hb
      split
      · rename_i htt
        subst htt
        have e : t0 = t' := by
          rcases hrole with hr | hr
          · exact isCloser_unique hr (Or.inl ⟨pc, c, hb⟩)
          · exact absurd hr (isCloser_not_final (Or.inl ⟨pc, c, hb⟩))
        subst e
        unfold resumeClose
        apply execClose_closerOrFinal
        split <;> exact hcl
      · exact ⟨hcl, hrole⟩
    · rename_i t' k c hb
      split
      · rename_i htt
        subst htt
        have e : t0 = t' := by
          rcases hrole with hr | hr
          · exact isCloser_unique hr (Or.inr ⟨k, c, hb⟩)
          · exact absurd hr (isCloser_not_final (Or.inr ⟨k, c, hb⟩))
        subst e
        split
        · split
          · exact ⟨hcl, Or.inr (Or.inr rfl)⟩
          · exact ⟨hcl, Or.inr (Or.inr rfl)⟩
        · split
          · refine ⟨by rw [runCont_closed]; exact hcl, Or.inr (Or.inl (by rw [runCont_cstage]))⟩
          · exact ⟨hcl, Or.inl (Or.inr ⟨_, c, rfl⟩)⟩
      · exact ⟨hcl, hrole⟩
    · exact ⟨hcl, hrole⟩

/-- **The closer stays the closer until the close ends**, and an ended close stays ended — under every event. -/
theorem step_closerOrFinal (cfg : Cfg) (s : St) (t : Tid) (ev : Ev) (h : CloserOrFinal t s) :
    CloserOrFinal t (step cfg s ev) :=
  step_H (closerHoare cfg t) h ev (fun _ _ => trivial)

theorem step_callClose_closer (cfg : Cfg) (s : St) (u : Nat) (h : s.status (.U u) = .absent) (hc : s.closed = false) :
    CloserOrFinal (.U u) (step cfg s (.callClose u)) := by
  simp only [step, h, bne_self_eq_false, Bool.false_eq_true, if_false]
  unfold enterClose
  rw [if_neg (by simp [St.setStatus, St.setProg, hc])]
  exact execClose_closerOrFinal cfg _ _ 0 _ rfl

end NasdaqModel.Sess
