import NasdaqModel.Lemmas.FramingLemmas
import NasdaqModel.Lemmas.PyLemmas
import NasdaqModel.Props.C12
/-
The two `deserialize()` functions on their own: `soupDeser` under appended bytes (`soupDeser_later`), `bytes.find` (`findAux_*`,
`find_*`), what `fixDeser` computes behind a complete `8=…␁9=…␁` header, the MsgType of a well-formed frame (`fix_msgType`) — and
from these the two instances of `FrameSpec` (Lemmas/FramingLemmas.lean): SoupBinTCP packets (via the C12 theorems) and FIX frames.
-/
namespace NasdaqModel.Framing
open NasdaqModel Py Soup Spec.SoupLayout Props.C12

theorem soupDeser_cons2 (b0 b1 : Nat) (tl : Bytes) : soupDeser (b0 :: b1 :: tl) =
    (if b0 * 256 + b1 + 2 > (b0 :: b1 :: tl).length then .ok none
    else (Soup.decode ((b0 :: b1 :: tl).take (b0 * 256 + b1 + 2)) >>= fun msg =>
      pure (some (msg, (b0 :: b1 :: tl).drop (b0 * 256 + b1 + 2))))) := rfl

theorem soup_exact (p : Pkt) (rest : Bytes) (h : wfPkt p = true) :
    soupDeser (layout p ++ rest) = .ok (some (p, rest)) := by
  obtain ⟨hi, lo, hl, hsz, _, _, hlen⟩ := C12_length_prefix p h
  have hdec : Soup.decode (layout p) = .ok p := C12_roundtrip p h _ (C12_layout p h)
  have hlen' : (layout p).length = hi * 256 + lo + 2 := by omega
  have htake : (layout p ++ rest).take (hi * 256 + lo + 2) = layout p := by
    rw [← hlen']; simp
  have hdrop : (layout p ++ rest).drop (hi * 256 + lo + 2) = rest := by
    rw [← hlen']; simp
  have hb : layout p ++ rest = hi :: lo :: (typeChar p :: payload p ++ rest) := by rw [hl]; rfl
  have hnot : ¬ (hi * 256 + lo + 2 > (layout p ++ rest).length) := by
    rw [List.length_append]; omega
  rw [hb, soupDeser_cons2, ← hb, if_neg hnot, htake, hdec, hdrop]
  rfl

theorem soup_short (p : Pkt) (q : Bytes) (h : wfPkt p = true) (hq : q <+: layout p) (hne : q ≠ layout p) :
    soupDeser q = .ok none := by
  obtain ⟨hi, lo, hl, hsz, _, _, hlen⟩ := C12_length_prefix p h
  have hlt := length_lt_of_prefix_ne hq hne
  match q, hq, hlt with
  | [], _, _ => rfl
  | [_], _, _ => rfl
  | a :: b :: q', hq, hlt =>
    rw [hl] at hq
    have ha : a = hi := by
      have := List.cons_prefix_cons.1 hq; exact this.1
    have hb : b = lo := by
      have := (List.cons_prefix_cons.1 (List.cons_prefix_cons.1 hq).2).1; exact this
    subst ha; subst hb
    rw [soupDeser_cons2, if_pos (by omega)]

/-- framing is by the length prefix only: whatever was cut off, or whatever exception `from_bytes` raised on the delimited packet,
    is the same whatever arrives behind it (any buffer) -/
theorem soupDeser_later (buf more : Bytes) (h : soupDeser buf ≠ .ok none) :
    soupDeser (buf ++ more) = later more (soupDeser buf) := by
  match buf, h with
  | [], h => exact absurd rfl h
  | [_], h => exact absurd rfl h
  | b0 :: b1 :: tl, h =>
    have hle : b0 * 256 + b1 + 2 ≤ (b0 :: b1 :: tl).length := by
      rw [soupDeser_cons2] at h
      split at h
      · exact absurd rfl h
      · omega
    have e : (b0 :: b1 :: tl) ++ more = b0 :: b1 :: (tl ++ more) := rfl
    have h1 : soupDeser (b0 :: b1 :: tl) = (Soup.decode ((b0 :: b1 :: tl).take (b0 * 256 + b1 + 2)) >>= fun msg =>
        pure (some (msg, (b0 :: b1 :: tl).drop (b0 * 256 + b1 + 2)))) := by
      rw [soupDeser_cons2, if_neg (by omega)]
    rw [h1, e, soupDeser_cons2, ← e, if_neg (by rw [List.length_append]; omega),
      List.take_append_of_le_length hle, List.drop_append_of_le_length hle]
    cases Soup.decode (List.take (b0 * 256 + b1 + 2) (b0 :: b1 :: tl)) <;> rfl

theorem soupDeser_append {buf : Bytes} {m : Pkt} {r : Bytes} (more : Bytes) (h : soupDeser buf = .ok (some (m, r))) :
    soupDeser (buf ++ more) = .ok (some (m, r ++ more)) := by
  rw [soupDeser_later _ more (by rw [h]; simp), h]
  rfl

theorem soupSpec : FrameSpec soupProto layout (fun p => wfPkt p = true) where
  nonempty := by
    intro p h h0
    obtain ⟨hi, lo, hl, _⟩ := C12_length_prefix p h
    rw [hl] at h0; simp at h0
  exact := fun p rest h => soup_exact p rest h
  short := fun p q h hq hne _ => soup_short p q h hq hne

theorem findAux_single (c : Nat) : ∀ (l post : Bytes) (off : Nat), c ∉ l →
    findAux [c] (l ++ c :: post) off = some (off + l.length) := by
  intro l
  induction l with
  | nil => intro post off _; simp [findAux, List.isPrefixOf]
  | cons x l ih =>
    intro post off h
    have hx : c ≠ x := fun e => h (by simp [e])
    have hl : c ∉ l := fun e => h (by simp [e])
    have hp : [c].isPrefixOf (x :: (l ++ c :: post)) = false := by
      simp [List.isPrefixOf, hx]
    simp only [List.cons_append, findAux, hp]
    rw [ih post (off + 1) hl]
    simp; omega

theorem findAux_self_append (needle y : Bytes) (off : Nat) : findAux needle (needle ++ y) off = some off := by
  cases needle with
  | nil => cases y <;> simp [findAux, List.isPrefixOf]
  | cons a n' => simp [findAux]

theorem findAux_exists (needle : Bytes) : ∀ (x y : Bytes) (off : Nat), (findAux needle (x ++ needle ++ y) off).isSome = true := by
  intro x
  induction x with
  | nil =>
    intro y off
    simp [findAux_self_append]
  | cons a x ih =>
    intro y off
    simp only [List.cons_append, findAux]
    split
    · rfl
    · exact ih y (off + 1)

theorem findAux_none_of_append (needle : Bytes) (hn : needle ≠ []) : ∀ (p t : Bytes) (off : Nat),
    findAux needle (p ++ t) off = none → findAux needle p off = none := by
  intro p
  induction p with
  | nil => intro t off _; cases needle with
    | nil => exact absurd rfl hn
    | cons a n => simp [findAux]
  | cons x p ih =>
    intro t off h
    simp only [List.cons_append, findAux] at h ⊢
    split at h
    · simp at h
    · next hnp =>
      have : ¬ needle.isPrefixOf (x :: p) = true := by
        intro hp
        apply hnp
        rw [List.isPrefixOf_iff_prefix] at hp ⊢
        exact hp.trans (by simp)
      simp only [this]
      exact ih t (off + 1) h

theorem find_zero (b needle : Bytes) : find b needle 0 = findAux needle b 0 := by
  simp [find]

theorem find_none_of_prefix (needle : Bytes) (hn : needle ≠ []) {p b : Bytes} (hp : p <+: b)
    (h : find b needle 0 = none) : find p needle 0 = none := by
  obtain ⟨t, rfl⟩ := hp
  rw [find_zero] at h ⊢
  exact findAux_none_of_append needle hn p t 0 h

theorem find_isSome_of_infix (needle x y : Bytes) : (find (x ++ needle ++ y) needle 0).isSome = true := by
  rw [find_zero]; exact findAux_exists needle x y 0

theorem find_single (c : Nat) (pre post : Bytes) (start : Nat) (hs : start ≤ pre.length) (hc : c ∉ pre.drop start) :
    find (pre ++ c :: post) [c] start = some pre.length := by
  have hle : start ≤ (pre ++ c :: post).length := by simp; omega
  simp only [find, hle, if_true]
  rw [List.drop_append_of_le_length hs, findAux_single c _ post start hc]
  simp; omega

theorem parseIntBytes_digits (ds : Bytes) (hne : ds ≠ []) (hd : ∀ d ∈ ds, isDigit d = true) :
    parseIntBytes ds = .ok (digitsVal ds : Int) :=
  parseIntWith_digits _ (fun _ h => (isDigit_not_space h).1) hne hd

theorem normIdx_nat (n k : Nat) (h : k ≤ n) : normIdx n (k : Int) = k :=
  (sliceBound_natCast n k).trans (Nat.min_eq_left h)

/-- the pieces `FixMessageReader.deserialize` computes, once all three `find`s succeed and `int()` accepts the text -/
theorem fixDeser_of_parts {buf : Bytes} {i start end_ : Nat} {n : Int}
    (h35 : find buf tag35 0 = some i) (hEq : find buf [EQ] 2 = some start) (hS : find buf [SOH] start = some end_)
    (hp : parseIntBytes (pySlice buf ((start : Int) + 1) end_) = .ok n) :
    fixDeser buf = (if n < 0 then .error .value
      else if (buf.length : Int) < ((end_ : Int) + 1) + n + 7 then .ok none
      else .ok (some (pySliceTo buf (((end_ : Int) + 1) + n + 7), pySliceFrom buf (((end_ : Int) + 1) + n + 7)))) := by
  unfold fixDeser
  simp only [h35, hEq, hS, hp, ok_bind, pure_eq_ok]

theorem fixDeser_finds {buf : Bytes} (h : fixDeser buf ≠ .ok none) :
    ∃ i start end_, find buf tag35 0 = some i ∧ find buf [EQ] 2 = some start ∧ find buf [SOH] start = some end_ := by
  cases h35 : find buf tag35 0 with
  | none => exact absurd (by unfold fixDeser; simp only [h35]) h
  | some i =>
    cases hEq : find buf [EQ] 2 with
    | none => exact absurd (by unfold fixDeser; simp only [h35, hEq]) h
    | some start =>
      cases hS : find buf [SOH] start with
      | none => exact absurd (by unfold fixDeser; simp only [h35, hEq, hS]) h
      | some end_ => exact ⟨i, start, end_, rfl, rfl, hS⟩

/-- what a cut frame looks like: a non-negative BodyLength `n`, the frame is the first `end+1+n+7 ≥ 8` bytes -/
theorem fixDeser_some_inv {buf f r : Bytes} (h : fixDeser buf = .ok (some (f, r))) :
    ∃ (i start end_ : Nat) (n k : Nat), find buf tag35 0 = some i ∧ find buf [EQ] 2 = some start ∧
      find buf [SOH] start = some end_ ∧ parseIntBytes (pySlice buf ((start : Int) + 1) end_) = .ok (n : Int) ∧
      k = end_ + 1 + n + 7 ∧ k ≤ buf.length ∧ f = buf.take k ∧ r = buf.drop k := by
  obtain ⟨i, start, end_, h35, hEq, hS⟩ := fixDeser_finds (by rw [h]; simp)
  cases hp : parseIntBytes (pySlice buf ((start : Int) + 1) end_) with
  | error e => unfold fixDeser at h; simp only [h35, hEq, hS, hp, err_bind] at h; cases h
  | ok n =>
    rw [fixDeser_of_parts h35 hEq hS hp] at h
    split at h
    · cases h
    · rename_i hn
      split at h
      · cases h
      · rename_i hlen
        obtain ⟨n', rfl⟩ := Int.eq_ofNat_of_zero_le (by omega : 0 ≤ n)
        have e : ((end_ : Int) + 1) + (n' : Int) + 7 = ((end_ + 1 + n' + 7 : Nat) : Int) := by omega
        rw [e] at h hlen
        have hk : end_ + 1 + n' + 7 ≤ buf.length := by omega
        simp only [Except.ok.injEq, Option.some.injEq, Prod.mk.injEq, pySliceTo, pySliceFrom] at h
        rw [normIdx_nat _ _ hk] at h
        exact ⟨i, start, end_, n', _, h35, hEq, hS, hp, rfl, hk, h.1.symm, h.2.symm⟩

/-- **a frame the FIX reader cuts is never empty** (it has at least the 8 bytes `…␁` + 7 trailer bytes): no dictionary needed -/
theorem fixDeser_consumes {buf f r : Bytes} (h : fixDeser buf = .ok (some (f, r))) : f ≠ [] ∧ r.length < buf.length := by
  obtain ⟨_, _, end_, n, k, _, _, _, _, hk, hle, hf, hr⟩ := fixDeser_some_inv h
  subst hf; subst hr
  constructor
  · intro h0
    have := congrArg List.length h0
    simp only [List.length_take, List.length_nil] at this
    omega
  · simp only [List.length_drop]; omega

theorem fixHeader_length (ver ds : Bytes) : (fixHeader ver ds).length = ver.length + ds.length + 6 := by
  simp [fixHeader]; omega

theorem digit_ne_one {ds : Bytes} (hd : ∀ d ∈ ds, isDigit d = true) : 1 ∉ ds := by
  intro h; have := hd 1 h; simp [isDigit] at this

theorem fixDeser_header (ver ds tail : Bytes) (hv : 61 ∉ ver) (hne : ds ≠ []) (hd : ∀ d ∈ ds, isDigit d = true) :
    fixDeser (fixHeader ver ds ++ tail) =
      if find (fixHeader ver ds ++ tail) tag35 0 = none then .ok none
      else if (fixHeader ver ds ++ tail).length < ver.length + ds.length + 6 + digitsVal ds + 7 then .ok none
      else .ok (some ((fixHeader ver ds ++ tail).take (ver.length + ds.length + 6 + digitsVal ds + 7),
                      (fixHeader ver ds ++ tail).drop (ver.length + ds.length + 6 + digitsVal ds + 7))) := by
  have h1 : 1 ∉ ds := digit_ne_one hd
  have hlen : (fixHeader ver ds ++ tail).length = ver.length + ds.length + 6 + tail.length := by
    rw [List.length_append, fixHeader_length]
  have hEQ : find (fixHeader ver ds ++ tail) [EQ] 2 = some (ver.length + 4) := by
    have e : fixHeader ver ds ++ tail = ([56, 61] ++ ver ++ [1, 57]) ++ 61 :: (ds ++ [1] ++ tail) := by
      simp [fixHeader]
    rw [e]
    have := find_single 61 ([56, 61] ++ ver ++ [1, 57]) (ds ++ [1] ++ tail) 2 (by simp) (by simp [hv])
    simpa [EQ] using this
  have hSOH : find (fixHeader ver ds ++ tail) [SOH] (ver.length + 4) = some (ver.length + 5 + ds.length) := by
    have e : fixHeader ver ds ++ tail = ([56, 61] ++ ver ++ [1, 57, 61] ++ ds) ++ 1 :: tail := by
      simp [fixHeader]
    rw [e]
    have hdrop : ([56, 61] ++ ver ++ [1, 57, 61] ++ ds).drop (ver.length + 4) = 61 :: ds := by
      have : [56, 61] ++ ver ++ [1, 57, 61] ++ ds = ([56, 61] ++ ver ++ [1, 57]) ++ (61 :: ds) := by simp
      rw [this, List.drop_left' (by simp)]
    have := find_single 1 ([56, 61] ++ ver ++ [1, 57, 61] ++ ds) tail (ver.length + 4) (by simp)
      (by rw [hdrop]; simp [h1])
    rw [SOH, this]; simp; omega
  have hslice : pySlice (fixHeader ver ds ++ tail) (((ver.length + 4 : Nat) : Int) + 1)
      ((ver.length + 5 + ds.length : Nat) : Int) = ds := by
    have e1 : (((ver.length + 4 : Nat) : Int) + 1) = ((ver.length + 5 : Nat) : Int) := by omega
    rw [e1]
    unfold pySlice
    rw [normIdx_nat _ _ (by rw [hlen]; omega), normIdx_nat _ _ (by rw [hlen]; omega)]
    have e : fixHeader ver ds ++ tail = ([56, 61] ++ ver ++ [1, 57, 61]) ++ (ds ++ (1 :: tail)) := by
      simp [fixHeader]
    have hl : ([56, 61] ++ ver ++ [1, 57, 61]).length = ver.length + 5 := by simp
    rw [e, ← hl, List.take_length_add_append, List.drop_left, List.take_left]
  have hparse := parseIntBytes_digits ds hne hd
  have hmsg : (((ver.length + 5 + ds.length : Nat) : Int) + 1) + (digitsVal ds : Int) + 7
      = ((ver.length + ds.length + 6 + digitsVal ds + 7 : Nat) : Int) := by omega
  cases h35 : find (fixHeader ver ds ++ tail) tag35 0 with
  | none =>
    unfold fixDeser
    simp [h35]
  | some i =>
    rw [fixDeser_of_parts h35 hEQ hSOH (by rw [hslice]; exact hparse), if_neg (by omega : ¬ ((digitsVal ds : Int) < 0)), hmsg]
    by_cases hlt : (fixHeader ver ds ++ tail).length < ver.length + ds.length + 6 + digitsVal ds + 7
    · have : ((fixHeader ver ds ++ tail).length : Int) < ((ver.length + ds.length + 6 + digitsVal ds + 7 : Nat) : Int) := by
        omega
      rw [if_pos this, if_neg (by simp), if_pos hlt]
    · have : ¬ ((fixHeader ver ds ++ tail).length : Int) < ((ver.length + ds.length + 6 + digitsVal ds + 7 : Nat) : Int) := by
        omega
      rw [if_neg this, if_neg (by simp), if_neg hlt]
      unfold pySliceTo pySliceFrom
      rw [normIdx_nat _ _ (by omega)]

theorem findAux_cons_false (needle : Bytes) (x : Nat) (xs : Bytes) (off : Nat) (h : needle.isPrefixOf (x :: xs) = false) :
    findAux needle (x :: xs) off = findAux needle xs (off + 1) := by
  simp [findAux, h]

theorem tag35_not_prefix_head {x : Nat} (xs : Bytes) (hx : x ≠ 51) : tag35.isPrefixOf (x :: xs) = false := by
  simp [tag35, List.isPrefixOf, hx.symm]

theorem tag35_not_prefix_third {a b c : Nat} (xs : Bytes) (hc : c ≠ 61) : tag35.isPrefixOf (a :: b :: c :: xs) = false := by
  simp [tag35, List.isPrefixOf, hc.symm]

theorem findAux_tag35_skip : ∀ (l : Bytes) (t0 t1 : Nat) (T : Bytes) (off : Nat), 61 ∉ l → t0 ≠ 61 → t1 ≠ 61 →
    findAux tag35 (l ++ t0 :: t1 :: T) off = findAux tag35 (t0 :: t1 :: T) (off + l.length) := by
  intro l
  induction l with
  | nil => intro t0 t1 T off _ _ _; simp
  | cons v l ih =>
    intro t0 t1 T off h h0 h1
    have hl : 61 ∉ l := fun e => h (by simp [e])
    have hp : tag35.isPrefixOf (v :: (l ++ t0 :: t1 :: T)) = false := by
      cases l with
      | nil => exact tag35_not_prefix_third _ h1
      | cons w l' =>
        cases l' with
        | nil => exact tag35_not_prefix_third _ h0
        | cons w2 l'' => exact tag35_not_prefix_third _ fun e => h (by simp [e])
    rw [List.cons_append, findAux_cons_false _ _ _ _ hp, ih t0 t1 T (off + 1) hl h0 h1]
    have : off + 1 + l.length = off + (v :: l).length := by simp; omega
    rw [this]

theorem find_header_none (ver ds : Bytes) (hv : 61 ∉ ver) (hd : ∀ d ∈ ds, isDigit d = true) :
    find (fixHeader ver ds ++ [51, 53]) tag35 0 = none := by
  have hd61 : 61 ∉ ds := by intro h; have := hd 61 h; simp [isDigit] at this
  rw [find_zero]
  have e : fixHeader ver ds ++ [51, 53] = 56 :: 61 :: (ver ++ 1 :: 57 :: (61 :: (ds ++ [1, 51, 53]))) := by
    simp [fixHeader]
  rw [e]
  have s1 : ∀ (x : Nat) (xs : Bytes) (off : Nat), x ≠ 51 → findAux tag35 (x :: xs) off = findAux tag35 xs (off + 1) :=
    fun x xs off hx => findAux_cons_false _ _ _ _ (tag35_not_prefix_head xs hx)
  rw [s1 _ _ _ (by decide), s1 _ _ _ (by decide), findAux_tag35_skip ver 1 57 _ _ hv (by decide) (by decide),
    s1 _ _ _ (by decide), s1 _ _ _ (by decide), s1 _ _ _ (by decide),
    findAux_tag35_skip ds 1 51 [53] _ hd61 (by decide) (by decide)]
  simp [findAux, tag35, List.isPrefixOf]

theorem fixParts_spec {f ver ds body : Bytes} (h : fixParts f = some (ver, ds, body)) :
    f = fixHeader ver ds ++ body := by
  unfold fixParts at h
  split at h
  · next r =>
    split at h
    · next r2 hr =>
      split at h
      · next body' hr2 =>
        simp only [Option.some.injEq, Prod.mk.injEq] at h
        obtain ⟨hv, hd, hb⟩ := h
        subst hv; subst hd; subst hb
        have e1 := @List.takeWhile_append_dropWhile _ (· != 1) r
        have e2 := @List.takeWhile_append_dropWhile _ (· != 1) r2
        rw [hr] at e1; rw [hr2] at e2
        conv => lhs; rw [← e1, ← e2]
        simp [fixHeader]
      · simp at h
    · simp at h
  · simp at h

theorem wfFixFrame_parts {f : Bytes} (h : wfFixFrame f = true) : ∃ ver ds rest,
    f = fixHeader ver ds ++ (tag35 ++ rest) ∧ 61 ∉ ver ∧ ds ≠ [] ∧ (∀ d ∈ ds, isDigit d = true) ∧
    f.length = ver.length + ds.length + 6 + digitsVal ds + 7 ∧ find (fixHeader ver ds ++ [51, 53]) tag35 0 = none := by
  unfold wfFixFrame at h
  split at h
  · next ver ds body hp =>
    simp only [Bool.and_eq_true, List.all_eq_true, bne_iff_ne, ne_eq, Bool.not_eq_true', beq_iff_eq] at h
    obtain ⟨⟨⟨⟨⟨hv, hne⟩, hd⟩, hpre⟩, hlen⟩, _⟩ := h
    rw [List.isPrefixOf_iff_prefix] at hpre
    obtain ⟨rest, hrest⟩ := hpre
    have hv' : 61 ∉ ver := fun h61 => hv 61 h61 rfl
    have hf := fixParts_spec hp
    refine ⟨ver, ds, rest, hrest ▸ hf, hv', ?_, hd, ?_, find_header_none ver ds hv' hd⟩
    · intro h0
      subst h0
      simp at hne
    · rw [hf, List.length_append, fixHeader_length, hlen]
      omega
  · simp at h

theorem fix_exact (f rest : Bytes) (h : wfFixFrame f = true) : fixDeser (f ++ rest) = .ok (some (f, rest)) := by
  obtain ⟨ver, ds, b, hf, hv, hne, hd, hfl, _⟩ := wfFixFrame_parts h
  have e : f ++ rest = fixHeader ver ds ++ (tag35 ++ b ++ rest) := by rw [hf]; simp
  have hsome : find (f ++ rest) tag35 0 ≠ none := by
    have := find_isSome_of_infix tag35 (fixHeader ver ds) (b ++ rest)
    have e2 : f ++ rest = fixHeader ver ds ++ tag35 ++ (b ++ rest) := by rw [hf]; simp
    rw [e2]; intro h0; rw [h0] at this; simp at this
  rw [e, fixDeser_header ver ds _ hv hne hd, ← e, if_neg hsome, if_neg (by rw [List.length_append]; omega), ← hfl]
  simp

theorem fix_short (f q : Bytes) (h : wfFixFrame f = true) (hq : q <+: f) (hne : q ≠ f) : fixDeser q = .ok none := by
  obtain ⟨ver, ds, b, hf, hv, hdne, hd, hfl, hfirst⟩ := wfFixFrame_parts h
  have hlt := length_lt_of_prefix_ne hq hne
  by_cases h35 : find q tag35 0 = none
  · unfold fixDeser; rw [h35]
  · -- a buffer containing `35=` contains the whole `8=…␁9=…␁` header
    have hlong : ver.length + ds.length + 6 + 2 < q.length := by
      rcases Nat.lt_or_ge (ver.length + ds.length + 6 + 2) q.length with h1 | h1
      · exact h1
      · exfalso
        apply h35
        have hp2 : fixHeader ver ds ++ [51, 53] <+: f := by
          rw [hf]; exact ⟨61 :: b, by simp [tag35]⟩
        have : q <+: fixHeader ver ds ++ [51, 53] :=
          List.prefix_of_prefix_length_le hq hp2 (by rw [List.length_append, fixHeader_length]; simpa using h1)
        exact find_none_of_prefix tag35 (by simp [tag35]) this hfirst
    have hhdr : fixHeader ver ds <+: q :=
      List.prefix_of_prefix_length_le (by rw [hf]; exact List.prefix_append _ _) hq (by rw [fixHeader_length]; omega)
    obtain ⟨tail, ht⟩ := hhdr
    rw [← ht, fixDeser_header ver ds tail hv hdne hd, ht, if_neg h35, if_pos (by omega)]

theorem fixSpec : FrameSpec fixProto (fun f => f) (fun f => wfFixFrame f = true) where
  nonempty := by
    intro f h h0
    obtain ⟨ver, ds, b, hf, _⟩ := wfFixFrame_parts h
    rw [hf] at h0; simp [fixHeader] at h0
  exact := fun f rest h => fix_exact f rest h
  short := fun f q h hq hne _ => fix_short f q h hq hne

theorem findAux_first (needle pre : Bytes) (hpre : pre <+: needle) (hlen : needle.length ≤ pre.length + 1) :
    ∀ (x y : Bytes) (off : Nat), findAux needle (x ++ pre) off = none →
      findAux needle (x ++ needle ++ y) off = some (off + x.length) := by
  intro x
  induction x with
  | nil =>
    intro y off _
    simp [findAux_self_append]
  | cons a x ih =>
    intro y off h
    simp only [List.cons_append, findAux] at h ⊢
    split at h
    · simp at h
    · next hnp =>
      have : ¬ needle.isPrefixOf (a :: (x ++ needle ++ y)) = true := by
        intro hp
        apply hnp
        rw [List.isPrefixOf_iff_prefix] at hp ⊢
        have h2 : a :: (x ++ pre) <+: a :: (x ++ needle ++ y) := by
          obtain ⟨t, ht⟩ := hpre
          exact ⟨t ++ y, by simp [← ht]⟩
        exact List.prefix_of_prefix_length_le hp h2 (by simp; omega)
      simp only [this]
      rw [ih y (off + 1) h]; simp; omega

theorem findAux_none_not_prefix (needle : Bytes) (hn : needle ≠ []) :
    ∀ (b : Bytes) (off : Nat), findAux needle b off = none → needle.isPrefixOf b = false
  | [], _, _ => by cases needle with
    | nil => exact absurd rfl hn
    | cons a n => simp [List.isPrefixOf]
  | x :: xs, off, h => by
    unfold findAux at h
    split at h
    · simp at h
    · rename_i hnp; exact Bool.eq_false_iff.mpr hnp

theorem findAux_cons_none (needle : Bytes) (hn : needle ≠ []) (c : Nat) :
    ∀ (b : Bytes) (off : Nat), findAux needle b off = none → findAux (c :: needle) b off = none
  | [], off, _ => by simp [findAux]
  | x :: xs, off, h => by
    have hx : findAux needle xs (off + 1) = none := by
      unfold findAux at h
      split at h
      · simp at h
      · exact h
    have hp : needle.isPrefixOf xs = false := findAux_none_not_prefix needle hn xs (off + 1) hx
    unfold findAux
    have : (c :: needle).isPrefixOf (x :: xs) = false := by simp [List.isPrefixOf, hp]
    simp only [this, Bool.false_eq_true, if_false]
    exact findAux_cons_none needle hn c xs (off + 1) hx

/-- **classification of a well-formed frame**: `Message.get_msg_type` returns the value of the frame's own MsgType field
    (the bytes between the `35=` that follows BodyLength and the next SOH) -/
theorem fix_msgType {f ver ds ty rest : Bytes} (h : wfFixFrame f = true)
    (hp : fixParts f = some (ver, ds, tag35 ++ ty ++ 1 :: rest)) (hty : 1 ∉ ty) : getMsgType f = ty := by
  have hf := fixParts_spec hp
  unfold wfFixFrame at h
  rw [hp] at h
  simp only [Bool.and_eq_true, List.all_eq_true, bne_iff_ne, ne_eq] at h
  have hfirst : find (fixHeader ver ds ++ [51, 53]) tag35 0 = none :=
    find_header_none ver ds (fun h61 => h.1.1.1.1.1 61 h61 rfl) h.1.1.1.2
  have hl := fixHeader_length ver ds
  -- the header without its final SOH
  have hx : fixHeader ver ds = ([56, 61] ++ ver ++ [1, 57, 61] ++ ds) ++ [1] := by simp [fixHeader]
  generalize hxd : [56, 61] ++ ver ++ [1, 57, 61] ++ ds = x at hx
  have hxl : x.length + 1 = (fixHeader ver ds).length := by rw [hx]; simp
  have hnp : tag35.isPrefixOf f = false := by
    rw [hf]; simp [fixHeader, tag35, List.isPrefixOf]
  have h35 : find f (SOH :: tag35) 0 = some x.length := by
    rw [find_zero] at hfirst ⊢
    have hS : findAux (SOH :: tag35) (x ++ [1, 51, 53]) 0 = none := by
      have := findAux_cons_none tag35 (by simp [tag35]) SOH _ 0 hfirst
      rw [hx] at this
      simpa using this
    have := findAux_first (SOH :: tag35) [1, 51, 53] ⟨[61], rfl⟩ (by simp [tag35]) x (ty ++ 1 :: rest) 0 hS
    rw [hf, hx]
    simpa [SOH, tag35] using this
  have hsoh : find f [SOH] ((fixHeader ver ds).length + 2) = some ((fixHeader ver ds).length + 3 + ty.length) := by
    have e : f = (fixHeader ver ds ++ tag35 ++ ty) ++ 1 :: rest := by rw [hf]; simp
    have hdrop : (fixHeader ver ds ++ tag35 ++ ty).drop ((fixHeader ver ds).length + 2) = 61 :: ty := by
      have : fixHeader ver ds ++ tag35 ++ ty = (fixHeader ver ds ++ [51, 53]) ++ (61 :: ty) := by simp [tag35]
      rw [this, List.drop_left' (by simp)]
    have := find_single 1 (fixHeader ver ds ++ tag35 ++ ty) rest ((fixHeader ver ds).length + 2)
      (by simp [tag35]) (by rw [hdrop]; simp [hty])
    rw [e, SOH, this]; simp [tag35]; omega
  unfold getMsgType
  simp only [hnp, Bool.false_eq_true, if_false, h35]
  have hst : x.length + 3 = (fixHeader ver ds).length + 2 := by omega
  rw [hst]
  simp only [hsoh]
  have hlen : f.length = (fixHeader ver ds).length + 3 + ty.length + 1 + rest.length := by
    rw [hf]; simp [tag35]; omega
  have e1 : (((fixHeader ver ds).length + 2 : Nat) : Int) + 1 = (((fixHeader ver ds).length + 3 : Nat) : Int) := by omega
  rw [e1]
  unfold pySlice
  rw [normIdx_nat _ _ (by omega), normIdx_nat _ _ (by omega)]
  have e : f = (fixHeader ver ds ++ tag35) ++ (ty ++ (1 :: rest)) := by rw [hf]; simp
  have hl2 : (fixHeader ver ds ++ tag35).length = (fixHeader ver ds).length + 3 := by simp [tag35]
  rw [e, ← hl2, List.take_length_add_append, List.drop_left, List.take_left]

end NasdaqModel.Framing
