import NasdaqModel.Lemmas.SessionLemmas3
/-
Equations for the two steps of the receive pipeline of the session machine — one poll of the reader task (`run R`) and one step of
the dispatcher (`run D`) —, so that proofs about these steps rewrite with them instead of unfolding `step`.
-/
namespace NasdaqModel.Sess

/-- the reader task at the top of its loop body -/
def atLoop (s : St) : Prop := s.status .R = .ready ∧ s.prog .R = .readerLoop

theorem step_run_R_atLoop (cfg : Cfg) (s : St) (h : atLoop s) :
    step cfg s (.run .R) = stepReader cfg { s with imm := none } := by
  obtain ⟨h1, h2⟩ := h
  simp [step, runnable, h1, stepRun, h2]

section stepReader
variable (cfg : Cfg) (s : St)

theorem stepReader_stopped (hs : s.rStopped = true) : stepReader cfg s = s.finish .R := by
  simp only [stepReader, hs, if_true]

theorem stepReader_nil (hs : s.rStopped = false) (hb : s.buf = []) : stepReader cfg s = s := by
  simp only [stepReader, hs, hb, Bool.false_eq_true, if_false]

theorem stepReader_msg (hs : s.rStopped = false) {n : Nat} {rest : List Frame} (hb : s.buf = .msg n :: rest) :
    stepReader cfg s =
      ({ s with buf := rest, consumed := s.consumed ++ [.msg n], recvd := s.recvd ++ [n] } : St).put n := by
  simp only [stepReader, hs, hb, Bool.false_eq_true, if_false]

theorem stepReader_hb (hs : s.rStopped = false) {rest : List Frame} (hb : s.buf = .hb :: rest) :
    stepReader cfg s = { s with buf := rest, consumed := s.consumed ++ [.hb] } := by
  simp only [stepReader, hs, hb, Bool.false_eq_true, if_false]

/-- a logout or a malformed frame: `Reader.stop()`, called by the reader task itself -/
theorem stepReader_stop (hs : s.rStopped = false) {f : Frame} {rest : List Frame} (hb : s.buf = f :: rest)
    (hf : f = .logout ∨ f = .bad) :
    stepReader cfg s = enterClose cfg { s with buf := rest, consumed := s.consumed ++ [f] } .R .readerTail := by
  rcases hf with rfl | rfl <;> simp only [stepReader, hs, hb, Bool.false_eq_true, if_false]

end stepReader

section poll
variable (cfg : Cfg) (s : St) (h : atLoop s)
include h

theorem poll_eq_stopped (hs : s.rStopped = true) : step cfg s (.run .R) = ({ s with imm := none } : St).finish .R := by
  rw [step_run_R_atLoop cfg s h]
  exact stepReader_stopped cfg { s with imm := none } hs

theorem poll_eq_nil (hs : s.rStopped = false) (hb : s.buf = []) : step cfg s (.run .R) = { s with imm := none } := by
  rw [step_run_R_atLoop cfg s h]
  exact stepReader_nil cfg { s with imm := none } hs hb

theorem poll_eq_msg (hs : s.rStopped = false) {n : Nat} {rest : List Frame} (hb : s.buf = .msg n :: rest) :
    step cfg s (.run .R) =
      ({ s with imm := none, buf := rest, consumed := s.consumed ++ [.msg n], recvd := s.recvd ++ [n] } : St).put n := by
  rw [step_run_R_atLoop cfg s h]
  exact stepReader_msg cfg { s with imm := none } hs hb

theorem poll_eq_hb (hs : s.rStopped = false) {rest : List Frame} (hb : s.buf = .hb :: rest) :
    step cfg s (.run .R) = { s with imm := none, buf := rest, consumed := s.consumed ++ [.hb] } := by
  rw [step_run_R_atLoop cfg s h]
  exact stepReader_hb cfg { s with imm := none } hs hb

theorem poll_eq_stop (hs : s.rStopped = false) {f : Frame} {rest : List Frame} (hb : s.buf = f :: rest)
    (hf : f = .logout ∨ f = .bad) :
    step cfg s (.run .R) =
      enterClose cfg { s with imm := none, buf := rest, consumed := s.consumed ++ [f] } .R .readerTail := by
  rw [step_run_R_atLoop cfg s h]
  exact stepReader_stop cfg { s with imm := none } hs hb hf

end poll

theorem step_run_D_loop (cfg : Cfg) (s : St) (hst : s.status .D = .ready) (hpr : s.prog .D = .dispLoop) :
    step cfg s (.run .D) = stepDisp cfg { s with imm := none } := by
  simp [step, runnable, hst, stepRun, hpr]

section stepDisp
variable (cfg : Cfg) (s : St) (hq : s.qClosed = false) (hb : s.rcvBusy = false) (hv : s.vres = none)
include hq hb hv

theorem stepDisp_sleep (hqu : s.queue = []) : stepDisp cfg s = s.setStatus .D .waitQ := by
  simp [stepDisp, hq, hb, hv, hqu]

theorem stepDisp_take {n : Nat} {q : List Nat} (hqu : s.queue = n :: q) :
    stepDisp cfg s = dispHandle cfg (({ s with queue := q, gone := s.gone ++ [(n, true)] } : St).emit (.msgEnter n)) n := by
  simp [stepDisp, hq, hb, hv, hqu]

end stepDisp

section disp
variable (cfg : Cfg) (s : St) (hst : s.status .D = .ready) (hpr : s.prog .D = .dispLoop)
  (hq : s.qClosed = false) (hb : s.rcvBusy = false) (hv : s.vres = none)
include hst hpr hq hb hv

theorem disp_eq_sleep (hqu : s.queue = []) : step cfg s (.run .D) = ({ s with imm := none } : St).setStatus .D .waitQ := by
  rw [step_run_D_loop cfg s hst hpr]
  exact stepDisp_sleep cfg { s with imm := none } hq hb hv hqu

theorem disp_eq_take {n : Nat} {q : List Nat} (hqu : s.queue = n :: q) :
    step cfg s (.run .D) =
      dispHandle cfg (({ s with imm := none, queue := q, gone := s.gone ++ [(n, true)] } : St).emit (.msgEnter n)) n := by
  rw [step_run_D_loop cfg s hst hpr]
  exact stepDisp_take cfg { s with imm := none } hq hb hv hqu

end disp

theorem runEvs_closed_mono (cfg : Cfg) : ∀ (evs : List Ev) (s : St), s.closed = true → (runEvs cfg s evs).closed = true := by
  intro evs
  induction evs with
  | nil => intro s h; exact h
  | cons e es ih => intro s h; exact ih _ (step_closed_mono cfg s e h)

end NasdaqModel.Sess
