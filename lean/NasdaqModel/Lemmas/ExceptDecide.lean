/-
Statements about concrete runs of a model have the shape "the run succeeds with a value that has property `p`".
The instances below (one run, two runs, a run that returns a pair) decide them by running the computation, so that such a statement, and a conjunction of several about
the same input, is checked by one evaluation (`by decide +kernel`) in which the model's tables are evaluated once.
-/
namespace NasdaqModel

instance decidableExistsOk {ε α : Type} (x : Except ε α) (p : α → Prop) [DecidablePred p] :
    Decidable (∃ a, x = .ok a ∧ p a) :=
  match x with
  | .ok a => decidable_of_iff (p a) ⟨fun h => ⟨a, rfl, h⟩, fun ⟨_, e, h⟩ => Except.ok.inj e ▸ h⟩
  | .error _ => isFalse (fun ⟨_, e, _⟩ => nomatch e)

instance decidableExistsOk₂ {ε α β : Type} (x : Except ε α) (y : Except ε β) (p : α → β → Prop)
    [∀ a b, Decidable (p a b)] : Decidable (∃ a b, x = .ok a ∧ y = .ok b ∧ p a b) :=
  decidable_of_iff (∃ a, x = .ok a ∧ ∃ b, y = .ok b ∧ p a b)
    ⟨fun ⟨a, ha, b, hb, h⟩ => ⟨a, b, ha, hb, h⟩, fun ⟨a, b, ha, hb, h⟩ => ⟨a, ha, b, hb, h⟩⟩

instance decidableExistsOkPair {ε α β : Type} (x : Except ε (α × β)) (p : α → β → Prop)
    [∀ a b, Decidable (p a b)] : Decidable (∃ a b, x = .ok (a, b) ∧ p a b) :=
  decidable_of_iff (∃ r, x = .ok r ∧ p r.1 r.2)
    ⟨fun ⟨r, hr, h⟩ => ⟨r.1, r.2, hr, h⟩, fun ⟨a, b, hr, h⟩ => ⟨(a, b), hr, h⟩⟩

end NasdaqModel
