import NasdaqModel.Lemmas.Refine
/-
The two `Framer` instances.

* SoupBinTCP (`soupProto`): framing is by the 2-byte length prefix only, so whatever could be cut off (or whatever exception
  `from_bytes` raised on the delimited packet) is the same whatever arrives later — for EVERY byte string (`soupSt` is constantly true).
* FIX (`fixProtoD known decode`, the reader with the dictionary dispatch), after the repair 658ee1f (a negative BodyLength raises
  `ValueError`): `bytes.find` results, the BodyLength text and the computed frame length are stable under appending, the length is
  never negative where a frame is cut, so the frame `buf[:n]` / the rest `buf[n:]` are stable too — for EVERY byte string
  (`fixSt` is constantly true).  The pre-repair reader, whose `buf[:n]` with `n < 0` counted from the end of whatever had
  arrived, is kept in `Witness/C04Bytes.lean`.
-/
namespace NasdaqModel.Refine
open NasdaqModel Py Framing

theorem soupFramer : Framer soupProto soupSt :=
  Framer.of_later soupProto_consuming soupDeser_later (fun _ => rfl)

theorem soup_stable (buf : Bytes) : stable soupProto soupSt buf = true :=
  stableF_of_always soupProto soupSt (fun _ => rfl) _ _

theorem findAux_fits (needle : Bytes) : ∀ (b : Bytes) (off i : Nat), findAux needle b off = some i →
    off ≤ i ∧ (i - off) + needle.length ≤ b.length := by
  intro b
  induction b with
  | nil =>
    intro off i h
    unfold findAux at h
    split at h
    · rename_i he
      have : needle = [] := by simpa using he
      subst this
      cases h; simp
    · cases h
  | cons x xs ih =>
    intro off i h
    unfold findAux at h
    split at h
    · rename_i hp
      cases h
      rw [List.isPrefixOf_iff_prefix] at hp
      have := hp.length_le
      simp at this ⊢; omega
    · obtain ⟨h1, h2⟩ := ih (off + 1) i h
      simp only [List.length_cons]
      omega

theorem findAux_append (needle : Bytes) (more : Bytes) : ∀ (b : Bytes) (off i : Nat), findAux needle b off = some i →
    findAux needle (b ++ more) off = some i := by
  intro b
  induction b with
  | nil =>
    intro off i h
    unfold findAux at h
    split at h
    · rename_i he
      have : needle = [] := by simpa using he
      subst this
      cases h
      cases more <;> simp [findAux, List.isPrefixOf]
    · cases h
  | cons x xs ih =>
    intro off i h
    unfold findAux at h
    split at h
    · rename_i hp
      cases h
      have : needle.isPrefixOf (x :: xs ++ more) = true := by
        rw [List.isPrefixOf_iff_prefix] at hp ⊢
        exact hp.trans (List.prefix_append _ _)
      simp only [List.cons_append] at this ⊢
      simp [findAux, this]
    · rename_i hnp
      have hfit := (findAux_fits needle xs (off + 1) i h).2
      have : ¬ needle.isPrefixOf (x :: (xs ++ more)) = true := by
        intro hp
        apply hnp
        rw [List.isPrefixOf_iff_prefix] at hp ⊢
        have h2 : x :: xs <+: x :: (xs ++ more) := by simpa using List.prefix_append (x :: xs) more
        exact List.prefix_of_prefix_length_le hp h2 (by simp only [List.length_cons]; omega)
      simp only [List.cons_append, findAux, this, if_false]
      exact ih (off + 1) i h

theorem find_append {b needle : Bytes} {start i : Nat} (more : Bytes) (h : find b needle start = some i) :
    find (b ++ more) needle start = some i := by
  unfold find at h ⊢
  split at h
  · rename_i hle
    have hle' : start ≤ (b ++ more).length := by rw [List.length_append]; omega
    rw [if_pos hle', List.drop_append_of_le_length hle]
    exact findAux_append needle more _ _ _ h
  · cases h

theorem find_fits {b needle : Bytes} {start i : Nat} (h : find b needle start = some i) :
    start ≤ i ∧ i + needle.length ≤ b.length := by
  unfold find at h
  split at h
  · rename_i hle
    obtain ⟨h1, h2⟩ := findAux_fits needle _ _ _ h
    rw [List.length_drop] at h2
    exact ⟨h1, by omega⟩
  · cases h

theorem pySlice_append_nat (b more : Bytes) (i j : Nat) (hi : i ≤ b.length) (hj : j ≤ b.length) :
    pySlice (b ++ more) (i : Int) (j : Int) = pySlice b (i : Int) (j : Int) := by
  unfold pySlice
  rw [normIdx_nat _ _ hi, normIdx_nat _ _ hj, normIdx_nat _ _ (by rw [List.length_append]; omega),
    normIdx_nat _ _ (by rw [List.length_append]; omega), List.take_append_of_le_length hj]

theorem fix_parts_append {buf : Bytes} {i start end_ : Nat} (more : Bytes)
    (h35 : find buf tag35 0 = some i) (hEq : find buf [EQ] 2 = some start) (hS : find buf [SOH] start = some end_) :
    find (buf ++ more) tag35 0 = some i ∧ find (buf ++ more) [EQ] 2 = some start ∧
    find (buf ++ more) [SOH] start = some end_ ∧
    pySlice (buf ++ more) ((start : Int) + 1) end_ = pySlice buf ((start : Int) + 1) end_ := by
  refine ⟨find_append more h35, find_append more hEq, find_append more hS, ?_⟩
  have h1 := find_fits hEq
  have h2 := find_fits hS
  simp only [List.length_cons, List.length_nil] at h1 h2
  have e : ((start : Int) + 1) = ((start + 1 : Nat) : Int) := by omega
  rw [e]
  exact pySlice_append_nat buf more (start + 1) end_ (by omega) (by omega)

theorem fixDeser_mono {buf f r : Bytes} (more : Bytes) (h : fixDeser buf = .ok (some (f, r))) :
    fixDeser (buf ++ more) = .ok (some (f, r ++ more)) := by
  obtain ⟨i, start, end_, n, k, h35, hEq, hS, hp, hk, hle, hf, hr⟩ := fixDeser_some_inv h
  obtain ⟨a1, a2, a3, a4⟩ := fix_parts_append more h35 hEq hS
  rw [fixDeser_of_parts a1 a2 a3 (by rw [a4]; exact hp)]
  have e : ((end_ : Int) + 1) + (n : Int) + 7 = ((k : Nat) : Int) := by omega
  rw [if_neg (by omega), e, if_neg (by rw [List.length_append]; omega)]
  simp only [pySliceTo, pySliceFrom]
  rw [normIdx_nat _ _ (by rw [List.length_append]; omega), List.take_append_of_le_length hle,
    List.drop_append_of_le_length hle, hf, hr]

theorem fixDeser_err_mono {buf : Bytes} {e : Err} (more : Bytes) (h : fixDeser buf = .error e) :
    fixDeser (buf ++ more) = .error e := by
  obtain ⟨i, start, end_, h35, hEq, hS⟩ := fixDeser_finds (by rw [h]; simp)
  obtain ⟨a1, a2, a3, a4⟩ := fix_parts_append more h35 hEq hS
  cases hp : parseIntBytes (pySlice buf ((start : Int) + 1) end_) with
  | ok n =>
    rw [fixDeser_of_parts h35 hEq hS hp] at h
    rw [fixDeser_of_parts a1 a2 a3 (by rw [a4]; exact hp)]
    split at h
    · rename_i hn; rw [if_pos hn]; exact h
    · split at h <;> cases h
  | error e' =>
    unfold fixDeser at h ⊢
    simp only [h35, hEq, hS, hp, err_bind] at h
    simp only [a1, a2, a3, a4, hp, err_bind]
    exact h

theorem fixDeserD_of {known : Bytes → Bool} {decode : Bytes → Except Err Unit} {buf f r : Bytes} {u : Unit}
    (h : fixDeser buf = .ok (some (f, r))) (hk : known (getMsgType f) = true) (hd : decode f = .ok u) :
    fixDeserD known decode buf = .ok (some (f, r)) := by
  unfold fixDeserD
  simp only [h, hk, if_true, hd]

theorem fixDeser_later (buf more : Bytes) (h : fixDeser buf ≠ .ok none) : fixDeser (buf ++ more) = later more (fixDeser buf) := by
  cases hd : fixDeser buf with
  | error e => exact fixDeser_err_mono more hd
  | ok o =>
    cases o with
    | none => exact absurd hd h
    | some fr => exact fixDeser_mono more hd

theorem fixDeserD_later (known : Bytes → Bool) (decode : Bytes → Except Err Unit) (buf more : Bytes)
    (h : fixDeserD known decode buf ≠ .ok none) :
    fixDeserD known decode (buf ++ more) = later more (fixDeserD known decode buf) := by
  have h0 : fixDeser buf ≠ .ok none := fun h0 => h (by unfold fixDeserD; rw [h0])
  unfold fixDeserD
  rw [fixDeser_later buf more h0]
  cases hd : fixDeser buf with
  | error e => rfl
  | ok o =>
    cases o with
    | none => exact absurd hd h0
    | some fr =>
      simp only [later]
      split
      · split <;> rfl
      · rfl

theorem fixProto_consuming : Consuming fixProto := fun _ _ _ h => (fixDeser_consumes h).2

theorem fixFramer (known : Bytes → Bool) (decode : Bytes → Except Err Unit) : Framer (fixProtoD known decode) fixSt :=
  Framer.of_later (fixProtoD_consuming known decode) (fixDeserD_later known decode) (fun _ => rfl)

/-- the FIX reader without the dispatch (a frame is its byte slice) is a `Framer` too -/
theorem fixFramer0 : Framer fixProto fixSt :=
  Framer.of_later fixProto_consuming fixDeser_later (fun _ => rfl)

/-- every byte string is stable for FIX (after the repair) -/
theorem fix_stable {μ : Type} (P : Proto μ) (buf : Bytes) : stable P fixSt buf = true :=
  stableF_of_always P fixSt (fun _ => rfl) _ _

end NasdaqModel.Refine
