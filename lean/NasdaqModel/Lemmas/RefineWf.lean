import NasdaqModel.Lemmas.RefineInstances
/-
Tokenisation of WELL-FORMED streams, under exactly the hypotheses of C03 (`Framing.FrameSpec`: a complete well-formed frame
followed by anything is cut off exactly, a proper prefix of one asks for more bytes, frames are non-empty): segmentation
independence needs no stability test there, and the messages carried are C03's `expected`.
-/
namespace NasdaqModel.Refine
open NasdaqModel Py
open NasdaqModel.Framing (Proto R Consuming Settled FrameSpec stream expected)

variable {μ : Type} {P : Proto μ} {enc : μ → Bytes} {wf : μ → Prop}

theorem tokens_enc_logout (S : FrameSpec P enc wf) {m : μ} (hm : wf m) (hl : P.isLogout m = true) (tail : Bytes) :
    tokens P (enc m ++ tail) = ⟨[.logout], tail, true⟩ :=
  tokens_logout P (by simp [S.nonempty m hm]) (S.exact m tail hm) hl

theorem tokens_enc_cons (S : FrameSpec P enc wf) (hC : Consuming P) {m : μ} (hm : wf m) (hl : P.isLogout m = false)
    (tail : Bytes) : tokens P (enc m ++ tail) = (tokens P tail).prepend [classify P m] :=
  tokens_cons P hC (by simp [S.nonempty m hm]) (S.exact m tail hm) hl

theorem tokens_short (S : FrameSpec P enc wf) {m : μ} (hm : wf m) {q : Bytes} (hq : q <+: enc m) (hne : q ≠ enc m) :
    tokens P q = ⟨[], q, false⟩ := by
  by_cases h0 : q = []
  · subst h0; rfl
  · exact tokens_none P (S.short m q hm hq hne h0)

/-- **segmentation independence on well-formed streams** (C03's hypotheses): however a prefix of the stream of well-formed
    frames is cut in two, tokenising the whole is tokenising the first part and continuing on what it left over -/
theorem tokens_append_wf (S : FrameSpec P enc wf) (hC : Consuming P) : ∀ (ms : List μ), (∀ m ∈ ms, wf m) →
    ∀ (a b : Bytes), a ++ b <+: stream enc ms → tokens P (a ++ b) = (tokens P a).extend P b := by
  intro ms
  induction ms with
  | nil =>
    intro _ a b h
    have : a ++ b = [] := by simpa [stream] using h
    obtain ⟨rfl, rfl⟩ := List.append_eq_nil_iff.1 this
    rw [tokens_nil, Toks.extend_nfin _ _ _ rfl]; rfl
  | cons m ms ih =>
    intro hwf a b h
    have hm : wf m := hwf m (by simp)
    rw [Framing.stream_cons] at h
    by_cases hfull : enc m <+: a
    · obtain ⟨a', rfl⟩ := hfull
      rw [List.append_assoc] at h ⊢
      have h' : a' ++ b <+: stream enc ms := (List.prefix_append_right_inj _).1 h
      cases hl : P.isLogout m with
      | true =>
        rw [tokens_enc_logout S hm hl, tokens_enc_logout S hm hl, Toks.extend_fin _ _ _ rfl]
      | false =>
        rw [tokens_enc_cons S hC hm hl, tokens_enc_cons S hC hm hl, ih (fun x hx => hwf x (by simp [hx])) a' b h',
          Toks.prepend_extend]
    · have hpa : a <+: enc m ++ stream enc ms := (List.prefix_append a b).trans h
      have hshort : a <+: enc m := by
        rcases List.prefix_or_prefix_of_prefix hpa (List.prefix_append _ _) with h1 | h1
        · exact h1
        · exact absurd h1 hfull
      have hne : a ≠ enc m := fun he => hfull (he ▸ List.prefix_refl _)
      rw [tokens_short S hm hshort hne, Toks.extend_nfin _ _ _ rfl]; rfl

theorem expected_cons (P : Proto μ) (m : μ) (ms : List μ) : expected P (m :: ms) =
    if P.isLogout m then [] else (if P.isHeartbeat m then [] else [m]) ++ expected P ms := by
  unfold expected
  cases hl : P.isLogout m <;> cases hh : P.isHeartbeat m <;> simp [hl, hh]

/-- the decodable messages carried by a well-formed stream are C03's expected messages: the non-heartbeats before the
    first logout -/
theorem carried_stream (S : FrameSpec P enc wf) (hC : Consuming P) : ∀ (ms : List μ), (∀ m ∈ ms, wf m) →
    carried P (stream enc ms) = expected P ms := by
  intro ms
  induction ms with
  | nil => intro _; rfl
  | cons m ms ih =>
    intro hwf
    have hm : wf m := hwf m (by simp)
    rw [Framing.stream_cons, expected_cons]
    unfold carried at ih ⊢
    cases hl : P.isLogout m with
    | true => rw [tokens_enc_logout S hm hl]; rfl
    | false =>
      rw [tokens_enc_cons S hC hm hl, Toks.msgs_prepend, ih (fun x hx => hwf x (by simp [hx]))]
      cases hh : P.isHeartbeat m <;> simp [classify, hl, hh, tokMsgs]

theorem stable_stream {st : Bytes → Bool} (S : FrameSpec P enc wf) (hC : Consuming P)
    (hst : ∀ m, wf m → ∀ tail, st (enc m ++ tail) = true) : ∀ (ms : List μ), (∀ m ∈ ms, wf m) →
    stable P st (stream enc ms) = true := by
  intro ms
  induction ms with
  | nil => intro _; rfl
  | cons m ms ih =>
    intro hwf
    have hm : wf m := hwf m (by simp)
    rw [Framing.stream_cons]
    have hne : enc m ++ stream enc ms ≠ [] := by simp [S.nonempty m hm]
    cases hl : P.isLogout m with
    | true =>
      rw [stable_stop P st hne]
      · exact hst m hm _
      · intro m' rest' h
        rw [S.exact m _ hm] at h
        cases h; exact hl
    | false =>
      rw [stable_cons P st hC hne (S.exact m _ hm) hl, hst m hm, ih (fun x hx => hwf x (by simp [hx]))]; rfl


namespace FixWf
open NasdaqModel.Framing

/-- a well-formed frame that the dictionary dispatch and the field-level decoder accept -/
def wfD (known : Bytes → Bool) (decode : Bytes → Except Err Unit) (f : Bytes) : Prop :=
  wfFixFrame f = true ∧ known (getMsgType f) = true ∧ decode f = .ok ()

theorem fixDeserD_none {known : Bytes → Bool} {decode : Bytes → Except Err Unit} {buf : Bytes}
    (h : fixDeser buf = .ok none) : fixDeserD known decode buf = .ok none := by
  unfold fixDeserD; simp only [h]

/-- C03's three framing facts for the FIX reader WITH the dictionary dispatch -/
theorem fixSpecD (known : Bytes → Bool) (decode : Bytes → Except Err Unit) :
    FrameSpec (fixProtoD known decode) (fun f => f) (wfD known decode) where
  nonempty := fun f h => fixSpec.nonempty f h.1
  exact := fun f rest h => fixDeserD_of (fix_exact f rest h.1) h.2.1 h.2.2
  short := fun f q h hq hne _ => fixDeserD_none (fix_short f q h.1 hq hne)

end FixWf

end NasdaqModel.Refine
