import NasdaqModel.Lemmas.FixLemmas
/-
Lemmas for C13 at full strength (`Props/C13Anchor.lean`): the anchored `Message.get_msg_type` (after /repo a2cfe01) finds a
`35=` field behind any fields with other tags.

  * *atoms* `tag=value SOH` whose values contain no SOH (`AtomsOK e`: the wire of any well-formed value of `e` is such a sequence,
    with tags of the dictionary - proved for every entry in `Lemmas/FixSharedAnchor.lean`);
  * `SOH 35=` can begin only at an atom boundary, and there only when the whole tag is 35 (`isPrefix35_natDigits`:
    decimal tags have no leading zeros) — `findSub_s35_atoms` skips every atom with another tag, whatever its value;
  * the two branches of the code (`startswith` / `find(SOH + b'35=') + 3`) are one search in `SOH + bytes`
    (`getMsgType_atoms`).
-/
namespace NasdaqModel.Fix
open NasdaqModel Py

/-- one `tag=value` -/
abbrev Atom := Nat × Bytes

/-- the atoms on the wire, each followed by SOH -/
def termAtoms (A : List Atom) : Bytes := termAll (A.map (fun a => fieldBytes a.1 a.2))

/-- the atoms, each *preceded* by SOH -/
def ledAtoms : List Atom → Bytes
  | [] => []
  | a :: A => 1 :: (fieldBytes a.1 a.2 ++ ledAtoms A)

theorem termAtoms_nil : termAtoms [] = [] := rfl

theorem termAtoms_cons (a : Atom) (A : List Atom) : termAtoms (a :: A) = fieldBytes a.1 a.2 ++ 1 :: termAtoms A := by
  simp [termAtoms, termAll_cons]

theorem termAtoms_append (A B : List Atom) : termAtoms (A ++ B) = termAtoms A ++ termAtoms B := by
  simp [termAtoms, termAll_append]

/-- moving every SOH from behind its atom to the front of the next one -/
theorem led_term (A : List Atom) : 1 :: termAtoms A = ledAtoms A ++ [1] := by
  induction A with
  | nil => rfl
  | cons a A ih =>
    rw [termAtoms_cons, ledAtoms]
    simp only [List.cons_append, List.append_assoc]
    rw [← ih]

def AtomsIn (T : Nat → Prop) (A : List Atom) : Prop := ∀ a ∈ A, T a.1 ∧ 1 ∉ a.2

theorem AtomsIn.mono {T U : Nat → Prop} {A : List Atom} (h : AtomsIn T A) (htu : ∀ t, T t → U t) : AtomsIn U A :=
  fun a ha => ⟨htu _ (h a ha).1, (h a ha).2⟩

theorem AtomsIn.append {T : Nat → Prop} {A B : List Atom} (ha : AtomsIn T A) (hb : AtomsIn T B) : AtomsIn T (A ++ B) := by
  intro a hm
  rcases List.mem_append.mp hm with hm | hm
  · exact ha a hm
  · exact hb a hm

theorem atoms_of_parts (T : Nat → Prop) : ∀ (parts : List Bytes),
    (∀ p ∈ parts, ∃ A, p ++ [1] = termAtoms A ∧ AtomsIn T A) → ∃ A, termAll parts = termAtoms A ∧ AtomsIn T A
  | [], _ => ⟨[], rfl, fun a ha => absurd ha (by simp)⟩
  | p :: ps, h => by
    obtain ⟨A, hA, tA⟩ := h p (by simp)
    obtain ⟨B, hB, tB⟩ := atoms_of_parts T ps (fun q hq => h q (by simp [hq]))
    refine ⟨A ++ B, ?_, tA.append tB⟩
    rw [termAll_cons, termAtoms_append, ← hA, ← hB]
    simp

def AtomsOK (e : Entry) : Prop :=
  ∀ v b, wfVal e v = true → encEntry e v = .ok b → ∃ A, b ++ [1] = termAtoms A ∧ AtomsIn (· ∈ deepTags e) A

theorem deepTags_eq (e : Entry) : deepTags e = e.tag :: innerTags e := by
  cases e <;> simp [deepTags, innerTags, Entry.tag]

/-- decimal tags have no leading zeros and contain no `=`: a field that begins with `35=` has tag 35 -/
theorem isPrefix35_natDigits (t : Nat) (Z : Bytes) (h : List.isPrefixOf [51, 53, 61] (natDigits t ++ 61 :: Z) = true) :
    t = 35 := by
  have hd := natDigits_all_digit t
  have hv := digitsVal_natDigits t
  match hl : natDigits t, hd, hv with
  | [], _, _ => rw [hl] at h; simp [List.isPrefixOf] at h
  | [a], _, _ => rw [hl] at h; simp [List.isPrefixOf] at h
  | [a, b], _, hv =>
    rw [hl] at h
    simp only [List.cons_append, List.nil_append, List.isPrefixOf, Bool.and_eq_true, beq_iff_eq] at h
    obtain ⟨ha, hb, _⟩ := h
    subst ha; subst hb
    rw [← hv]; rfl
  | a :: b :: c :: l, hd, _ =>
    rw [hl] at h
    simp only [List.cons_append, List.isPrefixOf, Bool.and_eq_true, beq_iff_eq] at h
    have := hd c (by simp)
    rw [← h.2.2.1] at this
    exact absurd this (by decide)

theorem natDigits_35 : natDigits 35 = [51, 53] := by decide

theorem findSub_s35_skip (u X : Bytes) (h : 1 ∉ u) :
    findSub [1, 51, 53, 61] (u ++ X) = (findSub [1, 51, 53, 61] X).map (· + u.length) := by
  induction u with
  | nil => simp
  | cons c u ih =>
    have hc : ¬ (1 = c) := by intro e; exact h (by simp [e])
    have hu : 1 ∉ u := by intro e; exact h (by simp [e])
    have hp : List.isPrefixOf [1, 51, 53, 61] (c :: (u ++ X)) = false := by
      simp [List.isPrefixOf, hc]
    simp only [List.cons_append, findSub, hp, Bool.false_eq_true, if_false, ih hu, List.length_cons]
    cases findSub [1, 51, 53, 61] X with
    | none => rfl
    | some k => simp; omega

/-- `SOH tag=value` with another tag than 35 and a value without SOH is skipped by the search, whatever the value holds
    (`35=` included) and whatever the tag ends in (`135`) -/
theorem findSub_s35_atom (t : Nat) (v X : Bytes) (ht : t ≠ 35) (hv : 1 ∉ v) :
    findSub [1, 51, 53, 61] (1 :: (fieldBytes t v ++ X))
      = (findSub [1, 51, 53, 61] X).map (· + ((fieldBytes t v).length + 1)) := by
  have hp : List.isPrefixOf [1, 51, 53, 61] (1 :: (fieldBytes t v ++ X)) = false := by
    cases hh : List.isPrefixOf [1, 51, 53, 61] (1 :: (fieldBytes t v ++ X)) with
    | false => rfl
    | true =>
      have e : fieldBytes t v ++ X = natDigits t ++ 61 :: (v ++ X) := by simp [fieldBytes]
      rw [e] at hh
      simp only [List.isPrefixOf, beq_self_eq_true, Bool.true_and] at hh
      exact absurd (isPrefix35_natDigits t (v ++ X) (by simpa [List.isPrefixOf] using hh)) ht
  have h1 : 1 ∉ fieldBytes t v := by
    intro hm
    simp only [fieldBytes, List.mem_append, List.mem_cons] at hm
    rcases hm with hm | hm | hm
    · exact natDigits_no t 1 (by decide) hm
    · exact absurd hm (by decide)
    · exact hv hm
  simp only [findSub, hp, Bool.false_eq_true, if_false, findSub_s35_skip _ X h1]
  cases findSub [1, 51, 53, 61] X with
  | none => rfl
  | some k => simp; omega

theorem findSub_s35_atoms (A : List Atom) (X : Bytes) (hA : AtomsIn (· ≠ 35) A) :
    findSub [1, 51, 53, 61] (ledAtoms A ++ X) = (findSub [1, 51, 53, 61] X).map (· + (ledAtoms A).length) := by
  induction A with
  | nil => simp [ledAtoms]
  | cons a A ih =>
    have ih' := ih (fun x hx => hA x (by simp [hx]))
    obtain ⟨ht, hv⟩ := hA a (by simp)
    simp only [ledAtoms, List.cons_append, List.append_assoc]
    rw [findSub_s35_atom a.1 a.2 _ ht hv, ih']
    cases findSub [1, 51, 53, 61] X with
    | none => rfl
    | some k => simp; omega

/-- the two branches of the code are one search in `SOH + bytes`: when the first `SOH 35=` of `SOH + bytes` is the one after
    `Q`, `get_msg_type` returns the value of that field -/
theorem getMsgType_at (Q ty rest : Bytes)
    (hfind : findSub [1, 51, 53, 61] (1 :: (Q ++ [1, 51, 53] ++ 61 :: (ty ++ 1 :: rest))) = some (Q.length + 1))
    (h1 : 1 ∉ ty) (ha : ty.all (· < 128) = true) :
    getMsgType (Q ++ [1, 51, 53] ++ 61 :: (ty ++ 1 :: rest)) = .ok ty := by
  obtain ⟨e1, e2⟩ := value_slice (Q ++ [1, 51, 53]) ty rest h1 (Q.length + 3) (by simp)
  simp only [findSub] at hfind
  split at hfind
  · simp at hfind
  · rename_i hp
    -- `SOH + bytes` does not begin with `SOH 35=`: the bytes do not begin with `35=`
    have ep : List.isPrefixOf [51, 53, 61] (Q ++ [1, 51, 53] ++ 61 :: (ty ++ 1 :: rest)) = false := by
      simp only [List.isPrefixOf, beq_self_eq_true, Bool.true_and] at hp
      exact Bool.eq_false_iff.mpr hp
    have e0 : findSub [1, 51, 53, 61] (Q ++ [1, 51, 53] ++ 61 :: (ty ++ 1 :: rest)) = some Q.length := by
      cases hf : findSub [1, 51, 53, 61] (Q ++ [1, 51, 53] ++ 61 :: (ty ++ 1 :: rest)) with
      | none =>
        rw [hf] at hfind
        simp at hfind
      | some k =>
        rw [hf] at hfind
        simp at hfind
        rw [hfind]
    unfold getMsgType
    simp only [ep, Bool.false_eq_true, if_false, e0, e1, e2]
    unfold decodeAscii
    rw [if_pos ha]
theorem getMsgType_atoms (A : List Atom) (ty R : Bytes) (hA : AtomsIn (· ≠ 35) A) (h1 : 1 ∉ ty)
    (ha : ty.all (· < 128) = true) :
    getMsgType (termAtoms A ++ ([51, 53, 61] ++ ty ++ 1 :: R)) = .ok ty := by
  cases A with
  | nil => simpa [termAtoms_nil] using getMsgType_first ty R h1 ha
  | cons a A =>
    have hq : termAtoms (a :: A) = (fieldBytes a.1 a.2 ++ ledAtoms A) ++ [1] := by
      have := led_term (a :: A)
      simp only [ledAtoms, List.cons_append] at this
      injection this with _ this
    have hbytes : termAtoms (a :: A) ++ ([51, 53, 61] ++ ty ++ 1 :: R)
        = (fieldBytes a.1 a.2 ++ ledAtoms A) ++ [1, 51, 53] ++ 61 :: (ty ++ 1 :: R) := by
      rw [hq]; simp
    rw [hbytes]
    apply getMsgType_at _ _ _ _ h1 ha
    have e : 1 :: ((fieldBytes a.1 a.2 ++ ledAtoms A) ++ [1, 51, 53] ++ 61 :: (ty ++ 1 :: R))
        = ledAtoms (a :: A) ++ ([1, 51, 53, 61] ++ (ty ++ 1 :: R)) := by
      simp [ledAtoms]
    rw [e, findSub_s35_atoms (a :: A) _ hA]
    have : findSub [1, 51, 53, 61] ([1, 51, 53, 61] ++ (ty ++ 1 :: R)) = some 0 := by
      simp [findSub, List.isPrefixOf]
    rw [this]
    simp [ledAtoms]

end NasdaqModel.Fix
