/-
Heartbeat monitors of a logged-in session (C08, C09) — import-free, executable.

Transcribed from
  common/session.py  HeartbeatMonitor (`_pinged`, `_start_monitor`), AsyncSession.start_heartbeats, data_received
  soup/session.py    SoupSession.send_msg, SoupClientSession.login, SoupServerSession._handle_login  (the `start_heartbeats(…)` call sites)
  fix/session.py     FixSession.send_msg, FixSession.login

Time is a grid of natural numbers (one unit = any duration finer than every interval).  Login (the instant
`start_heartbeats` is called) is time 0.  One `adv` event lets one grid unit pass: it wakes every monitor whose
`asyncio.sleep(interval)` expires at the new instant (local monitor first, then the remote one) *before* any
external event that carries the same time stamp.  Steps of the library take no time (virtual time, no drift).
-/
namespace NasdaqModel.Monitor

/-- `HeartbeatMonitor` (common/session.py).  `missed` is the number of values the `count(1)` iterator
    `missed_heartbeats` has handed out since it was last re-created; `left` the grid units until the pending
    `asyncio.sleep(self.interval)` returns; `running` = the monitor task is alive. -/
structure Mon where
  interval : Nat
  tol : Nat
  stopWhenNoActivity : Bool
  pinged : Bool
  missed : Nat
  left : Nat
  running : Bool
  deriving Repr, DecidableEq, Inhabited

/-- `HeartbeatMonitor(…)`: `_pinged = True`, task created, first `sleep(interval)` pending -/
def Mon.start (interval tol : Nat) (stop : Bool) : Mon :=
  { interval := interval, tol := tol, stopWhenNoActivity := stop,
    pinged := true, missed := 0, left := interval, running := true }

/-- `ping()` -/
def Mon.ping (m : Mon) : Mon := { m with pinged := true }

/-- `stop()` (task cancelled) -/
def Mon.stop (m : Mon) : Mon := { m with running := false }

/-- body of the `while True` loop after `await asyncio.sleep(self.interval)` returned (l.78-88).
    The flag says that `on_no_activity_coro()` was awaited. -/
def Mon.wake (m : Mon) : Mon × Bool :=
  if m.pinged then
    -- `self._pinged = False; missed_heartbeats = count(1); continue`
    ({ m with pinged := false, missed := 0, left := m.interval }, false)
  else
    let k := m.missed + 1                              -- `next(missed_heartbeats)`
    if k ≥ m.tol then                                  -- `>= self.tolerate_missed_heartbeats`
      if m.stopWhenNoActivity then
        ({ m with missed := k, running := false }, true)            -- `break`
      else
        ({ m with missed := k, left := m.interval }, true)          -- loop: the counter is *not* re-created
    else
      ({ m with missed := k, left := m.interval }, false)

/-- one grid unit passes for this monitor -/
def Mon.adv (m : Mon) : Mon × Bool :=
  if m.running then
    if m.left ≤ 1 then m.wake else ({ m with left := m.left - 1 }, false)
  else (m, false)

/-! ### a monitor on its own (`mon.run` of the driver; used to validate tolerance / stop handling) -/

inductive MEv where
  | adv      -- one grid unit passes
  | ping
  deriving Repr, DecidableEq, Inhabited

/-- monitor, current time, times at which `on_no_activity_coro` was awaited (newest first) -/
structure MSt where
  mon : Mon
  now : Nat
  trips : List Nat
  deriving Repr, DecidableEq, Inhabited

def MSt.init (interval tol : Nat) (stop : Bool) : MSt := { mon := Mon.start interval tol stop, now := 0, trips := [] }

def MSt.step (s : MSt) : MEv → MSt
  | .ping => { s with mon := s.mon.ping }
  | .adv =>
    let r := s.mon.adv
    { mon := r.1, now := s.now + 1, trips := if r.2 then (s.now + 1) :: s.trips else s.trips }

def MSt.run (s : MSt) (evs : List MEv) : MSt := evs.foldl MSt.step s

/-! ### the session: two monitors, the transport, the closed flag -/

/-- who caused a `transport.write` and with what -/
inductive Origin where
  | app      -- the application called `send_msg` with a non-heartbeat message
  | appHb    -- the application called `send_msg` with a heartbeat message
  | mon      -- the local monitor awaited `send_heartbeat()`
  deriving Repr, DecidableEq, Inhabited

def Origin.isHb : Origin → Bool
  | .app => false
  | _ => true

/-- what the bytes handed to `data_received` are (the session does not look) -/
inductive RecvKind where
  | hb       -- a complete heartbeat packet
  | msg      -- a complete non-heartbeat message
  | frag     -- part of a frame
  deriving Repr, DecidableEq, Inhabited

/-- one `transport.write`: time, origin, and whether the session was still open (`not _closed`) -/
structure Write where
  t : Nat
  origin : Origin
  live : Bool
  deriving Repr, DecidableEq, Inhabited

structure Sess where
  now : Nat
  loc : Mon                 -- `_local_hb_monitor`  (trip action: `send_heartbeat`, never stops itself)
  rem : Mon                 -- `_remote_hb_monitor` (trip action: `close`)
  closed : Bool             -- `_closed`
  closeT : Nat              -- instant `close()` ran (meaningful when `closed`)
  closedByMon : Bool        -- it was the remote monitor that called `close()`
  writes : List Write       -- newest first
  recvs : List (Nat × RecvKind)   -- `data_received` calls, newest first
  deriving Repr, DecidableEq, Inhabited

/-- `start_heartbeats(local, remote)` with explicit tolerances -/
def startWith (l r tolL tolR : Nat) : Sess :=
  { now := 0, loc := Mon.start l tolL false, rem := Mon.start r tolR true,
    closed := false, closeT := 0, closedByMon := false, writes := [], recvs := [] }

/-- `start_heartbeats(local, remote)`: both monitors use the default `tolerate_missed_heartbeats = 1` -/
def startHeartbeats (l r : Nat) : Sess := startWith l r 1 1

/-- `close()`: guard on `_closed`; stops both monitors (and everything else), closes the transport -/
def Sess.close (s : Sess) (byMon : Bool) : Sess :=
  if s.closed then s
  else { s with closed := true, closeT := s.now, closedByMon := byMon, loc := s.loc.stop, rem := s.rem.stop }

/-- `send_msg(msg)`: `transport.write`, then `if not msg.is_heartbeat(): local monitor ping`
    (SoupSession.send_msg, FixSession.send_msg; no test of `_closed`) -/
def Sess.sendMsg (s : Sess) (o : Origin) : Sess :=
  { s with writes := { t := s.now, origin := o, live := !s.closed } :: s.writes,
           loc := if o.isHb then s.loc else s.loc.ping }

/-- `data_received(data)`: remote monitor ping, then the bytes go to the reader (`common/session.py`, `data_received`) -/
def Sess.dataReceived (s : Sess) (k : RecvKind) : Sess :=
  { s with rem := s.rem.ping, recvs := (s.now, k) :: s.recvs }

/-- the local monitor's timer at the current instant; trip ⇒ `send_heartbeat()` = `send_msg(heartbeat)` -/
def Sess.tickLocal (s : Sess) : Sess :=
  let r := s.loc.adv
  let s1 := { s with loc := r.1 }
  if r.2 then s1.sendMsg .mon else s1

/-- the remote monitor's timer at the current instant; trip ⇒ `close()` -/
def Sess.tickRemote (s : Sess) : Sess :=
  let r := s.rem.adv
  let s1 := { s with rem := r.1 }
  if r.2 then s1.close true else s1

def Sess.bump (s : Sess) : Sess := { s with now := s.now + 1 }

inductive Ev where
  | adv                      -- one grid unit passes
  | send                     -- application sends a non-heartbeat message
  | sendHb                   -- application sends a heartbeat message itself
  | recv (k : RecvKind)      -- bytes arrive from the peer
  | close                    -- application closes the session
  | sendFailed               -- application calls `send_msg` and the call raises before the write (see `Sess.step`)
  deriving Repr, DecidableEq, Inhabited

/-- `sendFailed`: a `send_msg(msg)` call that raises before `transport.write` — FixSession.send_msg: `msg.validate(BODY)` raises
    `ValueError` (mandatory body field missing) or `_prepare_complete_msg` raises while encoding (the sequence number is given
    back, 9c458df); SoupSession.send_msg: `msg.to_bytes()` raises (text that is not ASCII, payload longer than a packet).
    The write and the `ping()` of the local monitor both come *after* the statement that raises: nothing is written and no
    monitor is touched. -/
def Sess.step (s : Sess) : Ev → Sess
  | .adv => s.bump.tickLocal.tickRemote
  | .send => s.sendMsg .app
  | .sendHb => s.sendMsg .appHb
  | .sendFailed => s
  | .recv k => s.dataReceived k
  | .close => s.close false

def Sess.run (s : Sess) (evs : List Ev) : Sess := evs.foldl Sess.step s

/-- end of the session's life so far: the close instant, or now -/
def Sess.life (s : Sess) : Nat := if s.closed then s.closeT else s.now

/-! ### which configured interval goes where (the call sites of `start_heartbeats`) -/

inductive Role where
  | soupClient
  | soupServer
  | fix          -- FixSession is a client-side session
  deriving Repr, DecidableEq, Inhabited

structure Cfg where
  clientI : Nat     -- `client_heartbeat_interval`
  serverI : Nat     -- `server_heartbeat_interval`
  deriving Repr, DecidableEq, Inhabited

/-- `(local_hb_interval, remote_hb_interval)` as passed by the code -/
def sessionIntervals : Role → Cfg → Nat × Nat
  | .soupClient, c => (c.clientI, c.serverI)   -- SoupClientSession.login:           start_heartbeats(client, server)
  | .soupServer, c => (c.serverI, c.clientI)   -- SoupServerSession._handle_login:   start_heartbeats(server, client)   (since 757e1aa)
  | .fix, c => (c.clientI, c.serverI)          -- FixSession.login:                  start_heartbeats(client, server)

/-- the session right after a successful login -/
def login (role : Role) (c : Cfg) : Sess :=
  startHeartbeats (sessionIntervals role c).1 (sessionIntervals role c).2

/-- the interval of the session's own role / of its peer's role (what the property statements refer to) -/
def ownInterval : Role → Cfg → Nat
  | .soupServer, c => c.serverI
  | _, c => c.clientI

def peerInterval : Role → Cfg → Nat
  | .soupServer, c => c.clientI
  | _, c => c.serverI

end NasdaqModel.Monitor
