import NasdaqModel.Py.Basic
import NasdaqModel.Model.Session
/-
The application-session layer — `itch/session.py`, `ouch/session.py`, `sqf/session.py`, `asn1_app/soup_session.py`
(`ClientSession` / `Asn1SoupClientSession`) — composed with the session machine of `Model/Session.lean`, which is used
unchanged as the *inner* machine (the SoupBinTCP client session the application session wraps).

The four classes are the same code up to names, the `decode` they call and `send_message` (ouch, sqf):

    __attrs_post_init__   _message_queue = DispatchableMessageQueue(id, on_msg_coro)      second queue `q2`, dispatcher `D2` iff a callback
                          soup_session.set_handlers(_on_soup_message, _on_soup_close); soup_session.start_dispatching()
    receive_message()     await _message_queue.get()                                       helper task `V2`
    close()               if _close_event or closed: return
                          _close_event = Event()
                          if _message_queue.is_dispatcher_current_task(): await soup_session.close(); return     (the repair of
                              C05-app-close-from-message-callback: called from the message callback, i.e. by `D2` itself)
                          soup_session.initiate_close(); await _close_event.wait()
    _on_soup_message(m)   if isinstance(m, SequencedData): await _message_queue.put(decode(m.data)[1])
    _on_soup_close()      closed = True; await _message_queue.stop(); await on_close_coro(); if _close_event: _close_event.set()
    send_message(msg)     soup_session.send_unseq_data(bytes)        (= the inner event `callSend`)

* The inner configuration is what the application session installs (`innerCfg`): a message callback that never suspends
  (`ret`, or `raise` when `decode` raises — the inner dispatcher logs and goes on) and a close callback.  The inner close
  callback is `_on_soup_close`; the inner machine sees it as `await 0` ("suspends, comes back once"): while the closer sits in
  the inner stage `cb t 0 c`, the product machine runs the application-level close sequence (`CPc`) on the closer's steps and
  lets the inner step (`cbExit`, continuation) happen in the very step in which `_on_soup_close` returns.
* Every product event is mapped to zero, one or two inner events, so the inner component is always a state reached by a legal
  inner event sequence: every theorem about `Sess` holds for it.
* `decode` is the parameter `dec : Nat → Dec` on message tokens: `skip` (not a `SequencedData` packet), `fail` (decode raises),
  `val v` (decoded value `v`; for ASN.1 a `DecodeError` yields the falsy value `{}`, which is just another value here).
* As in the inner model, where the real code goes on within the same step (the dispatcher taking the next message after a handler
  returned) the model ends the step and sets `imm2`; the driver runs `D2` again at once.
* User callbacks of the application layer: message callback `ret | await k | raise | close` (awaits `app.close()`) | `awaitClose k`
  (works, then awaits `app.close()`: more messages may be queued behind it) | `awaitCC k` (awaits; its cancellation clean-up awaits
  `app.close()`); close callback `ret | await k | close`.
* `ACfg.closedFirst`: the order inside `_on_soup_close`.  `true` = the code as it is (/repo 7eb8348: `closed = True`, then
  `await queue.stop()`); `false` = the order up to 35c133f (`stop()` first), kept as the subject of
  `Witness.C05AppOld.C05AppOld_witness_cleanup_close_deadlock`.
* **`close()` from the message callback** (body or cancellation clean-up) is carried out by the calling task, the second dispatcher
  `D2`: past the guard it creates the event and awaits `soup_session.close()`.  If the soup session is already closed or closing
  (`_closed`), that returns at once and so does `close()` — exactly what `AsyncSession.close()` does for a close requested from the
  soup session's own message callback while another task is in the close body.  Otherwise `D2` *is* the closer of the soup session:
  in the inner machine it is the user task `U d2u` (`d2u = 0`, an identifier the product machine reserves: inner events of the
  user that name it are refused), entered with the inner event `callClose d2u`; `D2` has the status `inSoup` and its steps
  (`run D2`) are the inner steps `run (U d2u)`.  Inside `_on_soup_close`, `queue.stop()` skips the current task
  (`stop_task`: `task is asyncio.current_task()`), i.e. `D2` when `D2` is the closer; when `_on_soup_close` and with it
  `soup_session.close()` have returned, `close()` returns to the callback, the callback returns and the dispatcher loop ends
  (`while not self._closed`) in the same step (`d2Return`).  Nobody can cancel `D2` meanwhile: the only `cancel()` of the
  dispatcher is the one in `queue.stop()`.
  Before the repair the callback waited for the event and was cancelled by `queue.stop()`: `Witness/C05AppOld.lean` keeps that
  transition and the recorded history.
* The application session is constructed in the step in which `login()` returned an active session (what `<kind>.connect_async`
  does); before that the soup session has no callbacks.  The inner step out of the callback stage happens in the very step in
  which `_on_soup_close` returns (`finishClose`), so every product event is zero, one or two inner events.
-/
namespace NasdaqModel.App
open NasdaqModel

/-- what `_on_soup_message` does with the inner message `n` -/
inductive Dec where
  | skip | fail | val (v : Nat)
  deriving DecidableEq, Repr, Inhabited

/-- application-level tasks: second dispatcher, second receive helper, user tasks calling the application session -/
inductive ATid where
  | D2 | V2
  | W (u : Nat)
  deriving DecidableEq, Repr, Inhabited

/-- behaviour of the user's application-level callbacks -/
inductive ABeh where
  | ret
  | await (k : Nat)    -- awaits k+1 times, then returns
  | close              -- `await app.close()`, then returns
  | raise              -- raises (message callback only)
  | awaitCC (k : Nat)  -- message callback only: awaits k+1 times, then returns; if it is cancelled meanwhile its clean-up
                       -- does `await app.close()` before it lets the cancellation through
  | awaitClose (k : Nat)  -- message callback only: awaits k+1 times, then `await app.close()`, then returns
  deriving DecidableEq, Repr, Inhabited

inductive AStatus where
  | absent
  | ready
  | cancelled      -- runnable; `CancelledError` is delivered at its current await
  | waitQ          -- suspended in `queue.get()` on the empty second queue
  | waitV          -- a `receive_message()` caller awaiting the helper task `V2`
  | waitE          -- suspended in `_close_event.wait()`
  | inSoup         -- `D2` only: inside `await soup_session.close()` called from the message callback; it runs as the inner task `U d2u`
  | done
  deriving DecidableEq, Repr, Inhabited

inductive AProg where
  | idle
  | dispLoop
  | handler (v k : Nat)      -- inside the user's message callback for `v`, `k` more awaits to go
  | handlerClose (v : Nat)   -- inside the user's message callback for `v`, inside `await app.close()` (status `inSoup`)
  | handlerCC (v k : Nat)    -- inside an `awaitCC` message callback for `v`, `k` more awaits to go
  | cleanupClose (v : Nat)   -- the cancelled `awaitCC` callback for `v` is inside the `await app.close()` of its clean-up (status `inSoup`)
  | vget
  | recvWait (u : Nat)
  | closeWait (u : Nat)
  deriving DecidableEq, Repr, Inhabited

/-- who called `app.close()` -/
inductive Caller where
  | user (u : Nat)       -- user task `W u`
  | handler (v : Nat)    -- the user's message callback for `v`
  | closeCb              -- the user's close callback
  deriving DecidableEq, Repr, Inhabited

/-- application-level observables -/
inductive AObs where
  | msgEnter (v : Nat) | msgExit (v : Nat) | msgAbandon (v : Nat) | msgRaise (v : Nat)
  | cbEnter | cbExit
  | ret (u : Nat) (r : Sess.Res)                 -- `receive_message()` of user task `W u` returned / raised
  | closeRet (c : Caller) (r : Sess.Res)         -- an `await app.close()` returned (`ok`) / raised `CancelledError` (`cancelled`)
  deriving DecidableEq, Repr, Inhabited

/-- one entry of the merged observable trace -/
inductive PObs where
  | inner (o : Sess.Obs)
  | app (o : AObs)
  deriving DecidableEq, Repr, Inhabited

/-- where the closer is inside `_on_soup_close` -/
inductive CPc where
  | idle               -- `_on_soup_close` has not been entered
  | waitD2             -- in `queue.stop()`: awaiting the cancelled second dispatcher
  | waitV2             -- in `queue.stop()`: awaiting the cancelled second receive helper
  | user (k : Nat)     -- `closed = True` done; inside the user's close callback, `k` more awaits to go
  | finished           -- event set (if there is one); `_on_soup_close` has returned
  | aborted            -- the user cancelled the closer inside the user's close callback: the event is never set
  deriving DecidableEq, Repr, Inhabited

structure ACfg where
  dec : Nat → Dec
  hasMsgCb : Bool          -- an application `on_msg_coro` is configured (callback mode); else pull mode
  msgBeh : Nat → ABeh      -- behaviour of the application message callback per decoded value
  hasCb : Bool             -- an application `on_close_coro` is configured
  cbBeh : ABeh             -- `ret | await k | close`
  closedFirst : Bool       -- `_on_soup_close` sets `closed = True` *before* `await _message_queue.stop()` (the repaired order);
                           -- `false`: after it, as in the code up to commit 35c133f (kept for `Witness/C05App.lean`, `Witness/C05AppOld.lean`)
  deriving Inhabited

/-- the configuration the application session installs on the soup session -/
def innerCfg (a : ACfg) : Sess.Cfg :=
  { msgBeh := fun n => match a.dec n with
      | .fail => .raise
      | _ => .ret
    cbBeh := .await 0
    hasCb := true
    dispatchOnConnect := false
    hasMsgCb := true
    fixLogin := false }

structure St where
  inner : Sess.St := {}
  built : Bool := false            -- the application session has been constructed (in the step in which `login()` returned)
  q2 : List Nat := []              -- `_message_queue._msg_queue`
  q2Closed : Bool := false         -- `_message_queue._closed`
  disp2Set : Bool := false         -- `_message_queue._dispatcher_task is not None`
  vres2 : Option Nat := none       -- value taken off `q2` for a pending `receive_message()`, not yet handed over
  rcv2Busy : Bool := false
  evt : Option Bool := none        -- `_close_event`: `none` | created (`some false`) | set (`some true`)
  appClosed : Bool := false        -- `closed`
  cpc : CPc := .idle
  astatus : ATid → AStatus := fun _ => .absent
  aprog : ATid → AProg := fun _ => .idle
  imm2 : Bool := false             -- `D2` continues within the same real step
  tr : List PObs := []             -- merged observable trace, oldest first
  -- ghost state (never read by the transitions)
  fed : List Nat := []             -- decoded values put on `q2`, in order
  gone2 : List (Nat × Bool) := []  -- values that left `q2` for good: `(v, true)` handed to the application consumer;
                                   -- `(v, false)` (dropped) is produced by no transition any more (it was the late cancel of
                                   -- `receive_message()` before the repair of C04-late-cancel-loses-message): `lost2 = []` always
  deriving Inhabited

inductive Ev where
  | inner (e : Sess.Ev)            -- any event of the soup session (`callSend` is also `send_message`)
  | run (t : ATid)
  | appClose (u : Nat)             -- user task `W u`: `await app.close()`
  | appRecv (u : Nat)              -- user task `W u`: `await app.receive_message()`
  | appCancel (u : Nat)            -- the user cancels task `W u`
  deriving DecidableEq, Repr, Inhabited

def PObs.appOf : PObs → Option AObs
  | .app a => some a
  | .inner _ => none

def PObs.innerOf : PObs → Option Sess.Obs
  | .inner o => some o
  | .app _ => none

/-- application-level observables, in order -/
def St.trace2 (s : St) : List AObs := s.tr.filterMap PObs.appOf

def St.taken2 (s : St) : List Nat := (s.gone2.filter (·.2)).map (·.1)
def St.lost2 (s : St) : List Nat := (s.gone2.filter (fun p => !p.2)).map (·.1)

/-! ### small state algebra -/

def St.setA (s : St) (t : ATid) (x : AStatus) : St :=
  { s with astatus := fun t' => if t' = t then x else s.astatus t' }

def St.setP (s : St) (t : ATid) (p : AProg) : St :=
  { s with aprog := fun t' => if t' = t then p else s.aprog t' }

def St.emit2 (s : St) (o : AObs) : St := { s with tr := s.tr ++ [.app o] }

def St.spawn2 (s : St) (t : ATid) (p : AProg) : St := (s.setA t .ready).setP t p

def alive2 (x : AStatus) : Bool :=
  match x with
  | .absent => false
  | .done => false
  | _ => true

/-- task `t` finishes; a `receive_message()` caller awaiting the helper becomes runnable (the closer awaiting `D2` / `V2` is
    tracked by `cpc`: it is runnable as soon as the awaited task is no longer alive) -/
def St.finish2 (s : St) (t : ATid) : St :=
  { s with astatus := fun t' =>
      if t' = t then .done
      else if t = .V2 ∧ s.astatus t' = .waitV then .ready else s.astatus t' }

/-- `task.cancel()` on an application-level task -/
def St.cancel2 (s : St) (t : ATid) : St :=
  match s.astatus t with
  | .ready => s.setA t .cancelled
  | .waitQ => s.setA t .cancelled
  | .waitE => s.setA t .cancelled
  | .waitV =>
      -- cancelling a caller that awaits the helper cancels the helper; the caller is woken when the helper ends
      match s.astatus .V2 with
      | .ready => s.setA .V2 .cancelled
      | .waitQ => s.setA .V2 .cancelled
      | _ => s
  | _ => s

def St.wake2 (s : St) (t : ATid) : St :=
  if s.astatus t = .waitQ then s.setA t .ready else s

/-- `_message_queue.put(v)` -/
def St.put2 (s : St) (v : Nat) : St :=
  (({ s with q2 := s.q2 ++ [v], fed := s.fed ++ [v] } : St).wake2 .D2).wake2 .V2

/-- `_close_event.set()` (if there is an event): every waiter becomes runnable -/
def St.setEvent (s : St) : St :=
  match s.evt with
  | some false => { s with evt := some true,
                           astatus := fun t => if s.astatus t = .waitE then .ready else s.astatus t }
  | _ => s

def runnable2 (s : St) (t : ATid) : Bool :=
  s.astatus t == .ready || s.astatus t == .cancelled

/-- the inner task that is inside `_on_soup_close` (inner stage `cb t _ _`), if any -/
def closerOf (i : Sess.St) : Option Sess.Tid :=
  match i.cstage with
  | .cb t _ _ => some t
  | _ => none

/-- is the closer suspended inside `queue.stop()` on a task that has not ended yet -/
def closerBlocked (s : St) : Bool :=
  match s.cpc with
  | .waitD2 => alive2 (s.astatus .D2)
  | .waitV2 => alive2 (s.astatus .V2)
  | _ => false

/-- can the inner task `t` take a step in the product machine -/
def runnableI (s : St) (t : Sess.Tid) : Bool :=
  Sess.runnable s.inner t && !(closerOf s.inner == some t && closerBlocked s)

/-! ### one inner event, and what the application layer does in the same step -/

/-- the message callbacks entered in a piece of inner trace -/
def entered (l : List Sess.Obs) : List Nat := l.filterMap fun o => match o with
  | .msgEnter n => some n
  | _ => none

/-- `_on_soup_message` for the inner message `n`: decode and put (nothing for a packet that is not `SequencedData`; when `decode`
    raises nothing is put and the inner dispatcher logs the exception — the inner machine's `msgRaise`) -/
def feed1 (a : ACfg) (s : St) (n : Nat) : St :=
  match a.dec n with
  | .val v => s.put2 v
  | _ => s

/-- `_on_soup_message` for the inner messages whose callback was entered -/
def feed (a : ACfg) (s : St) (ns : List Nat) : St := ns.foldl (feed1 a) s

/-- run the inner event `e`; append what it emitted to the merged trace; `_on_soup_message` (decode and put) for every inner
    message callback the step entered -/
def innerStep (a : ACfg) (s : St) (e : Sess.Ev) : St :=
  let i' := Sess.step (innerCfg a) s.inner e
  let d := i'.trace.drop s.inner.trace.length
  feed a { s with inner := i', tr := s.tr ++ d.map .inner } (entered d)

/-- the inner user task that stands for `D2` while it carries out `soup_session.close()` (reserved: see `reservedEv`) -/
def d2u : Nat := 0

/-- `soup_session.close()` has returned to the `close()` the message callback awaits (`D2` is `inSoup`): `close()` returns; from the
    body of the callback: the callback returns and the dispatcher loop tests `while not self._closed`; from the cancellation
    clean-up: the cancellation goes on, the dispatcher loop breaks -/
def d2Return (s : St) : St :=
  if s.astatus .D2 = .inSoup then
    match s.aprog .D2 with
    | .handlerClose v =>
        if s.q2Closed then ((s.emit2 (.closeRet (.handler v) .ok)).emit2 (.msgExit v)).finish2 .D2
        else { ((((s.emit2 (.closeRet (.handler v) .ok)).emit2 (.msgExit v)).setA .D2 .ready).setP .D2 .dispLoop) with imm2 := true }
    | .cleanupClose v => ((s.emit2 (.closeRet (.handler v) .ok)).emit2 (.msgAbandon v)).finish2 .D2
    | _ => s
  else s

/-- `_on_soup_close` returns to `AsyncSession.close()`: the inner step of the closer happens now; if the closer is `D2` (the close
    was requested from the message callback) the callback goes on in the same step -/
def finishClose (a : ACfg) (s : St) (t : Sess.Tid) : St :=
  d2Return (innerStep a { s with cpc := .finished } (.run t))

/-- the end of the user's close callback: `cbExit`, `_close_event.set()`, return -/
def endCb (a : ACfg) (s : St) (t : Sess.Tid) : St :=
  finishClose a (s.emit2 .cbExit).setEvent t

/-- after `queue.stop()`: `closed = True`, the user's close callback -/
def afterStop (a : ACfg) (s : St) (t : Sess.Tid) : St :=
  let s := { s with appClosed := true }
  if !a.hasCb then finishClose a s.setEvent t
  else
    let s := s.emit2 .cbEnter
    match a.cbBeh with
    | .await k => { s with cpc := .user k }
    | .close => endCb a (s.emit2 (.closeRet .closeCb .ok)) t     -- `app.close()` returns at once because `closed` is already true
    | _ => endCb a s t

/-- `stop_task(_recv_task)` -/
def stopV2 (a : ACfg) (s : St) (t : Sess.Tid) : St :=
  if alive2 (s.astatus .V2) then { (s.cancel2 .V2) with cpc := .waitV2 } else afterStop a s t

/-- `stop_task(_dispatcher_task)`; `_dispatcher_task = None` once it has ended.  `stop_task` skips the current task: `D2` is the
    running task exactly when it is the closer, i.e. `inSoup` -/
def stopD2 (a : ACfg) (s : St) (t : Sess.Tid) : St :=
  if s.disp2Set && alive2 (s.astatus .D2) && s.astatus .D2 != .inSoup then { (s.cancel2 .D2) with cpc := .waitD2 }
  else stopV2 a { s with disp2Set := false } t

/-- `_on_soup_close` from its beginning, run by the inner closer `t` in the step in which the transport was closed.
    Before the application session exists there is no close callback on the soup session. -/
def onSoupClose (a : ACfg) (s : St) (t : Sess.Tid) : St :=
  if !s.built then finishClose a s t
  else
    let s := if a.closedFirst then { s with appClosed := true } else s
    if s.q2Closed then afterStop a s t
    else stopD2 a { s with q2Closed := true } t

/-- the closer `t` resumes inside `_on_soup_close` -/
def resumeSoupClose (a : ACfg) (s : St) (t : Sess.Tid) : St :=
  match s.cpc with
  | .waitD2 => stopV2 a { s with disp2Set := false } t
  | .waitV2 => afterStop a s t
  | .user k =>
      if s.inner.status t = .cancelled then
        -- the user cancelled the task inside the user's close callback: it propagates out of `_on_soup_close` and `close()`
        innerStep a { s with cpc := .aborted } (.run t)
      else match k with
        | 0 => endCb a s t
        | k + 1 => { s with cpc := .user k }
  | _ => s

/-- the application session is constructed in the step in which `login()` returned the session (an active one: `set_handlers`
    raises `StateError` on a session that is closed or closing) -/
def construct (a : ACfg) (s : St) : St :=
  if !s.built && s.inner.status .D != .absent && !s.inner.closed && !s.inner.closingTask then
    let s := { s with built := true }
    if a.hasMsgCb then ({ s with disp2Set := true }).spawn2 .D2 .dispLoop else s
  else s

/-- an inner event that is not intercepted: the inner step (with `_on_soup_message` for every inner message callback it
    entered), construction, and — if the step entered the inner close callback — `_on_soup_close` up to its first suspension -/
def passInner (a : ACfg) (s : St) (e : Sess.Ev) : St :=
  let s := innerStep a s e
  let s := construct a s
  match closerOf s.inner, s.cpc with
  | some t, .idle => onSoupClose a s t
  | _, _ => s

def stepInner (a : ACfg) (s : St) (e : Sess.Ev) : St :=
  match e with
  | .run t =>
      if closerOf s.inner = some t ∧ s.cpc ≠ .idle then
        if runnableI s t then resumeSoupClose a s t else s
      else passInner a s e
  | .cancel u =>
      -- a cancellation that reaches the closer while it awaits `D2` / `V2` inside `stop_task` is passed on to the awaited
      -- task and swallowed by `stop_task`
      if closerOf s.inner = some (.U u) ∧ s.cpc = .waitD2 then s.cancel2 .D2
      else if closerOf s.inner = some (.U u) ∧ s.cpc = .waitV2 then s.cancel2 .V2
      else passInner a s e
  | _ => passInner a s e

/-- inner events of the user that name the reserved task `U d2u` are refused -/
def reservedEv : Sess.Ev → Bool
  | .run (.U u) => u == d2u
  | .callClose u => u == d2u
  | .callRecv u => u == d2u
  | .callLogin u => u == d2u
  | .cancel u => u == d2u
  | _ => false

/-! ### application-level steps -/

/-- `await app.close()` after its guard, by the application task `t` (program `p` while it waits) -/
def startClose (a : ACfg) (s : St) (t : ATid) (p : AProg) : St :=
  let s := innerStep a { s with evt := some false } .callInitiateClose
  (s.setA t .waitE).setP t p

/-- `await app.close()` after its guard, called from the message callback (by `D2`, the dispatcher task of the second queue; `p` says
    from where: `handlerClose v` the body, `cleanupClose v` the cancellation clean-up): the event is created and
    `await self.soup_session.close()` is carried out by `D2` itself — at once if the soup session is already closed or closing -/
def closeOnD2 (a : ACfg) (s : St) (p : AProg) : St :=
  let s := (({ s with evt := some false } : St).setA .D2 .inSoup).setP .D2 p
  if s.inner.closed then d2Return s else passInner a s (.callClose d2u)

/-- the second dispatcher has taken `v` and entered the user's message callback -/
def dispHandle2 (a : ACfg) (s : St) (v : Nat) : St :=
  match a.msgBeh v with
  | .ret => { (s.emit2 (.msgExit v)) with imm2 := true }
  | .await k => s.setP .D2 (.handler v k)
  | .raise => { (s.emit2 (.msgRaise v)) with imm2 := true }
  | .close =>
      if s.evt.isSome || s.appClosed then { ((s.emit2 (.closeRet (.handler v) .ok)).emit2 (.msgExit v)) with imm2 := true }
      else closeOnD2 a s (.handlerClose v)
  | .awaitCC k => s.setP .D2 (.handlerCC v k)
  | .awaitClose k => s.setP .D2 (.handler v k)

/-- the awaits of the message callback for `v` (run by `t` = `D2`) are over: an `awaitClose` callback now closes the session from
    inside, any other returns -/
def handlerDone (a : ACfg) (s : St) (t : ATid) (v : Nat) : St :=
  match a.msgBeh v with
  | .awaitClose _ =>
      if s.evt.isSome || s.appClosed then
        { (((s.emit2 (.closeRet (.handler v) .ok)).emit2 (.msgExit v)).setP t .dispLoop) with imm2 := true }
      else closeOnD2 a s (.handlerClose v)
  | _ => { ((s.emit2 (.msgExit v)).setP t .dispLoop) with imm2 := true }

def stepDisp2 (a : ACfg) (s : St) : St :=
  if s.q2Closed then s.finish2 .D2
  else if s.rcv2Busy || s.vres2.isSome then s
  else match s.q2 with
    | [] => s.setA .D2 .waitQ
    | v :: q => dispHandle2 a (({ s with q2 := q, gone2 := s.gone2 ++ [(v, true)] }).emit2 (.msgEnter v)) v

def stepRun2 (a : ACfg) (s : St) (t : ATid) : St :=
  let s := { s with imm2 := false }
  match s.astatus t with
  | .cancelled =>
    match s.aprog t with
    | .handler v _ => (s.emit2 (.msgAbandon v)).finish2 t          -- raised into the user's handler; the dispatcher breaks
    | .handlerCC v _ =>
        -- the clean-up of the cancelled callback: `await app.close()`, then the cancellation goes on
        if s.evt.isSome || s.appClosed then ((s.emit2 (.closeRet (.handler v) .ok)).emit2 (.msgAbandon v)).finish2 t
        else closeOnD2 a s (.cleanupClose v)
    | .recvWait u =>
        -- late cancel (`vres2 = some v`): the value goes to the stash `_unclaimed` of the second queue, modelled as `q2` with the
        -- value re-inserted at its head (same argument as in `Sess.stepRun`: `V2` has ended, `D2` is not suspended on `q2` while
        -- a receive is pending, the stash holds at most one value)
        let s := { s with vres2 := none, rcv2Busy := false, q2 := s.vres2.toList ++ s.q2 }
        if s.q2Closed then (s.emit2 (.ret u .eoq)).finish2 t else (s.emit2 (.ret u .cancelled)).finish2 t
    | .closeWait u => (s.emit2 (.closeRet (.user u) .cancelled)).finish2 t
    | _ => s.finish2 t
  | .ready =>
    match s.aprog t with
    | .dispLoop => if t = .D2 then stepDisp2 a s else s
    | .handler v k =>
        match k with
        | 0 => handlerDone a s t v
        | k + 1 => s.setP t (.handler v k)
    | .handlerCC v k =>
        match k with
        | 0 => { ((s.emit2 (.msgExit v)).setP t .dispLoop) with imm2 := true }
        | k + 1 => s.setP t (.handlerCC v k)
    | .vget =>
        match s.q2 with
        | [] => s.setA t .waitQ
        | v :: q => if s.vres2.isSome then s else ({ s with q2 := q, vres2 := some v }).finish2 t
    | .recvWait u =>
        match s.vres2 with
        | some v => ({ s with vres2 := none, rcv2Busy := false, gone2 := s.gone2 ++ [(v, true)] }.emit2 (.ret u (.msg v))).finish2 t
        | none =>
            if s.q2Closed then ({ s with rcv2Busy := false }.emit2 (.ret u .eoq)).finish2 t
            else ({ s with rcv2Busy := false }.emit2 (.ret u .cancelled)).finish2 t
    | .closeWait u => (s.emit2 (.closeRet (.user u) .ok)).finish2 t
    | _ => s       -- `idle`; `handlerClose` / `cleanupClose` go with the status `inSoup`, which is not runnable here
  | _ => s

/-- `await app.receive_message()` by user task `W u` -/
def startRecv2 (s : St) (u : Nat) : St :=
  if s.rcv2Busy || s.vres2.isSome || alive2 (s.astatus .V2) then s    -- two concurrent receives: API misuse, outside the model
  else if s.disp2Set then (s.emit2 (.ret u .state)).setA (.W u) .done
  else match s.q2 with
    | v :: q => (({ s with q2 := q, gone2 := s.gone2 ++ [(v, true)] } : St).emit2 (.ret u (.msg v))).setA (.W u) .done
    | [] =>
        if s.q2Closed then (s.emit2 (.ret u .eoq)).setA (.W u) .done
        else
          let s := ({ s with rcv2Busy := true }).spawn2 .V2 .vget
          (s.setA (.W u) .waitV).setP (.W u) (.recvWait u)

def step (a : ACfg) (s : St) : Ev → St
  | .inner e => if reservedEv e then s else stepInner a s e
  | .run t =>
      if runnable2 s t then stepRun2 a s t
      else if t = .D2 ∧ s.astatus .D2 = .inSoup then stepInner a { s with imm2 := false } (.run (.U d2u))   -- `D2` inside `soup_session.close()`
      else s
  | .appClose u =>
      if s.astatus (.W u) != .absent || !s.built then s
      else if s.evt.isSome || s.appClosed then (s.emit2 (.closeRet (.user u) .ok)).setA (.W u) .done
      else startClose a s (.W u) (.closeWait u)
  | .appRecv u => if s.astatus (.W u) != .absent || !s.built then s else startRecv2 s u
  | .appCancel u => s.cancel2 (.W u)

def runEvs (a : ACfg) (s : St) (evs : List Ev) : St := evs.foldl (step a) s

end NasdaqModel.App
