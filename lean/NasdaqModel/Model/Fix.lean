import NasdaqModel.Py.Dec
/-
Model of `nasdaq_protocols/fix/core.py` + `fix/types.py`: the FIX tag=value codec.

  * dictionary: `Entry` (a `Field` subclass with its `FieldType`, or a `GroupContainer` subclass = count tag + the `Entries`
    of its `GroupCls`), `MsgDef` (a `Message` subclass: Name, Type, Header/Body/Trailer segment classes);
  * values: a `DataSegment`/`Group` instance is its `values` OrderedDict = an association list in *insertion order*;
  * `checkVal`/`setItem`/`buildSeg`  — `from_value` / `DataSegment.__setitem__` / `DataSegment.from_value` (type checks, KeyError);
  * `encEntry`/`encSeg`/`encMsg`     — `Field.to_bytes`, `GroupContainer.to_bytes`, `Group.to_bytes` (dictionary order),
                                        `DataSegment.to_bytes` (insertion order), `Message.to_bytes`;
  * `fieldFromBytes`/`segLoop`/`containerFromBytes`/`msgFromBytes`/`getMsgType`/`decodeMsg` — the `from_bytes` family,
    with the `find`-based splitting, "stop at an unknown or repeated tag", the count check, the `35=` that starts the bytes or follows an SOH (`get_msg_type` since /repo a2cfe01);
  * `pyEq` — `Message.__eq__` (OrderedDict equality: order sensitive), `pyEqDict` — the same with plain-dict comparison of
    group instances (the code since /repo 02aab28, fixes/C13-group-eq-order.md).

FIX floats are opaque text tokens (`Val.flt tok`): `str(x)` on the way out, the ASCII text on the way in
(`float(repr(x)) == x` is trusted, DESIGN §3).
Restriction: tags inside one segment / group dictionary are assumed pairwise distinct (`IndexedEntries` is a dict; with a
duplicated tag the later class wins in Python, the first in `lookupE`); the harness only builds such dictionaries.
-/
namespace NasdaqModel.Fix
open NasdaqModel Py

/-- `FieldType` of a field class (`FixInt`, `FixFloat`, `FixBool`, `FixChar`, `FixString`; the other type names are subclasses) -/
inductive FTy where
  | int | float | bool | char | string
  deriving Repr, DecidableEq, Inhabited

/-- one `Entry(entry_def, required)` of a segment: a field class or a group container class -/
inductive Entry where
  | field (tag : Nat) (ty : FTy) (req : Bool)
  | group (tag : Nat) (sub : List Entry) (req : Bool)      -- CountCls.Tag, GroupCls.Entries
  deriving Repr, Inhabited

/-- Python values held by fields; `grp` = `GroupContainer.groups`, each instance its `values` in insertion order -/
inductive Val where
  | int (i : Int)
  | flt (tok : Str)
  | bool (b : Bool)
  | str (s : Str)
  | grp (insts : List (List (Nat × Val)))
  deriving Repr, Inhabited

abbrev Seg := List (Nat × Val)

structure MsgDef where
  name : Str
  type : Str
  hdr : List Entry
  body : List Entry
  trl : List Entry
  deriving Repr, Inhabited

/-- `Message.data` -/
structure Msg where
  hdr : Seg
  body : Seg
  trl : Seg
  deriving Repr, Inhabited

def Entry.tag : Entry → Nat
  | .field t _ _ => t
  | .group t _ _ => t

def Entry.req : Entry → Bool
  | .field _ _ r => r
  | .group _ _ r => r

/-- `IndexedEntries[tag]` -/
def lookupE : List Entry → Nat → Option Entry
  | [], _ => none
  | e :: es, t => if e.tag = t then some e else lookupE es t

/-- `values[tag]` / `tag in values` -/
def lookupV : Seg → Nat → Option Val
  | [], _ => none
  | (k, v) :: s, t => if k = t then some v else lookupV s t

def hasKey (s : Seg) (t : Nat) : Bool := (lookupV s t).isSome

/-- `values[tag] = v` on an (Ordered)dict: an existing key keeps its position -/
def upsert : Seg → Nat → Val → Seg
  | [], t, v => [(t, v)]
  | (k, w) :: s, t, v => if k = t then (k, v) :: s else (k, w) :: upsert s t v

def SOH : Nat := 1
def EQ : Nat := 61

/-- `SOH.join(parts)` -/
def joinSOH : List Bytes → Bytes
  | [] => []
  | [a] => a
  | a :: b :: rest => a ++ 1 :: joinSOH (b :: rest)

/-- `Except` version of `List.mapM` (own definition: structural, easy to unfold) -/
def mapE {α β : Type} (f : α → Except Err β) : List α → Except Err (List β)
  | [] => .ok []
  | a :: as => do
      let b ← f a
      let bs ← mapE f as
      pure (b :: bs)

/-! ### building values: `from_value`, `__setitem__` -/

/-- `Field.from_value`: `isinstance(value, FieldType.type_cls)`; note `isinstance(True, int)` -/
def checkPrim : FTy → Val → Except Err Val
  | .int, .int i => .ok (.int i)
  | .int, .bool b => .ok (.bool b)
  | .float, .flt t => .ok (.flt t)
  | .bool, .bool b => .ok (.bool b)
  | .char, .str s => .ok (.str s)
  | .string, .str s => .ok (.str s)
  | _, _ => .error .type

mutual
/-- `IndexedEntries[key].from_value(value)` -/
def checkVal : Entry → Val → Except Err Val
  | .field _ ty _, v => checkPrim ty v
  | .group _ sub _, .grp insts => do
      let is ← checkInsts sub insts
      pure (.grp is)
  | .group .., _ => .error .type
/-- `[GroupCls.from_value(_) for _ in value]` -/
def checkInsts : List Entry → List (List (Nat × Val)) → Except Err (List Seg)
  | _, [] => pure []
  | sub, i :: is => do
      let s ← buildSeg sub [] i
      let r ← checkInsts sub is
      pure (s :: r)
/-- `DataSegment.from_value(dict)`: `for key, value in dict.items(): container[key] = value` -/
def buildSeg : List Entry → Seg → List (Nat × Val) → Except Err Seg
  | _, acc, [] => pure acc
  | es, acc, (t, v) :: rest =>
      match lookupE es t with
      | none => .error .key
      | some e => do
          let v' ← checkVal e v
          buildSeg es (upsert acc t v') rest
end

/-- `segment[key] = value` -/
def setItem (es : List Entry) (s : Seg) (t : Nat) (v : Val) : Except Err Seg :=
  match lookupE es t with
  | none => .error .key
  | some e => do
      let v' ← checkVal e v
      pure (upsert s t v')

/-- a message built by assigning `(tag, value)` pairs, in the given order, to its three segments -/
def buildMsg (d : MsgDef) (h b t : List (Nat × Val)) : Except Err Msg := do
  let h' ← buildSeg d.hdr [] h
  let b' ← buildSeg d.body [] b
  let t' ← buildSeg d.trl [] t
  pure { hdr := h', body := b', trl := t' }

/-! ### encoding -/

/-- `FieldType.to_bytes(value)[1]` -/
def tyToBytes : FTy → Val → Except Err Bytes
  | .int, .int i => encodeAscii (intStr i)
  | .int, .bool b => encodeAscii (if b then [84, 114, 117, 101] else [70, 97, 108, 115, 101])   -- str(True)
  | .float, .flt t => encodeAscii t
  | .bool, .bool b => .ok (if b then [89] else [78])
  | .char, .str s => encodeAscii s
  | .string, .str s => encodeAscii s
  | _, _ => .error .type          -- not constructible through `__setitem__`

/-- `f'{Tag}='.encode('ascii') + value bytes` -/
def fieldBytes (t : Nat) (v : Bytes) : Bytes := natDigits t ++ 61 :: v

mutual
/-- `Field.to_bytes()[1]` / `GroupContainer.to_bytes()[1]` -/
def encEntry : Entry → Val → Except Err Bytes
  | .field t ty _, v => do
      let b ← tyToBytes ty v
      pure (fieldBytes t b)
  | .group t sub _, .grp insts => do
      let gs ← mapE (fun inst => do
                      let fs ← encGroupFields sub inst
                      pure (joinSOH fs)) insts
      pure (joinSOH (fieldBytes t (intStr (insts.length : Int)) :: gs))
  | .group .., _ => .error .type
/-- `Group.to_bytes`: `[values[e.Tag].to_bytes()[1] for e in Entries if e.Tag in values]` — dictionary order -/
def encGroupFields : List Entry → Seg → Except Err (List Bytes)
  | [], _ => pure []
  | e :: es, inst =>
      match lookupV inst e.tag with
      | some v => do
          let b ← encEntry e v
          let r ← encGroupFields es inst
          pure (b :: r)
      | none => encGroupFields es inst
end

/-- `DataSegment.to_bytes`: `SOH.join(v.to_bytes()[1] for v in values.values())` — insertion order -/
def encSegFields (es : List Entry) (s : Seg) : Except Err (List Bytes) :=
  mapE (fun p => match lookupE es p.1 with
                 | some e => encEntry e p.2
                 | none => .error .key) s        -- not constructible through `__setitem__`

def encSeg (es : List Entry) (s : Seg) : Except Err Bytes := do
  let fs ← encSegFields es s
  pure (joinSOH fs)

def endsWithSOH (b : Bytes) : Bool := b.getLast? == some 1

/-- `Message.to_bytes()[1]` -/
def encMsg (d : MsgDef) (m : Msg) : Except Err Bytes := do
  let h ← encSeg d.hdr m.hdr
  let b ← encSeg d.body m.body
  let t ← encSeg d.trl m.trl
  let bs := joinSOH ([h, b, t].filter (fun x => !x.isEmpty))
  pure (if endsWithSOH bs then bs else bs ++ [1])

/-! ### decoding -/

/-- `bytes.find(pat)` (`none` = -1) -/
def findSub (pat : Bytes) : Bytes → Option Nat
  | [] => if pat.isEmpty then some 0 else none
  | b :: bs => if pat.isPrefixOf (b :: bs) then some 0 else (findSub pat bs).map (· + 1)

/-- `bytes.find(pat, start)` for `start ≥ 0` -/
def findFrom (pat : Bytes) (bs : Bytes) (start : Nat) : Option Nat :=
  if start > bs.length then none else (findSub pat (bs.drop start)).map (· + start)

/-- `int(text)` for a `str` that was decoded from ASCII bytes.  CPython turns only *non-ASCII* Unicode white space into
    blanks before parsing and then skips C `isspace` characters, so for ASCII text the stripped set is TAB..CR and
    space — not U+001C..U+001F, although `str.strip()` removes those (`int('12\x1d')` raises) -/
def parseIntAscii (s : Str) : Except Err Int := parseIntWith isAsciiSpace s

/-- `FieldType.from_bytes(data)[1]` -/
def tyFromBytes : FTy → Bytes → Except Err Val
  | .int, b => do
      let s ← decodeAscii b
      let i ← parseIntAscii s
      pure (.int i)
  | .float, b => do
      let s ← decodeAscii b
      pure (.flt s)                     -- `float(text)`: opaque
  | .bool, b => pure (.bool (b == [89]))
  | .char, b => do
      let s ← decodeAscii b
      pure (.str s)
  | .string, b => do
      let s ← decodeAscii b
      pure (.str s)

/-- `Field.from_bytes`: `(bytes consumed, value)` -/
def fieldFromBytes (ty : FTy) (bs : Bytes) : Except Err (Nat × Val) :=
  match findSub [61] bs with
  | none => .error .value
  | some vs =>
    let ve := match findSub [1] bs with
      | some e => e
      | none => bs.length
    let total := match findSub [1] bs with
      | some e => e + 1
      | none => bs.length
    do
      let v ← tyFromBytes ty ((bs.take ve).drop (vs + 1))
      pure (total, v)

abbrev Dec := Bytes → Except Err (Nat × Val)
/-- `IndexedEntries` seen from `from_bytes`: tag ↦ the class's `from_bytes` -/
abbrev Table := List (Nat × Dec)

def lookupT : Table → Int → Option Dec
  | [], _ => none
  | (k, d) :: tbl, t => if (k : Int) = t then some d else lookupT tbl t

/-- the `while` loop of `DataSegment.from_bytes`.  `fuel` bounds the number of iterations (every iteration consumes at
    least one byte, the callers pass `len + 1`); running out of it is reported as `other` and never happens -/
def segLoop (tbl : Table) : Nat → Bytes → Nat → Seg → Except Err (Nat × Seg)
  | 0, _, _, _ => .error .other
  | fuel + 1, bs, cnt, acc =>
    if bs.isEmpty then .ok (cnt, acc)
    else
      let tagBytes := match findSub [61] bs with
        | some p => bs.take p
        | none => bs.dropLast                       -- `bytes_[0:-1]`
      do
        let s ← decodeAscii tagBytes
        let tag ← parseIntAscii s
        if 0 ≤ tag ∧ hasKey acc tag.toNat then .ok (cnt, acc)          -- `if tag in deserialized: break`
        else
          match lookupT tbl tag with
          | none => .ok (cnt, acc)                                    -- `except KeyError: break`
          | some dec => do
              let r ← dec bs
              segLoop tbl fuel (bs.drop r.1) (cnt + r.1) (acc ++ [(tag.toNat, r.2)])

def segFromBytes (tbl : Table) (bs : Bytes) : Except Err (Nat × Seg) :=
  segLoop tbl (bs.length + 1) bs 0 []

/-- the `while len(bytes_) != 0 and len(deserialized) < count.value` loop; first argument = `count - len(deserialized)` -/
def grpLoop (tbl : Table) : Nat → Bytes → Nat → List Seg → Except Err (Nat × List Seg)
  | 0, _, cnt, acc => .ok (cnt, acc)
  | k + 1, bs, cnt, acc =>
    if bs.isEmpty then .ok (cnt, acc)
    else do
      let r ← segFromBytes tbl bs
      if r.1 = 0 then .ok (cnt, acc)                 -- `if end == 0: break` (what follows is not an instance of this group)
      else grpLoop tbl k (bs.drop r.1) (cnt + r.1) (acc ++ [r.2])

/-- `GroupContainer.from_bytes` (the count field class has `FieldType` int) -/
def containerFromBytes (tbl : Table) (bs : Bytes) : Except Err (Nat × Val) := do
  let c ← fieldFromBytes .int bs
  match c.2 with
  | .int n => do
      let r ← grpLoop tbl n.toNat (bs.drop c.1) c.1 []
      if (r.2.length : Int) ≠ n then .error .value
      else pure (r.1, .grp r.2)
  | _ => .error .other

mutual
/-- `IndexedEntries[tag].from_bytes` -/
def entryDec : Entry → Bytes → Except Err (Nat × Val)
  | .field _ ty _, bs => fieldFromBytes ty bs
  | .group _ sub _, bs => containerFromBytes (tableOf sub) bs
def tableOf : List Entry → Table
  | [] => []
  | e :: es => (e.tag, fun bs => entryDec e bs) :: tableOf es
end

/-- `cls.from_bytes(bytes_)` of a `Message` subclass -/
def msgFromBytes (d : MsgDef) (bs : Bytes) : Except Err (Nat × Msg) := do
  let h ← segFromBytes (tableOf d.hdr) bs
  let bs1 := bs.drop h.1
  let b ← segFromBytes (tableOf d.body) bs1
  let bs2 := bs1.drop b.1
  let t ← segFromBytes (tableOf d.trl) bs2
  pure (h.1 + b.1 + t.1, { hdr := h.2, body := b.2, trl := t.2 })

/-- `Message.get_msg_type` (after a2cfe01: `35=` counts only at the start of the bytes or right after a SOH) -/
def getMsgType (bs : Bytes) : Except Err Str :=
  let start :=
    if [51, 53, 61].isPrefixOf bs then 2          -- bytes_.startswith(b'35=')
    else match findSub [1, 51, 53, 61] bs with    -- bytes_.find(SOH + b'35=') + 3
      | some p => p + 3
      | none => 2                                 -- -1 + 3
  let stop := match findFrom [1] bs start with
    | some e => e
    | none => bs.length - 1                       -- `[..:-1]`
  decodeAscii ((bs.take stop).drop (start + 1))

/-- `Message.Def[key]`: classes register under their Name and their Type, later registrations win -/
def lookupReg : List MsgDef → Str → Option MsgDef
  | [], _ => none
  | d :: ds, k =>
      match lookupReg ds k with
      | some d' => some d'
      | none => if d.name = k ∨ d.type = k then some d else none

/-- `Message.from_bytes(bytes_)` on the base class: (consumed, class, message) -/
def decodeMsg (reg : List MsgDef) (bs : Bytes) : Except Err (Nat × MsgDef × Msg) := do
  let ty ← getMsgType bs
  match lookupReg reg ty with
  | none => .error .key
  | some d => do
      let r ← msgFromBytes d bs
      pure (r.1, d, r.2)

/-! ### equality: `Message.__eq__` -/

/-- `Field.__eq__` on two instances of the same field class: Python `==` on the values (`True == 1`) -/
def primEq : Val → Val → Bool
  | .int a, .int b => a == b
  | .int a, .bool b => a == (if b then 1 else 0)
  | .bool a, .int b => b == (if a then 1 else 0)
  | .bool a, .bool b => a == b
  | .flt a, .flt b => a == b
  | .str a, .str b => a == b
  | _, _ => false

mutual
/-- `Field.__eq__` / `GroupContainer.__eq__` (list equality of the instances) -/
def valEq : Val → Val → Bool
  | .grp a, .grp b => instsEq a b
  | .grp _, _ => false
  | a, b => primEq a b
def instsEq : List (List (Nat × Val)) → List (List (Nat × Val)) → Bool
  | [], [] => true
  | a :: as, b :: bs => segEq a b && instsEq as bs
  | _, _ => false
/-- `OrderedDict.__eq__`: same keys in the same order with equal values -/
def segEq : List (Nat × Val) → List (Nat × Val) → Bool
  | [], [] => true
  | (k, v) :: s, (k', v') :: s' => k == k' && valEq v v' && segEq s s'
  | _, _ => false
end

/-- `Message.__eq__` for two instances of the same class -/
def pyEq (a b : Msg) : Bool := segEq a.hdr b.hdr && segEq a.body b.body && segEq a.trl b.trl

mutual
/-- equality with group instances compared as plain dicts (the code since /repo 02aab28, fixes/C13-group-eq-order.md) -/
def valEqD : Val → Val → Bool
  | .grp a, .grp b => instsEqD a b
  | .grp _, _ => false
  | a, b => primEq a b
def instsEqD : List (List (Nat × Val)) → List (List (Nat × Val)) → Bool
  | [], [] => true
  | a :: as, b :: bs => decide (a.length = b.length) && subDictD a b && instsEqD as bs
  | _, _ => false
/-- every item of the first dict is in the second with an equal value (with equal sizes and distinct keys: dict equality) -/
def subDictD : List (Nat × Val) → List (Nat × Val) → Bool
  | [], _ => true
  | (k, v) :: s, b => (match lookupV b k with
                       | some w => valEqDAux v w
                       | none => false) && subDictD s b
/-- `valEqD` again (second value not structurally smaller: compared through this copy) -/
def valEqDAux : Val → Val → Bool
  | .grp a, .grp b => instsEqD a b
  | .grp _, _ => false
  | a, b => primEq a b
end

/-- `Message.__eq__` of the code as it is (after /repo 02aab28): top-level segments still compare as OrderedDicts, group instances as dicts -/
def segEqTop : List (Nat × Val) → List (Nat × Val) → Bool
  | [], [] => true
  | (k, v) :: s, (k', v') :: s' => k == k' && valEqD v v' && segEqTop s s'
  | _, _ => false

def pyEqDict (a b : Msg) : Bool := segEqTop a.hdr b.hdr && segEqTop a.body b.body && segEqTop a.trl b.trl

/-- `DataSegment.validate`: required tags missing from `values` → ValueError -/
def validateSeg (es : List Entry) (s : Seg) : Except Err Unit :=
  if es.all (fun e => !e.req || hasKey s e.tag) then .ok () else .error .value

/-! ### the concrete case used by `Witness/C13.lean` (and printed by the driver's `fix.witness`, replayed on the implementation) -/

/-- one message class: header = MsgType, body = one repeating group (count tag 100; fields 101 int, 102 string) -/
def witnessDef : MsgDef :=
  { name := [87], type := [87], hdr := [.field 35 .string true],
    body := [.group 100 [.field 101 .int true, .field 102 .string false] false], trl := [] }

/-- the group instance was assigned `102` first, then `101` (not the dictionary order) -/
def witnessMsg : Msg :=
  { hdr := [(35, .str [87])], body := [(100, .grp [[(102, .str [97]), (101, .int 1)]])], trl := [] }

end NasdaqModel.Fix
