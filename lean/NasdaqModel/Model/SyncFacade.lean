/-
Model of the synchronous facade (C20): `common/sync_executor.py` (`SyncExecutor`) and
`soup/session.py` (`SoupClientSessionSync`), transcribed as a transition system.

Threads: any number of *caller* threads (each with a program = list of facade calls and a program counter
through the Python statements of the call) and the executor's *loop thread* (its close procedure has a program
counter through `AsyncSession.close` and the injected `on_close_coro`).  One transition = one atomic step of one
thread; which enabled transition happens next is not determined (any interleaving).  Import-free, executable.

Source lines (src/nasdaq_protocols):
  common/sync_executor.py   execute, execute_sync, stop, join, _wait_for (result in slices; StateError once the thread
                            is gone), _must_be_active
  soup/session.py           SoupClientSessionSync (on_close_coro — takes NO lock —, receive, send_msg, send_unseq_data,
                            logout/close = _shutdown: lock; if not set: try execute_sync except StateError: pass; wait; join)
  (state of /repo after the fixes 86c1975, 1753c2b, 564383d)
  common/session.py         initiate_close 245-256, close 258-273
  common/message_queue.py   get / get_nowait / _blocking_read / stop   (single `_recv_task` slot)

`close_lock` is an RLock; only caller threads take it (once per close()/logout(); the bridged coroutine runs on the
*loop* thread, which never touches the lock), no thread acquires it twice, so the model keeps only the owner —
`C20_lock_discipline` shows an acquire is attempted only by a thread that does not hold it.
The peer script is what the peer will still do; after EndOfSession / disconnect / having received a LogoutRequest it does
nothing more.

What is *not* modelled: the OS scheduler and fairness (every interleaving is allowed, nothing is assumed fair),
message contents (the queue is a counter), heartbeats (intervals are taken long).  One job = one atomic loop step
(asyncio needs 2-3 loop iterations); the only ordering of asyncio's FIFO ready queue that is relied upon is
"a coroutine submitted before `AsyncSession.close` began runs before it begins" (guard of `stepClose` at `spawned`).
-/
namespace NasdaqModel.SyncFacade

/-- calls on the blocking client (and one on the executor beneath it) -/
inductive Op where
  | recv        -- SoupClientSessionSync.receive()            = bridge.execute(session.receive_msg())
  | send        -- send_msg / send_debug                      = bridge.execute_sync(session.send_msg, m)
  | sendUnseq   -- send_unseq_data                            = bridge.execute_sync(session.send_unseq_data, d)
  | close       -- close()
  | logout      -- logout()
  | execTimed   -- bridge.execute(<coroutine that does not finish>, timeout=t): the executor's timeout path
  deriving DecidableEq, Repr, Inhabited

/-- how a call ends: returned value class or exception class -/
inductive Outcome where
  | ok          -- returned None
  | msg         -- returned a message
  | eoq         -- EndOfQueue
  | state       -- StateError
  | cancelled   -- CancelledError (receive kicked out by another receive's `finally: stop_task(self._recv_task)`)
  | timeout     -- asyncio.TimeoutError
  deriving DecidableEq, Repr, Inhabited

def Outcome.name : Outcome → String
  | .ok => "ok" | .msg => "msg" | .eoq => "eoq" | .state => "state" | .cancelled => "cancelled" | .timeout => "timeout"

/-- what was handed to `run_coroutine_threadsafe` -/
inductive JobKind where
  | recv | send | initClose | logout | slow
  deriving DecidableEq, Repr, Inhabited

/-- the concurrent future of a caller and the coroutine behind it -/
inductive Job where
  | none
  | submitted (k : JobKind)     -- handed to the loop, not yet run
  | blocked (ticket : Nat)      -- receive_msg waiting in `_blocking_read` (ticket = arrival order of the queue getter)
  | running                     -- a coroutine that never finishes by itself
  | done (o : Outcome)          -- result / exception stored in the future
  deriving DecidableEq, Repr, Inhabited

/-- program counter of a caller thread inside the current call -/
inductive Pc where
  | idle      -- between calls
  | acq       -- `with self.close_lock:` about to acquire
  | chkEvt    -- `if not self.closed_event.is_set():`
  | chk1      -- execute_sync: `self._must_be_active()`
  | chk2      -- execute: `self._must_be_active()`
  | submit    -- `asyncio.run_coroutine_threadsafe(...)`
  | wait      -- `self._wait_for(future, timeout)`: result in slices, StateError when the thread is gone
  | rel       -- leaving the `with` block (a StateError of execute_sync was swallowed inside it)
  | waitEvt   -- `self.closed_event.wait()`
  | join      -- `self.bridge.join()`
  deriving DecidableEq, Repr, Inhabited

inductive Tid where
  | caller (i : Nat)
  | loop
  deriving DecidableEq, Repr, Inhabited

/-- progress of the close procedure on the loop thread -/
inductive ClosePc where
  | idle         -- nothing closing
  | spawned      -- `AsyncSession.close()` invoked on the loop (closing task created / reader saw the end), not begun
  | begun        -- `_closed = True`, queue/monitors/reader stopped, transport closed; about to call on_close_coro
  | inCb         -- inside on_close_coro (no await in it), at `if not self.closed_event.is_set()`
  | stopCalled   -- `self.bridge.stop(join=False)` done (loop.stop scheduled), before `closed_event.set()`
  | done         -- `closed_event.set()` done, on_close_coro returned
  deriving DecidableEq, Repr, Inhabited

inductive PeerEv where
  | reply | endOfSession | disconnect
  deriving DecidableEq, Repr, Inhabited

structure Caller where
  prog : List Op                  -- remaining calls; the head is the current one when `pc ≠ idle`
  pc : Pc
  job : Job
  hist : List (Op × Outcome)      -- finished calls, most recent first
  deriving DecidableEq, Repr, Inhabited

structure St where
  callers : List Caller
  loopAlive : Bool                -- `_thread.is_alive()`
  stopReq : Bool                  -- `loop.call_soon_threadsafe(loop.stop)` has been called
  closePc : ClosePc
  lock : Option Tid               -- owner of `close_lock`
  closedEvent : Bool              -- `closed_event.is_set()`
  queue : Nat                     -- messages received and not yet taken
  recvTask : Option Nat           -- `DispatchableMessageQueue._recv_task`: the caller whose getter task is in the slot
  nextTicket : Nat
  peer : List PeerEv              -- what the peer will still do, in order
  deriving DecidableEq, Repr, Inhabited

inductive Label where
  | caller (i : Nat)     -- caller thread i performs its next statement
  | job (i : Nat)        -- the loop runs the coroutine submitted by caller i
  | close                -- the loop thread performs the next step of the close procedure
  | stop                 -- the loop runs the `loop.stop` callback: run_forever returns, the thread exits
  | peer                 -- the next peer event reaches the loop
  deriving DecidableEq, Repr, Inhabited

/-! ### small state algebra -/

def updAt : List Caller → Nat → (Caller → Caller) → List Caller
  | [], _, _ => []
  | c :: cs, 0, f => f c :: cs
  | c :: cs, i + 1, f => c :: updAt cs i f

def setJob (j : Job) (c : Caller) : Caller := { c with job := j }

/-- a blocked receive is completed with `o`; any other job is left alone -/
def resolveBlocked (o : Outcome) (c : Caller) : Caller :=
  match c.job with
  | .blocked _ => { c with job := .done o }
  | _ => c

def isSubmitted (c : Caller) : Bool :=
  match c.job with
  | .submitted _ => true
  | _ => false

/-- the blocked receiver whose queue getter is first in line: (index, ticket) -/
def minBlocked : List Caller → Option (Nat × Nat)
  | [] => none
  | c :: cs =>
    match c.job, minBlocked cs with
    | .blocked t, some (j, t') => if t ≤ t' then some (0, t) else some (j + 1, t')
    | .blocked t, none => some (0, t)
    | _, some (j, t') => some (j + 1, t')
    | _, none => none

/-- the loop thread is inside `on_close_coro` (which has no await): it runs nothing else -/
def ClosePc.busy : ClosePc → Bool
  | .inCb | .stopCalled => true
  | _ => false

/-- `AsyncSession._closed` -/
def ClosePc.sessClosed : ClosePc → Bool
  | .idle | .spawned => false
  | _ => true

def St.sessClosed (s : St) : Bool := s.closePc.sessClosed

def Op.isClose : Op → Bool
  | .close | .logout => true
  | _ => false

def Op.jobKind : Op → JobKind
  | .recv => .recv | .send => .send | .sendUnseq => .send
  | .close => .initClose | .logout => .logout | .execTimed => .slow

/-- the call returns / raises: record it, go to the next call -/
def finish (c : Caller) (op : Op) (o : Outcome) : Caller :=
  { prog := c.prog.tail, pc := .idle, job := .none, hist := (op, o) :: c.hist }

/-! ### one statement of a caller thread

Returns the new caller record and the new lock owner; `none` = the thread is blocked (or has finished). -/
def callerStep (lock : Option Tid) (closedEvent loopAlive : Bool) (i : Nat) (c : Caller) :
    Option (Caller × Option Tid) :=
  match c.prog with
  | [] => none
  | op :: _ =>
    match c.pc with
    | .idle =>
      match op with
      | .recv | .execTimed => some ({ c with pc := .chk2 }, lock)
      | .send | .sendUnseq => some ({ c with pc := .chk1 }, lock)
      | .close | .logout => some ({ c with pc := .acq }, lock)
    | .acq =>
      match lock with
      | none => some ({ c with pc := .chkEvt }, some (.caller i))
      | some _ => none
    | .chkEvt =>
      if closedEvent then some ({ c with pc := .rel }, lock) else some ({ c with pc := .chk1 }, lock)
    | .chk1 =>
      if loopAlive then some ({ c with pc := .chk2 }, lock)
      else if op.isClose then some ({ c with pc := .rel }, lock)     -- _shutdown: `except StateError: pass`
      else some (finish c op .state, lock)
    | .chk2 =>
      if loopAlive then some ({ c with pc := .submit }, lock)
      else if op.isClose then some ({ c with pc := .rel }, lock)
      else some (finish c op .state, lock)
    | .submit => some ({ c with pc := .wait, job := .submitted op.jobKind }, lock)
    | .wait =>
      match op with
      | .execTimed => some (finish c op .timeout, lock)      -- result(timeout) expires; future.cancel(); TimeoutError
      | _ =>
        match c.job with
        | .done o => if op.isClose then some ({ c with pc := .rel, job := .none }, lock) else some (finish c op o, lock)
        | _ =>
          -- _wait_for: the future is not done; once the loop thread is gone: future.cancel(); raise StateError
          if loopAlive then none
          else if op.isClose then some ({ c with pc := .rel, job := .none }, lock)
          else some (finish c op .state, lock)
    | .rel => some ({ c with pc := .waitEvt }, none)
    | .waitEvt => if closedEvent then some ({ c with pc := .join }, lock) else none
    | .join => if loopAlive then none else some (finish c op .ok, lock)

def stepCaller (s : St) (i : Nat) : Option St :=
  match s.callers[i]? with
  | none => none
  | some c =>
    match callerStep s.lock s.closedEvent s.loopAlive i c with
    | none => none
    | some (c', lk) => some { s with callers := updAt s.callers i (fun _ => c'), lock := lk }

/-! ### the loop thread -/

/-- `initiate_close()`: `if self._closed or self._closing_task: return` -/
def ClosePc.initiate : ClosePc → ClosePc
  | .idle => .spawned
  | p => p

/-- the loop runs the coroutine of caller `i` (one atomic step) -/
def stepJob (s : St) (i : Nat) : Option St :=
  if s.loopAlive && !s.closePc.busy then
    match s.callers[i]? with
    | none => none
    | some c =>
      match c.job with
      | .submitted .recv =>
        if 0 < s.queue then
          some { s with callers := updAt s.callers i (setJob (.done .msg)), queue := s.queue - 1 }
        else if s.sessClosed then
          some { s with callers := updAt s.callers i (setJob (.done .eoq)) }
        else
          some { s with callers := updAt s.callers i (setJob (.blocked s.nextTicket)),
                        recvTask := some i, nextTicket := s.nextTicket + 1 }
      | .submitted .send => some { s with callers := updAt s.callers i (setJob (.done .ok)) }
      | .submitted .initClose =>
        some { s with callers := updAt s.callers i (setJob (.done .ok)), closePc := s.closePc.initiate }
      | .submitted .logout =>
        -- session.logout(): LogoutRequest is written, then initiate_close(); a peer that gets the logout request
        -- ends the conversation: nothing it might still have wanted to send arrives
        some { s with callers := updAt s.callers i (setJob (.done .ok)), closePc := s.closePc.initiate, peer := [] }
      | .submitted .slow => some { s with callers := updAt s.callers i (setJob .running) }
      | _ => none
  else none

/-- next step of `AsyncSession.close` + `on_close_coro` on the loop thread -/
def stepClose (s : St) : Option St :=
  match s.closePc with
  | .idle => none
  | .spawned =>
    -- close() begins: `_closed = True`; queue.stop() cancels `_recv_task` only
    if s.callers.any isSubmitted then none
    else
      let cs := match s.recvTask with
        | some j => updAt s.callers j (resolveBlocked .eoq)
        | none => s.callers
      some { s with callers := cs, recvTask := none, closePc := .begun }
  | .begun => some { s with closePc := .inCb }
  | .inCb =>
    if s.closedEvent then some { s with closePc := .done }
    else some { s with closePc := .stopCalled, stopReq := true }
  | .stopCalled => some { s with closePc := .done, closedEvent := true }
  | .done => none

def stepStop (s : St) : Option St :=
  if s.stopReq && s.loopAlive && !s.closePc.busy then some { s with loopAlive := false } else none

def stepPeer (s : St) : Option St :=
  match s.peer with
  | [] => none
  | ev :: rest =>
    if s.closePc.busy then none
    else if !s.loopAlive then                                           -- nobody reads the socket any more
      some { s with peer := match ev with | .reply => rest | _ => [] }
    else
      match ev with
      | .reply =>
        if s.sessClosed then some { s with peer := rest }               -- reader stopped, transport closed
        else
          match minBlocked s.callers with
          | some (h, _) =>
            let cs1 := updAt s.callers h (setJob (.done .msg))
            let cs2 := match s.recvTask with
              | some j => if j = h then cs1 else updAt cs1 j (resolveBlocked .cancelled)
              | none => cs1
            some { s with callers := cs2, recvTask := none, peer := rest }
          | none => some { s with queue := s.queue + 1, peer := rest }
      | .endOfSession | .disconnect =>
        -- reader sees EndOfSession -> close() / connection_lost -> initiate_close(); the peer is gone afterwards:
        -- nothing it might still have wanted to send arrives
        some { s with closePc := s.closePc.initiate, peer := [] }

def step (s : St) : Label → Option St
  | .caller i => stepCaller s i
  | .job i => stepJob s i
  | .close => stepClose s
  | .stop => stepStop s
  | .peer => stepPeer s

def exec (s : St) : List Label → Option St
  | [] => some s
  | l :: ls =>
    match step s l with
    | none => none
    | some s' => exec s' ls

/-- a configuration: the programs of the caller threads and what the peer does -/
structure Cfg where
  progs : List (List Op)
  peer : List PeerEv
  deriving DecidableEq, Repr, Inhabited

def initCaller (p : List Op) : Caller := { prog := p, pc := .idle, job := .none, hist := [] }

/-- the state right after `soup.connect` returned the session -/
def init (cfg : Cfg) : St :=
  { callers := cfg.progs.map initCaller, loopAlive := true, stopReq := false, closePc := .idle, lock := none,
    closedEvent := false, queue := 0, recvTask := none, nextTicket := 0, peer := cfg.peer }

def allLabels (s : St) : List Label :=
  (List.range s.callers.length).flatMap (fun i => [Label.caller i, Label.job i]) ++ [.close, .stop, .peer]

def enabledLabels (s : St) : List Label := (allLabels s).filter fun l => (step s l).isSome

/-- no transition is enabled -/
def terminal (s : St) : Bool := (allLabels s).all fun l => (step s l).isNone

/-- the thread has executed all its calls -/
def Caller.finished (c : Caller) : Bool := c.prog.isEmpty && c.pc == .idle

/-- blocked in `receive()` on an open session with a live loop: waiting for the peer (not a hang) -/
def legitWait (s : St) (c : Caller) : Bool :=
  match c.job with
  | .blocked _ => c.pc == .wait && !s.sessClosed && s.loopAlive
  | _ => false

/-! ### `okStep`: a step that does not put a second `receive_msg` to wait while one is already waiting

Since the library fixes no run of the model hangs any more and the no-hang theorems need no such hypothesis.  The
predicate only serves the `safe` walk of the driver and the theorem that, inside it, a blocked receive is always the one
in the queue's single `_recv_task` slot (so closing answers it with EndOfQueue rather than StateError). -/
def anyBlocked (cs : List Caller) : Bool :=
  cs.any fun c => match c.job with | .blocked _ => true | _ => false

def okStep (s : St) : Label → Bool
  | .job i =>
    match s.callers[i]? with
    | some c => !(c.job == .submitted .recv && s.queue == 0 && !s.sessClosed && anyBlocked s.callers)
    | none => true
  | _ => true

/-- `exec` restricted to steps that satisfy `okStep` -/
def execOk (s : St) : List Label → Option St
  | [] => some s
  | l :: ls =>
    if okStep s l then
      match step s l with
      | none => none
      | some s' => execOk s' ls
    else none

/-! ### `soup.connect` (one caller, no interleaving): outcome and whether the executor thread is left running -/
inductive LoginEv where
  | accepted | rejected | connRefused | peerClosed
  deriving DecidableEq, Repr, Inhabited

/-- `connect`: `execute(connect_async(...))`; on any exception `sync_executor.stop()` (join=True) and re-raise.
Returns (raised?, executor thread still alive afterwards). -/
def connect : LoginEv → Bool × Bool
  | .accepted => (false, true)
  | .rejected => (true, false)       -- ConnectionRefusedError(str(reply))
  | .connRefused => (true, false)    -- OSError from create_connection
  | .peerClosed => (true, false)     -- EndOfQueue → ConnectionRefusedError("Connection closed by peer.")

/-! ### `soup.connect` and a peer that ends the session right behind its acceptance

Steps of the executor's loop thread (each atomic): `loginReturns` — `connect_async()` returns the logged-in session;
`install` — the blocking wrapper is constructed and installs its close callback (`on_close_coro`: stop the executor, set
`closed_event`); `loginAndInstall` — both in ONE step (`soup.connect` since the fix: the wrapper is built inside the
coroutine that awaited the login, so nothing can run in between); `sessionCloses` — the peer's disconnect is processed:
`AsyncSession.close()` runs to its end and awaits the callback it finds installed at that moment.
A later `close()` / `logout()` of the facade waits for `closed_event`: it returns iff the event gets set. -/
inductive ConnEv where
  | loginReturns | install | loginAndInstall | sessionCloses
  deriving DecidableEq, Repr, Inhabited

structure ConnSt where
  loggedIn : Bool := false
  installed : Bool := false
  sessionClosed : Bool := false    -- `AsyncSession.close()` has run (its one and only time)
  eventSet : Bool := false         -- `closed_event` (set by the installed callback when the close runs)
  deriving DecidableEq, Repr, Inhabited

def connStep (s : ConnSt) : ConnEv → ConnSt
  | .loginReturns => { s with loggedIn := true }
  | .install => if s.loggedIn then { s with installed := true } else s
  | .loginAndInstall => { s with loggedIn := true, installed := true }
  | .sessionCloses =>
      -- before the login returned this is the `peerClosed` outcome of `connect` (login raises): not a state of this machine
      if s.loggedIn && !s.sessionClosed then { s with sessionClosed := true, eventSet := s.installed } else s

def connRun (evs : List ConnEv) : ConnSt := evs.foldl connStep {}

/-- the facade's `close()` once the wrapper exists: if the session has not closed yet, `close()` itself initiates the close,
which then finds the callback; if it has, `close()` can only wait for the event -/
def closeReturns (s : ConnSt) : Bool := s.installed && (s.eventSet || !s.sessionClosed)

/-- a schedule of the repaired `connect`: login and installation are one step -/
def fixedSchedule (evs : List ConnEv) : Bool := evs.all fun e => e == .loginAndInstall || e == .sessionCloses

/-! ### `SyncExecutor.execute` / `execute_sync` / `_wait_for` when the coroutine itself ends with an exception

The transition system above keeps `_wait_for` as ONE statement (`Pc.wait`) and its coroutines never raise by themselves.
This part is the loop inside that statement, line by line, for a coroutine that finishes with *any* outcome:

    deadline = None if timeout is None else time.monotonic() + timeout
    while True:
        wait = self._POLL if deadline is None else min(self._POLL, max(0.0, deadline - time.monotonic()))
        try:
            return future.result(timeout=wait)
        except concurrent.futures.TimeoutError:
            if future.done():
                return future.result()      # since /repo ea90e75 (before: `raise`, see Witness/C20Raise.lean)
            if deadline is not None and time.monotonic() >= deadline:
                raise
            if not self._thread.is_alive() and not future.done():
                future.cancel()
                raise StateError(...)

On Python >= 3.11 `concurrent.futures.TimeoutError is asyncio.TimeoutError is TimeoutError` (and `socket.timeout`): the
`except` clause also catches a TimeoutError that `future.result()` re-raises because the COROUTINE ended with it
(`asyncio.wait_for(session.receive_msg(), t)` against a silent peer).  `future.done()` is then true and the handler hands out
the finished future's own outcome with one more `future.result()` (a finished future never waits): the coroutine's value, or
its own exception - which, raised inside the handler, leaves `_wait_for`; never the expiry of the slice.  What the environment
contributes to one pass of the loop is a `Pass` record; the thread scheduler, the clock and the loop thread are not
modelled, every sequence of `Pass` records is allowed. -/

/-- exception classes, as far as the two `except` clauses and the caller can tell them apart -/
inductive Exc where
  | timeout       -- the coroutine's own TimeoutError (builtin = asyncio = concurrent.futures = socket.timeout: one class)
  | timeoutSub    -- the coroutine's own exception of a SUBCLASS of TimeoutError (OSError(ETIMEDOUT), user classes)
  | expiry        -- a TimeoutError made by `future.result(timeout)` / `execute` because a wait expired (never the coroutine's)
  | cancelled     -- CancelledError: the coroutine was cancelled / raised it (the concurrent future is cancelled)
  | state         -- StateError
  | eoq           -- EndOfQueue
  | value         -- ValueError
  | other         -- any other Exception subclass
  | base          -- a BaseException subclass that is no Exception
  deriving DecidableEq, Repr, Inhabited

/-- `isinstance(e, concurrent.futures.TimeoutError)` -/
def Exc.isTimeout : Exc → Bool
  | .timeout | .timeoutSub | .expiry => true
  | _ => false

def Exc.name : Exc → String
  | .timeout => "timeout" | .timeoutSub => "timeoutSub" | .expiry => "expiry" | .cancelled => "cancelled"
  | .state => "state" | .eoq => "eoq" | .value => "value" | .other => "other" | .base => "base"

/-- how the coroutine (hence the future) ends -/
inductive Fin where
  | returned
  | raised (e : Exc)
  deriving DecidableEq, Repr, Inhabited

/-- how the call on the executor ends -/
inductive Res where
  | returned            -- the coroutine's value
  | raised (e : Exc)
  deriving DecidableEq, Repr, Inhabited

/-- `future.result()` of a finished future -/
def deliver : Fin → Res
  | .returned => .returned
  | .raised e => .raised e

/-- what one pass of the `while True:` observes -/
structure Pass where
  completes : Bool      -- the future is done by the end of this slice: `result(timeout=wait)` hands out its outcome
  doneAtCheck : Bool    -- else the slice expired; `future.done()` in the handler (it may have completed in between)
  deadline : Bool       -- `deadline is not None and time.monotonic() >= deadline`
  alive : Bool          -- `self._thread.is_alive()`
  doneAtCheck2 : Bool   -- the second `future.done()`, in `not alive and not future.done()`
  deriving DecidableEq, Repr, Inhabited

/-- one pass: `some r` = the loop is left with `r`; `none` = next pass -/
def passStep (fin : Fin) (p : Pass) : Option Res :=
  -- try: return future.result(timeout=wait)
  let r : Res := if p.completes then deliver fin else .raised .expiry
  match r with
  | .returned => some .returned
  | .raised e =>
    if e.isTimeout then
      -- except concurrent.futures.TimeoutError:   (the slice's expiry OR the coroutine's own TimeoutError)
      if p.completes || p.doneAtCheck then some (deliver fin)                      -- if future.done(): return future.result()
      else if p.deadline then some (.raised e)                                     -- deadline reached: raise  (e = the expiry)
      else if !p.alive && !p.doneAtCheck2 then some (.raised .state)               -- future.cancel(); raise StateError
      else none
    else some (.raised e)                                                          -- any other exception: not caught here

/-- `future.result` calls made in one pass: the sliced one, and one more when the handler finds the future done -/
def pollsIn (fin : Fin) (p : Pass) : Nat :=
  let r : Res := if p.completes then deliver fin else .raised .expiry
  match r with
  | .returned => 1
  | .raised e => if e.isTimeout && (p.completes || p.doneAtCheck) then 2 else 1

/-- this pass ends the loop, whatever the coroutine's outcome is (`Props/C20Raise.C20_wait_continues_iff`) -/
def Pass.ends (p : Pass) : Bool := p.completes || p.doneAtCheck || p.deadline || (!p.alive && !p.doneAtCheck2)

/-- a pass in which nothing happens: the slice expires, the future is not done, no deadline reached, thread alive -/
def Pass.quiet (p : Pass) : Bool := !p.ends

/-- `_wait_for` over the passes the environment provides; `none` = still inside the loop after all of them -/
def waitFor (fin : Fin) : List Pass → Option Res
  | [] => none
  | p :: ps =>
    match passStep fin p with
    | some r => some r
    | none => waitFor fin ps

/-- number of passes `_wait_for` makes before it leaves the loop (all of them if it does not) -/
def passesUsed (fin : Fin) : List Pass → Nat
  | [] => 0
  | p :: ps =>
    match passStep fin p with
    | some _ => 1
    | none => 1 + passesUsed fin ps

/-- `future.result` calls `_wait_for` makes until it leaves the loop (or the passes run out) -/
def pollsUsed (fin : Fin) : List Pass → Nat
  | [] => 0
  | p :: ps =>
    match passStep fin p with
    | some _ => pollsIn fin p
    | none => pollsIn fin p + pollsUsed fin ps

/-- `execute(underlying, timeout)`:
      self._must_be_active();  if not iscoroutine(underlying): raise ValueError
      future = run_coroutine_threadsafe(...)
      try: return self._wait_for(future, timeout)
      except concurrent.futures.TimeoutError:
          if future.done(): raise            # raised by the coroutine itself
          future.cancel();  raise asyncio.TimeoutError(...)                                           -/
def execute (aliveAtCall isCoroutine : Bool) (fin : Fin) (passes : List Pass) (doneAtHandler : Bool) : Option Res :=
  if !aliveAtCall then some (.raised .state)
  else if !isCoroutine then some (.raised .value)
  else
    match waitFor fin passes with
    | none => none
    | some .returned => some .returned
    | some (.raised e) =>
      if e.isTimeout then (if doneAtHandler then some (.raised e) else some (.raised .expiry))
      else some (.raised e)

/-- `execute_sync(underlying, *args)`: `_must_be_active()`, `callable(underlying)` else ValueError, then
    `execute(self._bridge(underlying, …))` (the second `_must_be_active` sees `aliveAtCall2`) -/
def executeSync (aliveAtCall isCallable aliveAtCall2 : Bool) (fin : Fin) (passes : List Pass) (doneAtHandler : Bool) :
    Option Res :=
  if !aliveAtCall then some (.raised .state)
  else if !isCallable then some (.raised .value)
  else execute aliveAtCall2 true fin passes doneAtHandler

/-! ### deterministic pseudo-random walk (for the driver: schedules are generated from the model) -/
def lcg (x : Nat) : Nat := (x * 6364136223846793005 + 1442695040888963407) % 18446744073709551616

/-- scheduling preference of the `safe` walk -/
def prefer (s : St) (l : Label) : Bool := okStep s l

/-- a maximal run: repeatedly take a pseudo-randomly chosen enabled label
(`safe`: a preferred label whenever one is enabled) -/
def walk (safe : Bool) : Nat → Nat → St → List Label
  | 0, _, _ => []
  | fuel + 1, seed, s =>
    let en := enabledLabels s
    let pr := en.filter (prefer s)
    let en := if safe && !pr.isEmpty then pr else en
    match en with
    | [] => []
    | l0 :: _ =>
      let seed' := lcg seed
      let l := (en[(seed' / 4294967296) % en.length]?).getD l0
      match step s l with
      | none => []
      | some s' => l :: walk safe fuel seed' s'

end NasdaqModel.SyncFacade
