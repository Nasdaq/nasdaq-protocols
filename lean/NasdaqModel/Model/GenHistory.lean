import NasdaqModel.Py.Basic
import NasdaqModel.Model.GenFix
/-
Model for C17 — histories of code-generator invocations, at the granularity of the generator API.

World = process state (the class-level registries that survive between two invocations in one interpreter, the FIX type tables
        as far as they are shared between calls, and the generator objects that were constructed and are still alive)
      × abstract file system (path ↦ list of chunks; one chunk = the text one `op.write(rendered template)` produced).

An invocation of an entry point is `construct` (parse the spec, build the generator object — the FIX generator evaluates its
template context right there, the ASN.1 generator empties its output directory) followed by `generate` (render and write);
both halves are events of their own (`Ev.construct k i`, `Ev.generate k`), so histories interleave the halves of several
generators as a build script that prepares all generators and then writes them does.

Transcribed from
  common/message/parser.py     `Parser.parse` (class-level `FieldDef.Definitions`, replaced only at a `fielddef-root`)
  common/message/codegen.py    `Generator.__attrs_post_init__`, `generate`, `_generate`  (open(op_file, 'a'))
  fix/parser/definitions.py    `Group.get_codegen_context` (class-level `Group.Contexts`, `Group.UniqueNameCounter`),
                               `Definitions.get_codegen_context`, `_client_session`
  fix/parser/generator.py      `Generator.__attrs_post_init__`, `generate`, `_generate`  (open(op_file, 'a'))
  fix/parser/version_types.py  `get_supported_types` and the four table builders (tables themselves: Model/GenFix.lean)
  fix/parser/parser.py         `parse`: `get_supported_types(version)`, then `types[field.get('type')]` per declared field
  asn1_app/codegen.py          `Ans1Generator.__attrs_post_init__` (shutil.rmtree(op_dir)), `generate`, `_copy_asn1_files`
  tools/new_project.py         `create`, `_write_app_xml` (kept when it exists), `_write_pyproject`, `_write_tox` ('a')

What a template renders is NOT modelled (that is C15/C16): a chunk is the free symbolic application
`template(values the template reads)` — exactly the parts of the spec, of the options and of the *process state* the rendered
text depends on.  Any concrete rendering `Chunk → text` factors through it, so equalities proved here hold for the real text.

The places where the code's behaviour is a defect are switchable through `Semantics` (file-open mode, reset of the class-level
state); `actual` is the code as it was before /repo a5da5b2 / 6c43d46 / 388f25f, `fixed` the repaired behaviour (/verif/fixes/C17-*.md),
`current` the one the correspondence check compares the library with.  Imports only other models (`Model/GenFix`); executable, structurally recursive.
-/
namespace NasdaqModel.GenHistory
open NasdaqModel

/-- abstract identifier of a field / group name (`f3`, `F3`, `NoG3` in the harness' spec families) -/
abbrev Nm := Nat

/-! ## text helpers (file and module names are real strings: lists of code points) -/

def sInit : Str := [95, 95, 105, 110, 105, 116, 95, 95]          -- "__init__"
def sPy : Str := [46, 112, 121]                                   -- ".py"
def sUnderscore : Str := [95]                                     -- "_"
def sFix : Str := [102, 105, 120, 95]                             -- "fix_"
def sFields : Str := [95, 102, 105, 101, 108, 100, 115]           -- "_fields"
def sGroups : Str := [95, 103, 114, 111, 117, 112, 115]           -- "_groups"
def sBodies : Str := [95, 98, 111, 100, 105, 101, 115]            -- "_bodies"
def sMessages : Str := [95, 109, 101, 115, 115, 97, 103, 101, 115] -- "_messages"
def sApp : Str := [97, 112, 112]                                  -- "app"
def sSpecDir : Str := [115, 112, 101, 99, 47]                     -- "spec/"
def sPyproject : Str := [112, 121, 112, 114, 111, 106, 101, 99, 116, 46, 116, 111, 109, 108]  -- "pyproject.toml"
def sTox : Str := [116, 111, 120, 46, 105, 110, 105]              -- "tox.ini"
def sXml : Str := [46, 120, 109, 108]                             -- ".xml"

inductive Impl where
  | itch | ouch | sqf
  deriving DecidableEq, Repr, Inhabited

def Impl.str : Impl → Str
  | .itch => [105, 116, 99, 104] | .ouch => [111, 117, 99, 104] | .sqf => [115, 113, 102]

/-- `prefix = f'{self.prefix}_' if self.prefix else ''` -/
def prefix_ (p : Str) : Str := if p = [] then [] else p ++ sUnderscore

/-- `name.replace('-', '_')` -/
def srcName (name : Str) : Str := name.map fun c => if c = 45 then 95 else c

/-! ## directories, paths, file system -/

/-- directories.  `out n` is a plain output directory; the other three are the tree `new_project` creates:
    `<target t>/<name>`, `…/src/<name.replace('-','_')>` and `…/src/<…>/<app>`. -/
inductive Dir where
  | out (n : Nat)
  | proj (t : Nat) (name : Str)
  | pkg (t : Nat) (name : Str)
  | app (t : Nat) (name : Str) (app : Str)
  deriving DecidableEq, Repr, Inhabited

/-- `d'` is `d` or lies inside it (what `shutil.rmtree(d)` removes) -/
def Dir.under (d' d : Dir) : Bool :=
  d' = d ||
  match d, d' with
  | .proj t n, .pkg t' n' => t = t' && n = n'
  | .proj t n, .app t' n' _ => t = t' && n = n'
  | .pkg t n, .app t' n' _ => t = t' && n = n'
  | _, _ => false

abbrev Path := Dir × Str

/-- one group class of the FIX groups module, as `Group.Contexts` holds it -/
inductive GEntry where
  | field (n : Nm)                   -- `fix.Entry(fields.F<n>, …)`
  | group (name : Nm) (u : Nat)      -- `fix.Entry(NoG<name>_<u>_List, …)`
  deriving DecidableEq, Repr, Inhabited

structure GCtx where
  name : Nm
  u : Nat                            -- `unique_name = f'{name}_{u}'`
  entries : List GEntry
  deriving DecidableEq, Repr, Inhabited

/-- What one `op.write(chevron.render(template, context))` produced: the template and exactly the context values it reads. -/
inductive Chunk where
  /-- message_soup_app.mustache: impl, app_name, the spec (everything but its field-definition table is a function of `specId`),
      and the datatypes the `def=` references were *resolved to* through `FieldDef.Definitions` -/
  | soupModule (impl : Impl) (app : Str) (specId : Nat) (msgs : List Nat) (resolved : List Nat)
  /-- init.mustache of common/message and of asn1_app: `from .<module> import *` -/
  | initLine (module : Str)
  /-- fields.mustache: every declared field with the class its type name was *resolved to* through the version's type table -/
  | fixFields (specId : Nat) (fields : List Nm) (counts : List Nm) (types : List GenFix.TyCls)
  /-- groups.mustache: module_prefix and **the whole of `Group.Contexts`** -/
  | fixGroups (modPrefix : Str) (ctxs : List GCtx)
  /-- bodies.mustache / messages.mustache: module_prefix, the message, and the unique names handed to its top-level groups -/
  | fixBodies (modPrefix : Str) (specId : Nat) (fields : List Nm) (top : List (Nm × Nat))
  | fixMessages (modPrefix : Str) (specId : Nat) (fields : List Nm) (top : List (Nm × Nat))
  | fixApp (app : Str) (session : Nat)         -- app.mustache: app_name, client_session (Fix44Session / Fix50Session)
  | fixInit (modPrefix : Str)
  | asn1Module (app pdu package : Str)
  | asn1File (content : Nat)                     -- `shutil.copy2` of an input file
  | pyproject (name : Str)
  | tox (src : Str) (apps : List (Str × Impl))
  | appXml
  | userText (n : Nat)                           -- something the user wrote into a file between two runs
  deriving DecidableEq, Repr, Inhabited

/-- path ↦ chunks, in creation order -/
abbrev FS := List (Path × List Chunk)

def read : FS → Path → Option (List Chunk)
  | [], _ => none
  | (q, v) :: rest, p => if q = p then some v else read rest p

def set : FS → Path → List Chunk → FS
  | [], p, v => [(p, v)]
  | (q, w) :: rest, p, v => if q = p then (q, v) :: rest else (q, w) :: set rest p v

/-- `shutil.rmtree(d)` (the directory itself is re-created empty right after) -/
def wipe (fs : FS) (d : Dir) : FS := fs.filter fun e => !(e.1.1.under d)

/-- how a file is opened for writing -/
inductive Mode where
  | append      -- `open(f, 'a')`: previous content kept, new text added at the end
  | truncate    -- `open(f, 'w')`
  | ifAbsent    -- `if f.exists(): return` … `open(f, 'w')`;  also `Path.touch()` (with no chunk)
  deriving DecidableEq, Repr, Inhabited

def write (m : Mode) (fs : FS) (p : Path) (cs : List Chunk) : FS :=
  match m, read fs p with
  | .append, some old => set fs p (old ++ cs)
  | .append, none => set fs p cs
  | .truncate, _ => set fs p cs
  | .ifAbsent, some _ => fs
  | .ifAbsent, none => set fs p cs

/-- the files of directory `d` by name -/
def dirView (fs : FS) (d : Dir) : Str → Option (List Chunk) := fun n => read fs (d, n)

/-- every file that exists in `d` has one of the given names (decidable form of "the directory holds at most a previous
    output of the same target") -/
def dirOnly (fs : FS) (d : Dir) (names : List Str) : Bool :=
  fs.all fun e => !(e.1.1 = d) || names.contains e.1.2

/-! ## the switchable behaviours -/

structure Semantics where
  /-- mode of `Generator._generate` / `Ans1Generator._generate` (three copies of the same function) -/
  genMode : Mode
  /-- `Parser.parse` starts from an empty `FieldDef.Definitions` -/
  resetFieldDefs : Bool
  /-- `Group.Contexts` emptied when a FIX generation starts -/
  resetContexts : Bool
  /-- `Group.UniqueNameCounter` cleared when a FIX generation starts -/
  resetCounter : Bool
  /-- `_write_pyproject` -/
  pyprojMode : Mode
  /-- `_write_tox` -/
  toxMode : Mode
  /-- how `Group.Contexts` is emptied (when `resetContexts`): `true` = `Group.Contexts = []` binds the class attribute to a NEW
      list, so the list a generator object captured in its context (`'groups': Group.Contexts`) is never touched again;
      `false` = `Group.Contexts.clear()` empties the one list every generator object constructed in the process refers to -/
  rebindContexts : Bool
  /-- the four builders of version_types.py make a new dict on every call (`false`: they are `functools.cache`d, and the
      4.4 / 5.0 / 5.0SP2 builders `.update()` the one cached 4.2 dict in place) -/
  freshTypeTables : Bool
  deriving DecidableEq, Repr, Inhabited

/-- the code as it was before a5da5b2 / 6c43d46 / 388f25f (and as `new_project` still is): the one `Group.Contexts` list is
    never emptied nor rebound; the type tables were always built per call -/
def actual : Semantics := ⟨.append, false, false, false, .append, .append, false, true⟩
/-- the repaired behaviour proposed in /verif/fixes/C17-*.md -/
def fixed : Semantics := ⟨.truncate, true, true, true, .ifAbsent, .truncate, true, true⟩
/-- the three generators repaired, `new_project` left as it is (if that one stays a known finding) -/
def fixedGen : Semantics := { fixed with pyprojMode := .append, toxMode := .append }
/-- **the one-line switch**: what the library is claimed to do today (compared with it on every run) -/
def current : Semantics := fixedGen

/-- the generators write their files from scratch and start from clean class-level state -/
def pureGen (s : Semantics) : Bool :=
  s.genMode = .truncate && s.resetFieldDefs && s.resetContexts && s.resetCounter && s.rebindContexts && s.freshTypeTables

def pureProj (s : Semantics) : Bool := s.pyprojMode = .ifAbsent && s.toxMode = .truncate

/-! ## specs and invocations -/

structure SoupSpec where
  id : Nat
  /-- the `fielddef-root` element when the spec has one: (name, datatype) in document order -/
  root : Option (List (Nm × Nat))
  /-- the `def=` references of the fields, in document order -/
  uses : List Nm
  /-- message ids -/
  msgs : List Nat
  deriving DecidableEq, Repr, Inhabited

/-- a `<group>` of the dictionary: its field entries, then its nested groups -/
inductive GTree where
  | mk (name : Nm) (fields : List Nm) (kids : List GTree)
  deriving Repr, Inhabited

structure FixSpec where
  id : Nat
  /-- 42, 44, 50, 502 (`--fix-version`) -/
  version : Nat
  /-- the `F<n>` fields of the dictionary -/
  fields : List Nm
  /-- fields of the message -/
  msgFields : List Nm
  /-- the groups of the message, in order -/
  groups : List GTree
  /-- the NUMINGROUP fields of the dictionary -/
  counts : List Nm
  deriving Repr, Inhabited

structure Asn1Spec where
  /-- input directory: (file name, content id) -/
  files : List (Str × Nat)
  deriving DecidableEq, Repr, Inhabited

/-- the options `app-name`, `prefix`, `init-file` / `no-init-file`, `op-dir`, and (ITCH / OUCH / SQF entry points only; the
    others ignore it) `override-messages` / `no-override-messages` (`true` is the entry points' default).
    `--fix-version` is `FixSpec.version`; `--pdu-name` and `--package-name` are arguments of `Inv.asn1`. -/
structure GenOpts where
  app : Str
  pfx : Str
  init : Bool
  dir : Dir
  override : Bool
  deriving DecidableEq, Repr, Inhabited

inductive Inv where
  | soup (impl : Impl) (spec : SoupSpec) (o : GenOpts)
  | fix (spec : FixSpec) (o : GenOpts)
  | asn1 (spec : Asn1Spec) (pdu package : Str) (o : GenOpts)
  | newProject (t : Nat) (name : Str) (apps : List (Str × Impl))
  | userEdit (p : Path) (n : Nat)
  deriving Repr, Inhabited

/-- one of the three generators (not the project tool, not a user edit) -/
def Inv.isGen : Inv → Bool
  | .soup .. | .fix .. | .asn1 .. => true
  | _ => false

def Inv.dir : Inv → Dir
  | .soup _ _ o | .fix _ o | .asn1 _ _ _ o => o.dir
  | .newProject t name _ => .proj t name
  | .userEdit p _ => p.1

/-- the same invocation into another output directory -/
def Inv.retarget (d : Dir) : Inv → Inv
  | .soup i s o => .soup i s { o with dir := d }
  | .fix s o => .fix s { o with dir := d }
  | .asn1 s pdu pk o => .asn1 s pdu pk { o with dir := d }
  | i => i

inductive Ev where
  | inv (i : Inv)
  | newProcess            -- the following invocations run in a fresh interpreter (file system kept)
  /-- first half of an entry point: parse the spec and construct generator object number `k` (nothing is written) -/
  | construct (k : Nat) (i : Inv)
  /-- second half: `generate()` of generator object `k` -/
  | generate (k : Nat)
  deriving Repr, Inhabited

/-! ## plans: what an invocation writes -/

structure Action where
  path : Path
  mode : Mode
  chunks : List Chunk
  deriving DecidableEq, Repr, Inhabited

structure Plan where
  /-- `shutil.rmtree` executed before anything is written -/
  wipe : Option Dir
  acts : List Action
  /-- the python modules written (for the import check), in generation order -/
  modules : List Str
  deriving DecidableEq, Repr, Inhabited

def applyActs (fs : FS) (acts : List Action) : FS :=
  acts.foldl (fun fs a => write a.mode fs a.path a.chunks) fs

def applyPlan (fs : FS) (pl : Plan) : FS :=
  applyActs (match pl.wipe with | some d => wipe fs d | none => fs) pl.acts

/-- what a generator writes, relative to its output directory (`--op-dir` appears nowhere in it) -/
structure RelAction where
  name : Str
  mode : Mode
  chunks : List Chunk
  deriving DecidableEq, Repr, Inhabited

structure RelPlan where
  /-- `shutil.rmtree(op_dir)` first (ASN.1) -/
  wipe : Bool
  acts : List RelAction
  modules : List Str
  deriving DecidableEq, Repr, Inhabited

def RelAction.at (d : Dir) (a : RelAction) : Action := ⟨(d, a.name), a.mode, a.chunks⟩

def RelPlan.at (d : Dir) (rp : RelPlan) : Plan :=
  ⟨if rp.wipe then some d else none, rp.acts.map (RelAction.at d), rp.modules⟩

/-- the chunks of the last action on file `n` -/
def lastByName : List RelAction → Str → Option (List Chunk)
  | [], _ => none
  | a :: rest, n =>
    match lastByName rest n with
    | some cs => some cs
    | none => if a.name = n then some a.chunks else none

/-! ## process state -/

/-- `fix/parser/version_types.py` when its builders are `functools.cache`d: there is then ONE dict object — the one the
    cached `_fix_42_version_types()` returned — which the 4.4 / 5.0 / 5.0SP2 builders update in place the first (only) time
    each of them runs, and which all four hand out from then on.  (Unused when the builders make a new dict per call.) -/
structure TCache where
  /-- the content of that dict object; `none`: `_fix_42_version_types()` has not run yet -/
  dict : Option GenFix.TypeTable
  /-- `_fix_44_version_types()` / `_fix_50_version_types()` / `_fix_502_version_types()` ran (their result is cached) -/
  done44 : Bool
  done50 : Bool
  done502 : Bool
  deriving DecidableEq, Repr, Inhabited

/-- a generator object that was constructed and not yet garbage: what its `generate()` will write -/
structure GenObj where
  /-- `self.op_dir` -/
  dir : Dir
  /-- the files `generate()` writes, with the context captured at construction -/
  acts : List RelAction
  modules : List Str
  /-- FIX only.  `self._context['groups']` is *the list object* `Group.Contexts` was bound to when the generator was constructed.
      `none`: nothing refers to that object but this generator (the class attribute was bound to a new list since, or will be
      before anything is appended), its content is what `acts` holds.  `some mp`: it is still the class attribute's list —
      `generate()` renders the groups module (`mp`_groups.py) from whatever `Group.Contexts` holds at that moment. -/
  sharedGroups : Option Str
  deriving DecidableEq, Repr, Inhabited

structure ProcState where
  /-- `FieldDef.Definitions` (common/message/parser.py:47): name ↦ datatype, in dict insertion order -/
  fieldDefs : List (Nm × Nat)
  /-- `Group.Contexts` (fix/parser/definitions.py:92) -/
  contexts : List GCtx
  /-- `Group.UniqueNameCounter` (definitions.py:93): name ↦ how many unique names were handed out -/
  counter : List (Nm × Nat)
  /-- the cached FIX type tables -/
  types : TCache
  /-- the live generator objects, by the number the history gives them -/
  gens : List (Nat × GenObj)
  deriving DecidableEq, Repr, Inhabited

/-- a fresh interpreter -/
def st0 : ProcState := ⟨[], [], [], ⟨none, false, false, false⟩, []⟩

structure World where
  st : ProcState
  fs : FS
  deriving DecidableEq, Repr, Inhabited

def w0 : World := ⟨st0, []⟩

def getGen : List (Nat × GenObj) → Nat → Option GenObj
  | [], _ => none
  | (j, g) :: rest, k => if j = k then some g else getGen rest k

def setGen : List (Nat × GenObj) → Nat → GenObj → List (Nat × GenObj)
  | [], k, g => [(k, g)]
  | (j, h) :: rest, k, g => if j = k then (j, g) :: rest else (j, h) :: setGen rest k g

/-- `dict[name]` on a dict built by `{f.name: f for f in fields}` (a later duplicate wins) -/
def lookupLast : List (Nm × Nat) → Nm → Except Err Nat
  | [], _ => .error .key
  | (k, v) :: rest, n =>
    match lookupLast rest n with
    | .ok v' => .ok v'
    | .error _ => if k = n then .ok v else .error .key

def resolveAll (tbl : List (Nm × Nat)) : List Nm → Except Err (List Nat)
  | [] => .ok []
  | n :: rest =>
    match lookupLast tbl n with
    | .error e => .error e
    | .ok v =>
      match resolveAll tbl rest with
      | .error e => .error e
      | .ok vs => .ok (v :: vs)

/-- the `key = f'{msg.id}-{msg.group}-{msg.direction}'` of the k-th, (k+1)-th … message of the harness' spec family: the id and
    the direction (`incoming` for even k, `outgoing` for odd k) -/
def msgKeys : Nat → List Nat → List (Nat × Nat)
  | _, [] => []
  | k, i :: rest => (i, k % 2) :: msgKeys (k + 1) rest

/-- some key occurs twice -/
def dupKey : List (Nat × Nat) → Bool
  | [] => false
  | a :: rest => rest.contains a || dupKey rest

/-- the keys of `messages = {}; messages[key] = msg …` in dict order (a repeated key keeps its first position) -/
def dictKeys : List (Nat × Nat) → List (Nat × Nat) → List (Nat × Nat)
  | seen, [] => seen
  | seen, a :: rest => if seen.contains a then dictKeys seen rest else dictKeys (seen ++ [a]) rest

/-- the `def=` references of the spec family sit in the FIRST message: when a later message has the same key
    (`override_messages`: it replaces the first one in the dict), the module shows none of the resolved datatypes -/
def shownTypes (msgs : List Nat) (resolved : List Nat) : List Nat :=
  match msgKeys 0 msgs with
  | k0 :: rest => if rest.contains k0 then [] else resolved
  | [] => resolved

/-- ITCH / OUCH / SQF: `Parser.parse(spec_file, override_messages)` then `Generator(...).generate()` -/
def planSoup (sem : Semantics) (st : ProcState) (impl : Impl) (spec : SoupSpec) (o : GenOpts) :
    ProcState × Except Err RelPlan :=
  -- Parser.parse: `FieldDef.Definitions` is a class attribute; it is assigned only `elif element.tag == 'fielddef-root'`
  let tbl0 := if sem.resetFieldDefs then [] else st.fieldDefs
  let tbl := match spec.root with
    | some r => r
    | none => tbl0
  let st' := { st with fieldDefs := tbl }
  -- `_parse_field`: `copy.deepcopy(FieldDef.Definitions[element.get('def')])`  → KeyError
  match resolveAll tbl spec.uses with
  | .error e => (st', .error e)
  | .ok resolved =>
    -- `_parse_messages`: `if key in messages and not override_messages: raise ValueError` (messages-root comes after the
    -- field definitions, records and enums in the spec files; with `override_messages` the later declaration wins)
    if !o.override && dupKey (msgKeys 0 spec.msgs) then (st', .error .value) else
    let modName := prefix_ o.pfx ++ impl.str ++ sUnderscore ++ o.app
    let modAct : RelAction := ⟨modName ++ sPy, sem.genMode, [.soupModule impl o.app spec.id spec.msgs (shownTypes spec.msgs resolved)]⟩
    let initAct : RelAction := ⟨sInit ++ sPy, sem.genMode, [.initLine modName]⟩
    (st', .ok ⟨false, if o.init then [modAct, initAct] else [modAct], [modName]⟩)

/-- the class-level state of `fix.parser.definitions.Group` -/
structure FixState where
  contexts : List GCtx
  counter : List (Nm × Nat)
  deriving DecidableEq, Repr, Inhabited

/-- `next(Group.UniqueNameCounter[name])` with `defaultdict(lambda: count(1))` -/
def nextU : List (Nm × Nat) → Nm → Nat × List (Nm × Nat)
  | [], n => (1, [(n, 1)])
  | (k, c) :: rest, n =>
    if k = n then (c + 1, (k, c + 1) :: rest)
    else
      let r := nextU rest n
      (r.1, (k, c) :: r.2)

mutual
/-- `Group.get_codegen_context`: a unique name is taken, the nested entries are evaluated **twice** (once for the returned
    context, once for the dict appended to `Group.Contexts`), so every nested group is given two names and two classes. -/
def ctxGroup (s : FixState) : GTree → FixState × (Nm × Nat)
  | .mk name fields kids =>
    let r := nextU s.counter name
    let s1 : FixState := { s with counter := r.2 }
    let k1 := ctxKids s1 kids                    -- 'entries' of group_context
    let k2 := ctxKids k1.1 kids                  -- 'entries' of the dict appended to Group.Contexts
    let ctx : GCtx := ⟨name, r.1, fields.map .field ++ k2.2.map fun x => .group x.1 x.2⟩
    ({ k2.1 with contexts := k2.1.contexts ++ [ctx] }, (name, r.1))
def ctxKids (s : FixState) : List GTree → FixState × List (Nm × Nat)
  | [] => (s, [])
  | g :: rest =>
    let a := ctxGroup s g
    let b := ctxKids a.1 rest
    (b.1, a.2 :: b.2)
end

/-- `Definitions._client_session` knows 4.2 (since b154f58), 4.4, 5.0, 5.0SP2 and raises ValueError for anything else
    (the CLI offers nothing else) -/
def versionOk (v : Nat) : Bool := v = 42 || v = 44 || v = 50 || v = 502

/-- `'Fix42Session'` / `'Fix44Session'` / `'Fix50Session'` -/
def clientSession (v : Nat) : Nat := if v = 42 then 42 else if v = 44 then 44 else 50

/-! ### `version_types.py` -/

abbrev TypeTable := GenFix.TypeTable

/-- what `_fix_44_version_types` / `_fix_50_version_types` / `_fix_502_version_types` `.update()` the table they start from with -/
def upd44 : TypeTable := [(GenFix.lit "SEQNUM", .FixInt), (GenFix.lit "NUMINGROUP", .FixInt)]
def upd50 : TypeTable :=
  [(GenFix.lit "FIXSTRING", .FixString), (GenFix.lit "MULTIPLECHARVALUE", .FixString), (GenFix.lit "NUMINGROUP", .FixInt), (GenFix.lit "SEQNUM", .FixInt)]
def upd502 : TypeTable :=
  [(GenFix.lit "LOCALMKTDATE", .FixLocalMktDate), (GenFix.lit "TZTIMEONLY", .FixTzTimeonly), (GenFix.lit "MULTIPLESTRINGVALUE", .FixMultipleValueString)]

/-- `@cache def _fix_42_version_types()`: builds the dict once, returns that object ever after -/
def cached42 (c : TCache) : TCache × TypeTable :=
  match c.dict with
  | some d => (c, d)
  | none => ({ c with dict := some GenFix.types42 }, GenFix.types42)

/-- `@cache def _fix_44_version_types()`: the first call updates the (cached) 4.2 dict in place and returns it -/
def cached44 (c : TCache) : TCache × TypeTable :=
  if c.done44 then cached42 c
  else
    let r := cached42 c
    let d := GenFix.updateAll r.2 upd44
    ({ r.1 with dict := some d, done44 := true }, d)

def cached50 (c : TCache) : TCache × TypeTable :=
  if c.done50 then cached42 c
  else
    let r := cached42 c
    let d := GenFix.updateAll r.2 upd50
    ({ r.1 with dict := some d, done50 := true }, d)

/-- `_fix_502_version_types` starts from `_fix_50_version_types()` -/
def cached502 (c : TCache) : TCache × TypeTable :=
  if c.done502 then cached42 c
  else
    let r := cached50 c
    let d := GenFix.updateAll r.2 upd502
    ({ r.1 with dict := some d, done502 := true }, d)

/-- the documented table of a version (a new dict per call: `GenFix.supportedTypes`) -/
def tableOf (v : Nat) : Except Err TypeTable :=
  if v = 42 then .ok GenFix.types42 else if v = 44 then .ok GenFix.types44 else if v = 50 then .ok GenFix.types50
  else if v = 502 then .ok GenFix.types502 else .error .value

/-- `get_supported_types(version)`: ValueError for a version it does not know -/
def typesFor (sem : Semantics) (c : TCache) (v : Nat) : TCache × Except Err TypeTable :=
  if sem.freshTypeTables then (c, tableOf v)
  else if v = 42 then ((cached42 c).1, .ok (cached42 c).2)
  else if v = 44 then ((cached44 c).1, .ok (cached44 c).2)
  else if v = 50 then ((cached50 c).1, .ok (cached50 c).2)
  else if v = 502 then ((cached502 c).1, .ok (cached502 c).2)
  else (c, .error .value)

/-- every FIX type name of version_types.py, in the order of the 5.0SP2 table -/
def allTypeNames : List Str := GenFix.types502.map (·.1)

/-- the `type=` attribute of the dictionary field `F<n>` in the harness' spec family: INT / STRING by parity below 10, from
    10 on the (n-10)-th type name (mod 29) — every name occurs, documented for the version or not -/
def declTy (n : Nm) : Str :=
  if n < 10 then (if n % 2 = 1 then GenFix.lit "INT" else GenFix.lit "STRING")
  else allTypeNames.getD ((n - 10) % allTypeNames.length) []

/-- `types[field.get('type')]` for the declared fields in document order; KeyError at the first unknown name -/
def resolveTypes (tbl : TypeTable) : List Str → Except Err (List GenFix.TyCls)
  | [] => .ok []
  | t :: rest =>
    match GenFix.aget t tbl with
    | none => .error .key
    | some c =>
      match resolveTypes tbl rest with
      | .error e => .error e
      | .ok cs => .ok (c :: cs)

/-- the type names of the `<fields>` section that are not the same in every spec: the `F<n>` fields, then the group count
    fields (NUMINGROUP — which the 4.2 table does not have).  (BeginString, BodyLength, MsgType, CheckSum, Own<id> are STRING /
    LENGTH / INT, known to every version.) -/
def declared (spec : FixSpec) : List Str := spec.fields.map declTy ++ spec.counts.map fun _ => GenFix.lit "NUMINGROUP"

/-- FIX: `parse(spec_file, version)` — `get_supported_types(version)`, then the declared field types are looked up — then
    `Generator(...)`, whose `__attrs_post_init__` already evaluates `definitions.get_codegen_context()`, then `.generate()` -/
def planFix (sem : Semantics) (st : ProcState) (spec : FixSpec) (o : GenOpts) : ProcState × Except Err RelPlan :=
  let t := typesFor sem st.types spec.version
  let st := { st with types := t.1 }
  match t.2 with
  | .error e => (st, .error e)
  | .ok tbl =>
  match resolveTypes tbl (declared spec) with
  | .error e => (st, .error e)
  | .ok resolved =>
  let s0 : FixState := ⟨if sem.resetContexts then [] else st.contexts, if sem.resetCounter then [] else st.counter⟩
  -- `message_context = [message.get_codegen_context(self) …]` is evaluated first and mutates Group.Contexts / the counters
  let k := ctxKids s0 spec.groups
  let st' := { st with contexts := k.1.contexts, counter := k.1.counter }
  -- `'client_session': self._client_session()` raises ValueError for an unknown version — after the mutation
  if !versionOk spec.version then (st', .error .value)
  else
    let mp := prefix_ o.pfx ++ sFix ++ o.app
    let f (suffix : Str) (c : Chunk) : RelAction := ⟨mp ++ suffix ++ sPy, sem.genMode, [c]⟩
    let acts : List RelAction := [
      f sFields (.fixFields spec.id spec.fields spec.counts resolved),
      f sGroups (.fixGroups mp k.1.contexts),                 -- `'groups': Group.Contexts`
      f sBodies (.fixBodies mp spec.id spec.msgFields k.2),
      f sMessages (.fixMessages mp spec.id spec.msgFields k.2),
      ⟨sApp ++ sPy, sem.genMode, [.fixApp o.app (clientSession spec.version)]⟩ ]
    let initAct : RelAction := ⟨sInit ++ sPy, sem.genMode, [.fixInit mp]⟩
    (st', .ok ⟨false, if o.init then acts ++ [initAct] else acts,
      [mp ++ sFields, mp ++ sGroups, mp ++ sBodies, mp ++ sMessages, sApp]⟩)

/-- ASN.1: `Ans1Generator.__attrs_post_init__` removes the output directory, `generate` writes the module, the init file
    and copies the input files to `<op_dir>/spec/` -/
def planAsn1 (sem : Semantics) (st : ProcState) (spec : Asn1Spec) (pdu package : Str) (o : GenOpts) :
    ProcState × Except Err RelPlan :=
  let modName := prefix_ o.pfx ++ o.app
  let modAct : RelAction := ⟨modName ++ sPy, sem.genMode, [.asn1Module o.app pdu package]⟩
  let initAct : RelAction := ⟨sInit ++ sPy, sem.genMode, [.initLine modName]⟩
  let copies : List RelAction := spec.files.map fun f => ⟨sSpecDir ++ f.1, .truncate, [.asn1File f.2]⟩
  (st, .ok ⟨true, (if o.init then [modAct, initAct] else [modAct]) ++ copies, [modName]⟩)

/-- `_validate_applications`: an application name given twice is rejected -/
def dupApps : List (Str × Impl) → Bool
  | [] => false
  | a :: rest => rest.any (fun b => b.1 = a.1) || dupApps rest

/-- `nasdaq-protocols-create-new-project` -/
def planNewProject (sem : Semantics) (st : ProcState) (t : Nat) (name : Str) (apps : List (Str × Impl)) :
    ProcState × Except Err Plan :=
  if dupApps apps then (st, .error .other)        -- click.ClickException
  else
    -- `_write_app_xml`: `if app_info.app_xml.exists(): return` … `open(app_xml, 'w')`
    let xmls : List Action := apps.map fun a => ⟨(.app t name a.1, a.1 ++ sXml), .ifAbsent, [.appXml]⟩
    -- `Path(project_module_dir / '__init__.py').touch()`
    let touch : Action := ⟨(.pkg t name, sInit ++ sPy), .ifAbsent, []⟩
    let pyproj : Action := ⟨(.proj t name, sPyproject), sem.pyprojMode, [.pyproject name]⟩
    let tox : Action := ⟨(.proj t name, sTox), sem.toxMode, [.tox (srcName name) apps]⟩
    (st, .ok ⟨none, xmls ++ [touch, pyproj, tox], []⟩)

/-- the three generators, relative to the output directory (for the other invocations: nothing) -/
def planGen (sem : Semantics) (st : ProcState) : Inv → ProcState × Except Err RelPlan
  | .soup impl spec o => planSoup sem st impl spec o
  | .fix spec o => planFix sem st spec o
  | .asn1 spec pdu package o => planAsn1 sem st spec pdu package o
  | _ => (st, .ok ⟨false, [], []⟩)

def plan (sem : Semantics) (st : ProcState) : Inv → ProcState × Except Err Plan
  | .newProject t name apps => planNewProject sem st t name apps
  | .userEdit p n => (st, .ok ⟨none, [⟨p, .truncate, [.userText n]⟩], []⟩)
  | i =>
    let r := planGen sem st i
    match r.2 with
    | .ok rp => (r.1, .ok (rp.at i.dir))
    | .error e => (r.1, .error e)

/-- one invocation: the new world and the outcome (`ok` or the exception class that escaped; nothing is written then,
    because every failure modelled here happens before the first `open`) -/
def invoke (sem : Semantics) (w : World) (i : Inv) : World × Except Err Unit :=
  let r := plan sem w.st i
  match r.2 with
  | .ok pl => (⟨r.1, applyPlan w.fs pl⟩, .ok ())
  | .error e => (⟨r.1, w.fs⟩, .error e)

/-! ### the two halves of an invocation -/

/-- does the FIX generator's context keep referring to the class attribute's list?  Not when every generation starts by
    binding `Group.Contexts` to a new list (`resetContexts` and `rebindContexts`): then the captured list is the generator's own. -/
def sharedGroupsOf (sem : Semantics) : Inv → Option Str
  | .fix _ o => if sem.resetContexts && sem.rebindContexts then none else some (prefix_ o.pfx ++ sFix ++ o.app)
  | _ => none

/-- the entry point up to (not including) its call of `generate()`: the spec is parsed and generator object `k` constructed.
    Everything that can fail in the modelled spec families fails here; the ASN.1 generator's constructor empties `op_dir`;
    nothing is written. -/
def construct (sem : Semantics) (w : World) (k : Nat) (i : Inv) : World × Except Err Unit :=
  match (planGen sem w.st i).2 with
  | .error e => (⟨(planGen sem w.st i).1, w.fs⟩, .error e)
  | .ok rp =>
    (⟨{ (planGen sem w.st i).1 with
          gens := setGen (planGen sem w.st i).1.gens k ⟨i.dir, rp.acts, rp.modules, sharedGroupsOf sem i⟩ },
      if rp.wipe then wipe w.fs i.dir else w.fs⟩, .ok ())

/-- what `generate()` of a generator object writes *now*: the captured context, except for a groups list that is shared -/
def GenObj.actsNow (obj : GenObj) (st : ProcState) : List RelAction :=
  match obj.sharedGroups with
  | none => obj.acts
  | some mp => obj.acts.map fun a =>
      if a.name = mp ++ sGroups ++ sPy then { a with chunks := [.fixGroups mp st.contexts] } else a

/-- `generate()` of generator object `k` (`Err.state`: there is no such object — its construction failed or it belongs to
    another process) -/
def generate (_sem : Semantics) (w : World) (k : Nat) : World × Except Err Unit :=
  match getGen w.st.gens k with
  | none => (w, .error .state)
  | some obj => (⟨w.st, applyActs w.fs ((obj.actsNow w.st).map (RelAction.at obj.dir))⟩, .ok ())

def step (sem : Semantics) (w : World) : Ev → World
  | .inv i => (invoke sem w i).1
  | .newProcess => ⟨st0, w.fs⟩
  | .construct k i => (construct sem w k i).1
  | .generate k => (generate sem w k).1

def run (sem : Semantics) (w : World) (evs : List Ev) : World := evs.foldl (step sem) w

/-- the names an invocation writes in its own directory (state independent) -/
def targetNames : Inv → List Str
  | .soup impl _ o =>
    let m := prefix_ o.pfx ++ impl.str ++ sUnderscore ++ o.app
    if o.init then [m ++ sPy, sInit ++ sPy] else [m ++ sPy]
  | .fix _ o =>
    let mp := prefix_ o.pfx ++ sFix ++ o.app
    [mp ++ sFields ++ sPy, mp ++ sGroups ++ sPy, mp ++ sBodies ++ sPy, mp ++ sMessages ++ sPy, sApp ++ sPy]
      ++ (if o.init then [sInit ++ sPy] else [])
  | .asn1 spec _ _ o =>
    let m := prefix_ o.pfx ++ o.app
    (if o.init then [m ++ sPy, sInit ++ sPy] else [m ++ sPy]) ++ spec.files.map fun f => sSpecDir ++ f.1
  | .newProject .. => [sPyproject, sTox]
  | .userEdit p _ => [p.2]

/-! ## importing a generated package -/

/-- names bound in / looked up from a module namespace -/
inductive Sym where
  | fld (n : Nm)            -- field class `F<n>`
  | cnt (g : Nm)            -- NUMINGROUP field class `NoG<g>`
  | grp (g : Nm) (u : Nat)  -- `NoG<g>_<u>_List` (defined right after `NoG<g>_<u>`)
  deriving DecidableEq, Repr, Inhabited

/-- registrations that are checked for duplicates when a class statement executes -/
inductive Reg where
  /-- `CommonMessage.MsgIdToClsMap[app][msg_id]`; ids of different protocols never compare equal; an OUCH id is
      (indicator, direction), an ITCH / SQF id is the indicator alone (`dir` is 0 for them) -/
  | msg (impl : Impl) (app : Str) (id : Nat) (dir : Nat)
  | asn1 (app : Str)                           -- `Asn1Spec.SpecMap[spec_name]`
  deriving DecidableEq, Repr, Inhabited

/-- one class statement (or import statement) of a module body -/
inductive Stmt where
  | imp (m : Str)                      -- `from .m import *` / `from . import m as …`
  | need (m : Str) (s : Sym)           -- evaluates `<alias of m>.<s>`      (AttributeError when missing)
  | needLocal (s : Sym)                -- evaluates a global of this module (NameError when missing)
  | define (s : Sym)
  | register (r : Reg)                 -- DuplicateMessageException when already registered (a re-executed class statement
                                       -- creates a new class object, which is `!=` the registered one)
  deriving DecidableEq, Repr, Inhabited

/-- the registrations of the message classes of a soup-app module: the k-th message of the harness' spec family is
    `incoming` for even k and `outgoing` for odd k -/
def msgRegs (impl : Impl) (app : Str) (k : Nat) (msgs : List Nat) : List Stmt :=
  -- the module holds one class per *key* (`override_messages`: a repeated key replaced the earlier message)
  (dictKeys [] (msgKeys k msgs)).map fun x => .register (.msg impl app x.1 (if impl = .ouch then x.2 else 0))

def ctxStmts (mp : Str) (c : GCtx) : List Stmt :=
  (c.entries.map fun e => match e with
    | .field n => Stmt.need (mp ++ sFields) (.fld n)
    | .group g u => Stmt.needLocal (.grp g u))
  ++ [.need (mp ++ sFields) (.cnt c.name), .define (.grp c.name c.u)]

/-- what executing a chunk does, as far as importing is concerned -/
def stmts : Chunk → List Stmt
  | .soupModule impl app _ msgs _ => msgRegs impl app 0 msgs
  | .initLine m => [.imp m]
  | .fixFields _ fields counts _ => fields.map (fun n => .define (.fld n)) ++ counts.map fun g => .define (.cnt g)
  | .fixGroups mp ctxs => .imp (mp ++ sFields) :: ctxs.flatMap (ctxStmts mp)
  | .fixBodies mp _ fields top =>
    [.imp (mp ++ sFields), .imp (mp ++ sGroups)] ++ fields.map (fun n => .need (mp ++ sFields) (.fld n))
      ++ top.map fun x => .need (mp ++ sGroups) (.grp x.1 x.2)
  | .fixMessages mp _ _ _ => [.imp (mp ++ sGroups), .imp (mp ++ sBodies), .imp sApp]
  | .fixApp _ _ => []
  | .fixInit mp => [.imp (mp ++ sFields), .imp (mp ++ sGroups), .imp (mp ++ sBodies), .imp (mp ++ sMessages), .imp sApp]
  | .asn1Module app _ _ => [.register (.asn1 app)]
  | _ => []

structure IState where
  loaded : List Str
  defs : List (Str × Sym)
  regs : List Reg
  deriving DecidableEq, Repr, Inhabited

/-- `import <package>.<m>` with the files of the package given by `view`; `fuel` bounds the import depth -/
def importModule : Nat → (Str → Option (List Chunk)) → IState → Str → Except Err IState
  | 0, _, _, _ => .error .other
  | fuel + 1, view, s, m =>
    if s.loaded.contains m then .ok s
    else
      match view (m ++ sPy) with
      | none => .error .other                                   -- ModuleNotFoundError
      | some chunks =>
        (chunks.flatMap stmts).foldlM (init := { s with loaded := m :: s.loaded }) fun s st =>
          match st with
          | .imp m' => importModule fuel view s m'
          | .need m' y => if s.defs.contains (m', y) then .ok s else .error .attr
          | .needLocal y => if s.defs.contains (m, y) then .ok s else .error .other     -- NameError
          | .define y => .ok { s with defs := (m, y) :: s.defs }
          | .register r => if s.regs.contains r then .error .dup else .ok { s with regs := r :: s.regs }

/-- import the package (when it has an `__init__.py`; the package is "module" `__init__`), then the given modules -/
def importPkg (view : Str → Option (List Chunk)) (modules : List Str) : Except Err Unit :=
  let order := (if (view (sInit ++ sPy)).isSome then [sInit] else []) ++ modules
  match order.foldlM (importModule 8 view) (⟨[], [], []⟩ : IState) with
  | .ok _ => .ok ()
  | .error e => .error e

/-- the observable "import of the resulting package" right after invocation `i` ran in world `w` giving `w'`:
    the package of `i`'s directory, then the modules `i` generated -/
def importAfter (sem : Semantics) (w : World) (i : Inv) : Except Err Unit :=
  match (plan sem w.st i).2 with
  | .ok pl => importPkg (dirView (invoke sem w i).1.fs i.dir) pl.modules
  | .error e => .error e

/-- the same observable right after `generate()` of generator object `k` -/
def importAfterGenerate (sem : Semantics) (w : World) (k : Nat) : Except Err Unit :=
  match getGen w.st.gens k with
  | none => .error .state
  | some obj => importPkg (dirView (generate sem w k).1.fs obj.dir) obj.modules

/-- a configuration file (pyproject.toml, tox.ini) parses iff it is not the concatenation of several renderings
    (each rendering opens the `[project]` / `[tox]` section again) -/
def configValid (f : Option (List Chunk)) : Bool :=
  match f with
  | some cs => cs.length ≤ 1
  | none => true

end NasdaqModel.GenHistory
