import NasdaqModel.Model.Framing
import NasdaqModel.Model.Session
/-
Refinement vocabulary: the byte-level reader (Model/Framing.lean, C03) against the token-level reader of the session machine
(Model/Session.lean, C04–C07).

* `tokens P buf` — the frames the reader loop cuts off the byte string `buf`, classified the way `Framing.stepObs` classifies
  the result of one `deserialize()` (`emit | skip | stop | crash` ↦ `msg | hb | logout | bad`), up to and including the first
  `logout` / `bad` (the reader stops there), together with the bytes that are left and whether the reader stopped.
  It is the reader loop itself run to quiescence on a fixed buffer: one `deserialize()` per round, exactly `stepObs … .tick`.
* `BSt`, `bstep` — one byte-level history (`bytes seg` = `data_received(seg)`, every other session event as it is) drives BOTH
  existing machines side by side: the C03 reader machine gets `data seg` / `tick`, the session machine gets
  `Ev.data fs` with `fs` = the frames that `seg` completes / the event itself.  No transition is re-modelled here: `bstep` only
  routes events.  That the two components then agree (buffer contents, what was emitted, when the reader stops) is the
  refinement theorem (`PInv`, `brun_pinv` in Lemmas/RefineRun.lean; Props/C04Bytes.lean).
-/
namespace NasdaqModel.Refine
open NasdaqModel Py

/-- one frame cut off the byte stream, classified -/
inductive Tok (μ : Type) where
  | msg (m : μ)      -- handed to `on_msg_coro`
  | hb               -- consumed, not handed on
  | logout           -- consumed; the reader stops
  | bad              -- `deserialize()` raised; the reader stops, the buffer is left as it is
  deriving DecidableEq, Repr, Inhabited

/-- the `(stop, skip)` classification of a deserialised message, as in `Framing.stepObs` -/
def classify (P : Framing.Proto μ) (m : μ) : Tok μ :=
  if P.isLogout m then .logout else if P.isHeartbeat m then .hb else .msg m

/-- the session machine's name for a token, under a numbering of the messages -/
def Tok.frame (num : μ → Nat) : Tok μ → Sess.Frame
  | .msg m => .msg (num m)
  | .hb => .hb
  | .logout => .logout
  | .bad => .bad

structure Toks (μ : Type) where
  toks : List (Tok μ) := []     -- frames cut off, in order
  rest : Bytes := []            -- what is left in the buffer
  fin : Bool := false           -- the last token is `logout` / `bad`: the reader has stopped
  deriving DecidableEq, Repr, Inhabited

/-- the reader loop on a fixed buffer, at most `fuel` rounds (`fuel = len(buffer)` is enough when every frame is non-empty) -/
def tokensF (P : Framing.Proto μ) : Nat → Bytes → Toks μ
  | 0, buf => ⟨[], buf, false⟩
  | fuel + 1, buf =>
    if buf.length = 0 then ⟨[], buf, false⟩                      -- `if len(self._buffer) > 0`
    else match P.deser buf with
      | .error _ => ⟨[.bad], buf, true⟩                          -- `except Exception: await self.stop()`
      | .ok none => ⟨[], buf, false⟩                             -- `empty_response`: wait for more bytes
      | .ok (some (m, rest)) =>
        if P.isLogout m then ⟨[.logout], rest, true⟩             -- `if stop: await self.stop()`
        else
          let t := tokensF P fuel rest
          ⟨classify P m :: t.toks, t.rest, t.fin⟩

/-- **tokenisation** of a byte string -/
def tokens (P : Framing.Proto μ) (buf : Bytes) : Toks μ := tokensF P buf.length buf

/-- the token kinds, as the session machine names them -/
def Toks.frames (num : μ → Nat) (t : Toks μ) : List Sess.Frame := t.toks.map (Tok.frame num)

/-- the decodable application messages among the tokens (those the reader hands on), in order -/
def tokMsgs (l : List (Tok μ)) : List μ :=
  l.filterMap fun k => match k with
    | .msg m => some m
    | _ => none

def Toks.msgs (t : Toks μ) : List μ := tokMsgs t.toks

/-- the decodable application messages carried by a byte string (before the first logout / malformed frame) -/
def carried (P : Framing.Proto μ) (buf : Bytes) : List μ := (tokens P buf).msgs

/-- a tokenisation continued when more bytes arrive -/
def Toks.extend (P : Framing.Proto μ) (t : Toks μ) (more : Bytes) : Toks μ :=
  if t.fin then { t with rest := t.rest ++ more }
  else
    let u := tokens P (t.rest ++ more)
    ⟨t.toks ++ u.toks, u.rest, u.fin⟩

/-- tokens put in front of a tokenisation -/
def Toks.prepend (pre : List (Tok μ)) (t : Toks μ) : Toks μ := { t with toks := pre ++ t.toks }

/-! ### stability of framing under later bytes

`st buf` is a (protocol specific, decidable) test that the way the HEAD of `buf` is framed cannot be changed by bytes arriving
later.  For SoupBinTCP it is constantly true (length prefix).  For FIX it is constantly true since the repair 658ee1f; before,
it failed exactly when the computed frame length was negative (`buf[:n]` with `n < 0` counts from the END of whatever has
arrived — `Witness/C04Bytes.lean`).  `stable` runs the test at every cut point. -/

def stableF (P : Framing.Proto μ) (st : Bytes → Bool) : Nat → Bytes → Bool
  | 0, _ => true
  | fuel + 1, buf =>
    if buf.length = 0 then true
    else st buf && match P.deser buf with
      | .ok (some (m, rest)) => if P.isLogout m then true else stableF P st fuel rest
      | _ => true

def stable (P : Framing.Proto μ) (st : Bytes → Bool) (buf : Bytes) : Bool := stableF P st buf.length buf

/-- FIX, after the repair 658ee1f (`if body_length < 0: raise ValueError`): nothing a later byte can change either — the
    pre-repair test (computed frame length ≥ 0) lives in `Witness/C04Bytes.lean` -/
def fixSt (_ : Bytes) : Bool := true

def soupSt (_ : Bytes) : Bool := true

/-! ### one byte-level history driving both machines -/

/-- byte-level events of a session: bytes arrive, or any event of the session machine other than a token delivery -/
inductive BEv where
  | bytes (seg : Bytes)          -- `data_received(seg)`
  | ev (e : Sess.Ev)             -- connect / eof / run t / user calls / cancel (a `data` token event here is ignored)
  deriving DecidableEq, Repr, Inhabited

structure BSt (μ : Type) where
  r : Framing.R μ := {}          -- the reader object as C03 sees it: `_buffer`, stopped, messages handed on, close signals
  s : Sess.St := {}              -- the session as C04–C07 see it
  all : Bytes := []              -- ghost: every byte received so far

/-- the reader task is about to run its loop body: it is runnable at the top of `_process` and `_stopped` is false -/
def polls (s : Sess.St) : Bool :=
  s.status .R == .ready && s.prog .R == .readerLoop && !s.rStopped

/-- the frames that the segment `seg` completes in the buffer of reader `r` (none once the reader has stopped) -/
def newFrames (P : Framing.Proto μ) (num : μ → Nat) (r : Framing.R μ) (seg : Bytes) : List Sess.Frame :=
  if r.stopped then []
  else ((tokens P (r.buf ++ seg)).frames num).drop (tokens P r.buf).toks.length

/-- the token-level event that matches a byte-level event (zero or one) -/
def tokEv (P : Framing.Proto μ) (num : μ → Nat) (b : BSt μ) : BEv → Option Sess.Ev
  | .bytes seg => some (.data (newFrames P num b.r seg))
  | .ev (.data _) => none
  | .ev e => some e

/-- the reader-machine (C03) event that matches a byte-level event (zero or one): a poll of the reader task is a `tick` -/
def rdrEv (b : BSt μ) : BEv → Option Framing.Ev
  | .bytes seg => some (.data seg)
  | .ev (.run .R) => if polls b.s then some .tick else none
  | .ev _ => none

def bstep (P : Framing.Proto μ) (num : μ → Nat) (cfg : Sess.Cfg) (b : BSt μ) (e : BEv) : BSt μ :=
  { r := match rdrEv b e with
      | some x => Framing.step P b.r x
      | none => b.r
    s := match tokEv P num b e with
      | some x => Sess.step cfg b.s x
      | none => b.s
    all := match e with
      | .bytes seg => b.all ++ seg
      | .ev _ => b.all }

def bfold (P : Framing.Proto μ) (num : μ → Nat) (cfg : Sess.Cfg) (b : BSt μ) (evs : List BEv) : BSt μ :=
  evs.foldl (bstep P num cfg) b

def brun (P : Framing.Proto μ) (num : μ → Nat) (cfg : Sess.Cfg) (evs : List BEv) : BSt μ := bfold P num cfg {} evs

/-- the bytes a history delivers, concatenated -/
def bytesOf : List BEv → Bytes
  | [] => []
  | .bytes seg :: evs => seg ++ bytesOf evs
  | .ev _ :: evs => bytesOf evs

/-- the two projections of a byte-level history from state `b`: the token-level events the session machine is given and
    the reader-machine events the C03 machine is given -/
def traces (P : Framing.Proto μ) (num : μ → Nat) (cfg : Sess.Cfg) : BSt μ → List BEv → List Sess.Ev × List Framing.Ev
  | _, [] => ([], [])
  | b, e :: es =>
    let t := traces P num cfg (bstep P num cfg b e) es
    ((tokEv P num b e).toList ++ t.1, (rdrEv b e).toList ++ t.2)

end NasdaqModel.Refine
