import NasdaqModel.Model.GenHistory
/-
Model for C17 (and the history side of C16) — ONE parsed spec object handed to several generators.

`Model/GenHistory.lean` has the two halves of an entry point: `construct k i` (parse the spec AND build generator object `k`)
and `generate k`.  A build script may also parse once and construct several generators on the object `parse()` returned

    definitions = parse(spec_file, version)                   # fix/parser/parser.py        (one `Definitions` object)
    Generator(definitions, 'client', dir1, '').generate()     # fix/parser/generator.py
    Generator(definitions, 'server', dir2, 'srv').generate()

    definitions = Parser.parse(spec_file, override_messages)  # common/message/parser.py
    Generator(definitions, 'itch', app1, dir1, template, …).generate(…)      # common/message/codegen.py
    Generator(definitions, 'ouch', app2, dir2, template, …).generate(…)

so the first half is split once more: `parse j` (the parsed object gets the number `j`) and `constructOn k j` (generator object
`k` built on parsed object `j` with its own app name / prefix / init flag / directory / protocol).  Object identity is the
number: two generators constructed on `j` hold THE SAME object.

Transcribed from the same sources as Model/GenHistory.lean; `planFix` / `planSoup` are cut where the entry points cut them:
  `parseFix`   = `parse()`: `get_supported_types(version)`, `types[field.get('type')]` per declared field
  `renderFix`  = `Generator.__attrs_post_init__` → `Definitions.get_codegen_context()` (class-level `Group.Contexts` /
                 `Group.UniqueNameCounter` reset, the groups evaluated, `_client_session()`), the files `generate()` will write
  `parseSoup`  = `Parser.parse()`: `FieldDef.Definitions`, the `def=` references resolved, the duplicate-key check
  `renderSoup` = what `Generator.generate()` renders from the parsed definitions (they are never changed after the parse)
and `C17_parse_then_construct_is_planFix` / `C17_parse_then_construct_is_planSoup` (Props/C17Reuse.lean) show that the cut loses nothing.

The parsed FIX object carries one more component, used only by the switchable behaviour `memo` (NOT what the library does; it
is the semantics of seeded change C16l, kept as the subject of Witness/C17Reuse.lean): every `Group` object of the parsed
dictionary remembers the codegen context it computed the first time it was asked (`rendered`), computes nothing and appends
nothing to `Group.Contexts` afterwards — while `Definitions.get_codegen_context()` still starts every generation from an empty
`Group.Contexts`.  With `memo := false` (the library) `constructOn` never changes a parsed object.
Import-free (only Model files), executable, structurally recursive.
-/
namespace NasdaqModel.GenReuse
open NasdaqModel GenHistory

/-! ## the two halves of `planFix` / `planSoup` -/

/-- `parse(spec_file, version)`: the declared field types looked up in the version's table (KeyError / ValueError) -/
def parseFix (sem : Semantics) (st : ProcState) (spec : FixSpec) : ProcState × Except Err (List GenFix.TyCls) :=
  let t := typesFor sem st.types spec.version
  let st := { st with types := t.1 }
  match t.2 with
  | .error e => (st, .error e)
  | .ok tbl =>
  match resolveTypes tbl (declared spec) with
  | .error e => (st, .error e)
  | .ok resolved => (st, .ok resolved)

mutual
/-- `Group.get_codegen_context` when every `Group` object keeps the context it computed (`memo`): a unique name is taken, the
    nested entries are evaluated ONCE, one class is appended to `Group.Contexts` -/
def ctxGroupOnce (s : FixState) : GTree → FixState × (Nm × Nat)
  | .mk name fields kids =>
    let r := nextU s.counter name
    let s1 : FixState := { s with counter := r.2 }
    let k1 := ctxKidsOnce s1 kids
    let ctx : GCtx := ⟨name, r.1, fields.map .field ++ k1.2.map fun x => .group x.1 x.2⟩
    ({ k1.1 with contexts := k1.1.contexts ++ [ctx] }, (name, r.1))
def ctxKidsOnce (s : FixState) : List GTree → FixState × List (Nm × Nat)
  | [] => (s, [])
  | g :: rest =>
    let a := ctxGroupOnce s g
    let b := ctxKidsOnce a.1 rest
    (b.1, a.2 :: b.2)
end

/-- the groups of the message evaluated by `Definitions.get_codegen_context()` on a parsed dictionary whose `Group` objects
    have (`some top`) or have not (`none`) been asked for their context before.  Returns the class-level state, the unique names
    of the message's top-level groups, and what the `Group` objects remember afterwards. -/
def evalGroups (memo : Bool) (s0 : FixState) (groups : List GTree) (rendered : Option (List (Nm × Nat))) :
    FixState × List (Nm × Nat) × Option (List (Nm × Nat)) :=
  if memo then
    match rendered with
    | some top => (s0, top, some top)               -- every group returns its kept context; nothing is appended, no name taken
    | none => ((ctxKidsOnce s0 groups).1, (ctxKidsOnce s0 groups).2, some (ctxKidsOnce s0 groups).2)
  else ((ctxKids s0 groups).1, (ctxKids s0 groups).2, rendered)

/-- `Generator(definitions, app_name, op_dir, prefix, generate_init_file)`: `__attrs_post_init__` evaluates
    `definitions.get_codegen_context()`; the result is what `generate()` will write -/
def renderFix (sem : Semantics) (memo : Bool) (st : ProcState) (spec : FixSpec) (resolved : List GenFix.TyCls)
    (rendered : Option (List (Nm × Nat))) (o : GenOpts) : ProcState × Option (List (Nm × Nat)) × Except Err RelPlan :=
  let s0 : FixState := ⟨if sem.resetContexts then [] else st.contexts, if sem.resetCounter then [] else st.counter⟩
  let k := evalGroups memo s0 spec.groups rendered
  let st' := { st with contexts := k.1.contexts, counter := k.1.counter }
  if !versionOk spec.version then (st', k.2.2, .error .value)
  else
    let mp := prefix_ o.pfx ++ sFix ++ o.app
    let f (suffix : Str) (c : Chunk) : RelAction := ⟨mp ++ suffix ++ sPy, sem.genMode, [c]⟩
    let acts : List RelAction := [
      f sFields (.fixFields spec.id spec.fields spec.counts resolved),
      f sGroups (.fixGroups mp k.1.contexts),
      f sBodies (.fixBodies mp spec.id spec.msgFields k.2.1),
      f sMessages (.fixMessages mp spec.id spec.msgFields k.2.1),
      ⟨sApp ++ sPy, sem.genMode, [.fixApp o.app (clientSession spec.version)]⟩ ]
    let initAct : RelAction := ⟨sInit ++ sPy, sem.genMode, [.fixInit mp]⟩
    (st', k.2.2, .ok ⟨false, if o.init then acts ++ [initAct] else acts,
      [mp ++ sFields, mp ++ sGroups, mp ++ sBodies, mp ++ sMessages, sApp]⟩)

/-- `Parser.parse(spec_file, override_messages)` -/
def parseSoup (sem : Semantics) (st : ProcState) (spec : SoupSpec) (override : Bool) : ProcState × Except Err (List Nat) :=
  let tbl0 := if sem.resetFieldDefs then [] else st.fieldDefs
  let tbl := match spec.root with
    | some r => r
    | none => tbl0
  let st' := { st with fieldDefs := tbl }
  match resolveAll tbl spec.uses with
  | .error e => (st', .error e)
  | .ok resolved =>
    if !override && dupKey (msgKeys 0 spec.msgs) then (st', .error .value) else (st', .ok resolved)

/-- `Generator(definitions, impl, app_name, op_dir, template, prefix, generate_init_file).generate(…)` -/
def renderSoup (sem : Semantics) (impl : Impl) (spec : SoupSpec) (resolved : List Nat) (o : GenOpts) : RelPlan :=
  let modName := prefix_ o.pfx ++ impl.str ++ sUnderscore ++ o.app
  let modAct : RelAction := ⟨modName ++ sPy, sem.genMode, [.soupModule impl o.app spec.id spec.msgs (shownTypes spec.msgs resolved)]⟩
  let initAct : RelAction := ⟨sInit ++ sPy, sem.genMode, [.initLine modName]⟩
  ⟨false, if o.init then [modAct, initAct] else [modAct], [modName]⟩

/-! ## parsed objects, events, world -/

/-- what is parsed: the spec and the parse-time options (`--fix-version` is `FixSpec.version`) -/
inductive PSpec where
  | fix (spec : FixSpec)
  | soup (spec : SoupSpec) (override : Bool)
  deriving Repr, Inhabited

/-- the object `parse()` / `Parser.parse()` returned -/
inductive Parsed where
  /-- `rendered`: what the `Group` objects of the dictionary remember (always `none` unless `memo`) -/
  | fix (spec : FixSpec) (resolved : List GenFix.TyCls) (rendered : Option (List (Nm × Nat)))
  | soup (spec : SoupSpec) (override : Bool) (resolved : List Nat)
  deriving Repr, Inhabited

/-- the whole invocation a generator constructed on parsed object `p` with protocol `impl` (soup-app only) and options `o`
    stands for: the spec and parse-time options of `p`, everything else from `o` -/
def Parsed.inv (p : Parsed) (impl : Impl) (o : GenOpts) : Inv :=
  match p with
  | .fix spec _ _ => .fix spec o
  | .soup spec ov _ => .soup impl spec { o with override := ov }

def PSpec.inv (p : PSpec) (impl : Impl) (o : GenOpts) : Inv :=
  match p with
  | .fix spec => .fix spec o
  | .soup spec ov => .soup impl spec { o with override := ov }

inductive REv where
  /-- an event of Model/GenHistory.lean (whole invocations, `construct` = parse + generator object, `generate`, process end) -/
  | old (e : Ev)
  /-- `parse()` alone: the parsed object gets the number `j` -/
  | parse (j : Nat) (p : PSpec)
  /-- generator object `k` constructed on parsed object `j` (no parse) -/
  | constructOn (k j : Nat) (impl : Impl) (o : GenOpts)
  deriving Repr, Inhabited

structure RWorld where
  w : World
  /-- the live parsed objects, by the number the history gives them -/
  parsed : List (Nat × Parsed)
  deriving Repr, Inhabited

def rw0 : RWorld := ⟨w0, []⟩

def getP : List (Nat × Parsed) → Nat → Option Parsed
  | [], _ => none
  | (j, p) :: rest, k => if j = k then some p else getP rest k

def setP : List (Nat × Parsed) → Nat → Parsed → List (Nat × Parsed)
  | [], k, p => [(k, p)]
  | (j, q) :: rest, k, p => if j = k then (j, p) :: rest else (j, q) :: setP rest k p

/-- `parse()`; a failure leaves no object -/
def parseR (sem : Semantics) (rw : RWorld) (j : Nat) : PSpec → RWorld × Except Err Unit
  | .fix spec =>
    match (parseFix sem rw.w.st spec).2 with
    | .ok resolved => (⟨⟨(parseFix sem rw.w.st spec).1, rw.w.fs⟩, setP rw.parsed j (.fix spec resolved none)⟩, .ok ())
    | .error e => (⟨⟨(parseFix sem rw.w.st spec).1, rw.w.fs⟩, rw.parsed⟩, .error e)
  | .soup spec ov =>
    match (parseSoup sem rw.w.st spec ov).2 with
    | .ok resolved => (⟨⟨(parseSoup sem rw.w.st spec ov).1, rw.w.fs⟩, setP rw.parsed j (.soup spec ov resolved)⟩, .ok ())
    | .error e => (⟨⟨(parseSoup sem rw.w.st spec ov).1, rw.w.fs⟩, rw.parsed⟩, .error e)

/-- the generator object a successful construction stores -/
def objOf (sem : Semantics) (i : Inv) (rp : RelPlan) : GenObj := ⟨i.dir, rp.acts, rp.modules, sharedGroupsOf sem i⟩

/-- generator object `k` constructed on parsed object `j` (`Err.state`: no such object — its parse failed or it belongs to
    another process).  Nothing is written. -/
def constructOn (sem : Semantics) (memo : Bool) (rw : RWorld) (k j : Nat) (impl : Impl) (o : GenOpts) :
    RWorld × Except Err Unit :=
  match getP rw.parsed j with
  | none => (rw, .error .state)
  | some (.soup spec ov resolved) =>
    let rp := renderSoup sem impl spec resolved o
    (⟨⟨{ rw.w.st with gens := setGen rw.w.st.gens k (objOf sem (.soup impl spec { o with override := ov }) rp) }, rw.w.fs⟩,
      rw.parsed⟩, .ok ())
  | some (.fix spec resolved rendered) =>
    let r := renderFix sem memo rw.w.st spec resolved rendered o
    let parsed' := setP rw.parsed j (.fix spec resolved r.2.1)
    match r.2.2 with
    | .error e => (⟨⟨r.1, rw.w.fs⟩, parsed'⟩, .error e)
    | .ok rp => (⟨⟨{ r.1 with gens := setGen r.1.gens k (objOf sem (.fix spec o) rp) }, rw.w.fs⟩, parsed'⟩, .ok ())

/-- the parsed objects die with the process -/
def stepOld (sem : Semantics) (rw : RWorld) (e : Ev) : RWorld :=
  ⟨step sem rw.w e, match e with | .newProcess => [] | _ => rw.parsed⟩

def stepR (sem : Semantics) (memo : Bool) (rw : RWorld) : REv → RWorld
  | .old e => stepOld sem rw e
  | .parse j p => (parseR sem rw j p).1
  | .constructOn k j impl o => (constructOn sem memo rw k j impl o).1

def runR (sem : Semantics) (memo : Bool) (rw : RWorld) (evs : List REv) : RWorld := evs.foldl (stepR sem memo) rw

/-- `generate()` of generator object `k` (as in Model/GenHistory.lean; the parsed objects are not touched: the FIX generator
    rendered its context when it was constructed, the soup-app definitions never change) -/
def generateR (sem : Semantics) (rw : RWorld) (k : Nat) : RWorld × Except Err Unit :=
  (⟨(generate sem rw.w k).1, rw.parsed⟩, (generate sem rw.w k).2)

end NasdaqModel.GenReuse
