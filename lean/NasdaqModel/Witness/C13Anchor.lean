import NasdaqModel.Props.C13Anchor
/-
C13 — machine-checked regression for the finding fixes/C13-msgtype-anchor.md (`fixed`, /repo a2cfe01): with the
`Message.get_msg_type` the code had *before* the repair (the first `35=` anywhere in the bytes, `getMsgTypeOld` below —
the definition `Model/Fix.lean` carried until then) the two failing inputs of the finding are dispatched on a bogus type
and cannot be decoded (`KeyError('7')`, `KeyError('b')`); with the repaired, anchored function (`Fix.getMsgType`) both
name their class and round-trip.  The messages (`anchorDef`, `msgTag135`, `msgValue35`) are defined in
Props/C13Anchor.lean, where they are shown to satisfy the hypotheses of `C13_statement_any_order`; the harness replays the
same inputs on the implementation (corpus/C13/msgtype-anchor-*.json).
-/
namespace NasdaqModel.Witness.C13Anchor
open NasdaqModel Py Fix Props.C13 Props.C13Anchor

/-- `Message.get_msg_type` before /repo a2cfe01: `start = bytes_.find(b'35=') + 2`, not anchored at a field start -/
def getMsgTypeOld (bs : Bytes) : Except Err Str :=
  let start := match findSub [51, 53, 61] bs with
    | some p => p + 2
    | none => 1                                   -- -1 + 2
  let stop := match findFrom [1] bs start with
    | some e => e
    | none => bs.length - 1                       -- `[..:-1]`
  decodeAscii ((bs.take stop).drop (start + 1))

/-- `Message.from_bytes` of the base class with a given `get_msg_type` -/
def decodeWith (gmt : Bytes → Except Err Str) (reg : List MsgDef) (bs : Bytes) : Except Err (Nat × MsgDef × Msg) := do
  let ty ← gmt bs
  match lookupReg reg ty with
  | none => .error .key
  | some d => do
      let r ← msgFromBytes d bs
      pure (r.1, d, r.2)

/-- encode, decode through the registry: `some true` when every byte was consumed and the decoded message `==` the
    original, `none` with the error otherwise -/
def roundTrip (gmt : Bytes → Except Err Str) (reg : List MsgDef) (d : MsgDef) (m : Msg) : Except Err Bool :=
  match encMsg d m with
  | .ok bs =>
    match decodeWith gmt reg bs with
    | .ok r => .ok (r.1 == bs.length && pyEqDict r.2.2 m)
    | .error e => .error e
  | .error e => .error e

/-- `decodeWith` with the model's own function is the model's `decodeMsg` -/
theorem C13_witness_decodeWith (reg : List MsgDef) (bs : Bytes) : decodeWith getMsgType reg bs = decodeMsg reg bs := rfl

/-- the witnesses are inside the property's quantifier: distinct tags, valid values, MsgType set to the class's type -/
theorem C13_witness_anchor_wf :
    wfDef anchorDef = true ∧ wfMsg anchorDef msgTag135 = true ∧ wfMsg anchorDef msgValue35 = true ∧
    lookupV msgTag135.hdr 35 = some (.str anchorDef.type) ∧ lookupV msgValue35.hdr 35 = some (.str anchorDef.type) := by
  refine ⟨by decide, by decide, by decide, rfl, rfl⟩

/-- `8=a|135=7|35=ZZ|58=x|10=1|`: the unanchored search stops at the `35=` that ends tag 135 and reads type `'7'` -/
theorem C13_witness_old_tag135 : (encMsg anchorDef msgTag135 >>= getMsgTypeOld) = .ok [55] := by decide +kernel

/-- `8=a35=b|35=ZZ|58=x|10=1|`: the unanchored search stops inside the value of tag 8 and reads type `'b'` -/
theorem C13_witness_old_value35 : (encMsg anchorDef msgValue35 >>= getMsgTypeOld) = .ok [98] := by decide +kernel

/-- with the old function neither message can be decoded: `Message.Def['7']` / `Message.Def['b']` → `KeyError` -/
theorem C13_witness_old_keyerror :
    roundTrip getMsgTypeOld [anchorDef] anchorDef msgTag135 = .error .key ∧
    roundTrip getMsgTypeOld [anchorDef] anchorDef msgValue35 = .error .key := by decide +kernel

/-- the repaired function names the class for both inputs -/
theorem C13_witness_repaired_type :
    (encMsg anchorDef msgTag135 >>= getMsgType) = .ok [90, 90] ∧
    (encMsg anchorDef msgValue35 >>= getMsgType) = .ok [90, 90] := by decide +kernel

/-- with the repaired function both inputs round-trip: every byte consumed, decoded message `==` the original -/
theorem C13_witness_repaired_roundtrip :
    roundTrip getMsgType [anchorDef] anchorDef msgTag135 = .ok true ∧
    roundTrip getMsgType [anchorDef] anchorDef msgValue35 = .ok true := by decide +kernel

/-- on bytes that begin with `35=` (MsgType assigned first — all that `C13_msgtype_first` covered) old and new agree -/
theorem C13_witness_first_agree :
    getMsgTypeOld [51,53,61,90,90,1, 56,61,97,51,53,61,98,1] = .ok [90, 90] ∧
    getMsgType [51,53,61,90,90,1, 56,61,97,51,53,61,98,1] = .ok [90, 90] := by decide +kernel

end NasdaqModel.Witness.C13Anchor
