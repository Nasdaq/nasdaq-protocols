import NasdaqModel.Model.SyncFacade
/-
C20 — the interleavings that made calls block for ever in the library before /repo 86c1975 / 1753c2b / 564383d
(submit after stop, close_lock deadlock, forgotten second receive, send_unseq_data after close), as regressions:
on the model, which follows the code from those commits on, each of them ends with every caller returned, the thread exited, and
the outcomes the property demands.  The harness replays exactly these runs on the real classes on every check (`witness C20` of the
driver prints these terms; corpus/C20 holds the same runs for when the Lean build is unavailable).
Import-free (the driver links this file).
-/
namespace NasdaqModel.Witness.C20
open NasdaqModel.SyncFacade

def rep (n : Nat) (l : Label) : List Label := List.replicate n l

/-- the run is executable, ends in a state without enabled transition, every caller has finished, the executor thread
has exited (or not), and the histories (oldest call first) are as given -/
def endsWith (cfg : Cfg) (run : List Label) (alive : Bool) (hists : List (List (Op × Outcome))) : Bool :=
  match exec (init cfg) run with
  | none => false
  | some s =>
    terminal s && s.loopAlive == alive && s.callers.all (·.finished) && s.callers.map (·.hist.reverse) == hists

/-! #### 1. submit after stop
T0 `send_msg` passes both `_must_be_active()` checks; T1 runs a complete `close()` (the loop thread exits);
T0 then hands its coroutine to the stopped loop: `_wait_for` sees the dead thread and raises StateError. -/
def cfg1 : Cfg := { progs := [[.send], [.close]], peer := [] }
def run1 : List Label :=
  rep 3 (.caller 0) ++ rep 6 (.caller 1) ++ [.job 1] ++ rep 2 (.caller 1) ++ rep 4 .close ++ [.stop] ++
  rep 2 (.caller 1) ++ rep 2 (.caller 0)

theorem C20_regress_submit_after_stop :
    endsWith cfg1 run1 false [[(.send, .state)], [(.close, .ok)]] = true := by decide +kernel

/-! #### 2. close() holding close_lock while the peer ends the session
T0 is in `close()` holding `close_lock`; the peer ends the session, the loop thread enters `on_close_coro` (which no
longer takes the lock); T0 submits `initiate_close` while the loop thread is inside the callback; the callback
finishes, the loop stops without running the coroutine; T0's `_wait_for` raises StateError, `_shutdown` swallows it,
waits for the event, joins: close() returns. -/
def cfg2 : Cfg := { progs := [[.close]], peer := [.endOfSession] }
def run2 : List Label :=
  rep 2 (.caller 0) ++ [.peer] ++ rep 2 .close ++ rep 4 (.caller 0) ++ rep 2 .close ++ [.stop] ++ rep 4 (.caller 0)

theorem C20_regress_close_lock : endsWith cfg2 run2 false [[(.close, .ok)]] = true := by decide +kernel

/-- the state the code before 564383d deadlocked in: the loop thread is inside the callback, caller 0 owns the lock and has
submitted — and now the loop's next statement IS enabled -/
theorem C20_regress_close_lock_progress :
    (exec (init cfg2) (run2.take 9)).map (fun s => (s.closePc, s.lock, (step s .close).isSome)) =
      some (.inCb, some (.caller 0), true) := by decide +kernel

/-! #### 3. two receives, one `_recv_task` slot  (library defect that REMAINS — DispatchableMessageQueue, C04's area)
T0 and T1 both block in `receive()`; the queue remembers only T1's getter task.  `close()` by T2 cancels that one
(T1 gets EndOfQueue); T0's coroutine is never woken — but T0 no longer blocks for ever: when the loop thread has exited
`_wait_for` raises StateError.  For C20 ("returns, raises the underlying error, or raises a timeout/state error") that is
acceptable; the exception class is not the documented EndOfQueue. -/
def cfg3 : Cfg := { progs := [[.recv], [.recv], [.close]], peer := [] }
def run3 : List Label :=
  rep 3 (.caller 0) ++ [.job 0] ++ rep 3 (.caller 1) ++ [.job 1] ++ rep 6 (.caller 2) ++ [.job 2] ++
  rep 2 (.caller 2) ++ rep 4 .close ++ [.stop] ++ rep 2 (.caller 2) ++ [.caller 1, .caller 0]

theorem C20_witness_concurrent_receive_state_error :
    endsWith cfg3 run3 false [[(.recv, .state)], [(.recv, .eoq)], [(.close, .ok)]] = true := by decide +kernel

/-- … and this run is outside `okStep` (the second receive goes to wait while the first is waiting) -/
theorem C20_witness_concurrent_receive_outside_ok : execOk (init cfg3) run3 = none := by decide +kernel

/-! #### 4. `send_unseq_data` after `close()` returned raises the state error like every other call -/
def cfg4 : Cfg := { progs := [[.close, .sendUnseq, .send]], peer := [] }
def run4 : List Label :=
  rep 6 (.caller 0) ++ [.job 0] ++ rep 2 (.caller 0) ++ rep 4 .close ++ [.stop] ++ rep 2 (.caller 0) ++
  rep 2 (.caller 0) ++ rep 2 (.caller 0)

theorem C20_regress_unseq_after_close :
    endsWith cfg4 run4 false [[(.close, .ok), (.sendUnseq, .state), (.send, .state)]] = true := by decide +kernel

def witnesses : List (String × Cfg × List Label) :=
  [("submit-after-stop", cfg1, run1), ("close-lock-deadlock", cfg2, run2),
   ("concurrent-receive", cfg3, run3), ("unseq-after-close", cfg4, run4)]

/-! #### 5. connect, then the peer's disconnect before the wrapper has installed its close callback
`soup.connect` before the fix built the wrapper on the caller's thread, after `execute(connect_async(…))` had returned:
the loop thread could process the peer's disconnect in between.  `AsyncSession.close()` then finds no callback; nothing
ever stops the executor or sets `closed_event`; a later `close()` waits for that event for ever. -/
theorem C20_witness_connect_race :
    closeReturns (connRun [.loginReturns, .sessionCloses, .install]) = false ∧
    (connRun [.loginReturns, .sessionCloses, .install]).installed = true := by decide +kernel

/-- the same three things with login and installation in one step (`connect` as in the code): `close()` returns -/
theorem C20_witness_connect_race_repaired :
    closeReturns (connRun [.loginAndInstall, .sessionCloses]) = true ∧
    closeReturns (connRun [.sessionCloses, .loginAndInstall, .sessionCloses]) = true := by decide +kernel

end NasdaqModel.Witness.C20
