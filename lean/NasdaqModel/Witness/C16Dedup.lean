import NasdaqModel.Lemmas.GenFixLoad
/-
C16 — a changed semantics a seeded change introduced (seeded/C16j): `Group.get_codegen_context` evaluates a group's entries once and
emits ONE class per distinct group *signature* (kept in a per-generation dict `Group.Emitted`) instead of one class per use.
The signature is the group name followed, per entry, by (field name, required) for a field and by the already de-duplicated class
name for a nested group: the nested `<group>` element's OWN required flag is not part of it, although that flag is written into the
parent class (`fix.Entry(<nested>_List, required)`).  Two uses of a group that differ only in the required flag of a group nested
in them share the class of the first use, so the second use carries the wrong flag.

`genDedup withFlag` is that generator (`withFlag = false`: the seeded signature; `withFlag = true`: the signature that includes the
flag).  On `dictLegs` — two messages using `NoLegs{LegSymbol, NoLegAllocs{LegAllocAccount}}`, identical except that `NoLegAllocs` is
required in the first and optional in the second — the library's generator (`GenFix.gen`) and the reference semantics give
required / optional, the flag-less de-duplication gives required / required.  The harness generates such twins systematically
(harness/c16.py, `twin_pass`) and replays this dictionary from corpus/C16/.
-/
namespace NasdaqModel.Witness.C16Dedup
open NasdaqModel Py GenFix Spec.FixDict

/-- `Group._entry_signature` of seeded/C16j; `flag` = the nested group entry's own required flag, which the seeded change omits -/
inductive SigE where
  | field (name : Str) (req : Bool)
  | group (uname : Str) (flag : Option Bool)
  deriving Repr, DecidableEq

def sigOf (withFlag : Bool) : ERef → SigE
  | .field fd r => .field fd.name r
  | .group _ u r => .group u (if withFlag then some r else none)

/-- `Group.UniqueNameCounter`, `Group.Contexts` and the new `Group.Emitted` (signature ↦ class name) -/
structure DState where
  g : GState := {}
  emitted : List ((Str × List SigE) × Str) := []

mutual
/-- `Group.get_codegen_context` of seeded/C16j: entries first (once), then the signature; a known signature reuses its class -/
def ctxEntryD (withFlag : Bool) (s : DState) : Entry → ERef × DState
  | .field fd r => (.field fd r, s)
  | .group n r es =>
    let r1 := ctxEntriesD withFlag s es
    let sig := (n, r1.1.map (sigOf withFlag))
    match r1.2.emitted.lookup sig with
    | some u => (.group n u r, r1.2)
    | none =>
      let u := uniqueName n (counterOf n r1.2.g + 1)
      (.group n u r, { g := push ⟨n, u, r1.1⟩ (bump n r1.2.g), emitted := (sig, u) :: r1.2.emitted })
def ctxEntriesD (withFlag : Bool) (s : DState) : List Entry → List ERef × DState
  | [] => ([], s)
  | e :: t =>
    let r1 := ctxEntryD withFlag s e
    let r2 := ctxEntriesD withFlag r1.2 t
    (r1.1 :: r2.1, r2.2)
end

def ctxMessagesD (withFlag : Bool) (s : DState) : List Message → List MsgCls × DState
  | [] => ([], s)
  | m :: rest =>
    let r1 := ctxEntriesD withFlag s m.entries
    let r2 := ctxMessagesD withFlag r1.2 rest
    (⟨m.name, m.tag, m.category, m.name ++ bodySuffix, r1.1⟩ :: r2.1, r2.2)

/-- `Definitions.get_codegen_context` with the de-duplicating group contexts (same order of evaluation as `codegenFrom`) -/
def codegenDedup (withFlag : Bool) (defs : Defs) : Except Err Module :=
  let rm := ctxMessagesD withFlag {} defs.messages
  match clientSession defs.version with
  | .error e => .error e
  | .ok sess =>
    let fields := defs.fields.map fun kv => (⟨kv.2.name, kv.2.tag, kv.2.type, valuesCtx kv.2⟩ : FieldCls)
    let rh := ctxEntriesD withFlag rm.2 defs.header
    let rt := ctxEntriesD withFlag rh.2 defs.trailer
    .ok { session := sess, fields := fields, groups := rt.2.g.contexts,
          bodies := ⟨lit "Header", rh.1⟩ :: ⟨lit "Trailer", rt.1⟩ :: rm.1.map (fun m => ⟨m.bodyName, m.entries⟩),
          messages := rm.1 }

def genDedup (withFlag : Bool) (d : Dict) : Except Err Module :=
  match parse d with
  | .error e => .error e
  | .ok defs => codegenDedup withFlag defs

def legs (allocsRequired : Str) : Item :=
  .group (lit "NoLegs") (some (lit "Y")) [
    .field (lit "LegSymbol") (some (lit "Y")),
    .group (lit "NoLegAllocs") (some allocsRequired) [.field (lit "LegAllocAccount") (some (lit "Y"))]]

/-- the demonstration dictionary of seeded/C16j, minimised -/
def dictLegs : Dict := ⟨.v44, [
    .messages [⟨lit "NewOrderMultileg", lit "AB", lit "app", [legs (lit "Y")]⟩,
               ⟨lit "MultilegOrderCancelReplace", lit "AC", lit "app", [legs (lit "N")]⟩],
    .fields [⟨lit "555", lit "NoLegs", lit "NUMINGROUP", []⟩, ⟨lit "600", lit "LegSymbol", lit "STRING", []⟩,
             ⟨lit "670", lit "NoLegAllocs", lit "NUMINGROUP", []⟩, ⟨lit "671", lit "LegAllocAccount", lit "STRING", []⟩]]⟩

/-- required flags of the groups directly inside the entries -/
def innerFlags (es : List LEntry) : List Bool := es.filterMap fun
  | .group _ _ _ r _ => some r
  | _ => none

/-- per top-level group of a body: the required flags of the groups nested in it -/
def nestedFlags (es : List LEntry) : List (List Bool) := es.filterMap fun
  | .group _ _ _ _ sub => some (innerFlags sub)
  | _ => none

def flagsPerMessage (r : Except Err Loaded) : Option (List (Str × List (List Bool))) :=
  r.toOption.map fun L => L.messages.map fun m => (m.cls, nestedFlags m.body)

def loadOf (r : Except Err Module) : Except Err Loaded :=
  match r with
  | .error e => .error e
  | .ok m => load m

theorem C16Dedup_witness_valid : wfDict dictLegs = true := by decide +kernel

/-- the dictionary's meaning: `NoLegAllocs` required in the order message, optional in the cancel/replace -/
theorem C16Dedup_witness_denote :
    flagsPerMessage (denote dictLegs) = some [(lit "NewOrderMultileg", [[true]]), (lit "MultilegOrderCancelReplace", [[false]])] := by
  decide +kernel

/-- the library's generator (one class per use) gives exactly that -/
theorem C16Dedup_witness_gen :
    flagsPerMessage (genLoad dictLegs) = some [(lit "NewOrderMultileg", [[true]]), (lit "MultilegOrderCancelReplace", [[false]])] := by
  obtain ⟨types, w⟩ := wf_unpack C16Dedup_witness_valid
  rw [genLoad_eq_denote w]
  exact C16Dedup_witness_denote

/-- de-duplication by the signature WITHOUT the nested group's own flag: both messages share `NoLegs_1`, the second message's
    `NoLegAllocs` comes out required — the generated classes are not the dictionary's -/
theorem C16Dedup_witness_flagless_wrong :
    flagsPerMessage (loadOf (genDedup false dictLegs)) =
      some [(lit "NewOrderMultileg", [[true]]), (lit "MultilegOrderCancelReplace", [[true]])] ∧
    (genDedup false dictLegs).toOption.map (fun m => m.groups.map (·.uname)) = some [lit "NoLegAllocs_1", lit "NoLegs_1"] := by
  decide +kernel

/-- with the flag in the signature the two uses get classes of their own (the nested class is still shared) and the flags are right -/
theorem C16Dedup_witness_flagged_right :
    flagsPerMessage (loadOf (genDedup true dictLegs)) =
      some [(lit "NewOrderMultileg", [[true]]), (lit "MultilegOrderCancelReplace", [[false]])] ∧
    (genDedup true dictLegs).toOption.map (fun m => m.groups.map (·.uname)) =
      some [lit "NoLegAllocs_1", lit "NoLegs_1", lit "NoLegs_2"] := by
  decide +kernel

end NasdaqModel.Witness.C16Dedup
