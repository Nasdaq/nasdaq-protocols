import NasdaqModel.Props.C01Reenc
/-
C01, message objects over time - the variant that does NOT round-trip, as decided counterexamples.

If `CommonMessage.to_bytes` keeps the packed bytes together with a (shallow) copy of the body's `values` dict and packs again only
when the dict differs from that copy, then a change made INSIDE a value the dict holds by reference - a field of a nested record,
an optional record that becomes present, a list that grows, a field of a record in a list - is a change of the copy as well:
the comparison finds nothing and the bytes of the first packing are returned.  They decode to what the message held THEN, not to
what it holds now.  An assignment on the body itself is noticed and repairs everything.  The same message and the same histories are
`corpus/C01/r-reenc-*.json` and run first against the implementation in every C01 run.
-/
namespace NasdaqModel.Witness.C01Reenc
open NasdaqModel BinCodec BinObj NasdaqModel.Props.C01Reenc

/-- the field read at `p` after decoding what the `i`-th `to_bytes()` of a list of results returned -/
def readBack (rs : List (Except Err (Nat × Bytes))) (i : Nat) (p : List Step) : Option Obs :=
  match rs[i]? with
  | some (.ok (_, bs)) =>
    match decodeMsg [quote] bs with
    | .ok (_, _, v') => some (read (.record quote.fs) v' p)
    | .error _ => none
  | _ => none

/-- `msg.leg.price = 0xFFFFFFFF` after a first packing -/
def nested : List Op := [.toBytes, .change [.field 2] (.set 1 (.int 4294967295)), .toBytes]

/-- the code as it is: the second encoding reads back the new price … -/
theorem C01_witness_fresh_nested : readBack (run quote quote0 nested) 1 [.field 2, .field 1] = some (.int 4294967295) := by decide +kernel

/-- … the remembering variant returns the first packing again: the message holds 4294967295, its encoding says 100 -/
theorem C01_witness_stale_nested :
    readBack (runCached quote quote0 none false nested) 1 [.field 2, .field 1] = some (.int 100) ∧
    (runCached quote quote0 none false nested)[1]? = (runCached quote quote0 none false nested)[0]? := by decide +kernel

/-- an optional record that becomes present is still encoded absent -/
theorem C01_witness_stale_optional :
    readBack (runCached quote quote0 none false [.toBytes, .change [.field 3] (.set 1 (.str [104, 105])), .toBytes]) 1 [.field 3, .field 1]
      = some .absent ∧
    readBack (run quote quote0 [.toBytes, .change [.field 3] (.set 1 (.str [104, 105])), .toBytes]) 1 [.field 3, .field 1]
      = some (.text [104, 105]) := by decide +kernel

/-- a list grown in place keeps its old length on the wire -/
theorem C01_witness_stale_append :
    readBack (runCached quote quote0 none false [.toBytes, .change [.field 4] (.append (.int 255)), .toBytes]) 1 [.field 4] = some (.len 2) ∧
    readBack (run quote quote0 [.toBytes, .change [.field 4] (.append (.int 255)), .toBytes]) 1 [.field 4] = some (.len 3) := by decide +kernel

/-- a field of a record inside a list -/
theorem C01_witness_stale_element :
    readBack (runCached quote quote0 none false [.toBytes, .change [.field 5, .idx 0] (.set 2 (.str [90, 90])), .toBytes]) 1
      [.field 5, .idx 0, .field 2] = some (.text [88]) ∧
    readBack (run quote quote0 [.toBytes, .change [.field 5, .idx 0] (.set 2 (.str [90, 90])), .toBytes]) 1
      [.field 5, .idx 0, .field 2] = some (.text [90, 90]) := by decide +kernel

/-- an assignment on the body itself afterwards is noticed: the next packing shows BOTH changes, the nested one too -/
theorem C01_witness_repaired_by_body_assignment :
    (runCached quote quote0 none false (nested ++ [.change [] (.set 1 (.int 8)), .toBytes]))[2]?
      = (run quote quote0 (nested ++ [.change [] (.set 1 (.int 8)), .toBytes]))[2]? ∧
    readBack (runCached quote quote0 none false (nested ++ [.change [] (.set 1 (.int 8)), .toBytes])) 2 [.field 2, .field 1]
      = some (.int 4294967295) := by decide +kernel

/-- without a packing before the change nothing is remembered yet: the variant is right -/
theorem C01_witness_no_first_packing :
    runCached quote quote0 none false [.change [.field 2] (.set 1 (.int 4294967295)), .toBytes]
      = run quote quote0 [.change [.field 2] (.set 1 (.int 4294967295)), .toBytes] := by decide +kernel

/-- the hypothesis of `C01_reenc_cached_partial` fails on the history above, and only there -/
theorem C01_witness_nested_not_body_only : nested.all bodyOnly = false := by decide +kernel

end NasdaqModel.Witness.C01Reenc
