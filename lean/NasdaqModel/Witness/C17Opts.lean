import NasdaqModel.Model.GenHistory
/-
C17, option changes — what the model exhibits when the type-table builders of fix/parser/version_types.py are memoised
(`functools.cache`) while the 4.4 / 5.0 / 5.0SP2 builders keep updating the dict they get from the 4.2 builder in place
(`cachedTypes`: `current` with `freshTypeTables := false`).  Every single generation, every repetition of one version and every
ascending order of versions is as documented; a LOWER version generated after a higher one in the same process sees the higher
version's table.  These are the negations of the conclusions of `Props.C17Opts` on concrete histories; the same histories
(`histories`) are replayed on the implementation by harness/c17.py on every run, where they must come out as the fresh runs do.
-/
namespace NasdaqModel.Witness.C17Opts
open NasdaqModel GenHistory

/-- the library with memoised type-table builders -/
def cachedTypes : Semantics := { current with freshTypeTables := false }

def optsG (d : Nat) : GenOpts := ⟨[103], [], true, .out d, true⟩   -- app "g"
/-- field `F20` is declared LOCALMKTDATE (String up to 5.0, LocalMktDate in 5.0SP2); `F36` is declared SEQNUM (unknown to 4.2) -/
def dictSP2 : FixSpec := ⟨1, 502, [1, 20], [20], [], []⟩
def dict44 : FixSpec := ⟨2, 44, [1, 20], [20], [], []⟩
def dict42seq : FixSpec := ⟨3, 42, [2, 36], [2], [], []⟩
def dict42grp : FixSpec := ⟨4, 42, [1], [1], [.mk 1 [1] []], [1]⟩    -- a group count field: NUMINGROUP, unknown to 4.2
def dict50 : FixSpec := ⟨5, 50, [1, 20], [20], [], []⟩
def fieldsG : Str := [102, 105, 120, 95, 103, 95, 102, 105, 101, 108, 100, 115, 46, 112, 121]   -- "fix_g_fields.py"

example : declTy 20 = GenFix.lit "LOCALMKTDATE" ∧ declTy 36 = GenFix.lit "SEQNUM" ∧ declTy 1 = GenFix.lit "INT"
    ∧ declTy 2 = GenFix.lit "STRING" := by decide +kernel

/-- (what ran before, the invocation under test) -/
def hLocalMktDate : List Ev × Inv := ([.inv (.fix dictSP2 (optsG 1))], .fix dict44 (optsG 2))
def hSeqNum42 : List Ev × Inv := ([.inv (.fix dict44 (optsG 1))], .fix dict42seq (optsG 2))
def hNumInGroup42 : List Ev × Inv := ([.inv (.fix dict50 (optsG 1))], .fix dict42grp (optsG 2))
def hAscending : List Ev × Inv := ([.inv (.fix dict44 (optsG 1)), .inv (.fix dict50 (optsG 2))], .fix dictSP2 (optsG 3))
def hSameDirOtherVersion : List Ev × Inv := ([.inv (.fix dictSP2 (optsG 1))], .fix dict50 (optsG 1))

def histories : List (String × List Ev) :=
  [("witness-types-localmktdate", hLocalMktDate), ("witness-types-seqnum-42", hSeqNum42),
   ("witness-types-numingroup-42", hNumInGroup42), ("witness-types-ascending", hAscending),
   ("witness-types-same-dir-other-version", hSameDirOtherVersion)].map fun x => (x.1, x.2.1 ++ [.inv x.2.2])

theorem C17_witness_cached_types_not_pure : pureGen cachedTypes = false ∧ pureGen current = true := by decide +kernel

/-- the first table asked for in a process is the documented one, whichever version it is: single generations (all the
    suite does) cannot see the memoisation -/
theorem C17_witness_cached_first_call_documented :
    (typesFor cachedTypes st0.types 42).2 = tableOf 42 ∧ (typesFor cachedTypes st0.types 44).2 = tableOf 44
    ∧ (typesFor cachedTypes st0.types 50).2 = tableOf 50 ∧ (typesFor cachedTypes st0.types 502).2 = tableOf 502 :=
  -- the cached builders applied to an empty cache unfold to the definitions of the tables
  ⟨rfl, rfl, rfl, rfl⟩

/-- **LOCALMKTDATE.**  A 4.4 dictionary generated after a 5.0SP2 dictionary in one process: its field `F20` (LOCALMKTDATE) is
    given `FixLocalMktDate`; generated alone it is `FixString`. -/
theorem C17_witness_cached_types_localmktdate :
    let w := run cachedTypes w0 hLocalMktDate.1
    read (invoke cachedTypes w hLocalMktDate.2).1.fs (.out 2, fieldsG) = some [.fixFields 2 [1, 20] [] [.FixInt, .FixLocalMktDate]]
    ∧ read (invoke cachedTypes w0 hLocalMktDate.2).1.fs (.out 2, fieldsG) = some [.fixFields 2 [1, 20] [] [.FixInt, .FixString]]
    -- the library as it is: the fresh file in both cases
    ∧ read (invoke current (run current w0 hLocalMktDate.1) hLocalMktDate.2).1.fs (.out 2, fieldsG)
        = some [.fixFields 2 [1, 20] [] [.FixInt, .FixString]] := by decide +kernel

/-- the conclusion of `C17_no_leak_between_specs` / `C17_no_leak_between_option_changes` fails for `cachedTypes` -/
theorem C17_witness_cached_types_no_leak_false :
    ¬ (∀ n, n ∈ targetNames hLocalMktDate.2 →
        read (invoke cachedTypes (run cachedTypes w0 hLocalMktDate.1) hLocalMktDate.2).1.fs (hLocalMktDate.2.dir, n)
          = read (invoke cachedTypes w0 hLocalMktDate.2).1.fs (hLocalMktDate.2.dir, n)) := by
  intro h
  -- the two files are those of `C17_witness_cached_types_localmktdate`
  have hl := C17_witness_cached_types_localmktdate
  exact absurd (hl.1.symm.trans ((h fieldsG (by decide +kernel)).trans hl.2.1)) (by decide)

/-- **Accepted type names.**  A 4.2 dictionary that declares a SEQNUM field, or a group (count field: NUMINGROUP), fails alone
    with KeyError; after a 4.4 / 5.0 generation in the same process it "succeeds". -/
theorem C17_witness_cached_types_outcome :
    (invoke cachedTypes w0 hSeqNum42.2).2 = .error .key
    ∧ (invoke cachedTypes (run cachedTypes w0 hSeqNum42.1) hSeqNum42.2).2 = .ok ()
    ∧ (invoke cachedTypes w0 hNumInGroup42.2).2 = .error .key
    ∧ (invoke cachedTypes (run cachedTypes w0 hNumInGroup42.1) hNumInGroup42.2).2 = .ok ()
    -- the library as it is: KeyError in every history
    ∧ (invoke current (run current w0 hSeqNum42.1) hSeqNum42.2).2 = .error .key
    ∧ (invoke current (run current w0 hNumInGroup42.1) hNumInGroup42.2).2 = .error .key := by decide +kernel

/-- Versions in ascending order are not exposed: each table is still the documented one when it is first used. -/
theorem C17_witness_cached_types_ascending_hidden :
    let w := run cachedTypes w0 hAscending.1
    (invoke cachedTypes w hAscending.2).2 = .ok ()
    ∧ read (invoke cachedTypes w hAscending.2).1.fs (.out 3, fieldsG) = read (invoke cachedTypes w0 hAscending.2).1.fs (.out 3, fieldsG) := by
  decide +kernel

/-- A separate process hides it as well. -/
theorem C17_witness_cached_types_separate_process :
    let w := run cachedTypes w0 (hLocalMktDate.1 ++ [.newProcess])
    read (invoke cachedTypes w hLocalMktDate.2).1.fs (.out 2, fieldsG) = read (invoke cachedTypes w0 hLocalMktDate.2).1.fs (.out 2, fieldsG) := by
  decide +kernel

end NasdaqModel.Witness.C17Opts
