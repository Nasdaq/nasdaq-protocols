import NasdaqModel.Model.Heap
/-
C18 — machine-checked counterexample to the full statement on the model with `freshArrayDefault = false`, the library before
`get_field_value` handed out a deep copy
(known finding "shared-array-default", DESIGN §6 #15).

History (the driver prints exactly this term for `heap.witness`; the harness replays it on the implementation every run):
two instances of a message with an array field; `a.items.append(7)` on the never-assigned array of instance 0.
The operation is about instance 0, yet instance 1 — and an instance created afterwards — read and encode `[7]`.
-/
namespace NasdaqModel.Witness.C18
open NasdaqModel Heap

def S := witnessSchema
def before : Heap := run S init (witnessOps.take 2)
def after : Heap := run S init (witnessOps.take 3)
def later : Heap := run S init witnessOps

/-- the offending operation is about instance 0, not about instance 1 -/
theorem C18_witness_target : witnessBadOp.target before = 0 := by
  decide +kernel

/-- it is exactly the kind of operation the `_partial` theorems exclude: it writes into the class-level cell -/
theorem C18_witness_not_class_safe : safeRun S init witnessOps = false ∧ writeOwner S before witnessBadOp = some Owner.cls := by
  decide +kernel

/-- instance 1 encodes an empty array before and `[7]` after an operation on instance 0 -/
theorem C18_witness_shared_default :
    encodeInst S before 1 = .ok [65, 0, 0, 0, 0] ∧ encodeInst S after 1 = .ok [65, 0, 0, 1, 0, 7] := by
  decide +kernel

/-- and so does an instance created later -/
theorem C18_witness_created_later : encodeInst S later 2 = .ok [65, 0, 0, 1, 0, 7] := by
  decide +kernel

/-- the full frame statement (Props/C18.lean header) is false of the model with `freshArrayDefault = false` -/
theorem C18_witness_full_statement_false :
    ¬ (∀ (S : Schema) (ops : List Op) (op : Op) (b : Nat), b ≠ op.target (run S init ops) →
        encodeInst S (run S init (ops ++ [op])) b = encodeInst S (run S init ops) b) := by
  intro h
  have := h S (witnessOps.take 2) witnessBadOp 1 (by decide)
  revert this
  decide +kernel

end NasdaqModel.Witness.C18
