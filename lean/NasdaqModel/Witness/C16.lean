import NasdaqModel.Lemmas.GenFixLoad
/-
C16 — regression for /repo commit b154f58 (DESIGN §6 #13, /verif/fixes/C16-fix42.md): before it a valid FIX 4.2 dictionary could
not be generated (`Definitions._client_session` raised `ValueError('Version 4.2 is not supported')`).  The dictionary of that
report must generate, import, and derive its session from `Fix42Session`.
-/
namespace NasdaqModel.Witness.C16
open NasdaqModel Py GenFix Spec.FixDict

/-- the smallest interesting 4.2 dictionary: one message, one field -/
def dict42 : Dict :=
  ⟨.v42, [.messages [⟨lit "Heartbeat", lit "0", lit "admin", [.field (lit "TestReqID") (some (lit "N"))]⟩],
          .fields [⟨lit "112", lit "TestReqID", lit "STRING", []⟩]]⟩

theorem C16_regression_fix42_valid : wfDict dict42 = true := by decide +kernel

theorem C16_regression_fix42_generates : (gen dict42).toBool = true := by
  obtain ⟨types, w⟩ := wf_unpack C16_regression_fix42_valid
  obtain ⟨m, L, hg, _⟩ := genLoad_denote w
  rw [hg]
  rfl

theorem C16_regression_fix42_session : (genLoad dict42).toOption.map (·.session) = some .Fix42Session := by
  obtain ⟨types, w⟩ := wf_unpack C16_regression_fix42_valid
  obtain ⟨m, L, hg, hl, hd, _⟩ := genLoad_denote w
  obtain ⟨_, D⟩ := denote_inv hd
  have : SessionCls.Fix42Session = L.session := Except.ok.inj D.session
  rw [genLoad_ok hg hl, this]
  rfl

/-- the only way `_client_session` can still fail is a version `parse` has already refused -/
theorem C16_regression_client_session (v : Version) (h : supportedVersion v = true) : ∃ s, clientSession v = .ok s := by
  cases v <;> simp_all [supportedVersion, clientSession]

end NasdaqModel.Witness.C16
