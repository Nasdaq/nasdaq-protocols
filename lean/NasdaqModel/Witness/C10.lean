import NasdaqModel.Model.Seq
/-
C10 — counterexample on the unchanged code: a FIX send whose serialisation fails after `next(self.sequence)` was
taken consumes a MsgSeqNum without writing a frame, so the frames on the wire carry 5 then 7.
The history is `SeqNum.witnessGap`; the harness replays it on the real `Fix44Session` every run
(`Login` with `Username='café'` is the unencodable send) and observes tag 34 = 5, 7.
-/
namespace NasdaqModel.Witness.C10
open NasdaqModel SeqNum

/-- the frames written carry 5 and 7: number 6 was consumed by the send that wrote nothing -/
theorem C10_witness_encode_failure_gap :
    (fixRun fixInit witnessGap).frames = [5, 7] ∧ (fixTrace fixInit witnessGap).map (·.1) =
      [.written 5, .encodeError, .written 7] := by decide +kernel

/-- hence the full statement "the k-th frame since the logon carries logon + k" is false of `fixRun` (`send_msg`
    without the handler that gives the number back), although no send of the history was rejected by validation -/
theorem C10_witness_kth_fails :
    ¬ (∀ k, (hk : k < (fixRun fixInit witnessGap).frames.length) → (fixRun fixInit witnessGap).frames[k] = 5 + k) := by
  intro h
  have := h 1 (by decide)
  revert this
  decide +kernel

end NasdaqModel.Witness.C10
