import NasdaqModel.Model.GenSoupApp
import NasdaqModel.Lemmas.ExceptDecide
/-
C15 — enums whose member NAMES overlap their VALUES (`<value name="N">Y</value><value name="Y">N</value>`).

The documented meaning of `default="N"` on a field of such an enum is the wire value `N` (the text itself, read in the
enum's datatype) — `denote`, and `gen` transcribes exactly that (`Props/C15Enum.lean` proves it for every well-formed
specification).  A generator that resolves the default text through {member name ↦ value} FIRST (a "feature": the default
may be written as `default="Buy"`) gives another default as soon as a member's name is also a legal constant: the
specifications below are well-formed, and on them the name-first variant `genNF` differs from the specification
(evaluated here by `decide +kernel`; the driver prints these specifications — `witness C15` — and the harness runs them on the implementation
every run, where an unset field must encode the declared default byte for byte).
-/
namespace NasdaqModel.Witness.C15Enum
open NasdaqModel GenSoupApp

/-! ### the name-first variant of the generator (NOT the library's semantics) -/

/-- `{val.name: val.value for val in self.values}.get(text, text)` -/
def valueOf (e : EnumEl) (text : Str) : Str :=
  match dictGet? (dictOfList (e.values.map fun v => (v.name, v.value))) text with
  | some v => v
  | none => text

/-- the enum a field's `type="enum:…"` names, as `FieldDef._field_context` finds it -/
def enumOfField (d : Definitions) (f : FieldDef) : Option EnumEl :=
  match f.ref, f.ty with
  | none, some t => if isPrefix kwEnum t then dictGet? d.enums (removeAll kwEnum t) else none
  | _, _ => none

/-- `genField` with the default text of an `enum:` field looked up among the member names first -/
def genFieldNF (d : Definitions) (f : FieldDef) : Except Err FieldDecl :=
  match enumOfField d f with
  | some e => genField d { f with dflt := f.dflt.map (valueOf e) }
  | none => genField d f

def genDefsNF (impl : Impl) (app : Str) (d : Definitions) : Except Err Module := do
  let enums ← mapE (fun (kv : Str × EnumEl) => genEnum kv.2) d.enums
  let msgs ← mapE (fun (m : MessageDef) => do
      let fs ← mapE (genFieldNF d) m.fields
      pure (⟨m.name, m.id, htmlEscape (orEmpty m.direction), fs⟩ : MsgDecl)) d.messages
  let recs ← mapE (fun (kv : Str × RecordDef) => do
      let fs ← mapE (genFieldNF d) kv.2.fields
      pure (⟨kv.2.name, cp "Record", fs⟩ : RecordDecl)) d.records
  pure {
    impl := impl, appName := app
    exports := [cp "Message", cp "ClientSession", cp "connect_async"]
      ++ enums.map (·.name) ++ recs.map (·.name) ++ msgs.map (·.name)
    enums := enums, records := recs, messages := msgs }

def genNF (impl : Impl) (app : Str) (override : Bool) (s : Spec) : Except Err Module := do
  let d ← parse override s
  genDefsNF impl app d

/-- `N` travels as `Y` and `Y` as `N` -/
def swapEnum (ty : String) : EnumEl := ⟨cp "Flag", some (cp ty), [⟨cp "N", cp "Y"⟩, ⟨cp "Y", cp "N"⟩]⟩

/-- a member named like its own value, one named like another member's value, and a value that is nobody's name -/
def chainEnum : EnumEl := ⟨cp "Chain", some (cp "char_iso-8859-1"), [⟨cp "A", cp "A"⟩, ⟨cp "B", cp "C"⟩, ⟨cp "C", cp "D"⟩]⟩

def fld (name ty dflt : String) : FieldEl := { name := some (cp name), ty := some (cp ty), dflt := some (cp dflt) }

/-- defaults on enum-typed fields declared inline, through a field definition, through a renamed field definition, in a
    record and in a message -/
def overlap (ty : String) : Spec where
  enums := [swapEnum ty, chainEnum]
  fielddefs := [fld "flag" "enum:Flag" "N", fld "link" "enum:Chain" "B"]
  records := [⟨cp "Leg", [fld "hidden" "enum:Flag" "Y", { defn := some (cp "flag") },
                          { name := some (cp "renamed"), defn := some (cp "link") }]⟩]
  messages := [⟨cp "Order", cp "F", none, some (cp "outgoing"), [
      fld "displayed" "enum:Flag" "N",
      fld "own" "enum:Chain" "A",
      fld "next" "enum:Chain" "C",
      fld "last" "enum:Chain" "D",
      { defn := some (cp "flag") },
      { name := some (cp "other"), defn := some (cp "link") },
      { name := some (cp "legs"), ty := some (cp "record:Leg"), array := some (cp "true"), endian := some (cp "big") }]⟩]

/-- the smallest one: a single member whose name is a legal constant but not its value -/
def minimal : Spec where
  enums := [⟨cp "E", some (cp "char_ascii"), [⟨cp "N", cp "Y"⟩]⟩]
  fielddefs := []
  records := []
  messages := [⟨cp "M", cp "1", none, some (cp "outgoing"), [fld "f" "enum:E" "N"]⟩]

def defaultsOf (sch : Schema) : List (List (Option DVal)) :=
  sch.records.map (fun r => r.fields.map (·.dflt)) ++ sch.messages.map (fun g => g.fields.map (·.dflt))

def st (s : String) : Option DVal := some (.str (cp s))

/-- the library's generator on the overlapping enums: well-formed, and every default is the declared text -/
theorem C15Enum_regress_overlap :
    wfSpec .itch (overlap "char_ascii") = true ∧ wfSpec .ouch (overlap "char_iso-8859-1") = true
    ∧ (gen .itch (cp "app") true (overlap "char_ascii") >>= evalModule) = denote .itch (overlap "char_ascii")
    ∧ (gen .ouch (cp "app") true (overlap "char_iso-8859-1") >>= evalModule) = denote .ouch (overlap "char_iso-8859-1")
    ∧ (∃ sch, (gen .itch (cp "app") true (overlap "char_ascii") >>= evalModule) = .ok sch
        ∧ defaultsOf sch = [[st "Y", st "N", st "B"], [st "N", st "A", st "C", st "D", st "N", st "B", none]]) := by
  decide +kernel

/-- the name-first lookup gives other defaults on the same specification: `N`↦`Y`, `Y`↦`N`, `B`↦`C`, `C`↦`D`
    (`A`, named like its own value, and `D`, nobody's name, survive) -/
theorem C15Enum_witness_name_first_differs :
    (genNF .itch (cp "app") true (overlap "char_ascii") >>= evalModule) ≠ denote .itch (overlap "char_ascii")
    ∧ (∃ sch, (genNF .itch (cp "app") true (overlap "char_ascii") >>= evalModule) = .ok sch
        ∧ defaultsOf sch = [[st "N", st "Y", st "C"], [st "Y", st "A", st "D", st "D", st "Y", st "C", none]]) := by
  decide +kernel

theorem C15Enum_witness_minimal :
    wfSpec .sqf minimal = true
    ∧ (gen .sqf (cp "app") true minimal >>= evalModule) = denote .sqf minimal
    ∧ (∃ sch, denote .sqf minimal = .ok sch ∧ defaultsOf sch = [[st "N"]])
    ∧ (∃ sch, (genNF .sqf (cp "app") true minimal >>= evalModule) = .ok sch ∧ defaultsOf sch = [[st "Y"]]) := by
  decide +kernel

/-- where no member name is a legal constant of the datatype the two generators agree (integer enums: a name is never a
    number; `Buy`/`Sell` over `B`/`S`) — the reason a suite without overlapping enums cannot tell them apart -/
def disjoint : Spec where
  enums := [⟨cp "Side", some (cp "char_ascii"), [⟨cp "Buy", cp "B"⟩, ⟨cp "Sell", cp "S"⟩]⟩,
            ⟨cp "Tier", some (cp "uint_2_be"), [⟨cp "Retail", cp "1"⟩, ⟨cp "Pro", cp "2"⟩]⟩]
  fielddefs := []
  records := []
  messages := [⟨cp "M", cp "1", none, some (cp "outgoing"), [fld "side" "enum:Side" "S", fld "tier" "enum:Tier" "2"]⟩]

theorem C15Enum_name_first_agrees_when_disjoint :
    wfSpec .itch disjoint = true
    ∧ genNF .itch (cp "app") true disjoint = gen .itch (cp "app") true disjoint := by
  decide +kernel

end NasdaqModel.Witness.C15Enum
