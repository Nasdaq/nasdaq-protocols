import NasdaqModel.Witness.C05App
/-
C05, application sessions — regression witness for the repaired finding C05-app-close-from-message-callback.

Before the repair, `ClientSession.close()` (ITCH / OUCH / SQF / ASN.1) awaited from inside the application-level message callback
created the close event, called `soup_session.initiate_close()` and waited for the event.  The closing task stopped the soup
session and, inside `_on_soup_close`, `queue.stop()` cancelled the second dispatcher `D2` — the very task that runs the callback
and was waiting for the event: the callback got `CancelledError` out of `close()`.  The repair lets the calling task carry out
`soup_session.close()` itself (`Model/AppSession.lean`, `closeOnD2`).

This file keeps the *previous* transition (`stepOld`: identical to `step` except for a `close()` awaited by `D2` — from the body of a
message callback or from its cancellation clean-up — which waits for the event as every other caller does) next to the model and
decides, on the recorded history (`corpus/C05/app-close-from-handler.json`, the former `Witness.C05App.historyA`), that the old
transition ends the callback's `close()` with `CancelledError`, while the model — on the schedule the repaired code follows for the
same input — returns normally.  A reintroduction of the defect in the library makes the implementation follow `stepOld` instead of
`step`: the correspondence check then disagrees on exactly this scenario, and the oracle reports the raised `close()`.

It also keeps the deadlock of the old order inside `_on_soup_close` (`closedFirst := false`, /repo before 7eb8348), which needs
the old `close()` as well.
-/
namespace NasdaqModel.Witness.C05AppOld
open NasdaqModel App

/-- entering the message callback, before the repair -/
def dispHandle2Old (a : ACfg) (s : St) (v : Nat) : St :=
  match a.msgBeh v with
  | .close => if s.evt.isSome || s.appClosed then dispHandle2 a s v else startClose a s .D2 (.handlerClose v)
  | _ => dispHandle2 a s v

/-- the awaits of the message callback are over, before the repair -/
def handlerDoneOld (a : ACfg) (s : St) (v : Nat) : St :=
  match a.msgBeh v with
  | .awaitClose _ => if s.evt.isSome || s.appClosed then handlerDone a s .D2 v else startClose a s .D2 (.handlerClose v)
  | _ => handlerDone a s .D2 v

/-- the transition relation before the repair: as `step`, except for `close()` awaited by the second dispatcher -/
def stepOld (a : ACfg) (s : St) : Ev → St
  | .run .D2 =>
      if runnable2 s .D2 then
        let s0 := { s with imm2 := false }
        match s0.astatus .D2, s0.aprog .D2 with
        | .cancelled, .handlerClose v =>      -- cancelled by `queue.stop()` while waiting for the event: the finding
            ((s0.emit2 (.closeRet (.handler v) .cancelled)).emit2 (.msgAbandon v)).finish2 .D2
        | .cancelled, .cleanupClose v => ((s0.emit2 (.closeRet (.handler v) .cancelled)).emit2 (.msgAbandon v)).finish2 .D2
        | .cancelled, .handlerCC v _ =>
            if s0.evt.isSome || s0.appClosed then step a s (.run .D2) else startClose a s0 .D2 (.cleanupClose v)
        | .ready, .handlerClose v =>          -- the event was set
            { (((s0.emit2 (.closeRet (.handler v) .ok)).emit2 (.msgExit v)).setP .D2 .dispLoop) with imm2 := true }
        | .ready, .cleanupClose v => ((s0.emit2 (.closeRet (.handler v) .ok)).emit2 (.msgAbandon v)).finish2 .D2
        | .ready, .handler v 0 => handlerDoneOld a s0 v
        | .ready, .dispLoop =>
            if s0.q2Closed || s0.rcv2Busy || s0.vres2.isSome then step a s (.run .D2)
            else match s0.q2 with
              | [] => step a s (.run .D2)
              | v :: q => dispHandle2Old a (({ s0 with q2 := q, gone2 := s0.gone2 ++ [(v, true)] }).emit2 (.msgEnter v)) v
        | _, _ => step a s (.run .D2)
      else s
  | e => step a s e

def runOld (a : ACfg) (s : St) (evs : List Ev) : St := evs.foldl (stepOld a) s

/-- the history recorded before the repair: messages 3 and 4 arrive; the callback for 3 awaits `app.close()`: event created, closing
    task started, the callback waits; the closing task stops the soup session, enters `_on_soup_close`, cancels the second
    dispatcher — i.e. the waiting callback — and completes the close -/
def historyOld : List Ev := C05App.login ++
  [.run .D2, .inner (.run .D), .inner (.data [.msg 3, .msg 4]), .inner (.run .R), .inner (.run .R),
   .inner (.run .D), .inner (.run .D), .inner (.run .D), .run .D2,
   .inner (.run .C), .inner (.run .D), .inner (.run .C), .inner (.run .L), .inner (.run .C), .inner (.run .M), .inner (.run .C),
   .inner (.run .R), .inner (.run .C), .run .D2, .inner (.run .C)]

set_option maxRecDepth 100000 in
/-- **before the repair**: the `close()` call of the handler ends with `CancelledError`, the handler is abandoned (the session still
    closes completely) -/
theorem C05AppOld_witness_old_semantics_close_cancelled :
    (runOld C05App.cfgA {} historyOld).trace2 =
      [.msgEnter 3, .closeRet (.handler 3) .cancelled, .msgAbandon 3, .cbEnter, .cbExit] ∧
    (runOld C05App.cfgA {} historyOld).inner.cstage = .finished ∧ (runOld C05App.cfgA {} historyOld).cpc = .finished ∧
    (runOld C05App.cfgA {} historyOld).appClosed = true ∧ (runOld C05App.cfgA {} historyOld).evt = some true ∧
    (runOld C05App.cfgA {} historyOld).astatus .D2 = .done := by decide +kernel

set_option maxRecDepth 100000 in
/-- **the model (the repaired code)**: same input, same schedule up to and including the step in which the callback calls
    `close()` (the first 16 events); from there on the close is carried out by `D2` and the call returns normally -/
theorem C05AppOld_witness_model_close_returns :
    historyOld.take 16 = C05App.historyA.take 16 ∧
    (runEvs C05App.cfgA {} C05App.historyA).trace2 =
      [.msgEnter 3, .cbEnter, .cbExit, .closeRet (.handler 3) .ok, .msgExit 3] ∧
    (runEvs C05App.cfgA {} C05App.historyA).inner.cstage = .finished ∧
    (runEvs C05App.cfgA {} C05App.historyA).appClosed = true := by decide +kernel

set_option maxRecDepth 100000 in
/-- right after the call the two relations differ: before the repair a closing task exists and `D2` waits for the event; in the
    model there is no closing task and `D2` is the closer of the soup session -/
theorem C05AppOld_witness_difference_at_the_call :
    (runOld C05App.cfgA {} (historyOld.take 16)).astatus .D2 = .waitE ∧
    (runOld C05App.cfgA {} (historyOld.take 16)).inner.closingTask = true ∧
    (runOld C05App.cfgA {} (historyOld.take 16)).inner.closed = false ∧
    (runEvs C05App.cfgA {} (historyOld.take 16)).astatus .D2 = .inSoup ∧
    (runEvs C05App.cfgA {} (historyOld.take 16)).inner.closingTask = false ∧
    (runEvs C05App.cfgA {} (historyOld.take 16)).inner.closed = true := by decide +kernel

def innerTasks : List Sess.Tid := [.R, .D, .L, .M, .C, .V, .U 1]
def appTasks : List ATid := [.D2, .V2]

set_option maxRecDepth 100000 in
/-- the old order inside `_on_soup_close` with the old `close()` (/repo before 7eb8348): the clean-up's `close()` creates the event and
    waits; the closer waits for the dispatcher: nothing can run, the close callback is never entered, the application session
    never reports closed -/
theorem C05AppOld_witness_cleanup_close_deadlock :
    (runOld (C05App.cfgB false) {} C05App.historyB).inner.closed = true ∧
    (runOld (C05App.cfgB false) {} C05App.historyB).inner.cstage = .cb .C 0 .closingTail ∧
    (runOld (C05App.cfgB false) {} C05App.historyB).cpc = .waitD2 ∧
    (runOld (C05App.cfgB false) {} C05App.historyB).astatus .D2 = .waitE ∧
    (runOld (C05App.cfgB false) {} C05App.historyB).evt = some false ∧
    (runOld (C05App.cfgB false) {} C05App.historyB).appClosed = false ∧
    (runOld (C05App.cfgB false) {} C05App.historyB).trace2 = [.msgEnter 3] ∧
    innerTasks.all (fun t => !runnableI (runOld (C05App.cfgB false) {} C05App.historyB) t) = true ∧
    appTasks.all (fun t => !runnable2 (runOld (C05App.cfgB false) {} C05App.historyB) t) = true := by decide +kernel

/-- the two transition relations differ *only* in steps of the second dispatcher -/
theorem C05AppOld_old_eq_step_unless_D2 (a : ACfg) (s : St) (ev : Ev) (h : ev ≠ .run .D2) : stepOld a s ev = step a s ev := by
  cases ev with
  | run t => cases t <;> first | rfl | exact absurd rfl h
  | _ => rfl

end NasdaqModel.Witness.C05AppOld
