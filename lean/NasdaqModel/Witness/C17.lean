import NasdaqModel.Model.GenHistory
/-
C17 witnesses: the three clauses of the property are FALSE for the library before a5da5b2 / 6c43d46 / 388f25f (`actual`: files
opened with 'a', class-level generator state never reset), and the project-tool clause is false for `current` (`C17_witness_new_project_rerun_current`).  One concrete history per defect, each the negation of the conclusion of the
corresponding theorem of Props/C17.lean with all its other hypotheses satisfied; the same histories are replayed on the
implementation by harness/c17.py on every run (`witness_histories`).  Also: no single repair suffices (`…_needs_…`).
-/
namespace NasdaqModel.Witness.C17
open NasdaqModel GenHistory

def specA : SoupSpec := ⟨1, some [(1, 0), (2, 1)], [1, 2], [65, 66]⟩
def specC : SoupSpec := ⟨2, none, [1], [65]⟩              -- no fielddef-root, one `def=` reference: fails alone (KeyError)
def optsX (d : Nat) : GenOpts := ⟨[120], [], true, .out d, true⟩  -- app "x"
def optsY (d : Nat) : GenOpts := ⟨[121], [], true, .out d, true⟩  -- app "y"
def optsG (d : Nat) : GenOpts := ⟨[103], [], true, .out d, true⟩  -- app "g"
def fixA : FixSpec := ⟨1, 44, [1, 2], [1], [.mk 1 [2] [.mk 2 [1] []]], [1, 2]⟩
def fixB : FixSpec := ⟨2, 44, [3], [3], [.mk 1 [3] []], [1]⟩
def soupA (d : Nat) : Inv := .soup .ouch specA (optsX d)
def soupC (d : Nat) : Inv := .soup .ouch specC (optsY d)
def genA (d : Nat) : Inv := .fix fixA (optsG d)
def genB (d : Nat) : Inv := .fix fixB (optsG d)
def modX : Str := [111, 117, 99, 104, 95, 120, 46, 112, 121]                     -- "ouch_x.py"
def groupsG : Str := [102, 105, 120, 95, 103, 95, 103, 114, 111, 117, 112, 115, 46, 112, 121]   -- "fix_g_groups.py"
def oe : Str := [111, 101]
def md : Str := [109, 100]
def projA : Str := [112, 114, 111, 106, 45, 97]                                  -- "proj-a"

/-! The witness histories as data: (what ran before, the invocation under test).  `histories` is what the model driver prints
    for `witness C17` and what harness/c17.py replays on the implementation — the very terms the theorems below are about. -/
def hAppend : List Ev × Inv := ([.inv (soupA 1), .newProcess], soupA 1)
def hFixLeak : List Ev × Inv := ([.inv (genA 1)], genB 2)
def hFixRepeat : List Ev × Inv := ([.inv (genA 1)], (genA 1).retarget (.out 2))
def hFieldDef : List Ev × Inv := ([.inv (soupA 1)], soupC 2)
def hFieldDef2 : List Ev × Inv := ([.inv (soupA 1), .newProcess], soupC 2)
def hFieldDefAlone : List Ev × Inv := ([], soupC 2)
def hNewProject : List Ev × Inv :=
  ([.inv (.newProject 1 projA [(oe, .ouch)]), .newProcess], .newProject 1 projA [(oe, .ouch), (md, .itch)])

def histories : List (String × List Ev) :=
  [("witness-append-mode", hAppend), ("witness-fix-state-leak", hFixLeak), ("witness-fix-not-repeatable", hFixRepeat),
   ("witness-fielddef-leak", hFieldDef), ("witness-fielddef-separate-process", hFieldDef2),
   ("witness-fielddef-alone", hFieldDefAlone), ("witness-new-project-rerun", hNewProject)].map
    fun x => (x.1, x.2.1 ++ [.inv x.2.2])

/-- **append mode** (clause 2).  The same spec generated twice into one directory — even in two separate processes, so no
    process state is involved: the module file holds the module twice, `__init__.py` its line twice, and importing the
    package raises DuplicateMessageException; a fresh run gives one chunk and imports. -/
theorem C17_witness_append_mode :
    let w := run actual w0 hAppend.1
    (invoke actual w0 (soupA 1)).2 = .ok ()
    ∧ dirOnly w.fs (.out 1) (targetNames (soupA 1)) = true
    ∧ read (invoke actual w (soupA 1)).1.fs (.out 1, modX)
        = some [.soupModule .ouch [120] 1 [65, 66] [0, 1], .soupModule .ouch [120] 1 [65, 66] [0, 1]]
    ∧ read (invoke actual w0 (soupA 1)).1.fs (.out 1, modX) = some [.soupModule .ouch [120] 1 [65, 66] [0, 1]]
    ∧ (read (invoke actual w (soupA 1)).1.fs (.out 1, sInit ++ sPy)).map List.length = some 2
    ∧ importAfter actual w (soupA 1) = .error .dup
    ∧ importAfter actual w0 (soupA 1) = .ok () := by decide +kernel

/-- the conclusion of `C17_regenerate_in_place` fails for `actual` -/
theorem C17_witness_regenerate_in_place_false :
    ¬ (dirView (invoke actual (run actual w0 hAppend.1) hAppend.2).1.fs hAppend.2.dir
        = dirView (invoke actual w0 hAppend.2).1.fs hAppend.2.dir) := by
  intro h
  have := congrFun h modX
  revert this
  decide +kernel

/-- **FIX generator state** (clauses 1 and 3).  Dictionary B generated after dictionary A in one process, into another
    directory: B's groups module contains A's three group classes (A's nested group was even given two), B's own group is
    `NoG1_2` instead of `NoG1_1`, and the package does not import (`fields` has no `F2`); alone B imports. -/
theorem C17_witness_fix_state_leak :
    let w := run actual w0 hFixLeak.1
    (invoke actual w (genB 2)).2 = .ok ()
    ∧ dirOnly w.fs (.out 2) [] = true
    ∧ read (invoke actual w (genB 2)).1.fs (.out 2, groupsG)
        = some [.fixGroups [102, 105, 120, 95, 103]
            [⟨2, 1, [.field 1]⟩, ⟨2, 2, [.field 1]⟩, ⟨1, 1, [.field 2, .group 2 2]⟩, ⟨1, 2, [.field 3]⟩]]
    ∧ read (invoke actual w0 (genB 2)).1.fs (.out 2, groupsG) = some [.fixGroups [102, 105, 120, 95, 103] [⟨1, 1, [.field 3]⟩]]
    ∧ importAfter actual w (genB 2) = .error .attr
    ∧ importAfter actual w0 (genB 2) = .ok () := by decide +kernel

/-- the conclusion of `C17_no_leak_between_specs` (second part) fails for `actual` -/
theorem C17_witness_no_leak_false :
    ¬ (∀ n, n ∈ targetNames (genB 2) →
        read (invoke actual (run actual w0 hFixLeak.1) hFixLeak.2).1.fs (hFixLeak.2.dir, n)
          = read (invoke actual w0 hFixLeak.2).1.fs (hFixLeak.2.dir, n)) := by
  intro h
  have := h groupsG (by decide +kernel)
  revert this
  decide +kernel

/-- the conclusion of `C17_repeatable` fails for `actual`: the SAME dictionary generated twice in one process into two
    empty directories gives different directories (the second one has A's classes twice and `NoG1_2`) -/
theorem C17_witness_repeatable_false :
    dirOnly (run actual w0 hFixRepeat.1).fs (.out 2) [] = true
    ∧ ¬ (dirView (invoke actual w0 ((genA 1).retarget (.out 1))).1.fs (.out 1)
          = dirView (invoke actual (run actual w0 hFixRepeat.1) hFixRepeat.2).1.fs (.out 2)) := by
  refine ⟨by decide +kernel, ?_⟩
  intro h
  have := congrFun h groupsG
  revert this
  decide +kernel

/-- **`FieldDef.Definitions`** (clause 3).  A spec without `fielddef-root` that references `def="f1"` fails alone with
    KeyError; after spec A in the same process it "succeeds", built from A's definition of `f1` (datatype 0). -/
theorem C17_witness_fielddef_leak :
    (invoke actual (run actual w0 hFieldDefAlone.1) hFieldDefAlone.2).2 = .error .key
    ∧ (invoke actual (run actual w0 hFieldDef.1) hFieldDef.2).2 = .ok ()
    ∧ read (invoke actual (run actual w0 hFieldDef.1) hFieldDef.2).1.fs (.out 2, [111, 117, 99, 104, 95, 121, 46, 112, 121])
        = some [.soupModule .ouch [121] 2 [65] [0]]
    -- in a separate process the leak is gone
    ∧ (invoke actual (run actual w0 hFieldDef2.1) hFieldDef2.2).2 = .error .key := by decide +kernel

/-- the conclusion of `C17_outcome_depends_on_spec_only` fails for `actual` -/
theorem C17_witness_outcome_false :
    ¬ ((invoke actual (run actual w0 hFieldDef.1) hFieldDef.2).2 = (invoke actual w0 hFieldDef.2).2) := by decide +kernel

/-- **`new_project` run again** to add an application: `pyproject.toml` and `tox.ini` are the concatenation of two
    renderings (two `[project]` tables, two `[tox]` sections: neither parses). -/
theorem C17_witness_new_project_rerun :
    let w := (invoke actual (run actual w0 hNewProject.1) hNewProject.2).1
    read w.fs (.proj 1 projA, sTox) = some [.tox (srcName projA) [(oe, .ouch)], .tox (srcName projA) [(oe, .ouch), (md, .itch)]]
    ∧ read w.fs (.proj 1 projA, sPyproject) = some [.pyproject projA, .pyproject projA]
    ∧ configValid (read w.fs (.proj 1 projA, sTox)) = false
    ∧ configValid (read w.fs (.proj 1 projA, sPyproject)) = false := by decide +kernel

/-- the same history for `current` (generators repaired, project tool not): still false -/
theorem C17_witness_new_project_rerun_current :
    let w := (invoke current (run current w0 hNewProject.1) hNewProject.2).1
    configValid (read w.fs (.proj 1 projA, sTox)) = false
    ∧ configValid (read w.fs (.proj 1 projA, sPyproject)) = false
    ∧ read w.fs (.proj 1 projA, sPyproject) = some [.pyproject projA, .pyproject projA] := by decide +kernel

/-! no single repair is enough -/

/-- files opened with 'w' but the class-level state kept: the FIX leak is still there -/
theorem C17_witness_needs_state_reset :
    importAfter { actual with genMode := .truncate } (run { actual with genMode := .truncate } w0 [.inv (genA 1)]) (genB 2)
      = .error .attr := by decide +kernel

/-- `UniqueNameCounter` cleared but `Group.Contexts` kept: A's classes are still in B's groups module -/
theorem C17_witness_needs_contexts_reset :
    let sem := { fixed with resetContexts := false }
    read (invoke sem (run sem w0 [.inv (genA 1)]) (genB 2)).1.fs (.out 2, groupsG)
      ≠ read (invoke sem w0 (genB 2)).1.fs (.out 2, groupsG) := by decide +kernel

/-- `Group.Contexts` emptied but the counters kept: B's group is still `NoG1_2` -/
theorem C17_witness_needs_counter_reset :
    let sem := { fixed with resetCounter := false }
    read (invoke sem (run sem w0 [.inv (genA 1)]) (genB 2)).1.fs (.out 2, groupsG)
      = some [.fixGroups [102, 105, 120, 95, 103] [⟨1, 2, [.field 3]⟩]] := by decide +kernel

/-- state reset but files still appended to: regenerating in place still doubles the module -/
theorem C17_witness_needs_truncate :
    let sem := { fixed with genMode := .append }
    importAfter sem (run sem w0 [.inv (soupA 1)]) (soupA 1) = .error .dup := by decide +kernel

end NasdaqModel.Witness.C17
