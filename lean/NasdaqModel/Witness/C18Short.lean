import NasdaqModel.Model.HeapCut
/-
C18, short frames — machine-checked counterexample for the semantics of seeded change C18k (`HeapCut.decodeShared`:
`Array.from_bytes` hands out the class-level list `Array.default_value` when no byte of the frame is left for the array field),
on the schema and the history of the demonstration: a frame of message 81 that ends right after its 4-byte int.

  * the decoded message's array IS the class-level cell (`C18S_witness_decoded_holds_class_cell`);
  * appending to it is an operation about the decoded message, yet it writes into a class-level cell
    (`C18S_witness_append_writes_class_cell`) — the list every never-assigned array field of every instance of every type is copied
    from now holds the two items (`C18S_witness_class_level_list_poisoned`), while with the decoder of the library it stays empty;
  * a second decode of the same short frame, an instance nobody touched, encodes the two items
    (`C18S_witness_second_decode_changed`): the frame statement of `Props/C18Short.lean` is false of this variant
    (`C18S_witness_frame_false_with_shared_short_decode`).
The same history is corpus/C18/short-frame-before-trailing-array.json, replayed on the implementation on every run (where the
decoded message must hold a list of its own, and does).
-/
namespace NasdaqModel.Witness.C18Short
open NasdaqModel Heap HeapD HeapCut

/-- message 81: a 4-byte int and an array of 4-byte ints (2-byte count); message 84: a 2-byte int and an array of 2-byte ints -/
def S : Schema :=
  ⟨true, [.binRec (some 81) [.int ⟨4, false, false⟩ Option.none, .arr (.int ⟨4, false, false⟩) ⟨2, false, false⟩],
          .binRec (some 84) [.int ⟨2, false, false⟩ Option.none, .arr (.int ⟨2, false, false⟩) ⟨2, false, false⟩]]⟩
def D : Defaults := ⟨[]⟩

/-- an instance with `order_book = 5`, encoded; buffer 1 = the first 5 bytes of the frame (id byte + int: nothing left for the array) -/
def prefixOps : List OpC := [.op (.new 0), .op (.assign 0 [] 0 (.int 5)), .op (.mkbuf 0), .cut 0 5]
def H0 : Heap := runC S D init prefixOps

def okOr (H : Heap) (r : Except Err Heap) : Heap :=
  match r with
  | .ok H' => H'
  | .error _ => H

/-- the short frame decoded twice by the seeded decoder: instances 1 and 2 -/
def H1 : Heap := okOr H0 (decodeShared S H0 0 1)
def H2 : Heap := okOr H1 (decodeShared S H1 0 1)
def badOp1 : Op := .append 1 [.fld 1] (.int 7)
def badOp2 : Op := .append 1 [.fld 1] (.int 8)
/-- `decoded.levels.append(7); decoded.levels.append(8)` on instance 1 -/
def H3 : Heap := stepK S (stepK S H2 badOp1) badOp2

theorem C18S_witness_decodes_succeed :
    (decodeShared S H0 0 1).toOption.isSome = true ∧ (decodeShared S H1 0 1).toOption.isSome = true ∧ H2.insts.length = 3 := by
  decide +kernel

/-- the array field of the decoded message is a reference to cell 0, the class-level list -/
theorem C18S_witness_decoded_holds_class_cell :
    mutTarget S H2 1 [.fld 1] = .ok (some 0) ∧ (H2.cells[0]?).map (·.own) = some Owner.cls := by
  decide +kernel

/-- the append is about instance 1 and writes into a class-level cell (with the decoder of the library no operation ever does:
    `classSafe_of_fresh`) -/
theorem C18S_witness_append_writes_class_cell :
    badOp1.target H2 = 1 ∧ classSafe S H2 badOp1 = false ∧ writeOwner S H2 badOp1 = some Owner.cls := by
  decide +kernel

/-- the class-level list now holds the two items -/
theorem C18S_witness_class_level_list_poisoned :
    H2.cells[0]? = some ⟨Owner.cls, .list []⟩ ∧ H3.cells[0]? = some ⟨Owner.cls, .list [.int 7, .int 8]⟩ := by
  decide +kernel

/-- instance 2 — the second decode of the same short frame, which no operation was about — encodes them -/
theorem C18S_witness_second_decode_changed :
    encodeInst S H2 2 = .ok [81, 5, 0, 0, 0, 0, 0] ∧ encodeInst S H3 2 = .ok [81, 5, 0, 0, 0, 2, 0, 7, 0, 0, 0, 8, 0, 0, 0] := by
  decide +kernel

/-- the frame statement is false of the variant: an operation about instance 1 changed what instance 2 encodes -/
theorem C18S_witness_frame_false_with_shared_short_decode :
    ¬ (∀ (b : Nat), b ≠ badOp1.target H2 → encodeInst S (stepK S H2 badOp1) b = encodeInst S H2 b) := by
  intro h
  have := h 2 (by decide)
  revert this
  decide +kernel

/-- the decoder of the library on the same history: the decoded messages hold lists of their own, the class-level list stays empty
    and the second decode is unchanged -/
def good : Heap :=
  runC S D init (prefixOps ++ [.op (.decode 0 1), .op (.decode 0 1), .op badOp1, .op badOp2])

theorem C18S_witness_library_decoder_is_fine :
    good.cells[0]? = some ⟨Owner.cls, .list []⟩ ∧ encodeInst S good 2 = .ok [81, 5, 0, 0, 0, 0, 0]
      ∧ encodeInst S good 1 = .ok [81, 5, 0, 0, 0, 2, 0, 7, 0, 0, 0, 8, 0, 0, 0] := by
  decide +kernel

end NasdaqModel.Witness.C18Short
