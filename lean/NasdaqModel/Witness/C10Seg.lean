import NasdaqModel.Model.SeqSeg
/-
C10 — regression witnesses for the segment-wise view of `send_msg`: a repair that pre-checks only the BODY before taking the
number (instead of giving the number back when serialisation fails) leaves a gap as soon as the header or the trailer is the
part that cannot be serialised; the code as it is does not.  The harness generates such histories (an application-set header
field / header group instance / trailer field with non-ASCII text) and replays these two on the implementation.
-/
namespace NasdaqModel.Witness.C10Seg
open NasdaqModel SeqNum

/-- body-only pre-check: frames 5 then 7 — the send with the unencodable HEADER consumed number 6 -/
theorem C10_witness_header_failure_gap_bodycheck :
    (segRunBodyCheck fixInit witnessHeaderGap).frames = [5, 7] := by decide +kernel

/-- the same for the TRAILER -/
theorem C10_witness_trailer_failure_gap_bodycheck :
    (segRunBodyCheck fixInit witnessTrailerGap).frames = [5, 7] := by decide +kernel

/-- the code as it is (number given back): 5 then 6 on both histories, the failed send reported as `encodeError` -/
theorem C10_witness_segments_no_gap :
    (segRunR fixInit witnessHeaderGap).frames = [5, 6] ∧ (segRunR fixInit witnessTrailerGap).frames = [5, 6] ∧
    (segTraceR fixInit witnessHeaderGap).map (·.1) = [.written 5, .encodeError, .written 6] := by decide +kernel

end NasdaqModel.Witness.C10Seg
