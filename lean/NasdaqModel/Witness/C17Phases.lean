import NasdaqModel.Model.GenHistory
/-
C17 at the granularity of the generator API — what the model exhibits when `Definitions.get_codegen_context` empties
`Group.Contexts` in place (`Group.Contexts.clear()`, `clearInPlace`: `current` with `rebindContexts := false`) instead of binding
the class attribute to a new list: the context a FIX `Generator` captured when it was constructed holds *a reference to that one
list*, so constructing a second generator between the construction of the first and its `generate()` empties and refills the
first one's groups.  Whole invocations (construct and generate back to back), in any number and order, do not show it.
The histories (`histories`) are replayed on the implementation by harness/c17.py on every run.
-/
namespace NasdaqModel.Witness.C17Phases
open NasdaqModel GenHistory

/-- the library with the in-place reset -/
def clearInPlace : Semantics := { current with rebindContexts := false }

def optsG (d : Nat) : GenOpts := ⟨[103], [], true, .out d, true⟩   -- app "g"
def optsH (d : Nat) : GenOpts := ⟨[104], [], true, .out d, true⟩   -- app "h"
def fixA : FixSpec := ⟨1, 44, [1, 2], [1], [.mk 1 [2] [.mk 2 [1] []]], [1, 2]⟩     -- NoG1 [F2, NoG2 [F1]]
def fixB : FixSpec := ⟨2, 44, [3], [3], [.mk 1 [3] []], [1]⟩                        -- NoG1 [F3]
def fixN : FixSpec := ⟨3, 50, [1], [1], [], []⟩                                      -- no groups
def soupA : SoupSpec := ⟨1, some [(1, 0), (2, 1)], [1, 2], [65, 66]⟩
def soupC : SoupSpec := ⟨2, some [(1, 3)], [1], [65]⟩
def asnA : Asn1Spec := ⟨[([97, 46, 97, 115, 110, 49], 1)]⟩      -- "a.asn1"
def asnB : Asn1Spec := ⟨[([98, 46, 97, 115, 110, 49], 2)]⟩      -- "b.asn1"
def pdu : Str := [80, 100, 117, 49]
def pkg (d : Nat) : Str := [100, 48 + d]                          -- "d<d>"
def groupsG : Str := [102, 105, 120, 95, 103, 95, 103, 114, 111, 117, 112, 115, 46, 112, 121]   -- "fix_g_groups.py"
def mpG : Str := [102, 105, 120, 95, 103]                                                        -- "fix_g"

/-- two generators prepared, then written (the build-script order) -/
def hPrepareThenWrite : List Ev :=
  [.construct 0 (.fix fixA (optsG 1)), .construct 1 (.fix fixB (optsH 2)), .generate 0, .generate 1]
/-- the second one is a whole invocation between the halves of the first -/
def hInvocationBetween : List Ev :=
  [.construct 0 (.fix fixA (optsG 1)), .inv (.fix fixB (optsH 2)), .generate 0]
/-- a dictionary without groups prepared first -/
def hNoGroupsFirst : List Ev :=
  [.construct 0 (.fix fixN (optsG 1)), .construct 1 (.fix fixA (optsH 2)), .generate 0, .generate 1, .generate 0]
/-- back to back -/
def hSequential : List Ev :=
  [.construct 0 (.fix fixA (optsG 1)), .generate 0, .construct 1 (.fix fixB (optsH 2)), .generate 1]
def hSoup : List Ev :=
  [.construct 0 (.soup .ouch soupA (optsG 1)), .construct 1 (.soup .itch soupC (optsH 2)), .generate 1, .generate 0]
def hAsn1 : List Ev :=
  [.construct 0 (.asn1 asnA pdu (pkg 1) (optsG 1)), .construct 1 (.asn1 asnB pdu (pkg 2) (optsH 2)), .generate 0, .generate 1]

def histories : List (String × List Ev) :=
  [("witness-phases-prepare-then-write", hPrepareThenWrite), ("witness-phases-invocation-between", hInvocationBetween),
   ("witness-phases-no-groups-first", hNoGroupsFirst), ("witness-phases-sequential", hSequential),
   ("witness-phases-soup", hSoup), ("witness-phases-asn1", hAsn1)]

theorem C17_witness_clear_in_place_not_pure : pureGen clearInPlace = false := by decide +kernel

/-- **Prepare, then write.**  Generator 0 (dictionary A: NoG1 [F2, NoG2 [F1]]) writes dictionary B's group class
    (NoG1_1 [F3]) into its groups module; its bodies module still asks for `NoG1_1`, which now is B's class.  Here the package
    does not even import (A's fields module has no F3); when B's fields exist in A as well, it imports and the group is silently
    wired to the other dictionary's members.  Alone, and for the library as it is, A's own three classes. -/
theorem C17_witness_clear_in_place_prepare_then_write :
    let w := run clearInPlace w0 (hPrepareThenWrite.take 2)
    (generate clearInPlace w 0).2 = .ok ()
    ∧ read (generate clearInPlace w 0).1.fs (.out 1, groupsG) = some [.fixGroups mpG [⟨1, 1, [.field 3]⟩]]
    ∧ read (invoke clearInPlace w0 (.fix fixA (optsG 1))).1.fs (.out 1, groupsG)
        = some [.fixGroups mpG [⟨2, 1, [.field 1]⟩, ⟨2, 2, [.field 1]⟩, ⟨1, 1, [.field 2, .group 2 2]⟩]]
    ∧ importAfterGenerate clearInPlace w 0 = .error .attr           -- `fields` of A has no F3
    ∧ read (generate current (run current w0 (hPrepareThenWrite.take 2)) 0).1.fs (.out 1, groupsG)
        = read (invoke current w0 (.fix fixA (optsG 1))).1.fs (.out 1, groupsG) := by decide +kernel

/-- the same with a whole invocation of B between the two halves of A -/
theorem C17_witness_clear_in_place_invocation_between :
    let w := run clearInPlace w0 (hInvocationBetween.take 2)
    read (generate clearInPlace w 0).1.fs (.out 1, groupsG) = some [.fixGroups mpG [⟨1, 1, [.field 3]⟩]] := by decide +kernel

/-- a dictionary WITHOUT groups gets the other dictionary's group classes (and imports: nothing refers to them) -/
theorem C17_witness_clear_in_place_no_groups_first :
    let w := run clearInPlace w0 (hNoGroupsFirst.take 2)
    read (generate clearInPlace w 0).1.fs (.out 1, groupsG)
        = some [.fixGroups mpG [⟨2, 1, [.field 1]⟩, ⟨2, 2, [.field 1]⟩, ⟨1, 1, [.field 2, .group 2 2]⟩]]
    ∧ read (invoke clearInPlace w0 (.fix fixN (optsG 1))).1.fs (.out 1, groupsG) = some [.fixGroups mpG []] := by decide +kernel

/-- Not exposed by whole invocations, however many: construct and generate back to back give the fresh files. -/
theorem C17_witness_clear_in_place_sequential_hidden :
    (run clearInPlace w0 hSequential).fs = (run clearInPlace w0 [.inv (.fix fixA (optsG 1)), .inv (.fix fixB (optsH 2))]).fs
    ∧ (run clearInPlace w0 [.inv (.fix fixA (optsG 1)), .inv (.fix fixB (optsH 2))]).fs
        = (run current w0 [.inv (.fix fixA (optsG 1)), .inv (.fix fixB (optsH 2))]).fs := by decide +kernel

/-- the pre-repair library (`actual`: the one list never emptied) shared the list between generator objects as well -/
theorem C17_witness_actual_shares_groups :
    sharedGroupsOf actual (.fix fixA (optsG 1)) = some mpG ∧ sharedGroupsOf current (.fix fixA (optsG 1)) = none := by decide +kernel

end NasdaqModel.Witness.C17Phases
