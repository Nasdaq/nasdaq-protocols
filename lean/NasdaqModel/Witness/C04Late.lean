import NasdaqModel.Lemmas.SessionLemmas3
/-
C04 — regression witness for the repaired finding C04-late-cancel-loses-message.

Before the repair, a receive that was cancelled *after* its helper task had already taken the message off the queue, but
before the caller resumed, reported the cancellation — and the message was lost (`DispatchableMessageQueue._blocking_read`
discarded the finished helper together with its result).  The repair keeps the message in `_unclaimed`, read before the
asyncio queue by `get_nowait()` and by the dispatcher loop; the model (`Model/Session.lean`, `stepRun`) re-inserts it at the head
of the queue.

This file keeps the *previous* transition (`stepOld`: identical to `step` except that the cancelled receive drops the held
message) next to the model and decides, on the recorded history (corpus/C04/late-cancel.json), that the old transition
loses message 5 while the model delivers it to the next receive.  A reintroduction of the defect in the library makes the
implementation follow `stepOld` instead of `step`: the correspondence check then disagrees on exactly this history.
-/
namespace NasdaqModel.Witness.C04Late
open NasdaqModel Sess

def cfg : Cfg :=
  { msgBeh := fun _ => .ret, cbBeh := .ret, hasCb := false, dispatchOnConnect := false, hasMsgCb := false, fixLogin := false }

/-- receive blocks; message 5 arrives; the helper task takes it; the caller is cancelled before it resumes; the next
    receive (`receive_msg_nowait`) -/
def history : List Ev :=
  [.connect, .callRecv 1, .run .V, .data [.msg 5], .run .R, .run .V, .cancel 1, .run (.U 1), .callRecvNowait 2]

/-- the held message is dropped (marked `(n, false)` in `gone`): the semantics before the repair -/
def dropHeld (s : St) : St :=
  { s with vres := none, rcvBusy := false, gone := s.gone ++ s.vres.toList.map (fun n => (n, false)) }

/-- the transition relation before the repair: as `step`, except for a cancellation delivered inside a receive -/
def stepOld (cfg : Cfg) (s : St) : Ev → St
  | .run t =>
      if s.status t = .cancelled then
        match s.prog t with
        | .recvWait u =>
            let s := { s with imm := none }
            if s.qClosed then ((dropHeld s).emit (.ret u .eoq)).finish t else ((dropHeld s).emit (.ret u .cancelled)).finish t
        | .loginWait u =>
            let s := { s with imm := none }
            if s.qClosed then ((dropHeld s).emit (.ret u .refused)).finish t
            else enterClose cfg ((dropHeld s).setStatus t .ready) t (.userTail u .cancelled)
        | _ => step cfg s (.run t)
      else step cfg s (.run t)
  | e => step cfg s e

def runOld (cfg : Cfg) (s : St) (evs : List Ev) : St := evs.foldl (stepOld cfg) s

/-- **before the repair**: the caller is cancelled, message 5 is gone for good, the next receive finds nothing although 5 was
    fully received and never delivered -/
theorem C04Late_witness_old_semantics_loses_message :
    (runOld cfg {} history).trace = [.ret 1 .cancelled, .ret 2 .none] ∧
    (runOld cfg {} history).lost = [5] ∧
    msgsOf (runOld cfg {} history).wire = [5] ∧
    (runOld cfg {} history).queue = [] ∧ (runOld cfg {} history).vres = none ∧
    (runOld cfg {} history).closed = false ∧
    delivered (runOld cfg {} history).trace ++ (runOld cfg {} history).queue ≠ msgsOf (runOld cfg {} history).wire := by decide +kernel

/-- **the model (the repaired code)**: the caller is cancelled, and the next receive returns message 5 -/
theorem C04Late_witness_model_delivers_message :
    (runEvs cfg {} history).trace = [.ret 1 .cancelled, .ret 2 (.msg 5)] ∧
    (runEvs cfg {} history).lost = [] ∧
    delivered (runEvs cfg {} history).trace = msgsOf (runEvs cfg {} history).wire ∧
    (runEvs cfg {} history).queue = [] ∧ (runEvs cfg {} history).vres = none ∧
    (runEvs cfg {} history).closed = false := by decide +kernel

/-- between the cancellation and the next receive the message is back at the head of the queue (the stash) -/
theorem C04Late_witness_message_back_in_front :
    (runEvs cfg {} (history.take 8)).queue = [5] ∧ (runEvs cfg {} (history.take 8)).vres = none ∧
    (runEvs cfg {} (history.take 8)).rcvBusy = false := by decide +kernel

/-- the same window inside `login()`: the acceptance (message 0) held for the cancelled login -/
def loginHistory : List Ev :=
  [.connect, .callLogin 1, .run .V, .data [.msg 0], .run .R, .run .V, .cancel 1, .run (.U 1), .run .R, .run (.U 1),
   .callRecvNowait 2, .callRecvNowait 3]

theorem C04Late_witness_login :
    (runOld cfg {} loginHistory).lost = [0] ∧
    (runOld cfg {} loginHistory).trace = [.write .login, .tclose, .ret 1 .cancelled, .ret 2 .eoq, .ret 3 .eoq] ∧
    (runEvs cfg {} loginHistory).lost = [] ∧
    (runEvs cfg {} loginHistory).trace = [.write .login, .tclose, .ret 1 .cancelled, .ret 2 (.msg 0), .ret 3 .eoq] := by decide +kernel

/-- the two transition relations differ *only* in the late-cancel window: with no message held they are the same function -/
theorem C04Late_old_eq_step_unless_held (cfg : Cfg) (s : St) (ev : Ev) (hv : s.vres = none) :
    stepOld cfg s ev = step cfg s ev := by
  cases ev with
  | run t =>
    simp only [stepOld, step]
    by_cases hc : s.status t = .cancelled
    · simp only [hc, if_true, runnable, stepRun]
      cases hp : s.prog t <;> simp [dropHeld, hv, runnable]
    · simp [hc]
  | _ => rfl

end NasdaqModel.Witness.C04Late
