import NasdaqModel.Model.SeqObj
/-
C10 — regression witnesses for `send_msg` on message OBJECTS.  A refactoring that puts validation, stamping and serialisation into
one `try` and, in the one `except`, gives the number back by reading it from the message (`if 'MsgSeqNum' in msg.Header:
self.sequence = count(msg.Header.MsgSeqNum)`) is right for every message object that is sent once — and rewinds (or forwards) the
session's counter to a stale number as soon as validation refuses an object whose header carries a number from earlier: an object sent
before, a message obtained from the reader (the peer's number), a number set by the application.  The code as it is keeps the number it
drew in a local and never reads the object.  The harness prints these very histories (`witness C10Obj`) and replays them on the
implementation every run; its generator re-sends, changes and renumbers message objects in every history of the object family.
-/
namespace NasdaqModel.Witness.C10Obj
open NasdaqModel SeqNum

/-- the object sent as 21 is sent again without its mandatory field: refused, nothing written — and the next frame carries 21 AGAIN -/
theorem C10_witness_resend_repeats_number_stale :
    (objRunStale ⟨fixInit, witnessResend.1⟩ witnessResend.2).sess.frames = [20, 21, 22, 21] := by decide +kernel

/-- the k-th-frame statement is false of that semantics on a history whose only failed send was rejected by validation -/
theorem C10_witness_resend_kth_fails_stale :
    ¬ (∀ k, (hk : k < (objRunStale ⟨fixInit, witnessResend.1⟩ witnessResend.2).sess.frames.length) →
        (objRunStale ⟨fixInit, witnessResend.1⟩ witnessResend.2).sess.frames[k] = 20 + k) := by
  intro h
  have := h 3 (by decide)
  revert this
  decide +kernel

/-- the rejected send itself moves the counter (23 → 21) although it writes nothing: "consumes no number" fails too -/
theorem C10_witness_rejected_send_moves_counter_stale :
    (objRunStale ⟨fixInit, witnessResend.1⟩ (witnessResend.2.take 4)).sess.next = some 23 ∧
    (objRunStale ⟨fixInit, witnessResend.1⟩ (witnessResend.2.take 5)).sess.next = some 21 ∧
    (objRunStale ⟨fixInit, witnessResend.1⟩ (witnessResend.2.take 5)).sess.frames = [20, 21, 22] := by decide +kernel

/-- a message obtained from the reader (the peer numbered it 3), refused: the session goes on with the PEER's number -/
theorem C10_witness_decoded_jumps_stale :
    (objRunStale ⟨fixInit, witnessDecoded.1⟩ witnessDecoded.2).sess.frames = [20, 21, 22, 3] := by decide +kernel

/-- a number set by the application on a message that is then refused: the session jumps to it -/
theorem C10_witness_preset_jumps_stale :
    (objRunStale ⟨fixInit, witnessPreset.1⟩ witnessPreset.2).sess.frames = [20, 21, 500] := by decide +kernel

/-- the code as it is: contiguous on all three histories, the refused sends reported as `rejected` -/
theorem C10_witness_objects_no_repeat :
    (objRunR ⟨fixInit, witnessResend.1⟩ witnessResend.2).sess.frames = [20, 21, 22, 23] ∧
    (objRunR ⟨fixInit, witnessDecoded.1⟩ witnessDecoded.2).sess.frames = [20, 21, 22, 23] ∧
    (objRunR ⟨fixInit, witnessPreset.1⟩ witnessPreset.2).sess.frames = [20, 21, 22] ∧
    (objTraceR ⟨fixInit, witnessResend.1⟩ witnessResend.2).map (·.1) =
      [.written 20, .written 21, .written 22, .rejected, .written 23] := by decide +kernel

/-- where the rollback-from-the-object is right: an object sent ONCE whose header cannot be serialised — both semantics agree -/
theorem C10_witness_stale_agrees_on_fresh_objects :
    (objRunStale ⟨fixInit, [⟨some 5, okMsg⟩, ⟨none, ⟨true, false, true, true⟩⟩, ⟨none, ⟨false, true, true, true⟩⟩, ⟨none, okMsg⟩]⟩
      [.login 0, .send 1, .send 2, .send 3]).sess.frames = [5, 6] ∧
    (objRunR ⟨fixInit, [⟨some 5, okMsg⟩, ⟨none, ⟨true, false, true, true⟩⟩, ⟨none, ⟨false, true, true, true⟩⟩, ⟨none, okMsg⟩]⟩
      [.login 0, .send 1, .send 2, .send 3]).sess.frames = [5, 6] := by decide +kernel

end NasdaqModel.Witness.C10Obj
