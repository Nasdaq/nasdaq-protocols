import NasdaqModel.Model.GenSoupApp
import NasdaqModel.Lemmas.ExceptDecide
/-
C15 — regression specifications for the shapes repaired in /repo 5aeb18b (array of fixed-length strings), 77e6d60 (HTML
escaping), 6e4eeaa (quote / backslash), 8ed2437 (empty record); see /verif/fixes/C15-*.md.  Each is well-formed, and `gen`
followed by the import of the generated module gives exactly the schema the specification denotes (evaluated here by the
kernel, `decide +kernel`, independently of the general theorem `C15_gen_denotes`).  The driver prints these specifications (`witness C15`) and the harness runs them on
the implementation every run.
-/
namespace NasdaqModel.Witness.C15
open NasdaqModel GenSoupApp

def fld (name ty : String) : FieldEl := { name := some (cp name), ty := some (cp ty) }

def oneMsg (f : FieldEl) (enums : List EnumEl := []) : Spec :=
  { enums := enums, fielddefs := [], records := [],
    messages := [⟨cp "Order", cp "65", none, some (cp "outgoing"), [fld "qty" "int_4_be", f]⟩] }

/-- `<field name="tags" type="str_ascii_n" length="3" array="true"/>` -/
def arrayOfFixed : Spec := oneMsg { fld "tags" "str_ascii_n" with length := some (cp "3"), array := some (cp "true") }

/-- generated as `Array(FixedAsciiString(length=3), UnsignedShort)` -/
theorem C15_regress_array_of_fixed_string :
    wfSpec .itch arrayOfFixed = true
    ∧ (gen .itch (cp "app") true arrayOfFixed >>= evalModule) = denote .itch arrayOfFixed
    ∧ (∃ sch, denote .itch arrayOfFixed = .ok sch
        ∧ sch.messages.map (fun m => m.fields.map (·.ty))
          = [[.prim .int4be, .array (.fixed false (some 3)) (.prim .uint2)]]) := by
  decide +kernel

def sideEnum (c : String) : EnumEl := ⟨cp "Side", some (cp "char_ascii"), [⟨cp "Buy", cp "B"⟩, ⟨cp "Odd", cp c⟩]⟩
def enumSpec (c : String) : Spec := oneMsg (fld "side" "enum:Side") [sideEnum c]

/-- `<value name="Odd">&lt;</value>`: the member's value is the character `<` -/
theorem C15_regress_html_enum_value :
    wfSpec .ouch (enumSpec "<") = true
    ∧ (gen .ouch (cp "app") true (enumSpec "<") >>= evalModule) = denote .ouch (enumSpec "<")
    ∧ (∃ sch, (gen .ouch (cp "app") true (enumSpec "<") >>= evalModule) = .ok sch
        ∧ sch.enums.map (·.members) = [[(cp "Buy", .str (cp "B")), (cp "Odd", .str (cp "<"))]]) := by
  decide +kernel

def defaultSpec (d : String) : Spec := oneMsg { fld "venue" "str_iso-8859-1" with dflt := some (cp d) }

/-- `default="A&amp;B"`: the declared default is the text `A&B` -/
theorem C15_regress_html_default_value :
    wfSpec .sqf (defaultSpec "A&B") = true
    ∧ (gen .sqf (cp "app") true (defaultSpec "A&B") >>= evalModule) = denote .sqf (defaultSpec "A&B")
    ∧ (∃ sch, (gen .sqf (cp "app") true (defaultSpec "A&B") >>= evalModule) = .ok sch
        ∧ sch.messages.map (fun m => m.fields.map (·.dflt)) = [[none, some (.str (cp "A&B"))]]) := by
  decide +kernel

/-- `<value name="Odd">'</value>` is generated as `Odd = '\''` and evaluates to the quote character -/
theorem C15_regress_quote :
    wfSpec .itch (enumSpec "'") = true
    ∧ (gen .itch (cp "app") true (enumSpec "'") >>= evalModule) = denote .itch (enumSpec "'")
    ∧ (∃ m, gen .itch (cp "app") true (enumSpec "'") = .ok m
        ∧ m.enums.map (·.members) = [[(cp "Buy", ⟨true, cp "B"⟩), (cp "Odd", ⟨true, cp "\\'"⟩)]]) := by
  decide +kernel

/-- a backslash is generated as `Odd = '\\'` -/
theorem C15_regress_backslash :
    wfSpec .itch (enumSpec "\\") = true
    ∧ (gen .itch (cp "app") true (enumSpec "\\") >>= evalModule) = denote .itch (enumSpec "\\")
    ∧ (∃ sch, denote .itch (enumSpec "\\") = .ok sch
        ∧ sch.enums.map (·.members) = [[(cp "Buy", .str (cp "B")), (cp "Odd", .str [92])]]) := by
  decide +kernel

def emptyFields : Spec :=
  { enums := [], fielddefs := [], records := [⟨cp "Nothing", []⟩],
    messages := [⟨cp "EndOfSnapshot", cp "G", none, some (cp "outgoing"), []⟩,
                 ⟨cp "Holder", cp "72", none, some (cp "outgoing"),
                   [{ fld "nones" "record:Nothing" with array := some (cp "true"), endian := some (cp "big") }]⟩] }

theorem C15_regress_empty_fields :
    wfSpec .sqf emptyFields = true
    ∧ (gen .sqf (cp "app") true emptyFields >>= evalModule) = denote .sqf emptyFields := by
  decide +kernel

end NasdaqModel.Witness.C15
