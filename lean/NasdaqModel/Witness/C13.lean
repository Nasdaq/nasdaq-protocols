import NasdaqModel.Props.C13
/-
C13 — machine-checked counterexample to "the decoded message compares equal to the original" under the order-sensitive
group equality the code had before /repo 02aab28 (finding C13-group-eq-order, fixes/C13-group-eq-order.md, now `fixed`), and
the same history under the equality the code has now — a regression that the harness replays on the implementation every run.  `witnessDef` / `witnessMsg` are defined in
Model/Fix.lean; the driver prints the same terms (`fix.witness`) and the harness replays them on the implementation.
-/
namespace NasdaqModel.Witness.C13
open NasdaqModel Py Fix Props.C13

/-- encode, decode through the registry, compare with `eq` — `none` if anything raises -/
def roundTripEq (eq : Msg → Msg → Bool) (reg : List MsgDef) (d : MsgDef) (m : Msg) : Option Bool :=
  match encMsg d m with
  | .ok bs =>
    match decodeMsg reg bs with
    | .ok r => some (eq r.2.2 m)
    | .error _ => none
  | .error _ => none

/-- the witness is inside the property's quantifier: distinct tags, valid values, instance contains its first field -/
theorem C13_witness_wf : wfDef witnessDef = true ∧ wfMsg witnessDef witnessMsg = true := by decide +kernel

/-- a group instance assigned `102` then `101` is written in dictionary order, decodes, and the decoded message is
    **not** `==` the original (`Message.__eq__` → `OrderedDict.__eq__`, order sensitive) -/
theorem C13_witness_eq_order : roundTripEq pyEq [witnessDef] witnessDef witnessMsg = some false := by decide +kernel

/-- with group instances compared as plain dicts (the code as it is now) the same round trip compares equal -/
theorem C13_witness_eq_repaired : roundTripEq pyEqDict [witnessDef] witnessDef witnessMsg = some true := by decide +kernel

end NasdaqModel.Witness.C13
