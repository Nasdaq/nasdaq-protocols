import NasdaqModel.Lemmas.GenFixLoad
/-
C16 — former finding (/verif/fixes/C16-enum-values-escaped.md), repaired by /repo commit 8c9ad6b: the fields template rendered the
enumerated value of a FIX field with double braces, i.e. through chevron's HTML escaping (`&` → `&amp;`, `"` → `&quot;`, `<` → `&lt;`,
`>` → `&gt;`): dictionary value `<` became the python constant `'&lt;'`.  `genEscaped` is the generator with that rendering; on the
dictionary of the report it differs from the dictionary's values, while `GenFix.gen` (the repaired code) gives them verbatim
(`Props/C16Enum.C16Enum_values_verbatim` for every dictionary).  The dictionary is replayed on the implementation every run
(corpus/C16/enum-values-special-chars.json).
-/
namespace NasdaqModel.Witness.C16Enum
open NasdaqModel Py GenFix Spec.FixDict

/-- chevron's `_html_escape` -/
def htmlEscape : Str → Str
  | [] => []
  | c :: t =>
    (if c = 38 then lit "&amp;" else if c = 34 then lit "&quot;" else if c = 60 then lit "&lt;" else if c = 62 then lit "&gt;"
     else [c]) ++ htmlEscape t

/-- the generated code before 8c9ad6b: every enumerated value rendered with `{{f_name}}` -/
def genEscaped (d : Dict) : Except Err Module :=
  match gen d with
  | .error e => .error e
  | .ok m => .ok { m with fields := m.fields.map fun f => { f with values := f.values.map fun v => { v with key := htmlEscape v.key } } }

def keysOf (r : Except Err Module) : Option (List (List Str)) := r.toOption.map fun m => m.fields.map fun f => f.values.map (·.key)

/-- the dictionary of the report: a CHAR field with the values `<` and `&`, a STRING field with `a>b` and `"` -/
def dictCmp : Dict := ⟨.v44, [
    .messages [⟨lit "M", lit "D", lit "app", [.field (lit "Cmp") (some (lit "Y")), .field (lit "Txt") (some (lit "N"))]⟩],
    .fields [⟨lit "700", lit "Cmp", lit "CHAR", [⟨lit "<", lit "Less"⟩, ⟨lit "&", lit "And"⟩]⟩,
             ⟨lit "701", lit "Txt", lit "STRING", [⟨lit "a>b", lit "Gt"⟩, ⟨lit "\"", lit "DQuote"⟩]⟩]]⟩

theorem C16Enum_witness_valid : wfDictE dictCmp = true := by decide +kernel

/-- the repaired generator: the dictionary's values -/
theorem C16Enum_witness_verbatim : keysOf (gen dictCmp) = some [[lit "<", lit "&"], [lit "a>b", lit "\""]] := by decide +kernel

/-- the escaping generator: HTML entities instead -/
theorem C16Enum_witness_escaped :
    keysOf (genEscaped dictCmp) = some [[lit "&lt;", lit "&amp;"], [lit "a&gt;b", lit "&quot;"]] ∧
    keysOf (genEscaped dictCmp) ≠ keysOf (gen dictCmp) := by decide +kernel

end NasdaqModel.Witness.C16Enum
