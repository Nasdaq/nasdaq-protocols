import NasdaqModel.Model.GenReuse
/-
C17 / C16 — one parsed dictionary handed to several generators: what the model exhibits when every parsed `Group` object keeps
the codegen context it computed the first time (`memo := true` in Model/GenReuse.lean — the semantics of seeded change C16l:
`Group.get_codegen_context` returns `self._context` and appends to `Group.Contexts` only when it computes it) while
`Definitions.get_codegen_context()` still starts every generation from an empty `Group.Contexts`.

The FIRST generator constructed on a parsed dictionary is fine (even tidier: a nested group gets one class instead of two);
every LATER generator on the same object gets an empty groups module while its bodies module still asks for the group classes:
the second package of a valid dictionary does not import.  Parsing the file again for the second generator hides it, and so
does every history of whole invocations.  For the library as it is (`memo := false`) the same histories give the fresh files —
Props/C17Reuse.lean proves that for all histories.
The histories (`histories`) are replayed on the implementation by harness/c17.py on every run (driver op `witness C17Reuse`).
-/
namespace NasdaqModel.Witness.C17Reuse
open NasdaqModel GenHistory GenReuse

def optsG (d : Nat) : GenOpts := ⟨[103], [], true, .out d, true⟩        -- app "g"
def optsH (d : Nat) : GenOpts := ⟨[104], [], true, .out d, true⟩        -- app "h"
def optsS (d : Nat) : GenOpts := ⟨[115], [112], false, .out d, true⟩    -- app "s", prefix "p", no __init__.py
def fixA : FixSpec := ⟨1, 44, [1, 2], [1], [.mk 1 [2] [.mk 2 [1] []]], [1, 2]⟩     -- NoG1 [F2, NoG2 [F1]]
def fixB : FixSpec := ⟨2, 44, [3], [3], [.mk 1 [3] []], [1]⟩                        -- NoG1 [F3]
def fixN : FixSpec := ⟨3, 50, [1], [1], [], []⟩                                      -- no groups
def soupA : SoupSpec := ⟨1, some [(1, 0), (2, 1)], [1, 2], [65, 66]⟩
def groupsG : Str := [102, 105, 120, 95, 103, 95, 103, 114, 111, 117, 112, 115, 46, 112, 121]   -- "fix_g_groups.py"
def groupsH : Str := [102, 105, 120, 95, 104, 95, 103, 114, 111, 117, 112, 115, 46, 112, 121]   -- "fix_h_groups.py"
def mpG : Str := [102, 105, 120, 95, 103]                                                        -- "fix_g"
def mpH : Str := [102, 105, 120, 95, 104]                                                        -- "fix_h"

/-- parse once; a client package; then a server package from the same object -/
def hOneAfterTheOther : List REv :=
  [.parse 0 (.fix fixA), .constructOn 0 0 .itch (optsG 1), .old (.generate 0), .constructOn 1 0 .itch (optsH 2), .old (.generate 1)]
/-- both generators prepared, then written -/
def hPrepareThenWrite : List REv :=
  [.parse 0 (.fix fixA), .constructOn 0 0 .itch (optsG 1), .constructOn 1 0 .itch (optsH 2), .old (.generate 1), .old (.generate 0)]
/-- another dictionary generated in between, a third generator on the first object, into the first one's directory -/
def hOtherBetween : List REv :=
  [.parse 0 (.fix fixA), .constructOn 0 0 .itch (optsG 1), .old (.generate 0), .old (.inv (.fix fixB (optsH 3))),
   .constructOn 1 0 .itch (optsS 2), .old (.generate 1), .constructOn 2 0 .itch (optsG 1), .old (.generate 2)]
/-- a dictionary without groups: nothing to remember -/
def hNoGroups : List REv :=
  [.parse 0 (.fix fixN), .constructOn 0 0 .itch (optsG 1), .old (.generate 0), .constructOn 1 0 .itch (optsH 2), .old (.generate 1)]
/-- soup-app: one `Parser.parse` result, an OUCH and an ITCH generator -/
def hSoup : List REv :=
  [.parse 0 (.soup soupA true), .constructOn 0 0 .ouch (optsG 1), .old (.generate 0), .constructOn 1 0 .itch (optsS 2),
   .old (.generate 1), .old (.generate 0)]

def histories : List (String × List REv) :=
  [("witness-reuse-one-after-the-other", hOneAfterTheOther), ("witness-reuse-prepare-then-write", hPrepareThenWrite),
   ("witness-reuse-other-between", hOtherBetween), ("witness-reuse-no-groups", hNoGroups), ("witness-reuse-soup", hSoup)]

/-- **The second package does not import.**  With remembered contexts generator 1 (same parsed dictionary, app "h", directory 2)
    writes an EMPTY groups module; its bodies module refers to `NoG1_1_List`: AttributeError.  The library as it is writes the
    three classes the invocation writes alone, and the package imports. -/
theorem C17_witness_memo_second_package_has_no_groups :
    let rw := runR current true rw0 (hOneAfterTheOther.take 4)
    (generateR current rw 1).2 = .ok ()
    ∧ read (generateR current rw 1).1.w.fs (.out 2, groupsH) = some [.fixGroups mpH []]
    ∧ importAfterGenerate current rw.w 1 = .error .attr
    ∧ read (generateR current (runR current false rw0 (hOneAfterTheOther.take 4)) 1).1.w.fs (.out 2, groupsH)
        = some [.fixGroups mpH [⟨2, 1, [.field 1]⟩, ⟨2, 2, [.field 1]⟩, ⟨1, 1, [.field 2, .group 2 2]⟩]]
    ∧ read (invoke current w0 (.fix fixA (optsH 2))).1.fs (.out 2, groupsH)
        = some [.fixGroups mpH [⟨2, 1, [.field 1]⟩, ⟨2, 2, [.field 1]⟩, ⟨1, 1, [.field 2, .group 2 2]⟩]]
    ∧ importAfterGenerate current (runR current false rw0 (hOneAfterTheOther.take 4)).w 1 = .ok () := by decide +kernel

/-- The FIRST package is importable but not the fresh one either: one class per nested group instead of two (`NoG2_1` only), so
    the group classes are named differently (what the C16 correspondence notices; the entries reached through them agree). -/
theorem C17_witness_memo_first_package_other_names :
    let rw := runR current true rw0 (hOneAfterTheOther.take 2)
    read (generateR current rw 0).1.w.fs (.out 1, groupsG) = some [.fixGroups mpG [⟨2, 1, [.field 1]⟩, ⟨1, 1, [.field 2, .group 2 1]⟩]]
    ∧ importAfterGenerate current rw.w 0 = .ok ()
    ∧ read (invoke current w0 (.fix fixA (optsG 1))).1.fs (.out 1, groupsG)
        = some [.fixGroups mpG [⟨2, 1, [.field 1]⟩, ⟨2, 2, [.field 1]⟩, ⟨1, 1, [.field 2, .group 2 2]⟩]] := by decide +kernel

/-- It does not matter whether the first generator has written: the context is evaluated when the generator is constructed. -/
theorem C17_witness_memo_prepare_then_write :
    let rw := runR current true rw0 (hPrepareThenWrite.take 3)
    read (generateR current rw 1).1.w.fs (.out 2, groupsH) = some [.fixGroups mpH []]
    ∧ importAfterGenerate current rw.w 1 = .error .attr := by decide +kernel

/-- Hidden from every history of whole invocations and from a second parse of the same file: each parse makes new `Group`
    objects.  (`construct k i` of Model/GenHistory.lean is `parse k; constructOn k k`.) -/
theorem C17_witness_memo_hidden_by_a_second_parse :
    let evs : List REv := [.parse 0 (.fix fixA), .constructOn 0 0 .itch (optsG 1), .old (.generate 0),
                           .parse 1 (.fix fixA), .constructOn 1 1 .itch (optsH 2)]
    importAfterGenerate current (runR current true rw0 evs).w 1 = .ok ()
    ∧ read (generateR current (runR current true rw0 evs) 1).1.w.fs (.out 2, groupsH)
        = some [.fixGroups mpH [⟨2, 1, [.field 1]⟩, ⟨1, 1, [.field 2, .group 2 1]⟩]] := by decide +kernel

/-- Hidden also from dictionaries without groups and from the soup-app generators (their parsed definitions hold no such state). -/
theorem C17_witness_memo_no_groups_and_soup_unaffected :
    (runR current true rw0 hNoGroups).w.fs = (runR current false rw0 hNoGroups).w.fs
    ∧ (runR current true rw0 hSoup).w.fs = (runR current false rw0 hSoup).w.fs := by decide +kernel

/-- the parsed object IS changed by a construction under `memo` (the step lemma of Props/C17Reuse.lean fails) -/
theorem C17_witness_memo_changes_the_parsed_object :
    (match getP (runR current true rw0 (hOneAfterTheOther.take 2)).parsed 0 with
      | some (.fix _ _ rendered) => rendered | _ => none) = some [(1, 1)]
    ∧ (match getP (runR current false rw0 (hOneAfterTheOther.take 2)).parsed 0 with
      | some (.fix _ _ rendered) => rendered | _ => some []) = none := by decide +kernel

end NasdaqModel.Witness.C17Reuse
