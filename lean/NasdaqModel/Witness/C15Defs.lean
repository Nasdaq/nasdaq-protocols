import NasdaqModel.Model.GenSoupApp
import NasdaqModel.Lemmas.ExceptDecide
/-
C15 — a def-reference (`<field def="X"/>`, `<field name="Y" def="X"/>`) never changes the table of reusable definitions.

The model's parser (`GenSoupApp.parse`) resolves every reference against ONE table, computed from the `fielddef-root`
section before the first record is read, and hands that same table to every record and message: that a reference leaves
the table alone is true there by construction.  To be able to SAY it — and to refute the alternative — this file gives
the parser with the table threaded through the file in document order (records, then messages; inside each, element by
element), generic in what a resolved reference does to the table afterwards (`Reg`):

* `regNone`   — nothing: the library (`Props/C15Defs.lean` proves `parseT regNone` is `parse`, the table that comes out
                is the table of the `fielddef-root` section, and elements standing before an element never change what it
                parses to);
* `regRename` — `FieldDef.Definitions[field.name] = field`: every reference registers its (possibly renamed) copy, "so
                that `<field def="bidPrice"/>` may follow `<field name="bidPrice" def="price"/>`" — a seeded change.
                Harmless while the new name is fresh; as soon as the new name is the name of ANOTHER definition that
                definition is replaced for the rest of the file, and what a later `<field def="id"/>` means depends on
                what stands before it.  Refuted below on concrete well-formed specifications by `decide +kernel`.

The driver prints these specifications (`witness C15`) and the harness runs them on the implementation every run.
-/
namespace NasdaqModel.Witness.C15Defs
open NasdaqModel GenSoupApp

/-- what `_parse_field` does to `FieldDef.Definitions` after it resolved a reference to the (renamed) copy `f` -/
abbrev Reg := FieldDefs → FieldDef → FieldDefs

/-- the library: a reference defines nothing -/
def regNone : Reg := fun t _ => t

/-- NOT the library: `FieldDef.Definitions[field.name] = field` -/
def regRename : Reg := fun t f => dictSet t f.name f

/-- `Parser._parse_field`, returning the table as the element leaves it -/
def parseFieldT (reg : Reg) (defs : FieldDefs) (e : FieldEl) : Except Err (FieldDef × FieldDefs) :=
  let plain : FieldDef := ⟨e.name, e.ty, e.ref, e.array, e.length, e.dflt, e.endian⟩
  match e.defn with
  | none => .ok (plain, defs)
  | some d =>
    if d.isEmpty then .ok (plain, defs)
    else match dictGet? defs (some d) with
      | none => .error .key
      | some fd => .ok ({ fd with name := nameOr e.name fd.name }, reg defs { fd with name := nameOr e.name fd.name })

/-- `Parser._parse_fields`: element by element, each against the table the previous one left -/
def parseFieldsT (reg : Reg) : FieldDefs → List FieldEl → Except Err (List FieldDef × FieldDefs)
  | defs, [] => .ok ([], defs)
  | defs, e :: es =>
    match parseFieldT reg defs e with
    | .error x => .error x
    | .ok (f, t) =>
      match parseFieldsT reg t es with
      | .error x => .error x
      | .ok (fs, t') => .ok (f :: fs, t')

/-- `Parser._parse_records` -/
def parseRecordsT (reg : Reg) : FieldDefs → List RecordEl → Except Err (List (Str × RecordDef) × FieldDefs)
  | defs, [] => .ok ([], defs)
  | defs, r :: rs =>
    match parseFieldsT reg defs r.fields with
    | .error x => .error x
    | .ok (fs, t) =>
      match parseRecordsT reg t rs with
      | .error x => .error x
      | .ok (out, t') => .ok ((r.name, ⟨r.name, fs⟩) :: out, t')

/-- `Parser._parse_messages` -/
def parseMessagesT (reg : Reg) (override : Bool) :
    FieldDefs → List (Str × MessageDef) → List MessageEl → Except Err (List (Str × MessageDef) × FieldDefs)
  | defs, acc, [] => .ok (acc, defs)
  | defs, acc, e :: es =>
    match parseFieldsT reg defs e.fields with
    | .error x => .error x
    | .ok (fs, t) =>
      match convertMsgId e.msgId with
      | .error x => .error x
      | .ok id =>
        if (dictGet? acc (msgKey ⟨e.name, id, e.group, fs, e.direction⟩)).isSome && !override then .error .value
        else parseMessagesT reg override t
              (dictSet acc (msgKey ⟨e.name, id, e.group, fs, e.direction⟩) ⟨e.name, id, e.group, fs, e.direction⟩) es

/-- `Parser.parse`: the definitions, and `FieldDef.Definitions` as the end of the file leaves it -/
def parseT (reg : Reg) (override : Bool) (s : Spec) : Except Err (Definitions × FieldDefs) :=
  match parseFieldDefs s.fielddefs with
  | .error x => .error x
  | .ok defs =>
    match parseRecordsT reg defs s.records with
    | .error x => .error x
    | .ok (recs, t1) =>
      match parseMessagesT reg override t1 [] s.messages with
      | .error x => .error x
      | .ok (msgs, t2) =>
        .ok (⟨dictOfList (s.enums.map fun e => (e.name, e)), dictOfList recs, msgs.map (·.2)⟩, t2)

/-- the `generate` entry point on top of the threaded parser -/
def genT (reg : Reg) (impl : Impl) (app : Str) (override : Bool) (s : Spec) : Except Err Module :=
  match parseT reg override s with
  | .error x => .error x
  | .ok (d, _) => genDefs impl app d

def fld (name ty : String) : FieldEl := { name := some (cp name), ty := some (cp ty) }
/-- `<field def="d"/>` -/
def refTo (d : String) : FieldEl := { defn := some (cp d) }
/-- `<field name="n" def="d"/>` -/
def refAs (n d : String) : FieldEl := { name := some (cp n), defn := some (cp d) }

def ack : MessageEl := ⟨cp "Ack", cp "A", none, some (cp "outgoing"), [refTo "id", refTo "orderId"]⟩
/-- uses `orderId` under the name `id` — the name of another definition -/
def cancel : MessageEl := ⟨cp "Cancel", cp "C", none, some (cp "outgoing"), [refAs "id" "orderId", refAs "open" "quantity"]⟩
def reject : MessageEl := ⟨cp "Reject", cp "R", none, some (cp "outgoing"), [refTo "id", fld "reason" "uint_2", refTo "quantity"]⟩

def defs3 : List FieldEl := [fld "orderId" "uint_8", fld "id" "uint_4", fld "quantity" "uint_4_be"]

/-- definitions `orderId` (8 bytes) and `id` (4 bytes); `Cancel` stands between two messages that use `id` itself -/
def shadow (msgs : List MessageEl := [ack, cancel, reject]) : Spec :=
  { enums := [], fielddefs := defs3, records := [], messages := msgs }

/-- the renaming reference inside a RECORD, the definition of that name referenced (renamed) before and after it in the
    same record, as it is in a later record and in a message; one definition is an array with a big-endian count, one is
    named like the record -/
def shadowInRecord : Spec where
  enums := [⟨cp "Side", some (cp "char_ascii"), [⟨cp "Buy", cp "B"⟩, ⟨cp "Sell", cp "S"⟩]⟩]
  fielddefs := [{ fld "px" "int_8_be" with dflt := some (cp "-1") },
                { fld "Leg" "uint_2" with array := some (cp "true"), endian := some (cp "big") },
                { fld "side" "enum:Side" with dflt := some (cp "S") }]
  records := [⟨cp "Leg", [refAs "before" "Leg", refAs "Leg" "px", refAs "after" "Leg", refAs "Side" "side"]⟩,
              ⟨cp "Strategy", [refTo "Leg", refAs "first" "px", { fld "legs" "record:Leg" with array := some (cp "true") }]⟩]
  messages := [⟨cp "Quote", cp "81", none, some (cp "incoming"),
                 [refTo "px", refAs "side" "Leg", refTo "Leg", fld "one" "record:Leg", refAs "Side" "side"]⟩]

def tysOf (sch : Schema) : List (List Ty) :=
  sch.records.map (fun r => r.fields.map (·.ty)) ++ sch.messages.map (fun g => g.fields.map (·.ty))

/-- the library's generator: well-formed, the module is what the specification denotes, and `id` by reference is 4 bytes
    in `Ack` and in `Reject`, 8 bytes (the renamed `orderId`) in `Cancel` -/
theorem C15Defs_regress_shadow :
    wfSpec .itch shadow = true ∧ wfSpec .ouch shadow = true ∧ wfSpec .sqf shadowInRecord = true
    ∧ (gen .itch (cp "app") true shadow >>= evalModule) = denote .itch shadow
    ∧ (gen .sqf (cp "app") false shadowInRecord >>= evalModule) = denote .sqf shadowInRecord
    ∧ (∃ sch, (gen .itch (cp "app") true shadow >>= evalModule) = .ok sch
        ∧ tysOf sch = [[.prim .uint4, .prim .uint8], [.prim .uint8, .prim .uint4be], [.prim .uint4, .prim .uint2, .prim .uint4be]]) := by
  decide +kernel

/-- with the table threaded and nothing registered the generator is the library's (on these; for every specification:
    `Props/C15Defs.lean`) -/
theorem C15Defs_regress_threaded_none :
    genT regNone .itch (cp "app") true shadow = gen .itch (cp "app") true shadow
    ∧ genT regNone .sqf (cp "app") false shadowInRecord = gen .sqf (cp "app") false shadowInRecord := by
  decide +kernel

/-- a reference that registers itself: `Reject.id`, declared `<field def="id"/>`, is generated with the type of `orderId`
    (8 bytes instead of 4) because `Cancel` stands before it; `Ack.id`, before `Cancel`, is right -/
theorem C15Defs_witness_registering_reference_differs :
    (genT regRename .itch (cp "app") true shadow >>= evalModule) ≠ denote .itch shadow
    ∧ (∃ sch, (genT regRename .itch (cp "app") true shadow >>= evalModule) = .ok sch
        ∧ tysOf sch = [[.prim .uint4, .prim .uint8], [.prim .uint8, .prim .uint4be], [.prim .uint8, .prim .uint2, .prim .uint4be]]) := by
  decide +kernel

/-- … and the result depends on the ORDER of the messages in the file: with `Reject` before `Cancel` the same three
    elements give the specified classes.  The specification's meaning does not depend on it (last clause; for every
    specification: `C15Defs_field_meaning_is_local`). -/
theorem C15Defs_witness_order_dependent :
    (genT regRename .itch (cp "app") true (shadow [ack, reject, cancel]) >>= evalModule) = denote .itch (shadow [ack, reject, cancel])
    ∧ (∃ a b, (genT regRename .itch (cp "app") true (shadow [ack, reject, cancel]) >>= evalModule) = .ok a
        ∧ (genT regRename .itch (cp "app") true (shadow [ack, cancel, reject]) >>= evalModule) = .ok b
        ∧ a.messages.filter (·.name == cp "Reject") ≠ b.messages.filter (·.name == cp "Reject"))
    ∧ (∃ a b, denote .itch (shadow [ack, reject, cancel]) = .ok a ∧ denote .itch (shadow [ack, cancel, reject]) = .ok b
        ∧ a.messages.filter (·.name == cp "Reject") = b.messages.filter (·.name == cp "Reject")) := by
  decide +kernel

/-- the same inside a record: after `<field name="Leg" def="px"/>` every `def="Leg"` — later in the same record, in the
    next record, in the message — is an 8-byte integer with default −1 instead of the array of `uint_2`; and the message's
    own `<field name="side" def="Leg"/>` replaces the definition `side` for the `<field name="Side" def="side"/>` after it -/
theorem C15Defs_witness_in_record :
    (genT regRename .sqf (cp "app") false shadowInRecord >>= evalModule) ≠ denote .sqf shadowInRecord
    ∧ (∃ sch, denote .sqf shadowInRecord = .ok sch
        ∧ tysOf sch = [[.array (.prim .uint2) (.prim .uint2be), .prim .int8be, .array (.prim .uint2) (.prim .uint2be), .prim .charAscii],
                       [.array (.prim .uint2) (.prim .uint2be), .prim .int8be, .array (.record (cp "Leg")) (.prim .uint2)],
                       [.prim .int8be, .array (.prim .uint2) (.prim .uint2be), .array (.prim .uint2) (.prim .uint2be),
                        .record (cp "Leg"), .prim .charAscii]])
    ∧ (∃ sch, (genT regRename .sqf (cp "app") false shadowInRecord >>= evalModule) = .ok sch
        ∧ tysOf sch = [[.array (.prim .uint2) (.prim .uint2be), .prim .int8be, .prim .int8be, .prim .charAscii],
                       [.prim .int8be, .prim .int8be, .array (.record (cp "Leg")) (.prim .uint2)],
                       [.prim .int8be, .prim .int8be, .prim .int8be, .record (cp "Leg"), .prim .int8be]]) := by
  decide +kernel

/-- new names that are fresh (`bidPrice` / `askPrice` of one `price`: every specification of the library's suite): the
    registering variant generates the same module — the reason a suite without colliding names cannot tell them apart -/
def freshNames : Spec where
  enums := []
  fielddefs := [fld "price" "int_8", fld "size" "uint_4"]
  records := [⟨cp "Level", [refAs "bidPrice" "price", refAs "askPrice" "price", refTo "size"]⟩]
  messages := [⟨cp "Top", cp "T", none, some (cp "outgoing"),
                 [refTo "price", refAs "last" "price", refTo "size", fld "level" "record:Level"]⟩]

theorem C15Defs_registering_agrees_on_fresh_names :
    wfSpec .itch freshNames = true
    ∧ genT regRename .itch (cp "app") true freshNames = gen .itch (cp "app") true freshNames := by
  decide +kernel

end NasdaqModel.Witness.C15Defs
