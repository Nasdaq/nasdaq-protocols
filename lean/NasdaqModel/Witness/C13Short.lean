import NasdaqModel.Props.C13Short
/-
C13, shortest wire forms - the decoder variant that does NOT round-trip, as decided counterexamples.

If `GroupContainer.from_bytes` refuses a count as soon as `count * L` exceeds the number of bytes that follow the count field
("the announced instances cannot fit"), with `L = 4 = len(b'1=1' + SOH)`, it refuses messages the library itself wrote: an instance
whose first field has a one-digit tag and carries the empty text is THREE bytes (`Props/C13Short.lean`: `C13_short_field_bytes`,
`C13_short_instance_bytes`), and a message may end in such instances.  `containerFromBytesG L` below is `Fix.containerFromBytes`
with that test in front of the instance loop; everything else is the model of the code as it is.  The messages are those of
`Props/C13Short.lean` (inside `wfDef` / `wfMsg`: instances of `C13_statement`; `corpus/C13/short-*.json`, replayed on the
implementation first in every run).  With `L = 3` - the true minimum - the test never fires on them.
-/
namespace NasdaqModel.Witness.C13Short
open NasdaqModel Py Fix Props.C13Short

/-- `if count.value * L > len(bytes_): raise ValueError` in front of the loop of `GroupContainer.from_bytes` -/
def containerFromBytesG (L : Nat) (tbl : Table) (bs : Bytes) : Except Err (Nat × Val) := do
  let c ← fieldFromBytes .int bs
  match c.2 with
  | .int n =>
      if n * (L : Int) > ((bs.drop c.1).length : Int) then .error .value
      else do
        let r ← grpLoop tbl n.toNat (bs.drop c.1) c.1 []
        if (r.2.length : Int) ≠ n then .error .value
        else pure (r.1, .grp r.2)
  | _ => .error .other

mutual
def entryDecG (L : Nat) : Entry → Bytes → Except Err (Nat × Val)
  | .field _ ty _, bs => fieldFromBytes ty bs
  | .group _ sub _, bs => containerFromBytesG L (tableOfG L sub) bs
def tableOfG (L : Nat) : List Entry → Table
  | [] => []
  | e :: es => (e.tag, fun bs => entryDecG L e bs) :: tableOfG L es
end

def msgFromBytesG (L : Nat) (d : MsgDef) (bs : Bytes) : Except Err (Nat × Msg) := do
  let h ← segFromBytes (tableOfG L d.hdr) bs
  let bs1 := bs.drop h.1
  let b ← segFromBytes (tableOfG L d.body) bs1
  let bs2 := bs1.drop b.1
  let t ← segFromBytes (tableOfG L d.trl) bs2
  pure (h.1 + b.1 + t.1, { hdr := h.2, body := b.2, trl := t.2 })

/-- encode with the model of the code, decode with the guarded container: the error, or `none` when it decodes to the message -/
def decodeErrG (L : Nat) (d : MsgDef) (m : Msg) : Option Err :=
  match encMsg d m with
  | .ok bs => (match msgFromBytesG L d bs with
               | .ok r => if r.1 == bs.length && pyEq r.2 (canonMsg d m) then none else some .other
               | .error e => some e)
  | .error e => some e

/-- the messages are inside the property's quantifier -/
theorem C13_witness_short_wf :
    wfDef (shortDef 78 1 allocRest) = true ∧ wfMsg (shortDef 78 1 allocRest) (shortMsg 78 1 1) = true ∧
    wfMsg (shortDef 78 1 allocRest) (shortMsg 78 1 3) = true := by decide +kernel

/-- `35=S|78=1|1=|` : one instance, three bytes follow the count, `1 * 4 > 3` -/
theorem C13_witness_minlen4_one : decodeErrG 4 (shortDef 78 1 allocRest) (shortMsg 78 1 1) = some .value := by decide +kernel
theorem C13_witness_minlen4_three : decodeErrG 4 (shortDef 78 1 allocRest) (shortMsg 78 1 3) = some .value := by decide +kernel
/-- the inner group closing the last outer instance: `…|78=2|1=|1=|` -/
theorem C13_witness_minlen4_nested : decodeErrG 4 nestedDef nestedMsg = some .value := by decide +kernel
/-- nine minimal instances in front of the 7-byte trailer `10=077|` : `9 * 4 > 9 * 3 + 7` -/
theorem C13_witness_minlen4_nine_before_checksum : decodeErrG 4 nestedDef nineMsg = some .value := by decide +kernel
/-- seven minimal instances in front of the same trailer pass (`7 * 4 ≤ 7 * 3 + 7`): the number of instances matters, not only their shape -/
theorem C13_witness_minlen4_seven_before_checksum_unaffected :
    decodeErrG 4 nestedDef { nineMsg with body := [(555, .grp [[(600, .str [88]), (78, .grp (List.replicate 7 [(1, .str [])]))]])] }
      = none := by decide +kernel

/-- with the true minimum, three bytes, the test never fires on these messages -/
theorem C13_witness_minlen3_unaffected :
    decodeErrG 3 (shortDef 78 1 allocRest) (shortMsg 78 1 1) = none ∧ decodeErrG 3 (shortDef 78 1 allocRest) (shortMsg 78 1 3) = none ∧
    decodeErrG 3 nestedDef nestedMsg = none ∧ decodeErrG 3 nestedDef nineMsg = none := by decide +kernel

/-- a guard of 4 is invisible on instances of four bytes or more: one character in the value (`1=a|`), a two-digit tag, the
    witness message of `Witness/C13.lean` (why ordinary dictionaries do not notice it) -/
theorem C13_witness_minlen4_four_byte_instances_unaffected :
    decodeErrG 4 (shortDef 78 1 allocRest) { shortMsg 78 1 1 with body := [(78, .grp [[(1, .str [97])]])] } = none ∧
    decodeErrG 4 (shortDef 78 11 allocRest) (shortMsg 78 11 3) = none ∧
    decodeErrG 4 witnessDef witnessMsg = none := by decide +kernel

/-- the guard-free decoder of the model is `L = 0` -/
theorem C13_witness_guard0_is_model (tbl : Table) (bs : Bytes) : containerFromBytesG 0 tbl bs = containerFromBytes tbl bs := by
  simp only [containerFromBytesG, containerFromBytes]
  cases fieldFromBytes .int bs with
  | error e => rfl
  | ok c =>
    simp only [ok_bind]
    cases c.2 with
    | int n =>
      have : ¬ (n * ((0 : Nat) : Int) > ((bs.drop c.1).length : Int)) := by simp
      simp only [this, if_false]
    | flt _ => rfl
    | bool _ => rfl
    | str _ => rfl
    | grp _ => rfl

end NasdaqModel.Witness.C13Short
