import NasdaqModel.Props.C17Names
/-
C17, names that occur twice — what seeded change C17l does to `__all__` and why no function of (spec, options) describes it.

C17l computes the export list as `names` when the names of the enum / record / message definitions are pairwise distinct, and as
`list(set(names))` otherwise: the distinct names in the iteration order of a Python set of `str`, which is the order of their
hashes — salted per interpreter (`PYTHONHASHSEED`).  All the text model can say about such a list is WHICH names it holds
(`c17lMayWrite`: any arrangement of the distinct names).  On the request/response specification of `Props/C17Names.lean`:

  * no arrangement is the list the unchanged generator writes (`C17_witness_set_listing_is_never_the_spec_order`): the
    correspondence `gen.exports` of harness/c17.py differs on every such spec, in every interpreter;
  * two arrangements are different files (`C17_witness_set_listing_not_a_function_of_the_spec`): the two interpreters of the
    demonstration (hash seeds 1 and 2) wrote `'EnterOrder', …` and `'OrderExecuted', …` — "generating the same spec twice in
    separate processes gives identical files" fails, which the check observes by repeating every fresh single run under another
    hash seed.
The corpus histories corpus/C17/n1-*.json, n2-*.json and the `DUPS` spec family replay such specifications on the implementation
on every run, where the four interpreters must write the same bytes.
-/
namespace NasdaqModel.Witness.C17Names
open NasdaqModel GenSoupApp Props.C17Names

/-- first occurrences, in order -/
def distinctNames : List Str → List Str
  | [] => []
  | n :: ns => n :: (distinctNames ns).filter (· != n)

/-- what C17l's `Generator._exported_names` may hand to the template for the names `ns` of a specification -/
def c17lMayWrite (ns out : List Str) : Prop :=
  if hasDup ns then out.Perm (distinctNames ns) else out = ns

/-- the names of the definitions of the request / response specification: `AccountQuery` twice -/
def names : List Str := classNames exRequestResponse

example : hasDup names = true := by decide +kernel
example : distinctNames names = [cp "Side", cp "Leg", cp "EnterOrder", cp "AccountQuery"] := by decide +kernel

/-- whatever order the set has in an interpreter, the list is not the one the unchanged generator writes (one name is missing) -/
theorem C17_witness_set_listing_is_never_the_spec_order (out : List Str) (h : c17lMayWrite names out) :
    (gen .ouch (cp "oe") true exRequestResponse).map (·.exports) ≠ .ok (fixedExports ++ out) := by
  have hd : hasDup names = true := by decide +kernel
  simp only [c17lMayWrite, hd, if_true] at h
  have hl : out.length = 4 := by rw [h.length_eq]; decide +kernel
  have hg : (gen .ouch (cp "oe") true exRequestResponse).map (·.exports)
      = .ok (fixedExports ++ [cp "Side", cp "Leg", cp "EnterOrder", cp "AccountQuery", cp "AccountQuery"]) := by decide +kernel
  rw [hg]
  intro he
  injection he with he
  have := congrArg List.length he
  simp [fixedExports, hl] at this

/-- and it is not a function of the specification: two interpreters may write two different lists -/
theorem C17_witness_set_listing_not_a_function_of_the_spec :
    ∃ out1 out2, c17lMayWrite names out1 ∧ c17lMayWrite names out2 ∧ out1 ≠ out2 := by
  refine ⟨distinctNames names, (distinctNames names).reverse, ?_, ?_, by decide +kernel⟩
  · have hd : hasDup names = true := by decide +kernel
    simp only [c17lMayWrite, hd, if_true]
    exact List.Perm.refl _
  · have hd : hasDup names = true := by decide +kernel
    simp only [c17lMayWrite, hd, if_true]
    exact List.reverse_perm _

/-- with pairwise distinct names C17l writes what the unchanged generator writes (why no test of the suite notices) -/
theorem C17_witness_distinct_names_unchanged (ns out : List Str) (hn : hasDup ns = false) (h : c17lMayWrite ns out) : out = ns := by
  simpa [c17lMayWrite, hn] using h

end NasdaqModel.Witness.C17Names
