import NasdaqModel.Model.HeapD
/-
C18, declared defaults - the ONE-LEVEL copy, as decided counterexamples.

(1) A declared default on a record-typed field honoured by `field.type(dict(field.default_value.values))`: every instance gets a record
    of its own, but the lists and records held INSIDE the default record are the class-level objects themselves.  The state after two
    `Book()` is written out cell by cell below; the operations are those of `Model/Heap.lean`.  `m1.top.sizes.append(9)` is about
    instance 0 and changes what instance 1 reads and encodes.
(2) `get_field_value` handing out `list(default)` for a two-dimensional array default (the code before /repo c3c2285,
    fixes/C18-nested-list-default.md): the outer list is new on every read, the ROWS are the class-level row objects.
    `a.cells[0].append(9)` changes what every instance, existing or created later, reads.
Under the deep copy of the code as it is both histories change nobody: `Props/C18Defaults.lean` (`C18D_frame`,
`C18D_temporary_is_nobodys`), shown here on the same histories.  The histories are `corpus/C18/declared-record-default.json` and
`corpus/C18/declared-2d-default-rows.json`, replayed on the implementation first in every run.
-/
namespace NasdaqModel.Witness.C18Defaults
open NasdaqModel Heap HeapD

/-! ### (1) one-level copy of a record default -/

/-- class 0 `Depth` (price: int_4, sizes: array of int_4), class 1 message `Book` 'B' (book: int_4, top: Depth) -/
def S1 : Schema :=
  ⟨true, [.binRec Option.none [.int ⟨4, true, false⟩ Option.none, .arr (.int ⟨4, true, false⟩) ⟨2, false, false⟩],
          .binRec (some 66) [.int ⟨4, true, false⟩ Option.none, .recd 0]]⟩

/-- after `m1, m2 = Book(), Book()` with `top` built as `Depth(dict(DEFAULT.values))`, DEFAULT = `Depth({'price': 5, 'sizes': [1, 2]})`:
    cell 1 is the class-level list `[1, 2]`, cell 2 the class-level default record; cells 3/4 and 5/6 are the `top` record and the body
    of instance 0 and of instance 1 - both `top` records hold the reference to cell 1 -/
def shallowState : Heap :=
  { cells := [⟨.cls, .list []⟩,
              ⟨.cls, .list [.int 1, .int 2]⟩,
              ⟨.cls, .obj 0 [(0, .int 5), (1, .ref 1)]⟩,
              ⟨.inst 0, .obj 0 [(0, .int 5), (1, .ref 1)]⟩, ⟨.inst 0, .obj 1 [(1, .ref 3)]⟩,
              ⟨.inst 1, .obj 0 [(0, .int 5), (1, .ref 1)]⟩, ⟨.inst 1, .obj 1 [(1, .ref 5)]⟩],
    insts := [(1, 4), (1, 6)], bufs := [] }

def badOp : Op := .append 0 [.fld 1, .fld 1] (.int 9)          -- m1.top.sizes.append(9)

theorem C18_witness_record_default_target : badOp.target shallowState = 0 := by decide +kernel

/-- plain assignment through the nested record stays private (the record itself was copied) … -/
theorem C18_witness_record_default_scalar_private :
    encodeInst S1 (stepK S1 shallowState (.assign 0 [.fld 1] 0 (.int 77))) 1 = encodeInst S1 shallowState 1 := by decide +kernel

/-- … the in-place change of the list inside it is not: it writes into a class-level cell, instance 1 encodes `sizes = [1, 2, 9]` -/
theorem C18_witness_record_default_shared :
    writeOwner S1 shallowState badOp = some Owner.cls ∧
    encodeInst S1 shallowState 1 = .ok [66, 0, 0, 0, 0, 5, 0, 0, 0, 2, 0, 1, 0, 0, 0, 2, 0, 0, 0] ∧
    encodeInst S1 (stepK S1 shallowState badOp) 1 = .ok [66, 0, 0, 0, 0, 5, 0, 0, 0, 3, 0, 1, 0, 0, 0, 2, 0, 0, 0, 9, 0, 0, 0] := by
  decide +kernel

/-- the code as it is ignores the default of a record-typed field: every `Book()` has a new, empty `Depth`; `sizes` of it was never
    assigned, what it reads as is the caller's own list, and the same operation changes NO instance -/
theorem C18_witness_record_default_as_is :
    let H := run S1 init [.new 1, .new 1]
    encodeInst S1 (stepK S1 H badOp) 1 = encodeInst S1 H 1 ∧ encodeInst S1 (stepK S1 H badOp) 0 = encodeInst S1 H 0 ∧
    encodeInst S1 H 1 = .ok [66, 0, 0, 0, 0, 0, 0, 0, 0, 0, 0] := by
  decide +kernel

/-! ### (2) one-level copy of a list default with rows -/

/-- the class-level default `[[1, 2], [3]]` as cells: the rows are cells 1 and 2, the outer list cell 3 -/
def rowCells : Cells :=
  [⟨.cls, .list []⟩, ⟨.cls, .list [.int 1, .int 2]⟩, ⟨.cls, .list [.int 3]⟩, ⟨.cls, .list [.ref 1, .ref 2]⟩]

/-- `list(default)`: what a read of the never-assigned field hands out - a new outer list (a value of the caller) holding the very
    row objects of the class-level default -/
def shallowRead (h : Cells) : List Val :=
  match h[3]? with
  | some c => (match c.body with
    | .list rows => rows
    | _ => [])
  | Option.none => []

mutual
/-- an observation written out as a list of numbers (`DVal` has no decidable equality of its own) -/
def flat : DVal → List Int
  | .int i => [0, i]
  | .str s => [1, (s.length : Int)] ++ s.map Int.ofNat
  | .none => [2]
  | .list xs => 3 :: flatL xs ++ [-3]
  | .obj c sk sv dk dv => [4, (c : Int)] ++ sk.map Int.ofNat ++ flatL sv ++ [5] ++ dk.map Int.ofNat ++ flatL dv ++ [-4]
  | .bytes bs => 6 :: bs.map Int.ofNat
  | .cut => [7]
def flatL : List DVal → List Int
  | [] => []
  | x :: xs => flat x ++ flatL xs
end

/-- what ANY instance, existing or created later, reads for the field -/
def readsRows (h : Cells) : List Int := flatL ((shallowRead h).map (deref S1 3 h))

/-- `x = a.cells; x[i].append(v)` -/
def appendToRow (h : Cells) (i : Nat) (v : Val) : Cells :=
  match (shallowRead h)[i]? with
  | some (.ref r) =>
    (match h[r]? with
     | some c => (match c.body with
       | .list xs => setBody h r (.list (xs ++ [v]))
       | _ => h)
     | Option.none => h)
  | _ => h

theorem C18_witness_rows_shared :
    readsRows rowCells = flatL [.list [.int 1, .int 2], .list [.int 3]] ∧
    readsRows (appendToRow rowCells 0 (.int 9)) = flatL [.list [.int 1, .int 2, .int 9], .list [.int 3]] := by decide +kernel

/-- the deep copy of the code as it is (`Model/HeapD.lean`): the same history leaves the state as it was, and the next read of any
    instance sees the declared default -/
def S2 : Schema := ⟨true, [.binRec (some 65) [.int ⟨2, false, false⟩ Option.none, .arr (.int ⟨4, true, false⟩) ⟨2, false, false⟩]]⟩
def D2 : Defaults := ⟨[((0, 1), .list [.list [.int 1, .int 2], .list [.int 3]])]⟩
def rowOps : List Op := [.new 0, .new 0, .append 0 [.fld 1, .idx 0] (.int 9), .new 0]

def viewsD (H : Heap) : List (Option (List Int)) := [0, 1, 2].map (fun i => (viewD S2 D2 4 H i).map flat)

theorem C18_witness_rows_deep_copy :
    viewsD (runD S2 D2 init rowOps) = viewsD (runD S2 D2 init [.new 0, .new 0, .new 0]) ∧
    (viewD S2 D2 4 (runD S2 D2 init rowOps) 1).map flat =
      some (flat (.obj 0 [] [] [0, 1] [.int 0, .list [.list [.int 1, .int 2], .list [.int 3]]])) ∧
    (match targetD S2 D2 (runD S2 D2 init rowOps) 1 [.fld 1, .idx 0] with
     | .ok (.tmp (.list [.int 1, .int 2])) => true
     | _ => false) = true := by decide +kernel

end NasdaqModel.Witness.C18Defaults
