import NasdaqModel.Model.SeqMulti
/-
C10, several sessions — what goes wrong when the sessions are NOT a product: the semantics `SeqNum.shStep` (Model/SeqMulti.lean; one
default `itertools.count(1)` created at class definition and shared by every FIX session whose logon states no MsgSeqNum) on the
history `SeqNum.witnessShared`: two sessions created without `sequence=` log on without stating a number and send alternately.
The driver prints this very term (`witness C10Multi`) and the harness replays it on the real sessions every run: the code as it is
writes 0, 1, 2 on the first and 0, 1 on the second connection.
-/
namespace NasdaqModel.Witness.C10Multi
open NasdaqModel SeqNum

/-- two sessions created without `sequence=`; the class-level counter yields 1 next -/
def shared2 : ShWorld := { shared := 1, sess := [shNew none, shNew none] }

/-- the frames on the two connections carry 1, 3, 5 and 2, 4: every message of one session makes the other skip a number -/
theorem C10Multi_witness_shared_gap :
    (shWorldRun shared2 witnessShared).sess.map (·.frames) = [[1, 3, 5], [2, 4]] := by decide +kernel

/-- hence "the k-th frame after the logon carries the logon's number + k" is false of session 0 (logon carried 1, next frame 3) … -/
theorem C10Multi_witness_shared_kth_fails :
    ¬ (∀ s ∈ (shWorldRun shared2 witnessShared).sess, ∀ k, (hk : k < s.frames.length) → s.frames[k] = s.frames[0]! + k) := by
  intro h
  have := h ⟨.shared, true, [1, 3, 5]⟩ (by decide) 1 (by decide)
  revert this
  decide +kernel

/-- … although each of the two sessions ALONE numbers its frames contiguously under the same semantics (which is why no
    single-session history, whatever its sends and heartbeats, shows the difference) -/
theorem C10Multi_witness_shared_alone_contiguous :
    (shWorldRun shared2 (witnessShared.filter (·.1 == 0))).sess.map (·.frames) = [[1, 2, 3], []] ∧
    (shWorldRun shared2 (witnessShared.filter (·.1 == 1))).sess.map (·.frames) = [[], [1, 2]] := by decide +kernel

/-- the shared semantics is not a product: what session 0 writes depends on whether session 1's operations happen in between
    (for the code as it is this is `C10Multi_projection`) -/
theorem C10Multi_witness_shared_not_a_product :
    ((shWorldRun shared2 witnessShared).sess[0]?).map (·.frames)
      ≠ ((shWorldRun shared2 (witnessShared.filter (·.1 == 0))).sess[0]?).map (·.frames) := by decide +kernel

/-- sessions whose logon states a number, or that were created with `sequence=n`, are untouched by the shared default — the
    difference needs both ingredients on at least two sessions -/
theorem C10Multi_witness_shared_needs_unstated :
    (shWorldRun shared2 [(0, .login (some 5) ⟨true, true⟩), (1, .login none ⟨true, true⟩), (0, .send ⟨true, true⟩),
      (1, .send ⟨true, true⟩), (0, .send ⟨true, true⟩)]).sess.map (·.frames) = [[5, 6, 7], [1, 2]] ∧
    (shWorldRun { shared := 1, sess := [shNew (some 100), shNew none] }
      [(0, .login none ⟨true, true⟩), (1, .login none ⟨true, true⟩), (0, .send ⟨true, true⟩),
       (1, .send ⟨true, true⟩), (0, .send ⟨true, true⟩)]).sess.map (·.frames) = [[100, 101, 102], [1, 2]] := by decide +kernel

/-- the code as it is (the product of `Model/Seq` states; a logon without a number reads 0) on the same history: 0, 1, 2 and 0, 1 -/
theorem C10Multi_witness_code_contiguous :
    worldRun [.fix fixInit, .fix fixInit] (witnessShared.map fun ev => (ev.1, ev.2.toOp))
      = [.fix ⟨some 3, [0, 1, 2]⟩, .fix ⟨some 2, [0, 1]⟩] := by decide +kernel

end NasdaqModel.Witness.C10Multi
