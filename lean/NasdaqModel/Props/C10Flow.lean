import NasdaqModel.Props.C10
import NasdaqModel.Model.SeqFlow
/-
C10 under transport flow control — "the k-th frame written carries logon MsgSeqNum + k under ANY interleaving of application sends
and automatic heartbeats; the soup counter equals initial + sequenced packets sent" on a transport that tells the session to stop
writing and, later, to go on.

`Model/SeqFlow.lean` adds the transport's two callbacks (`pause_writing()`, `resume_writing()`: inherited from
`asyncio.BaseProtocol`, empty bodies — the session overrides neither) to the histories of `Model/Seq.lean`, at arbitrary positions.

* the callbacks change nothing in the state C10 speaks about and `send_msg` does not consult the flag; erasing them from any
  history leaves the run unchanged (`C10Flow_fix_erasable`, `C10Flow_soup_erasable`) — this is what lets the harness give the
  model the observed history with the callbacks erased;
* hence the k-th frame written since the logon carries logon MsgSeqNum + k and the counter is logon + frames written for every
  history with callbacks anywhere — sends of every kind and heartbeats falling into the paused window included (`C10Flow_fix_kth`);
  the soup counter equals initial + sequenced packets written (`C10Flow_soup_counts`);
* frames written while paused are frames (`C10Flow_paused_frames_are_frames`): they are in the write log the clause quantifies
  over, each with the number it consumed;
* sensitivity: a write gate placed BEHIND the draw of the number (skip heartbeats while paused) breaks the statement on a
  five-step history (`C10Flow_gate_behind_draw_breaks`).
-/
namespace NasdaqModel.Props.C10Flow
open NasdaqModel NasdaqModel.SeqNum NasdaqModel.SeqFlow NasdaqModel.Props.C10

private theorem frun_cons (x : FFix) (e : FFixOp) (ops : List FFixOp) : x.run (e :: ops) = (x.step e).run ops := rfl
private theorem fixRunR_cons (s : FixSt) (op : FixOp) (ops : List FixOp) :
    fixRunR s (op :: ops) = fixRunR (fixStepR s op).1 ops := rfl

/-- `pause_writing()` and `resume_writing()` leave counter and write log exactly as they were -/
theorem C10Flow_callbacks_noop (x : FFix) : (x.step .pauseWriting).s = x.s ∧ (x.step .resumeWriting).s = x.s := ⟨rfl, rfl⟩

/-- an operation of the session is the same operation whether or not the transport has asked for a pause -/
theorem C10Flow_flag_not_consulted (x : FFix) (op : FixOp) : (x.step (.base op)).s = (fixStepR x.s op).1 := rfl

/-- **C10Flow_fix_erasable.**  Deleting the transport's flow-control callbacks from a history changes nothing: the same counter,
    the same frames with the same numbers. -/
theorem C10Flow_fix_erasable (x : FFix) (ops : List FFixOp) : (x.run ops).s = fixRunR x.s (baseOnly ops) := by
  induction ops generalizing x with
  | nil => rfl
  | cons e ops ih =>
    rw [frun_cons, ih]
    cases e <;> rfl

private theorem baseOnly_append (a b : List FFixOp) : baseOnly (a ++ b) = baseOnly a ++ baseOnly b := by
  induction a with
  | nil => rfl
  | cons e rest ih => cases e <;> simp [baseOnly, ih]

private theorem noLogin_baseOnly (ops : List FFixOp) (h : noLoginF ops = true) : noLogin (baseOnly ops) = true := by
  induction ops with
  | nil => rfl
  | cons e rest ih =>
    simp only [noLoginF, List.all_cons, Bool.and_eq_true] at h
    have ih' := ih (by simpa [noLoginF] using h.2)
    cases e with
    | base op =>
      simp only [baseOnly, noLogin, List.all_cons, Bool.and_eq_true]
      exact ⟨by simpa [FFixOp.isLogin] using h.1, by simpa [noLogin] using ih'⟩
    | pauseWriting | resumeWriting => simpa [baseOnly] using ih'

/-- **C10Flow_fix_kth.**  For every history `sends before the logon ++ logon ++ {application sends of every kind, rejected or
    unencodable ones included, explicit and timer-driven heartbeats}` in any interleaving, with `pause_writing()` /
    `resume_writing()` calls at ANY positions (before the logon, between any two operations, never resumed), the k-th frame written
    since the logon carries logon MsgSeqNum + k and the counter is logon + frames written. -/
theorem C10Flow_fix_kth (pre ops : List FFixOp) (q : Int) (m : FixMsg)
    (hpre : noLoginF pre = true) (hops : noLoginF ops = true) :
    (∀ k, (hk : k < (FFix.init.run (pre ++ .base (.login q m) :: ops)).s.frames.length) →
        (FFix.init.run (pre ++ .base (.login q m) :: ops)).s.frames[k] = q + k) ∧
    (FFix.init.run (pre ++ .base (.login q m) :: ops)).s.next
      = some (q + (FFix.init.run (pre ++ .base (.login q m) :: ops)).s.frames.length) := by
  have e : (FFix.init.run (pre ++ .base (.login q m) :: ops)).s
      = fixRunR fixInit (baseOnly pre ++ .login q m :: baseOnly ops) := by
    rw [C10Flow_fix_erasable, baseOnly_append]
    rfl
  rw [e]
  exact C10_fix_kth_repaired _ _ q m (noLogin_baseOnly pre hpre) (noLogin_baseOnly ops hops)

private theorem fixSendR_frames (s : FixSt) (m : FixMsg) :
    (fixSendR s m).1.frames = s.frames ++ writtenTag (fixSendR s m).2 := by
  unfold fixSendR
  by_cases hv : m.bodyValid
  · cases hn : s.next with
    | none => simp [hv, writtenTag]
    | some n =>
      by_cases he : m.encodable <;> simp [hv, he, writtenTag]
  · simp [hv, writtenTag]

private theorem fixStepR_frames (s : FixSt) (op : FixOp) :
    (fixStepR s op).1.frames = s.frames ++ writtenTag (fixStepR s op).2 := by
  cases op with
  | login q m => exact fixSendR_frames { s with next := some q } m
  | send m | heartbeat m => exact fixSendR_frames s m

private theorem step_paused_sub (x : FFix) (e : FFixOp) (h : ∀ n ∈ x.pausedFrames, n ∈ x.s.frames) :
    ∀ n ∈ (x.step e).pausedFrames, n ∈ (x.step e).s.frames := by
  cases e with
  | pauseWriting | resumeWriting => exact h
  | base op =>
    intro n hn
    have hf : (x.step (.base op)).s.frames = x.s.frames ++ writtenTag (fixStepR x.s op).2 := fixStepR_frames x.s op
    rw [hf]
    by_cases hp : x.writingPaused
    · have : (x.step (.base op)).pausedFrames = x.pausedFrames ++ writtenTag (fixStepR x.s op).2 := by
        simp [FFix.step, hp]
      rw [this] at hn
      rcases List.mem_append.mp hn with h1 | h1
      · exact List.mem_append.mpr (Or.inl (h n h1))
      · exact List.mem_append.mpr (Or.inr h1)
    · have : (x.step (.base op)).pausedFrames = x.pausedFrames := by simp [FFix.step, hp]
      rw [this] at hn
      exact List.mem_append.mpr (Or.inl (h n hn))

/-- **C10Flow_paused_frames_are_frames.**  Whatever was handed to `transport.write` while the transport had asked for a pause is in
    the session's write log — the frames C10 counts — with the number it consumed: a paused transport neither drops a frame whose
    number is taken nor lets a frame out without one. -/
theorem C10Flow_paused_frames_are_frames (ops : List FFixOp) :
    ∀ n ∈ (FFix.init.run ops).pausedFrames, n ∈ (FFix.init.run ops).s.frames := by
  have gen : ∀ (ops : List FFixOp) (x : FFix), (∀ n ∈ x.pausedFrames, n ∈ x.s.frames) →
      ∀ n ∈ (x.run ops).pausedFrames, n ∈ (x.run ops).s.frames := by
    intro ops
    induction ops with
    | nil => intro x h; exact h
    | cons e rest ih =>
      intro x h
      rw [frun_cons]
      exact ih _ (step_paused_sub x e h)
  exact gen ops FFix.init (by intro n hn; simp [FFix.init] at hn)

private theorem srun_cons (x : FSoup) (e : FSoupOp) (ops : List FSoupOp) : x.run (e :: ops) = (x.step e).run ops := rfl

theorem C10Flow_soup_erasable (x : FSoup) (ops : List FSoupOp) : (x.run ops).s = soupRun x.s (baseOnlySoup ops) := by
  induction ops generalizing x with
  | nil => rfl
  | cons e ops ih =>
    rw [srun_cons, ih]
    cases e <;> rfl

/-- **C10Flow_soup_counts.**  Counter = initial + sequenced packets written, for every history with the transport's callbacks at
    any positions, every role and every initial value. -/
theorem C10Flow_soup_counts (role : Role) (init : Int) (ops : List FSoupOp) :
    ((FSoup.mk (soupInit role init) false).run ops).s.seq
      = init + (countSeq ((FSoup.mk (soupInit role init) false).run ops).s.written : Int) := by
  rw [C10Flow_soup_erasable]
  exact C10_soup_counts_init role init (baseOnlySoup ops)

/-- the history of the seeded change C10l: logon 700, the transport pauses, a heartbeat falls due, the transport resumes, a send -/
def gateWitness : List FFixOp :=
  [.base (.login 700 ⟨true, true⟩), .pauseWriting, .base (.heartbeat ⟨true, true⟩), .resumeWriting, .base (.send ⟨true, true⟩)]

/-- **C10Flow_gate_behind_draw_breaks.**  With a write gate behind the draw of the number (heartbeats skipped while paused) the second
    frame written after the logon carries 702 instead of 701; the code as it is writes 700, 701, 702. -/
theorem C10Flow_gate_behind_draw_breaks :
    (FFix.init.runGated gateWitness).s.frames = [700, 702] ∧ (FFix.init.run gateWitness).s.frames = [700, 701, 702] ∧
    (FFix.init.run gateWitness).pausedFrames = [701] := by decide +kernel

example : noLoginF [.pauseWriting, .base (.send ⟨true, false⟩), .base (.heartbeat ⟨true, true⟩), .resumeWriting,
    .base (.send ⟨false, false⟩), .pauseWriting, .base (.send ⟨true, true⟩)] = true := by decide +kernel
example : (FFix.init.run ([.pauseWriting, .base (.send ⟨true, true⟩)] ++ .base (.login 41 ⟨true, true⟩) ::
    [.base (.heartbeat ⟨true, true⟩), .base (.send ⟨true, false⟩), .resumeWriting, .pauseWriting, .base (.heartbeat ⟨true, true⟩),
     .base (.send ⟨false, true⟩), .base (.send ⟨true, true⟩)])).s.frames = [41, 42, 43, 44] := by decide +kernel

end NasdaqModel.Props.C10Flow
