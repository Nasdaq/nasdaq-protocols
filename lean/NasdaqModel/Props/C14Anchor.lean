import NasdaqModel.Lemmas.FixSharedAnchor
import NasdaqModel.Props.C14
/-
C14 — `C14_decodes_to_sent` with one hypothesis less.

In `Props/C14.lean` the theorem "`Message.from_bytes` on the frame yields the sent message" assumes `wfVer ver` (no `=` in the
session's version string).  The anchored `get_msg_type` (/repo a2cfe01, `Lemmas/FixSharedAnchor.lean`) finds the MsgType field behind
*any* well-formed fields with other tags, so the hypothesis is not needed: the version string may contain `=`, even `35=`
(`FixFrame.decodeMsg_prepare`, from which both theorems follow).
`wfVer` stays a hypothesis of `C14_read_back` / `C14_no_early` / `C14_segmentation`: there it is about the *reader*, which looks for
the `=` of BodyLength starting behind `8=`.  `wfText ver` — ASCII, no SOH — stays: the version is a field value.
-/
namespace NasdaqModel.Props.C14Anchor
open NasdaqModel Py Fix FixFrame

/-- **Decodes to what was sent, any version string.**  `Message.from_bytes` on the frame returns the class of the sent
    message, consumes the whole frame, and yields the sent message (as left by the header stamping; groups in dictionary
    order) with the four framing fields added: `8`, `9`, `35` in front of the header, `10` at the end of the trailer.
    (`C14.C14_decodes_to_sent` without `wfVer ver`.) -/
theorem C14_decodes_to_sent_any_version (reg : List MsgDef) (ver : Str) (d : MsgDef) (se : Sess) (seq : Int) (time : Str)
    (m m' : Msg) (f : Bytes)
    (hvt : wfText ver = true) (hty : wfText d.type = true)
    (hd : wfDef d = true) (he : framingEntries d) (hm' : wfMsg d m' = true)
    (hk : 8 ∉ keysOf m'.hdr ∧ 9 ∉ keysOf m'.hdr ∧ 35 ∉ keysOf m'.hdr ∧ 10 ∉ keysOf m'.trl)
    (hreg : lookupReg reg d.type = some d)
    (h : frame ver d se seq time m = .ok (f, m')) :
    ∃ body, encMsg d m' = .ok body ∧
      decodeMsg reg f = .ok (f.length, d,
        framed ver (counted d.type body).length d.type
          (rjust0 (natDigits (byteSum (summed ver d.type body) % 256)) 3) (canonMsg d m')) := by
  obtain ⟨_, body, _, _, hbody, hprep⟩ := frame_inv h
  exact ⟨body, hbody, decodeMsg_prepare reg hvt hty hd he hm' hk hreg hbody hprep⟩

/-- `'FIX35=4'` — ASCII without SOH, but contains `=` (and `35=`) -/
def oddVer : Str := [70, 73, 88, 51, 53, 61, 52]

example : wfText oddVer = true ∧ wfVer oddVer = false := by decide +kernel

/-- the frame for `C14.exMsg` under that version: `8=FIX35=4|9=80|35=D|50=|…`; the stamped message satisfies the hypotheses
    of `C14_decodes_to_sent_any_version`, and `get_msg_type` of the frame is `D` -/
example : (match frame oddVer C14.exDef C14.exSess 99 C14.exTime C14.exMsg with
    | .ok (f, m') => wfMsg C14.exDef m' && f.take 18 == [56,61,70,73,88,51,53,61,52,1,57,61,56,48,1,51,53,61]
        && !hasKey m'.hdr 8 && !hasKey m'.hdr 9 && !hasKey m'.hdr 35 && !hasKey m'.trl 10
        && getMsgType f == .ok [68]
    | .error _ => false) = true := by decide +kernel

end NasdaqModel.Props.C14Anchor
