import NasdaqModel.Props.C16Enum
/-
C16 — code generated from a FIX dictionary implements exactly that dictionary.

Model: `Model/GenFix.lean` (`parse`, `gen` = parse + codegen contexts + templates as abstract classes, `load` = importing the
generated package: every `fix.Entry(...)` reference followed, by name, through the namespaces of the generated modules).
Reference semantics: `Spec/FixDict.lean` (`denote`: one class per `<field>`; entries = the container's elements with component
references replaced in place, recursively, `required` from the element itself).  Guard: `wfDict` (ibid.).

The model follows /repo commit b154f58 (`Fix42Session`; before it no dictionary could be generated for `--fix-version 4.2`:
DESIGN §6 #13, /verif/fixes/C16-fix42.md).  The theorems are stated for every version the CLI offers: `wfDict d` contains "the
version has a type table", which is exactly 4.2 / 4.4 / 5.0 / 5.0SP2 (`C16_wf_version`); `Witness/C16.lean` has a 4.2 dictionary that
must generate.
-/
namespace NasdaqModel.Props.C16
open NasdaqModel Py GenFix Spec.FixDict

def Pointwise {α β : Type} (R : α → β → Prop) : List α → List β → Prop
  | [], [] => True
  | a :: as, b :: bs => R a b ∧ Pointwise R as bs
  | _, _ => False

/-- a valid dictionary is for one of the four versions the CLI offers -/
theorem C16_wf_version (d : Dict) (hwf : wfDict d = true) : supportedVersion d.version = true :=
  C16Enum.C16Enum_wf_version d (C16Enum.C16Enum_guard_contains d hwf)

/-- The generated package imports, and what it defines — field classes, the Entries of header, trailer and every message body with
    every reference followed to the class object, message classes, session class — is exactly the dictionary's meaning.
    Full strength: every valid dictionary of every version (4.2, 4.4, 5.0, 5.0SP2). -/
theorem C16_imports_and_denotes (d : Dict) (hwf : wfDict d = true) :
    ∃ m L, gen d = .ok m ∧ load m = .ok L ∧ denote d = .ok L :=
  C16Enum.C16Enum_imports_and_denotes d (C16Enum.C16Enum_guard_contains d hwf)

/-- one loaded field class per `<field>`, in order: name, tag = the number, value type = the version's class for the type name,
    enumerated values with keyword descriptions escaped -/
def FieldMatches (types : TypeTable) (lf : LField) (f : FieldXml) : Prop :=
  lf.name = f.name ∧ parseIntStr f.number = .ok lf.tag ∧ aget f.type types = some lf.type ∧ lf.values = specValues lf.type f.values

private theorem specFields_forall2 {types : TypeTable} : ∀ (fxs : List FieldXml) (lfs : List LField),
    specFields types fxs = .ok lfs → Pointwise (FieldMatches types) lfs fxs
  | [], lfs, h => by simp only [specFields] at h; cases h; exact trivial
  | f :: rest, lfs, h => by
    obtain ⟨ty, t, lfs2, h1, h2, h3, rfl⟩ := specFields_cons_ok h
    exact ⟨⟨rfl, h2, h1, rfl⟩, specFields_forall2 rest lfs2 h3⟩

/-- a field class per `<field>` with the right tag, value type and enumerated values — every valid dictionary, every version -/
theorem C16_fields (d : Dict) (hwf : wfDict d = true) :
    ∃ m L types, gen d = .ok m ∧ load m = .ok L ∧ supportedTypes d.version = .ok types ∧
      Pointwise (FieldMatches types) L.fields (d.sections.flatMap fieldsOf) := by
  obtain ⟨m, L, hg, hl, hd⟩ := C16_imports_and_denotes d hwf
  obtain ⟨types, D⟩ := denote_inv hd
  exact ⟨m, L, types, hg, hl, D.htypes, specFields_forall2 _ _ D.fields⟩

/-- a loaded message class against its `<message>`: name, MsgType, category, and the three segments -/
def MsgMatches (d : Dict) (L : Loaded) (lm : LMsg) (mx : MsgXml) : Prop :=
  lm.cls = mx.name ∧ lm.type = mx.msgtype ∧ lm.category = mx.msgcat ∧ lm.header = L.header ∧ lm.trailer = L.trailer ∧
    expand L.fields (allComps d) mx.items = .ok lm.body

private theorem specMessages_forall2 {d : Dict} {L : Loaded} : ∀ (ms : List MsgXml) (lms : List LMsg),
    specMessages L.fields (allComps d) L.header L.trailer ms = .ok lms → Pointwise (MsgMatches d L) lms ms
  | [], lms, h => by simp only [specMessages] at h; cases h; exact trivial
  | mx :: rest, lms, h => by
    simp only [specMessages] at h
    split at h
    · cases h
    · rename_i b h1
      split at h
      · cases h
      · rename_i lms2 h2
        cases h
        exact ⟨⟨rfl, rfl, rfl, rfl, rfl, h1⟩, specMessages_forall2 rest lms2 h2⟩

/-- Every valid dictionary, every version.
    Entries of header / body / trailer of the loaded classes = the dictionary's entries, components expanded in place (wherever
    they are declared), in order, with the required flags — including, at every depth, the entries of the group classes the
    references lead to (`LEntry.group … entries`). -/
theorem C16_entries (d : Dict) (hwf : wfDict d = true) :
    ∃ m L, gen d = .ok m ∧ load m = .ok L ∧
      expand L.fields (allComps d) (d.sections.flatMap headerOf) = .ok L.header ∧
      expand L.fields (allComps d) (d.sections.flatMap trailerOf) = .ok L.trailer ∧
      Pointwise (MsgMatches d L) L.messages (d.sections.flatMap messagesOf) := by
  obtain ⟨m, L, hg, hl, hd⟩ := C16_imports_and_denotes d hwf
  obtain ⟨_, D⟩ := denote_inv hd
  exact ⟨m, L, hg, hl, D.header, D.trailer, specMessages_forall2 _ _ D.messages⟩

/-- In the generated groups module every group class mentioned by a group class is defined earlier, class names are unique, and
    segment and message classes only mention group and field classes that exist. -/
theorem C16_well_scoped (d : Dict) (hwf : wfDict d = true) (m : Module) (hg : gen d = .ok m) : wellScoped m = true := by
  obtain ⟨types, w⟩ := wf_unpack hwf
  obtain ⟨m', L, hg', hl, _, hnd⟩ := genLoad_denote w
  rw [hg] at hg'
  cases hg'
  exact load_wellScoped hl hnd

mutual
/-- `P name tag type` holds of the count class of every group container in the tree, at every depth -/
def groupsAll (P : Str → Int → TyCls → Bool) : LEntry → Bool
  | .field _ _ _ _ => true
  | .group n t ty _ es => P n t ty && groupsAllL P es
def groupsAllL (P : Str → Int → TyCls → Bool) : List LEntry → Bool
  | [] => true
  | e :: rest => groupsAll P e && groupsAllL P rest
end

private theorem groupsAllL_append (P : Str → Int → TyCls → Bool) : ∀ (a b : List LEntry),
    groupsAllL P (a ++ b) = (groupsAllL P a && groupsAllL P b)
  | [], b => by simp [groupsAllL]
  | e :: rest, b => by simp only [List.cons_append, groupsAllL, groupsAllL_append P rest b, Bool.and_assoc]

/-- the count class is a declared field of integer type -/
def countOk (fs : List LField) (n : Str) (t : Int) (ty : TyCls) : Bool :=
  ty.kind == .int && fs.any (fun f => decide (f.name = n) && decide (f.tag = t) && decide (f.type = ty))

private theorem findField_of_count {types : TypeTable} : ∀ (fxs : List FieldXml) (fs : List LField) (n : Str),
    specFields types fxs = .ok fs → isCountField types fxs n = true →
    ∃ lf, findField n fs = some lf ∧ lf ∈ fs ∧ lf.name = n ∧ lf.type.kind = .int
  | [], fs, n, _, hc => by simp [isCountField] at hc
  | f :: rest, fs, n, h, hc => by
    obtain ⟨ty, t, fs2, h1, h2, h3, rfl⟩ := specFields_cons_ok h
    by_cases e : f.name = n
    · simp only [isCountField, List.find?_cons, e, decide_true, h1] at hc
      refine ⟨⟨f.name, t, ty, specValues ty f.values⟩, by simp [findField, e], by simp, e, by simpa using hc⟩
    · have hc' : isCountField types rest n = true := by
        simpa only [isCountField, List.find?_cons, e, decide_false] using hc
      obtain ⟨lf, g1, g2, g3, g4⟩ := findField_of_count rest fs2 n h3 hc'
      refine ⟨lf, ?_, by simp [g2], g3, g4⟩
      simp only [findField, List.find?_cons, e, decide_false]
      exact g1

mutual
private theorem expandItem_counts {fs : List LField} {sub : Str → Except Err (List LEntry)} {pf pg pc : Str → Bool}
    (hg : ∀ n, pg n = true → ∃ lf, findField n fs = some lf ∧ lf ∈ fs ∧ lf.name = n ∧ lf.type.kind = .int)
    (hs : ∀ n es, sub n = .ok es → groupsAllL (countOk fs) es = true) :
    ∀ (i : Item) (es : List LEntry), itemAll pf pg pc i = true → expandItem fs sub i = .ok es → groupsAllL (countOk fs) es = true
  | .field n r, es, _, h => by
    simp only [expandItem] at h
    cases hf : findField n fs with
    | none => rw [hf] at h; cases h
    | some f => rw [hf] at h; cases h; simp [groupsAllL, groupsAll]
  | .group n r items, es, ha, h => by
    simp only [itemAll, Bool.and_eq_true] at ha
    simp only [expandItem] at h
    split at h
    · cases h
    · rename_i es1 h1
      obtain ⟨lf, g1, g2, g3, g4⟩ := hg n ha.1
      rw [g1] at h
      cases h
      have ih := expandItems_counts hg hs items es1 ha.2 h1
      simp only [groupsAllL, groupsAll, ih, Bool.and_true, countOk, g4, Bool.and_eq_true, List.any_eq_true]
      exact ⟨by decide, lf, g2, by simp⟩
  | .comp n r, es, _, h => by
    simp only [expandItem] at h
    exact hs n es h
private theorem expandItems_counts {fs : List LField} {sub : Str → Except Err (List LEntry)} {pf pg pc : Str → Bool}
    (hg : ∀ n, pg n = true → ∃ lf, findField n fs = some lf ∧ lf ∈ fs ∧ lf.name = n ∧ lf.type.kind = .int)
    (hs : ∀ n es, sub n = .ok es → groupsAllL (countOk fs) es = true) :
    ∀ (is : List Item) (es : List LEntry), itemsAll pf pg pc is = true → expandItems fs sub is = .ok es →
      groupsAllL (countOk fs) es = true
  | [], es, _, h => by simp only [expandItems] at h; cases h; rfl
  | i :: rest, es, ha, h => by
    simp only [itemsAll, Bool.and_eq_true] at ha
    simp only [expandItems] at h
    split at h
    · cases h
    · rename_i es1 h1
      split at h
      · cases h
      · rename_i es2 h2
        cases h
        rw [groupsAllL_append, expandItem_counts hg hs i es1 ha.1 h1, expandItems_counts hg hs rest es2 ha.2 h2]
        rfl
end

private theorem expandComp_counts {fs : List LField} {comps : List CompXml} {pf pg pc : Str → Bool}
    (hg : ∀ n, pg n = true → ∃ lf, findField n fs = some lf ∧ lf ∈ fs ∧ lf.name = n ∧ lf.type.kind = .int)
    (hroot : ∀ c ∈ comps, itemsAll pf pg pc c.items = true) :
    ∀ (k : Nat) (n : Str) (es : List LEntry), expandComp fs comps k n = .ok es → groupsAllL (countOk fs) es = true
  | 0, n, es, h => by simp [expandComp] at h
  | k + 1, n, es, h => by
    simp only [expandComp] at h
    split at h
    · cases h
    · rename_i c hf
      exact expandItems_counts hg (expandComp_counts hg hroot k) c.items es (hroot c (find_some_mem hf).1) h


private theorem pointwise_mem {α β : Type} {R : α → β → Prop} : ∀ {as : List α} {bs : List β}, Pointwise R as bs →
    ∀ a ∈ as, ∃ b ∈ bs, R a b
  | [], [], _, a, ha => by simp at ha
  | [], _ :: _, h, _, _ => by simp [Pointwise] at h
  | _ :: _, [], h, _, _ => by simp [Pointwise] at h
  | x :: xs, y :: ys, h, a, ha => by
    simp only [Pointwise] at h
    simp only [List.mem_cons] at ha
    rcases ha with rfl | ha
    · exact ⟨y, by simp, h.1⟩
    · obtain ⟨b, hb, hr⟩ := pointwise_mem h.2 a ha
      exact ⟨b, by simp [hb], hr⟩

/-- Every valid dictionary, every version.
    Every group container reached from a header, trailer or body entry — at any nesting depth — has as its count class a field
    class of the package: the one declared under the group's name, of an integer type (so that `CountCls.from_value(len(…))`
    is defined). -/
theorem C16_groups_wired (d : Dict) (hwf : wfDict d = true) :
    ∃ m L, gen d = .ok m ∧ load m = .ok L ∧
      groupsAllL (countOk L.fields) L.header = true ∧ groupsAllL (countOk L.fields) L.trailer = true ∧
      ∀ lm ∈ L.messages, groupsAllL (countOk L.fields) lm.body = true := by
  obtain ⟨types, w⟩ := wf_unpack hwf
  obtain ⟨m, L, hg, hl, hd, _⟩ := genLoad_denote w
  obtain ⟨types', D⟩ := denote_inv hd
  have : types' = types := Except.ok.inj (D.htypes.symm.trans w.htypes)
  subst this
  have hcnt : ∀ n, declaredCount d types' n = true →
      ∃ lf, findField n L.fields = some lf ∧ lf ∈ L.fields ∧ lf.name = n ∧ lf.type.kind = .int :=
    fun n hn => findField_of_count _ _ n D.fields hn
  have hsub := expandComp_counts hcnt (fun c hc => w.refs _ (comp_items_mem hc)) (allComps d).length
  refine ⟨m, L, hg, hl, expandItems_counts hcnt hsub _ _ w.refs_header D.header,
    expandItems_counts hcnt hsub _ _ w.refs_trailer D.trailer, ?_⟩
  intro lm hlm
  obtain ⟨mx, hmx, _, _, _, _, _, hbody⟩ := pointwise_mem (specMessages_forall2 _ _ D.messages) lm hlm
  exact expandItems_counts hcnt hsub mx.items lm.body (w.refs _ (msg_items_mem hmx)) hbody

/-- for each of the four versions the CLI offers, `version_types.py` maps every supported FIX type name to a class whose python
    value type is the documented one (the harness checks each run that the model's tables are the live ones) -/
theorem C16_type_tables :
    tableOk types42 = true ∧ tableOk types44 = true ∧ tableOk types50 = true ∧ tableOk types502 = true ∧
    types42.length = 23 ∧ types44.length = 25 ∧ types50.length = 27 ∧ types502.length = 29 := by decide +kernel

/-! ### non-vacuity: a dictionary with a forward-referenced component chain, groups within groups within components,
    a group name used in two messages, keyword descriptions -/

def exSections (countType : Str) : List Section := [
    .header [.field (lit "BeginString") (some (lit "Y")), .comp (lit "Hop") (some (lit "N"))],
    .messages [
      ⟨lit "Order", lit "D", lit "app", [.comp (lit "Legs") none, .field (lit "Side") (some (lit "Y"))]⟩,
      ⟨lit "Quote", lit "S", lit "app", [.group (lit "NoLegs") (some (lit "Y")) [.field (lit "LegSymbol") (some (lit "N"))]]⟩],
    .trailer [.field (lit "CheckSum") (some (lit "Y"))],
    .components [
      ⟨lit "Legs", [.group (lit "NoLegs") (some (lit "Y")) [.field (lit "LegSymbol") (some (lit "Y")), .comp (lit "Nested") (some (lit "N"))]]⟩,
      ⟨lit "Hop", [.group (lit "NoHops") none [.field (lit "HopID") (some (lit "y"))]]⟩,
      ⟨lit "Nested", [.group (lit "NoNested") none [.field (lit "Px") (some (lit "N"))]]⟩],
    .fields [
      ⟨lit "8", lit "BeginString", lit "STRING", []⟩, ⟨lit "10", lit "CheckSum", lit "STRING", []⟩,
      ⟨lit "555", lit "NoLegs", countType, []⟩, ⟨lit "600", lit "LegSymbol", lit "STRING", []⟩,
      ⟨lit "54", lit "Side", lit "CHAR", [⟨lit "1", lit "None"⟩, ⟨lit "2", lit "SELL"⟩]⟩,
      ⟨lit "539", lit "NoNested", countType, []⟩, ⟨lit "44", lit "Px", lit "PRICE", []⟩,
      ⟨lit "627", lit "NoHops", countType, []⟩, ⟨lit "628", lit "HopID", lit "STRING", []⟩]]

def exDict : Dict := ⟨.v44, exSections (lit "NUMINGROUP")⟩

private theorem exDict_wf : wfDict exDict = true := by decide +kernel
example : wfDict exDict = true := exDict_wf
/-- the same dictionary read as FIX 4.2 (NUMINGROUP is not a 4.2 type name: the count fields are INT there) -/
def exDict42 : Dict := ⟨.v42, exSections (lit "INT")⟩
private theorem exDict42_wf : wfDict exDict42 = true := by decide +kernel
example : wfDict exDict42 = true := exDict42_wf
example : (genLoad exDict42).toOption.map (·.session) = some .Fix42Session := by
  obtain ⟨m, L, hg, hl, hd⟩ := C16_imports_and_denotes exDict42 exDict42_wf
  obtain ⟨_, D⟩ := denote_inv hd
  have : SessionCls.Fix42Session = L.session := Except.ok.inj D.session
  rw [genLoad_ok hg hl, this]
  rfl
/-- the nested group of `Legs` is generated twice (`NoNested_1`, `NoNested_2`), `NoLegs` as well -/
example : (gen exDict).toOption.map (fun m => m.groups.map (·.uname)) =
    some [lit "NoNested_1", lit "NoNested_2", lit "NoLegs_1", lit "NoLegs_2", lit "NoHops_1"] := by decide +kernel
example : (genLoad exDict).toBool = true := by
  obtain ⟨m, L, hg, hl, _⟩ := C16_imports_and_denotes exDict exDict_wf
  rw [genLoad_ok hg hl]
  rfl
example : (gen exDict).toOption.map wellScoped = some true := by
  obtain ⟨m, L, hg, _⟩ := C16_imports_and_denotes exDict exDict_wf
  rw [hg, ← C16_well_scoped exDict exDict_wf m hg]
  rfl

end NasdaqModel.Props.C16
