import NasdaqModel.Lemmas.GenFixLoad
/-
C16, enumerated values — "for every valid FIX XML dictionary (fields with types and *enumerated values* …) the generated package
imports, defines a field class per field with the right tag and value type".

`Props/C16.lean` proves the property under `wfDict`, whose `wfEnum` lets the enumerated value of a text / boolean field range over
identifier characters only.  The library wrote such a value through an HTML-escaping template (`<` came out as `&lt;`, a quote or a
backslash broke the module; /verif/fixes/C16-enum-values-escaped.md, repaired by /repo 8c9ad6b), i.e. the excluded alphabet was
where the code was wrong.  Here the guard is `wfDictE` (Spec/FixDictEnum.lean): the same dictionaries, the enumerated value of a
text / boolean field being ANY non-empty text of printable ASCII characters.  The theorems say, for every such dictionary of every
version: the package is generated and imports, it is the dictionary's meaning (`denote`), and the `Values` / constants of every
field class — of the abstract generated code and of the loaded class — are exactly the dictionary's: as many, in the order of the
file, the value text VERBATIM, the description (a python keyword gets a trailing underscore) as the constant's name, written as a
string literal iff the field's value type is text or boolean.  `Witness/C16Enum.lean` shows that the escaping semantics differs.
-/
namespace NasdaqModel.Props.C16Enum
open NasdaqModel Py GenFix Spec.FixDict

def Pointwise {α β : Type} (R : α → β → Prop) : List α → List β → Prop
  | [], [] => True
  | a :: as, b :: bs => R a b ∧ Pointwise R as bs
  | _, _ => False

/-- every dictionary inside `wfDict` is inside `wfDictE`: the theorems below contain those of `Props/C16.lean` -/
theorem C16Enum_guard_contains (d : Dict) (h : wfDict d = true) : wfDictE d = true :=
  wfDictE_of_wfDict h

/-- a valid dictionary is for one of the four versions the CLI offers -/
theorem C16Enum_wf_version (d : Dict) (hwf : wfDictE d = true) : supportedVersion d.version = true := by
  obtain ⟨types, w⟩ := wfE_unpack hwf
  exact w.version_ok

/-- Every valid dictionary (enumerated values over printable ASCII), every version: the package is generated, imports, and what it
    defines is the dictionary's meaning. -/
theorem C16Enum_imports_and_denotes (d : Dict) (hwf : wfDictE d = true) :
    ∃ m L, gen d = .ok m ∧ load m = .ok L ∧ denote d = .ok L := by
  obtain ⟨types, w⟩ := wfE_unpack hwf
  obtain ⟨m, L, h1, h2, h3, _⟩ := genLoad_denote w
  exact ⟨m, L, h1, h2, h3⟩

def constName (desc : Str) : Str := if isKeyword desc then desc ++ [95] else desc

/-- `vals` (the `Values` dict / the constants of a field class) are exactly the enumerated values `vs` of the `<field>`: the value
    text verbatim and in order, the constants named after the descriptions, all written as string literals iff `quoted` -/
def ValuesVerbatim (quoted : Bool) (vals : List EnumCls) (vs : List EnumXml) : Prop :=
  vals.map (·.key) = vs.map (·.enum) ∧ vals.map (·.attr) = vs.map (fun v => constName v.desc) ∧ ∀ c ∈ vals, c.quoted = quoted

def FieldValuesMatch (types : TypeTable) (lf : LField) (f : FieldXml) : Prop :=
  lf.name = f.name ∧ parseIntStr f.number = .ok lf.tag ∧ aget f.type types = some lf.type ∧
    ValuesVerbatim (lf.type.kind == .str || lf.type.kind == .bool) lf.values f.values

private theorem specValues_verbatim (ty : TyCls) (vs : List EnumXml) :
    ValuesVerbatim (ty.kind == .str || ty.kind == .bool) (specValues ty vs) vs := by
  refine ⟨?_, ?_, ?_⟩
  · simp [specValues, List.map_map, Function.comp_def]
  · simp [specValues, List.map_map, Function.comp_def, constName]
  · intro c hc
    simp only [specValues, List.mem_map] at hc
    obtain ⟨v, _, rfl⟩ := hc
    rfl

private theorem specFields_forall2 {types : TypeTable} : ∀ (fxs : List FieldXml) (lfs : List LField),
    specFields types fxs = .ok lfs → Pointwise (FieldValuesMatch types) lfs fxs
  | [], lfs, h => by simp only [specFields] at h; cases h; exact trivial
  | f :: rest, lfs, h => by
    obtain ⟨ty, t, lfs2, h1, h2, h3, rfl⟩ := specFields_cons_ok h
    exact ⟨⟨rfl, h2, h1, specValues_verbatim ty f.values⟩, specFields_forall2 rest lfs2 h3⟩

private theorem loadFields_vals : ∀ (fs : List FieldCls) (env env' : List (Str × LField)), loadFields env fs = .ok env' →
    (env'.map (·.2)).reverse.map (fun lf => (lf.name, lf.values))
      = (env.map (·.2)).reverse.map (fun lf => (lf.name, lf.values)) ++ fs.map (fun c => (c.name, c.values))
  | [], env, env', h => by simp only [loadFields] at h; cases h; simp
  | f :: rest, env, env', h => by
    simp only [loadFields] at h
    split at h
    · cases h
    · rename_i lf h1
      have hlf : lf.name = f.name ∧ lf.values = f.values := by
        simp only [loadField] at h1
        split at h1
        · cases h1
        · cases h2 : parseIntStr f.tag with
          | error e => rw [h2] at h1; cases h1
          | ok t => rw [h2] at h1; cases h1; exact ⟨rfl, rfl⟩
      rw [loadFields_vals rest _ env' h]
      simp [hlf.1, hlf.2]

private theorem load_fields_vals {m : Module} {L : Loaded} (h : load m = .ok L) :
    L.fields.map (fun lf => (lf.name, lf.values)) = m.fields.map (fun c => (c.name, c.values)) := by
  obtain ⟨fenv, _, _, _, h1, _, _, _, hf⟩ := load_inv h
  rw [hf]
  simpa using loadFields_vals m.fields [] fenv h1

/-- Every valid dictionary (enumerated values over printable ASCII), every version.
    One field class per `<field>`, in the order of the file, whose enumerated values are exactly the dictionary's — the value text
    verbatim (no character of it replaced, escaped or dropped), the description as the constant name, string literals for text and
    boolean fields — both in the generated code (`m.fields`) and in the imported class objects (`L.fields`). -/
theorem C16Enum_values_verbatim (d : Dict) (hwf : wfDictE d = true) :
    ∃ m L types, gen d = .ok m ∧ load m = .ok L ∧ supportedTypes d.version = .ok types ∧
      Pointwise (FieldValuesMatch types) L.fields (d.sections.flatMap fieldsOf) ∧
      m.fields.map (fun c => (c.name, c.values)) = L.fields.map (fun lf => (lf.name, lf.values)) := by
  obtain ⟨m, L, hg, hl, hd⟩ := C16Enum_imports_and_denotes d hwf
  obtain ⟨types, D⟩ := denote_inv hd
  exact ⟨m, L, types, hg, hl, D.htypes, specFields_forall2 _ _ D.fields, (load_fields_vals hl).symm⟩

/-- The guard reads the text of an enumerated value only in `wfEnumE`: non-empty and printable in a text field, a decimal
    literal in a numeric one.  So a one-value field that is valid with some text that is not a decimal literal is a text field, and
    stays valid with any non-empty printable text. -/
private theorem wfFieldXmlE_any_text {types : TypeTable} {num name type desc e' e : Str}
    (h : wfFieldXmlE types ⟨num, name, type, [⟨e', desc⟩]⟩ = true) (hnd : e'.all isDigit = false)
    (hne : e ≠ []) (hp : e.all isPrintable = true) : wfFieldXmlE types ⟨num, name, type, [⟨e, desc⟩]⟩ = true := by
  simp only [wfFieldXmlE, Bool.and_eq_true] at h ⊢
  refine ⟨h.1, ?_⟩
  cases hty : aget type types with
  | none => rw [hty] at h; exact absurd h.2 (by simp)
  | some ty =>
    have h2 := h.2
    rw [hty] at h2
    simp only [List.all_cons, List.all_nil, Bool.and_true, List.map_cons, List.map_nil, Bool.and_eq_true] at h2 ⊢
    refine ⟨⟨?_, by simp [nodupB]⟩, h2.2⟩
    have he := h2.1.1
    simp only [wfEnumE, Bool.and_eq_true] at he ⊢
    refine ⟨he.1, ?_⟩
    cases hk : (ty.kind == PyKind.str || ty.kind == PyKind.bool) with
    | true =>
      simp only [if_true, Bool.and_eq_true, decide_eq_true_eq]
      exact ⟨hne, hp⟩
    | false =>
      have he2 := he.2
      rw [hk] at he2
      simp only [Bool.false_eq_true, if_false, Bool.and_eq_true] at he2
      rw [hnd] at he2
      cases he2.2

/-- the guard really admits every printable character in the value of a text field: for any printable text `e` the one-field
    dictionary declaring it is valid (so the theorems above speak about `<`, `>`, `&`, `"`, `'`, `\`, space, `{`, … alike) -/
theorem C16Enum_any_printable (e : Str) (hne : e ≠ []) (hp : e.all isPrintable = true) :
    wfDictE ⟨.v44, [.messages [⟨lit "M", lit "D", lit "app", [.field (lit "Cmp") (some (lit "Y"))]⟩],
                    .fields [⟨lit "700", lit "Cmp", lit "STRING", [⟨e, lit "Any"⟩]⟩]]⟩ = true := by
  -- the dictionary with the text `x` is valid (evaluation); unfolded over the two concrete sections, its validity and the
  -- one asked for differ in the field guard only
  have h0 : wfDictE ⟨.v44, [.messages [⟨lit "M", lit "D", lit "app", [.field (lit "Cmp") (some (lit "Y"))]⟩],
                     .fields [⟨lit "700", lit "Cmp", lit "STRING", [⟨[120], lit "Any"⟩]⟩]]⟩ = true := by decide +kernel
  unfold wfDictE at h0 ⊢
  rw [show supportedTypes Version.v44 = .ok types44 from rfl] at h0 ⊢
  simp [List.flatMap_cons, List.flatMap_nil, fieldsOf, List.nil_append, List.append_nil, List.all_cons, List.all_nil,
    Bool.true_and, Bool.and_true, messagesOf, containersOf, allComps, compsOf, List.map_cons, List.map_nil, isCountField,
    fieldsLast, atMostOne, List.filter_cons, List.filter_nil, isFieldsSec, isHeaderSec, isTrailerSec, isMessagesSec,
    itemsAll, itemAll, nodupB] at h0 ⊢
  exact ⟨wfFieldXmlE_any_text h0.1 (by decide) hne hp, h0.2⟩

/-! ### non-vacuity: enumerated values containing `<`, `>`, `&`, `"`, `'`, `\`, space; CHAR, STRING, MULTIPLEVALUESTRING, BOOLEAN,
    INT fields; keyword descriptions -/

def exDictE : Dict := ⟨.v44, [
    .messages [⟨lit "Order", lit "D", lit "app", [.field (lit "Cmp") (some (lit "Y")), .field (lit "Txt") (some (lit "N")),
                                                   .field (lit "Flag") none, .field (lit "Lvl") none, .field (lit "Multi") none]⟩],
    .fields [
      ⟨lit "700", lit "Cmp", lit "CHAR", [⟨lit "<", lit "Less"⟩, ⟨lit "&", lit "And"⟩, ⟨lit ">", lit "Greater"⟩, ⟨lit "'", lit "Quote"⟩,
                                          ⟨lit "\"", lit "DQuote"⟩, ⟨lit "\\", lit "Backslash"⟩, ⟨lit " ", lit "None"⟩]⟩,
      ⟨lit "701", lit "Txt", lit "STRING", [⟨lit "a<b", lit "class"⟩, ⟨lit "x y", lit "Spaced"⟩, ⟨lit "&lt;", lit "Entity"⟩,
                                            ⟨lit "it's", lit "Its"⟩, ⟨lit "C:\\n", lit "Path"⟩, ⟨lit "{{x}}", lit "Braces"⟩]⟩,
      ⟨lit "702", lit "Flag", lit "BOOLEAN", [⟨lit "Y", lit "Yes"⟩, ⟨lit "N", lit "No"⟩]⟩,
      ⟨lit "703", lit "Lvl", lit "INT", [⟨lit "1", lit "One"⟩, ⟨lit "10", lit "Ten"⟩]⟩,
      ⟨lit "704", lit "Multi", lit "MULTIPLEVALUESTRING", [⟨lit "<>", lit "NotEqual"⟩, ⟨lit "=", lit "Equal"⟩]⟩]]⟩

private theorem exDictE_wf : wfDictE exDictE = true := by decide +kernel
example : wfDictE exDictE = true := exDictE_wf
/-- outside `wfDict`: `Props/C16.lean` says nothing about this dictionary -/
example : wfDict exDictE = false := by decide +kernel
example : (genLoad exDictE).toBool = true := by
  obtain ⟨m, L, hg, hl, _⟩ := C16Enum_imports_and_denotes exDictE exDictE_wf
  rw [genLoad_ok hg hl]
  rfl
/-- the value texts come out verbatim, in the order of the file -/
example : (genLoad exDictE).toOption.map (fun L => (L.fields.take 2).map (fun f => f.values.map (·.key))) =
    some [[lit "<", lit "&", lit ">", lit "'", lit "\"", lit "\\", lit " "],
          [lit "a<b", lit "x y", lit "&lt;", lit "it's", lit "C:\\n", lit "{{x}}"]] := by decide +kernel
/-- keyword descriptions get the trailing underscore; the numeric field's values are not string literals -/
example : (gen exDictE).toOption.map (fun m => m.fields.map (fun f => f.values.map (fun v => (v.attr, v.quoted)))) =
    some [[(lit "Less", true), (lit "And", true), (lit "Greater", true), (lit "Quote", true), (lit "DQuote", true),
           (lit "Backslash", true), (lit "None_", true)],
          [(lit "class_", true), (lit "Spaced", true), (lit "Entity", true), (lit "Its", true), (lit "Path", true), (lit "Braces", true)],
          [(lit "Yes", true), (lit "No", true)], [(lit "One", false), (lit "Ten", false)],
          [(lit "NotEqual", true), (lit "Equal", true)]] := by decide +kernel

end NasdaqModel.Props.C16Enum
