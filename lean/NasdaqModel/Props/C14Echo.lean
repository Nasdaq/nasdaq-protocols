import NasdaqModel.Props.C14Anchor
/-
C14 — a message that already carries the framing fields (one obtained from the reader and sent again).

`C14_decodes_to_sent` has the hypothesis that the sent message holds none of BeginString (8), BodyLength (9), MsgType (35) in its
header and no CheckSum (10) in its trailer.  At the excluded point the code was wrong: `send_msg` of a message decoded from a frame
wrote `8=…|9=…|35=…|8=…|9=…|35=…|…|10=…|10=…|` (fixes/C14-echo-duplicate-framing.md).  Since the repair
`_prepare_complete_msg` removes those four fields from the message before it serialises it; the model's `frame` does the same
(`dropKeys`), so the hypothesis is a THEOREM about every sent message and `C14_decodes_to_sent` holds for every message.
-/
namespace NasdaqModel.Props.C14Echo
open NasdaqModel Py Fix FixFrame

private theorem not_mem_keysOf_dropKeys (ks : List Nat) (s : Seg) (k : Nat) (hk : k ∈ ks) : k ∉ keysOf (dropKeys ks s) := by
  intro hm
  simp only [keysOf, dropKeys, List.mem_map, List.mem_filter] at hm
  obtain ⟨p, ⟨_, hp⟩, rfl⟩ := hm
  simp [hk] at hp

/-- **The session owns the framing fields.** Whatever the application put into the message, the message as it is serialised by
    `send_msg` holds no BeginString, BodyLength or MsgType in its header and no CheckSum in its trailer. -/
theorem C14_sent_message_has_no_framing_fields (ver : Str) (d : MsgDef) (se : Sess) (seq : Int) (time : Str) (m m' : Msg) (f : Bytes)
    (h : frame ver d se seq time m = .ok (f, m')) :
    8 ∉ keysOf m'.hdr ∧ 9 ∉ keysOf m'.hdr ∧ 35 ∉ keysOf m'.hdr ∧ 10 ∉ keysOf m'.trl := by
  obtain ⟨hd, _, _, hm', _, _⟩ := frame_inv h
  subst hm'
  exact ⟨not_mem_keysOf_dropKeys _ _ 8 (by decide), not_mem_keysOf_dropKeys _ _ 9 (by decide),
    not_mem_keysOf_dropKeys _ _ 35 (by decide), not_mem_keysOf_dropKeys _ _ 10 (by decide)⟩

/-- **Decodes to what was sent — for every message**, including one that arrived with `8`, `9`, `35`, `10` of its own
    (`C14Anchor.C14_decodes_to_sent_any_version` without the hypothesis about the message's keys). -/
theorem C14_decodes_to_sent_any_message (reg : List MsgDef) (ver : Str) (d : MsgDef) (se : Sess) (seq : Int) (time : Str)
    (m m' : Msg) (f : Bytes)
    (hvt : wfText ver = true) (hty : wfText d.type = true)
    (hd : wfDef d = true) (he : framingEntries d) (hm' : wfMsg d m' = true)
    (hreg : lookupReg reg d.type = some d)
    (h : frame ver d se seq time m = .ok (f, m')) :
    ∃ body, encMsg d m' = .ok body ∧
      decodeMsg reg f = .ok (f.length, d,
        framed ver (counted d.type body).length d.type
          (rjust0 (natDigits (byteSum (summed ver d.type body) % 256)) 3) (canonMsg d m')) :=
  C14Anchor.C14_decodes_to_sent_any_version reg ver d se seq time m m' f hvt hty hd he hm'
    (C14_sent_message_has_no_framing_fields ver d se seq time m m' f h) hreg h

/-- what the removal does to a decoded header: the three framing fields go, everything else stays in place -/
example : keysOf (dropKeys [8, 9, 35] [(8, .str [70]), (9, .int 53), (35, .str [76]), (49, .str [67]), (34, .int 1)])
    = [49, 34] := by decide +kernel

end NasdaqModel.Props.C14Echo
