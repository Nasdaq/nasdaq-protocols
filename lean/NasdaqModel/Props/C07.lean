import NasdaqModel.Lemmas.SessionLemmas2
/-
C07 — hostile or corrupt input cannot wedge or crash a session.

In the session machine an inbound frame is `msg n | hb | logout | bad`; `bad` stands for *every* delimited frame the parser
rejects (the parsers' classification is exercised on the implementation side by the harness: every malformed-frame class
must behave like `bad`).  Theorems for every configuration and every event sequence.
-/
namespace NasdaqModel.Props.C07
open NasdaqModel Sess

abbrev reach (cfg : Cfg) (evs : List Ev) : St := runEvs cfg {} evs

/-- **Never open and deaf.** In every reachable state: if the session is connected and does not report closed, its reader
    task is alive, runnable (it will poll again), in its poll loop, and not stopped. -/
theorem C07_reader_alive_while_open (cfg : Cfg) (evs : List Ev)
    (hopen : (reach cfg evs).closed = false) (hconn : (reach cfg evs).status .R ≠ .absent) :
    runnable (reach cfg evs) .R = true ∧ (reach cfg evs).prog .R = .readerLoop ∧ (reach cfg evs).rStopped = false := by
  obtain ⟨hr, hR, _⟩ := runEvs_InvR cfg evs hopen
  rcases hR with h | h
  · exact absurd h hconn
  · exact ⟨by simp [runnable, h.1], h.2, hr⟩

/-- **One frame per poll.** Whenever the reader of an open session polls a non-empty buffer it takes exactly the first
    frame out of it (so every fully received frame is reached after as many polls as there are frames before it). -/
theorem C07_poll_consumes_one_frame (cfg : Cfg) (s : St) (f : Frame) (rest : List Frame)
    (hR : s.status .R = .ready) (hp : s.prog .R = .readerLoop) (hs : s.rStopped = false) (hb : s.buf = f :: rest) :
    (f = .hb → step cfg s (.run .R) = { s with imm := none, buf := rest, consumed := s.consumed ++ [.hb] }) ∧
    (∀ n, f = .msg n → (step cfg s (.run .R)).buf = rest ∧ (step cfg s (.run .R)).queue = s.queue ++ [n]) := by
  constructor
  · intro hf; subst hf
    simp [step, runnable, hR, stepRun, hp, stepReader, hs, hb]
  · intro n hf; subst hf
    simp [step, runnable, hR, stepRun, hp, stepReader, hs, hb, St.put_eq]

/-- **A malformed frame ends the session** (as does a logout frame): the very poll that meets it sets the closed flag —
    the session never stays open behind an unparsable frame. -/
theorem C07_bad_frame_closes (cfg : Cfg) (s : St) (f : Frame) (rest : List Frame)
    (hR : s.status .R = .ready) (hp : s.prog .R = .readerLoop) (hs : s.rStopped = false) (hb : s.buf = f :: rest)
    (hf : f = .bad ∨ f = .logout) : (step cfg s (.run .R)).closed = true := by
  rcases hf with rfl | rfl <;>
    simp [step, runnable, hR, stepRun, hp, stepReader, hs, hb, enterClose_closed]

/-- **Closed stays closed** — no input can reopen a session. -/
theorem C07_closed_is_final (cfg : Cfg) (s : St) (ev : Ev) (h : s.closed = true) : (step cfg s ev).closed = true :=
  step_closed_mono cfg s ev h

/-! ### non-vacuity -/

private def cfg0 : Cfg :=
  { msgBeh := fun _ => .ret, cbBeh := .ret, hasCb := true, dispatchOnConnect := false, hasMsgCb := false, fixLogin := false }

/-- valid frame, malformed frame, valid frame: the first is queued, the second closes the session completely -/
example : (reach cfg0 [.connect, .data [.msg 1, .bad, .msg 2], .run .R, .run .R]).trace = [.tclose, .cbEnter, .cbExit] := by decide
example : (reach cfg0 [.connect, .data [.msg 1, .bad, .msg 2], .run .R, .run .R]).queue = [1] := by decide
example : (reach cfg0 [.connect, .data [.msg 1, .bad, .msg 2], .run .R]).closed = false := by decide

end NasdaqModel.Props.C07
