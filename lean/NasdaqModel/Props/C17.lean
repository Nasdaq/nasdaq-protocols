import NasdaqModel.Lemmas.GenHistoryLemmas
/-
C17 — code generation is a pure, repeatable function of the spec.

The model (Model/GenHistory.lean) is parameterised by a `Semantics` record: how output files are opened and whether the
class-level generator state is reset when a generation starts.  `actual` is the library before
a5da5b2 / 6c43d46 / 388f25f (append mode, no reset), `fixed` the repaired behaviour, `current` (`= fixedGen`: generators repaired,
project tool not) the one the correspondence check compares the library with on every run.

The three clauses of the property hold for **every** semantics with `pureGen sem` (truncate + reset): the theorems with a
hypothesis `hp : pureGen sem = true`; the three clauses themselves are named `…_of_pure`.  The library's generators are such a
semantics (`C17_current_is_pure`), and `C17_repeatable`, `C17_regenerate_in_place`, `C17_no_leak_between_specs` are the three
clauses **for `current`**, full strength, for the ITCH/OUCH/SQF, FIX and ASN.1 generators.  They are FALSE for `actual`:
Witness/C17.lean has the negation of each clause on a concrete history, one per defect.
The project tool is not repaired (`pyproject.toml` / `tox.ini` still appended to): its clause is
`C17_regenerate_in_place_new_project_partial` (first run into a tree that has neither file) + the witness
`Witness.C17.C17_witness_new_project_rerun_current`; the full statement is `C17_new_project_rerun` (holds under `pureProj`).

Quantification: all worlds (`w : World` — any process state and any file-system content, reachable or not) and therefore all
histories (`run sem w0 h`), all specs, all options, all output directories; no bound on anything.
-/
namespace NasdaqModel.Props.C17
open NasdaqModel GenHistory

private theorem retarget_targetNames (i : Inv) (d : Dir) : targetNames (i.retarget d) = targetNames i := by
  cases i <;> rfl

private theorem pure_fields {sem : Semantics} (hp : pureGen sem = true) :
    sem.genMode = .truncate ∧ sem.resetFieldDefs = true ∧ sem.resetContexts = true ∧ sem.resetCounter = true := by
  obtain ⟨h1, h2, h3, h4, _, _⟩ := pure_flags hp
  exact ⟨h1, h2, h3, h4⟩

/-- Non-vacuity of the hypothesis `pureGen sem`: the repaired semantics satisfies it (and `pureProj`); the library
    before the repair (`actual`) does not. -/
theorem C17_fixed_is_pure : pureGen fixed = true ∧ pureProj fixed = true ∧ pureGen actual = false := by decide

/-- The outcome (success or the exception class) of a generator invocation depends on the invocation only — not on
    what was generated before in the same process, not on what the file system holds. -/
theorem C17_outcome_depends_on_spec_only (sem : Semantics) (hp : pureGen sem = true) (i : Inv) (hg : i.isGen = true)
    (w : World) : (invoke sem w i).2 = (invoke sem w0 i).2 := by
  rw [invoke_outcome_pure sem hp w i hg, invoke_outcome_pure sem hp w0 i hg]

/-- A failing invocation writes nothing (every semantics, every invocation). -/
theorem C17_failed_invocation_writes_nothing (sem : Semantics) (w : World) (i : Inv) (e : Err)
    (h : (invoke sem w i).2 = .error e) : (invoke sem w i).1.fs = w.fs := by
  unfold invoke at h ⊢
  simp only at h ⊢
  cases hp : (plan sem w.st i).2 with
  | ok pl => simp [hp] at h
  | error e' => simp

/-- Frame: a generator invocation changes nothing outside its output directory (every semantics). -/
theorem C17_frame (sem : Semantics) (w : World) (i : Inv) (hg : i.isGen = true) (p : Path)
    (hp : p.1.under i.dir = false) : read (invoke sem w i).1.fs p = read w.fs p := by
  have hne : p.1 ≠ i.dir := by
    intro e
    rw [e, under_self] at hp
    cases hp
  rw [invoke_gen sem w i hg]
  cases (planGen sem w.st i).2 with
  | error e => rfl
  | ok rp =>
    simp only [applyPlan, RelPlan.at]
    rw [read_applyActs_other _ _ _ _ hne]
    cases rp.wipe <;> simp [read_wipe, hp]

/-- Every file an invocation writes holds exactly what the same invocation writes when it runs alone in a fresh
    process into an empty directory — whatever was generated before, whatever the file held. -/
theorem C17_written_files_fresh (sem : Semantics) (hp : pureGen sem = true) (i : Inv) (hg : i.isGen = true) (w : World)
    (hok : (invoke sem w0 i).2 = .ok ()) (n : Str) (hn : n ∈ targetNames i) :
    read (invoke sem w i).1.fs (i.dir, n) = read (invoke sem w0 i).1.fs (i.dir, n) := by
  obtain ⟨rp, hrp⟩ := planGen_ok_of_invoke sem hp w0 i hg hok
  rw [read_invoke_pure sem hp w i hg rp hrp n hn, read_invoke_pure sem hp w0 i hg rp hrp n hn]

/-- **Clause 1 (repeatable).**  The same spec and options generated twice — after arbitrary histories `h1`, `h2`
    (in one process or in separate ones: `Ev.newProcess` may occur anywhere in them), into directories that are empty —
    give the same outcome, identical directories and the same import result. -/
theorem C17_repeatable_of_pure (sem : Semantics) (hp : pureGen sem = true) (i : Inv) (hg : i.isGen = true)
    (h1 h2 : List Ev) (d1 d2 : Dir)
    (he1 : dirOnly (run sem w0 h1).fs d1 [] = true) (he2 : dirOnly (run sem w0 h2).fs d2 [] = true) :
    (invoke sem (run sem w0 h1) (i.retarget d1)).2 = (invoke sem (run sem w0 h2) (i.retarget d2)).2
    ∧ dirView (invoke sem (run sem w0 h1) (i.retarget d1)).1.fs d1 = dirView (invoke sem (run sem w0 h2) (i.retarget d2)).1.fs d2
    ∧ importAfter sem (run sem w0 h1) (i.retarget d1) = importAfter sem (run sem w0 h2) (i.retarget d2) := by
  have hgd : ∀ d, (i.retarget d).isGen = true := fun d => by rw [retarget_isGen]; exact hg
  -- either way, what `i.retarget d` does in a world whose `d` is empty is told by the plan of `i` in the initial state
  cases hrp : (planGen sem st0 i).2 with
  | ok rp =>
    have res : ∀ (d : Dir) (w : World), dirOnly w.fs d [] = true →
        (invoke sem w (i.retarget d)).2 = .ok ()
        ∧ dirView (invoke sem w (i.retarget d)).1.fs d = lastByName rp.acts
        ∧ importAfter sem w (i.retarget d) = importPkg (lastByName rp.acts) rp.modules := by
      intro d w hempty
      have hrp' : (planGen sem st0 (i.retarget d)).2 = .ok rp := by rw [planGen_retarget]; exact hrp
      have hv := dirView_invoke_pure sem hp w _ (hgd d) rp hrp'
        (Or.inr (dirOnly_nil (by rw [retarget_dir i d hg]; exact hempty) _))
      rw [retarget_dir i d hg] at hv
      refine ⟨by rw [invoke_outcome_pure sem hp w _ (hgd d), hrp'], hv, ?_⟩
      rw [importAfter_pure sem hp w _ (hgd d), hrp', retarget_dir i d hg, hv]
    obtain ⟨a1, b1, c1⟩ := res d1 _ he1
    obtain ⟨a2, b2, c2⟩ := res d2 _ he2
    exact ⟨by rw [a1, a2], by rw [b1, b2], by rw [c1, c2]⟩
  | error e =>
    have res : ∀ (d : Dir) (w : World),
        (invoke sem w (i.retarget d)).2 = .error e ∧ importAfter sem w (i.retarget d) = .error e := by
      intro d w
      have hrp' : (planGen sem st0 (i.retarget d)).2 = .error e := by rw [planGen_retarget]; exact hrp
      exact ⟨by rw [invoke_outcome_pure sem hp w _ (hgd d), hrp'], by rw [importAfter_pure sem hp w _ (hgd d), hrp']⟩
    -- both invocations fail and write nothing: both directories stay empty
    have f1 := C17_failed_invocation_writes_nothing sem (run sem w0 h1) (i.retarget d1) e (res d1 _).1
    have f2 := C17_failed_invocation_writes_nothing sem (run sem w0 h2) (i.retarget d2) e (res d2 _).1
    refine ⟨by rw [(res d1 _).1, (res d2 _).1], ?_, by rw [(res d1 _).2, (res d2 _).2]⟩
    funext n
    simp only [dirView, f1, f2]
    rw [read_none_of_dirOnly _ _ _ he1 n (by simp), read_none_of_dirOnly _ _ _ he2 n (by simp)]

/-- **Clause 2 (regenerate in place).**  After any history `h`, generating into a directory that holds nothing but a
    previous output of the same target (same generator, app name, prefix, init flag — the spec may have been edited
    in between; for the ASN.1 generator, which empties the directory first, *any* directory) leaves exactly the directory
    a fresh single run produces — hence a package that imports exactly as the fresh one does and reflects the current spec. -/
theorem C17_regenerate_in_place_of_pure (sem : Semantics) (hp : pureGen sem = true) (i : Inv) (hg : i.isGen = true) (h : List Ev)
    (hok : (invoke sem w0 i).2 = .ok ())
    (hdir : dirOnly (run sem w0 h).fs i.dir (targetNames i) = true) :
    (invoke sem (run sem w0 h) i).2 = .ok ()
    ∧ dirView (invoke sem (run sem w0 h) i).1.fs i.dir = dirView (invoke sem w0 i).1.fs i.dir
    ∧ importAfter sem (run sem w0 h) i = importAfter sem w0 i := by
  obtain ⟨rp, hrp⟩ := planGen_ok_of_invoke sem hp w0 i hg hok
  have v1 := dirView_invoke_pure sem hp (run sem w0 h) i hg rp hrp (Or.inr hdir)
  have v0 := dirView_invoke_pure sem hp w0 i hg rp hrp (Or.inr rfl)
  refine ⟨by rw [C17_outcome_depends_on_spec_only sem hp i hg, hok], by rw [v1, v0], ?_⟩
  rw [importAfter_pure sem hp _ i hg, importAfter_pure sem hp w0 i hg, v1, v0]

/-- Clause 2 for the ASN.1 generator needs no hypothesis on the directory. -/
theorem C17_regenerate_in_place_asn1 (sem : Semantics) (hp : pureGen sem = true) (spec : Asn1Spec) (pdu pk : Str)
    (o : GenOpts) (w : World) :
    dirView (invoke sem w (.asn1 spec pdu pk o)).1.fs o.dir = dirView (invoke sem w0 (.asn1 spec pdu pk o)).1.fs o.dir := by
  -- the plan starts with `shutil.rmtree(op_dir)`
  obtain ⟨rp, hrp, hw⟩ : ∃ rp, (planGen sem st0 (.asn1 spec pdu pk o)).2 = .ok rp ∧ rp.wipe = true := ⟨_, rfl, rfl⟩
  have v1 := dirView_invoke_pure sem hp w (.asn1 spec pdu pk o) rfl rp hrp (Or.inl hw)
  have v0 := dirView_invoke_pure sem hp w0 (.asn1 spec pdu pk o) rfl rp hrp (Or.inl hw)
  simp only [Inv.dir] at v1 v0
  rw [v1, v0]

/-- **Clause 3 (no leak between specs).**  Generating B after any history (any specs A…, same process or not, same
    directory or not) gives the same outcome as generating B alone, and every file B writes is exactly the file B alone
    writes — nothing of A in it.  (Files B does not write are untouched: `C17_frame`; a directory that was empty equals
    the fresh one: `C17_repeatable_of_pure`.) -/
theorem C17_no_leak_between_specs_of_pure (sem : Semantics) (hp : pureGen sem = true) (b : Inv) (hg : b.isGen = true) (h : List Ev) :
    (invoke sem (run sem w0 h) b).2 = (invoke sem w0 b).2
    ∧ ((invoke sem w0 b).2 = .ok () → ∀ n, n ∈ targetNames b →
        read (invoke sem (run sem w0 h) b).1.fs (b.dir, n) = read (invoke sem w0 b).1.fs (b.dir, n)) :=
  ⟨C17_outcome_depends_on_spec_only sem hp b hg _, fun hok n hn => C17_written_files_fresh sem hp b hg _ hok n hn⟩

/-- What holds for EVERY semantics, in particular for `actual`: an invocation that runs in a
    fresh process (`st0`) into an empty directory and writes no file twice gives the same outcome and the same directory
    as when it runs alone — whatever else the file system holds.
    Full statement (clause 1 without "fresh process", clauses 2 and 3) is `C17_repeatable_of_pure` / `C17_regenerate_in_place_of_pure` /
    `C17_no_leak_between_specs_of_pure` above; for `actual` they are false (Witness/C17.lean), the missing part is exactly
    `pureGen`: files opened with 'w', class-level state reset per generation. -/
theorem C17_fresh_process_empty_dir_any_semantics (sem : Semantics) (i : Inv) (hg : i.isGen = true) (fs : FS)
    (hnd : (targetNames i).Nodup) (hempty : dirOnly fs i.dir [] = true) :
    (invoke sem ⟨st0, fs⟩ i).2 = (invoke sem w0 i).2
    ∧ dirView (invoke sem ⟨st0, fs⟩ i).1.fs i.dir = dirView (invoke sem w0 i).1.fs i.dir := by
  rw [invoke_gen sem ⟨st0, fs⟩ i hg, invoke_gen sem w0 i hg]
  simp only [w0]
  cases hrp : (planGen sem st0 i).2 with
  | error e =>
    refine ⟨rfl, ?_⟩
    funext n
    simp only [dirView]
    rw [read_none_of_dirOnly _ _ _ hempty n (by simp)]
    rfl
  | ok rp =>
    refine ⟨rfl, ?_⟩
    have hnm := planGen_acts_names sem st0 i hg rp hrp
    funext n
    simp only [dirView, applyPlan, RelPlan.at]
    have hbase : ∀ (base : FS), (∀ m, read base (i.dir, m) = none) →
        read (applyActs base (rp.acts.map (RelAction.at i.dir))) (i.dir, n) = lastByName rp.acts n := by
      intro base hb
      rw [read_applyActs_absent i.dir rp.acts (by rw [hnm]; exact hnd) base (fun m _ => hb m) n]
      cases lastByName rp.acts n <;> simp [hb]
    rw [hbase, hbase]
    · intro m; cases rp.wipe <;> simp [read_wipe]
    · intro m
      have := read_none_of_dirOnly _ _ _ hempty m (by simp)
      cases rp.wipe <;> simp [read_wipe, this]

/-- The project tool writes each of its two configuration files as if it wrote nothing else: the application XML files and
    `__init__.py` live in other directories, and the two files are different files. -/
private theorem newProject_config (sem : Semantics) (w : World) (t : Nat) (name : Str) (apps : List (Str × Impl))
    (hd : dupApps apps = false) :
    read (invoke sem w (.newProject t name apps)).1.fs (.proj t name, sTox)
        = read (write sem.toxMode w.fs (.proj t name, sTox) [.tox (srcName name) apps]) (.proj t name, sTox)
    ∧ read (invoke sem w (.newProject t name apps)).1.fs (.proj t name, sPyproject)
        = read (write sem.pyprojMode w.fs (.proj t name, sPyproject) [.pyproject name]) (.proj t name, sPyproject) := by
  have hne : (Dir.proj t name, sTox) ≠ (Dir.proj t name, sPyproject) := by
    intro e
    injection e with _ e2
    revert e2
    decide
  -- in the project directory, what the XML files and `__init__.py` leave is what was there
  have hbase : ∀ p : Path, p.1 = Dir.proj t name →
      read (write Mode.ifAbsent (applyActs w.fs (apps.map fun a => (⟨(.app t name a.1, a.1 ++ sXml), .ifAbsent, [.appXml]⟩ : Action)))
        (Dir.pkg t name, sInit ++ sPy) []) p = read w.fs p := by
    intro p hpd
    rw [read_write_other _ _ _ _ _ (by intro e; rw [e] at hpd; cases hpd)]
    apply read_applyActs_notin
    intro a ha e
    obtain ⟨x, _, rfl⟩ := List.mem_map.mp ha
    rw [← e] at hpd
    cases hpd
  simp only [invoke, plan, planNewProject, hd, Bool.false_eq_true, if_false, applyPlan, applyActs, List.foldl_append,
    List.foldl_cons, List.foldl_nil]
  refine ⟨read_write_congr _ _ _ ?_, ?_⟩
  · rw [read_write_other _ _ _ _ _ hne]
    exact hbase _ rfl
  · rw [read_write_other _ _ _ _ _ hne.symm]
    exact read_write_congr _ _ _ (hbase _ rfl)

/-- Re-running `new_project` on an existing project (to add an application), with the repaired semantics
    (`pyproject.toml` written only when absent, `tox.ini` rewritten): `tox.ini` is exactly the fresh file for the current
    application list, `pyproject.toml` keeps what it held (user edits included) or is the fresh file; both parse. -/
theorem C17_new_project_rerun (sem : Semantics) (hp : pureProj sem = true) (w : World) (t : Nat) (name : Str)
    (apps : List (Str × Impl)) (hd : dupApps apps = false) :
    read (invoke sem w (.newProject t name apps)).1.fs (.proj t name, sTox) = some [.tox (srcName name) apps]
    ∧ read (invoke sem w (.newProject t name apps)).1.fs (.proj t name, sPyproject)
        = some ((read w.fs (.proj t name, sPyproject)).getD [.pyproject name])
    ∧ configValid (read (invoke sem w (.newProject t name apps)).1.fs (.proj t name, sTox)) = true
    ∧ (configValid (read w.fs (.proj t name, sPyproject)) = true →
        configValid (read (invoke sem w (.newProject t name apps)).1.fs (.proj t name, sPyproject)) = true) := by
  simp [pureProj] at hp
  obtain ⟨hp1, hp2⟩ := hp
  obtain ⟨htox, hpy⟩ := newProject_config sem w t name apps hd
  rw [hp2, read_write_truncate, if_pos rfl] at htox
  rw [hp1, read_write_ifAbsent] at hpy
  refine ⟨htox, hpy, by rw [htox]; rfl, ?_⟩
  intro hv
  rw [hpy]
  cases hr : read w.fs (Dir.proj t name, sPyproject) with
  | some v => rw [hr] at hv; exact hv
  | none => rfl

/-- For every semantics (in particular `current`, which still appends): the first run of the project tool into a tree that
    has neither `pyproject.toml` nor `tox.ini` writes exactly the fresh files, and both parse.
    **Partial**: the full clause — re-running on an existing project leaves files that parse and a `tox.ini` for the current
    application list — is `C17_new_project_rerun` above; it needs `pureProj sem`, which `current` does not satisfy
    (`Witness.C17.C17_witness_new_project_rerun_current`: the second run leaves two renderings in each file).
    Missing: `_write_pyproject` / `_write_tox` open with 'a' (known finding `new-project-rerun`). -/
theorem C17_regenerate_in_place_new_project_partial (sem : Semantics) (w : World) (t : Nat) (name : Str)
    (apps : List (Str × Impl)) (hd : dupApps apps = false)
    (h1 : read w.fs (.proj t name, sPyproject) = none) (h2 : read w.fs (.proj t name, sTox) = none) :
    read (invoke sem w (.newProject t name apps)).1.fs (.proj t name, sTox) = some [.tox (srcName name) apps]
    ∧ read (invoke sem w (.newProject t name apps)).1.fs (.proj t name, sPyproject) = some [.pyproject name]
    ∧ configValid (read (invoke sem w (.newProject t name apps)).1.fs (.proj t name, sTox)) = true
    ∧ configValid (read (invoke sem w (.newProject t name apps)).1.fs (.proj t name, sPyproject)) = true := by
  obtain ⟨htox, hpy⟩ := newProject_config sem w t name apps hd
  rw [read_write_absent _ _ _ _ h2] at htox
  rw [read_write_absent _ _ _ _ h1] at hpy
  exact ⟨htox, hpy, by rw [htox]; rfl, by rw [hpy]; rfl⟩

/-- The generators of the current library open their files with 'w' and reset their class-level state per generation;
    the project tool does not (`pureProj current = false`). -/
theorem C17_current_is_pure : pureGen current = true ∧ pureProj current = false :=
  ⟨pureGen_current, by decide⟩

/-- **Clause 1 for `current`** — see `C17_repeatable_of_pure`. -/
theorem C17_repeatable (i : Inv) (hg : i.isGen = true) (h1 h2 : List Ev) (d1 d2 : Dir)
    (he1 : dirOnly (run current w0 h1).fs d1 [] = true) (he2 : dirOnly (run current w0 h2).fs d2 [] = true) :
    (invoke current (run current w0 h1) (i.retarget d1)).2 = (invoke current (run current w0 h2) (i.retarget d2)).2
    ∧ dirView (invoke current (run current w0 h1) (i.retarget d1)).1.fs d1
        = dirView (invoke current (run current w0 h2) (i.retarget d2)).1.fs d2
    ∧ importAfter current (run current w0 h1) (i.retarget d1) = importAfter current (run current w0 h2) (i.retarget d2) :=
  C17_repeatable_of_pure current pureGen_current i hg h1 h2 d1 d2 he1 he2

/-- **Clause 2 for `current`** — see `C17_regenerate_in_place_of_pure`. -/
theorem C17_regenerate_in_place (i : Inv) (hg : i.isGen = true) (h : List Ev)
    (hok : (invoke current w0 i).2 = .ok ())
    (hdir : dirOnly (run current w0 h).fs i.dir (targetNames i) = true) :
    (invoke current (run current w0 h) i).2 = .ok ()
    ∧ dirView (invoke current (run current w0 h) i).1.fs i.dir = dirView (invoke current w0 i).1.fs i.dir
    ∧ importAfter current (run current w0 h) i = importAfter current w0 i :=
  C17_regenerate_in_place_of_pure current pureGen_current i hg h hok hdir

/-- **Clause 3 for `current`** — see `C17_no_leak_between_specs_of_pure`. -/
theorem C17_no_leak_between_specs (b : Inv) (hg : b.isGen = true) (h : List Ev) :
    (invoke current (run current w0 h) b).2 = (invoke current w0 b).2
    ∧ ((invoke current w0 b).2 = .ok () → ∀ n, n ∈ targetNames b →
        read (invoke current (run current w0 h) b).1.fs (b.dir, n) = read (invoke current w0 b).1.fs (b.dir, n)) :=
  C17_no_leak_between_specs_of_pure current pureGen_current b hg h

/-! ## non-vacuity: concrete invocations that satisfy the hypotheses, and what the theorems give for them -/

section examples
private def specA : SoupSpec := ⟨1, some [(1, 0), (2, 1)], [1, 2], [65, 66]⟩
private def specC : SoupSpec := ⟨2, none, [1], [65]⟩            -- no fielddef-root, one `def=` reference
private def optsX : GenOpts := ⟨[120], [], true, .out 1, true⟩         -- app "x", no prefix, init file
private def fixA : FixSpec := ⟨1, 44, [1, 2], [1], [.mk 1 [2] [.mk 2 [1] []]], [1, 2]⟩
private def fixB : FixSpec := ⟨2, 44, [3], [3], [.mk 1 [3] []], [1]⟩

-- the hypotheses of clause 2 hold: the invocation succeeds alone, after one run the directory holds only its own files; the
-- second run's package imports
example : (invoke fixed w0 (.soup .ouch specA optsX)).2 = .ok () := by decide +kernel
example : dirOnly (run fixed w0 [.inv (.soup .ouch specA optsX)]).fs (Dir.out 1)
    (targetNames (.soup .ouch specA optsX)) = true := by decide +kernel
example : importAfter fixed (run fixed w0 [.inv (.soup .ouch specA optsX)]) (.soup .ouch specA optsX) = .ok () := by decide +kernel
-- an invocation that fails alone fails in every history under `fixed` (the theorem is not only about successes)
example : (invoke fixed (run fixed w0 [.inv (.soup .ouch specA optsX)]) (.soup .ouch specC optsX)).2 = .error .key := by decide +kernel
-- FIX: B after A in one process under `fixed` writes the fresh groups module
example : read (run fixed w0 [.inv (.fix fixA optsX), .inv (.fix fixB { optsX with dir := .out 2 })]).fs
      (.out 2, prefix_ [] ++ sFix ++ [120] ++ sGroups ++ sPy)
    = read (run fixed w0 [.inv (.fix fixB { optsX with dir := .out 2 })]).fs (.out 2, prefix_ [] ++ sFix ++ [120] ++ sGroups ++ sPy) := by
  decide +kernel
example : (targetNames (.fix fixA optsX)).Nodup := by decide +kernel
-- the same under `current`
example : (invoke current w0 (.soup .ouch specA optsX)).2 = .ok () := by decide +kernel
example : dirOnly (run current w0 [.inv (.soup .ouch specA optsX)]).fs (Dir.out 1)
    (targetNames (.soup .ouch specA optsX)) = true := by decide +kernel
example : importAfter current (run current w0 [.inv (.fix fixA optsX), .inv (.fix fixA optsX)]) (.fix fixA optsX) = .ok () := by decide +kernel
-- a 4.2 dictionary without groups generates (Fix42Session); one with a NUMINGROUP field fails in `parse` (KeyError)
example : (invoke current w0 (.fix ⟨3, 42, [1], [1], [], []⟩ optsX)).2 = .ok () := by decide +kernel
example : (invoke current w0 (.fix { fixA with version := 42 } optsX)).2 = .error .key := by decide +kernel
example : dupApps [([111, 101], Impl.ouch), ([109, 100], Impl.itch)] = false := by decide +kernel
end examples

end NasdaqModel.Props.C17
