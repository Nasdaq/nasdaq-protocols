import NasdaqModel.Lemmas.HeapCutLemmas
import NasdaqModel.Props.C18
/-
C18 with SHORT frames (`Model/HeapCut.lean`: the histories of `Model/HeapD.lean` plus `cut b n` = `bytearray(buffer_b[:n])`, so that
`decode` is applied to frames that end at any byte — before a trailing array, inside a count, inside a nested record).

"Decoded messages share no mutable state with one another, with the bytes they were decoded from, or with class-level defaults",
and what any other instance — existing or created later — reads or encodes is unchanged:

  * `C18S_frame`, `C18S_encode_frame`       — every schema, every table of declared defaults, EVERY history of operations and cuts and
    every further operation: what any instance other than the one the operation is about reads / encodes is unchanged.  In-place
    changes of the lists a message decoded from a short frame holds are operations about THAT message.
  * `C18S_cut_changes_nobody`               — cutting a buffer changes what no instance reads.
  * `C18S_decode_short_fresh`               — in every reachable state, whatever the buffer holds (a complete encoding, a frame cut
    anywhere, scribbled bytes): the decoded instance consists of new cells only, no existing cell is written, references stay inside
    their owner (`FreshInstance` of Props/C18.lean): `decode` never returns a reference into a class-level default.
  * `C18S_fresh_reads_constant`, `C18S_fresh_encoding_constant` — after ANY history (decodes of short frames and in-place changes of
    the decoded messages included) an instance created by `Cls()` reads and encodes one and the same thing: a function of the schema,
    the declared defaults and the class alone (`freshReads`, `freshEncoding`) — the history does not occur in it.
  * `C18S_decoded_reads_bytes_only`         — after ANY history a decoded instance reads a function of the bytes of the buffer
    alone: a second decode of the same short frame, after the first decoded message was changed in place, reads what the first read.
The schema hypothesis `S.freshArrayDefault = true` is the code as it is (/repo fcb8b8f), to which the harness pins the model.
The variant in which a trailing array of a short frame IS the class-level list (seeded change C18k) is refuted on a concrete
history in `Witness/C18Short.lean`.
-/
namespace NasdaqModel.Props.C18Short
open NasdaqModel Heap HeapD HeapCut

/-- **C18S_inv_always.**  The ownership invariant of `Lemmas/HeapLemmas.lean` in every state reachable with cuts. -/
theorem C18S_inv_always (S : Schema) (hS : S.freshArrayDefault = true) (D : Defaults) (ops : List OpC) :
    Inv (runC S D init ops) :=
  runC_inv hS D ops init init_inv

/-- **C18S_frame.**  Every schema, every table of declared defaults, EVERY history (operations of `Model/Heap.lean`, reads and
    in-place changes through declared defaults, cuts, decodes of cut buffers), every further operation: what any instance `b` other
    than the one the operation is about reads is unchanged.  `b` ranges over existing instances and over ids not yet in use. -/
theorem C18S_frame (S : Schema) (hS : S.freshArrayDefault = true) (D : Defaults) (ops : List OpC) (op : OpC)
    (b : Nat) (hb : b ≠ op.target (runC S D init ops)) (n : Nat) :
    viewD S D n (runC S D init (ops ++ [op])) b = viewD S D n (runC S D init ops) b := by
  rw [runC_append]
  unfold stepKC
  cases hs : stepC S D (runC S D init ops) op with
  | error e => rfl
  | ok H' =>
    obtain ⟨hins, hd⟩ := stepC_frame_core hS (C18S_inv_always S hS D ops) hs hb
    unfold viewD view
    simp only
    rw [hins]
    cases hcr : (runC S D init ops).insts[b]? with
    | none => rfl
    | some cr => simp only [Option.map_some]; rw [hd n cr hcr]

/-- **C18S_encode_frame.**  The same for what `b` encodes (bytes or exception class). -/
theorem C18S_encode_frame (S : Schema) (hS : S.freshArrayDefault = true) (D : Defaults) (ops : List OpC) (op : OpC)
    (b : Nat) (hb : b ≠ op.target (runC S D init ops)) :
    encodeInstD S D (runC S D init (ops ++ [op])) b = encodeInstD S D (runC S D init ops) b := by
  rw [runC_append]
  unfold stepKC
  cases hs : stepC S D (runC S D init ops) op with
  | error e => rfl
  | ok H' =>
    obtain ⟨hins, hd⟩ := stepC_frame_core hS (C18S_inv_always S hS D ops) hs hb
    unfold encodeInstD
    simp only
    rw [hins]
    cases hcr : (runC S D init ops).insts[b]? with
    | none => rfl
    | some cr => simp only; rw [hd _ cr hcr]

/-- **C18S_cut_changes_nobody.**  `bytearray(buffer[:n])` changes what NO instance reads (no exception for any `b`). -/
theorem C18S_cut_changes_nobody (S : Schema) (hS : S.freshArrayDefault = true) (D : Defaults) (ops : List OpC)
    (buf k : Nat) (b n : Nat) :
    viewD S D n (runC S D init (ops ++ [.cut buf k])) b = viewD S D n (runC S D init ops) b := by
  by_cases hb : b = (runC S D init ops).insts.length
  · -- the id of no instance, before and after: a cut creates none
    have hi := C18S_inv_always S hS D ops
    rw [runC_append]
    unfold stepKC
    cases hs : stepC S D (runC S D init ops) (.cut buf k) with
    | error e => rfl
    | ok H' =>
      have hins : H'.insts = (runC S D init ops).insts := by
        rcases stepC_cases hs with h | ⟨bs, h⟩ | ⟨o, ho, _⟩
        · rw [h]
        · rw [h]; rfl
        · cases ho
      unfold viewD view
      simp only
      rw [hins, hb]
      simp
  · exact C18S_frame S hS D ops (.cut buf k) b hb n

/-- **C18S_decode_short_fresh.**  In every reachable state, for EVERY buffer — a complete encoding, a frame cut at any byte, bytes
    overwritten by the caller —: the instance `from_bytes` returns consists of new cells only, no existing cell (other instances,
    class-level defaults, the buffer) is written, and every reference stays inside its owner afterwards. -/
theorem C18S_decode_short_fresh (S : Schema) (hS : S.freshArrayDefault = true) (D : Defaults) (ops : List OpC) (c b : Nat)
    (H' : Heap) (hs : stepC S D (runC S D init ops) (.op (.decode c b)) = .ok H') :
    Props.C18.FreshInstance (runC S D init ops) H' :=
  Props.C18.C18_decode_fresh S _ H' c b (C18S_inv_always S hS D ops) hs

/-! ### what a created / decoded instance reads does not depend on the history -/

private theorem created_deref (S : Schema) (hS : S.freshArrayDefault = true) {H : Heap} (hi : Inv H) (t : Tree) (root : Addr)
    (hroot : (allocTree (Owner.inst H.insts.length) t H.cells).2 = Val.ref root) (n : Nat) :
    deref S n (allocTree (Owner.inst H.insts.length) t H.cells).1 (.ref root) = treeObs S n t := by
  rw [← hroot]
  obtain ⟨c0, hc0, _⟩ := hi.cls0
  exact allocTree_obs S hS _ n t H.cells hi.closed ⟨c0, hc0⟩

/-- what `Cls()` of class `c` reads, to depth `n`: the schema, the declared defaults, the class — nothing else -/
def freshReads (S : Schema) (D : Defaults) (n c : Nat) : Option DVal :=
  match freshTree S (S.classes.length + 1) c with
  | .ok t => some (patch S D n (treeObs S n t))
  | .error _ => Option.none

/-- what `Cls().to_bytes()` gives -/
def freshEncoding (S : Schema) (D : Defaults) (c : Nat) : Except Err Bytes :=
  match freshTree S (S.classes.length + 1) c with
  | .ok t => encodeD S (obsDepth S) c (patch S D (obsDepth S) (treeObs S (obsDepth S) t))
  | .error e => .error e

/-- **C18S_fresh_reads_constant.**  After EVERY history — decodes of complete and of short frames, in-place changes of decoded
    messages and of anything else, cuts, scribbles — an instance created by `Cls()` reads `freshReads S D n c`: the same as the
    first instance ever created, whatever happened in between. -/
theorem C18S_fresh_reads_constant (S : Schema) (hS : S.freshArrayDefault = true) (D : Defaults) (ops : List OpC) (c : Nat)
    (H' : Heap) (hs : stepC S D (runC S D init ops) (.op (.new c)) = .ok H') (n : Nat) :
    viewD S D n H' (runC S D init ops).insts.length = freshReads S D n c := by
  have hi := C18S_inv_always S hS D ops
  have hs' : step S (runC S D init ops) (.new c) = .ok H' := hs
  simp only [step] at hs'
  obtain ⟨t, ht, hs'⟩ := bind_ok_inv hs'
  split at hs'
  · rename_i root hroot
    injection hs' with hs'; subst hs'
    unfold viewD view freshReads
    simp only [List.getElem?_concat_length, ht, Option.map_some]
    rw [created_deref S hS hi t root hroot n]
  · simp at hs'

/-- **C18S_fresh_encoding_constant.**  …and encodes `freshEncoding S D c`. -/
theorem C18S_fresh_encoding_constant (S : Schema) (hS : S.freshArrayDefault = true) (D : Defaults) (ops : List OpC) (c : Nat)
    (H' : Heap) (hs : stepC S D (runC S D init ops) (.op (.new c)) = .ok H') :
    encodeInstD S D H' (runC S D init ops).insts.length = freshEncoding S D c := by
  have hi := C18S_inv_always S hS D ops
  have hs' : step S (runC S D init ops) (.new c) = .ok H' := hs
  simp only [step] at hs'
  obtain ⟨t, ht, hs'⟩ := bind_ok_inv hs'
  split at hs'
  · rename_i root hroot
    injection hs' with hs'; subst hs'
    unfold encodeInstD freshEncoding
    simp only [List.getElem?_concat_length, ht]
    rw [created_deref S hS hi t root hroot]
  · simp at hs'

/-- what `from_bytes(bs)` reads, to depth `n`: the schema, the declared defaults, the bytes — nothing else -/
def decodedReads (S : Schema) (D : Defaults) (n c : Nat) (bs : Bytes) : Option DVal :=
  match parseInst S c bs with
  | .ok ct => some (patch S D n (treeObs S n ct.2))
  | .error _ => Option.none

/-- **C18S_decoded_reads_bytes_only.**  After EVERY history, decoding buffer `b` that holds the bytes `bs` (all of an encoding or
    the first bytes of one) gives an instance that reads `decodedReads S D n c bs`: nothing of what earlier decoded messages became
    after they were changed in place, nothing of any other instance. -/
theorem C18S_decoded_reads_bytes_only (S : Schema) (hS : S.freshArrayDefault = true) (D : Defaults) (ops : List OpC) (c b : Nat)
    (ba : Addr) (own : Owner) (bs : Bytes)
    (hb : (runC S D init ops).bufs[b]? = some ba) (hc : (runC S D init ops).cells[ba]? = some ⟨own, .buf bs⟩)
    (H' : Heap) (hs : stepC S D (runC S D init ops) (.op (.decode c b)) = .ok H') (n : Nat) :
    viewD S D n H' (runC S D init ops).insts.length = decodedReads S D n c bs := by
  have hi := C18S_inv_always S hS D ops
  have hs' : step S (runC S D init ops) (.decode c b) = .ok H' := hs
  simp only [step, hb, hc] at hs'
  obtain ⟨ct, hct, hs'⟩ := bind_ok_inv hs'
  split at hs'
  · rename_i root hroot
    injection hs' with hs'; subst hs'
    unfold viewD view decodedReads
    simp only [List.getElem?_concat_length, hct, Option.map_some]
    rw [created_deref S hS hi ct.2 root hroot n]
  · simp at hs'

/-! ### non-vacuity: a message whose layout ends with an array, decoded from a frame that ends before that array -/

/-- message 81: a 4-byte int and an array of 4-byte ints (2-byte count); message 84: a 2-byte int and an array of 2-byte ints -/
def exS : Schema :=
  ⟨true, [.binRec (some 81) [.int ⟨4, false, false⟩ Option.none, .arr (.int ⟨4, false, false⟩) ⟨2, false, false⟩],
          .binRec (some 84) [.int ⟨2, false, false⟩ Option.none, .arr (.int ⟨2, false, false⟩) ⟨2, false, false⟩]]⟩

def exD : Defaults := ⟨[]⟩

/-- an instance with `order_book = 5`, encoded; the frame cut after the id byte and the int (5 bytes: nothing left for the
    array); the short frame decoded (instance 1); two items appended IN PLACE to the decoded message's array; fresh instances of
    both types; the same short frame decoded again (instance 4) -/
def exOps : List OpC :=
  [.op (.new 0), .op (.assign 0 [] 0 (.int 5)), .op (.mkbuf 0), .cut 0 5, .op (.decode 0 1),
   .op (.append 1 [.fld 1] (.int 7)), .op (.append 1 [.fld 1] (.int 8)),
   .op (.new 0), .op (.new 1), .op (.decode 0 1)]

example : exS.freshArrayDefault = true := rfl
example : (runC exS exD init exOps).insts.length = 5 := by decide +kernel
/-- the decoded message holds its own list -/
example : encodeInstD exS exD (runC exS exD init exOps) 1 = .ok [81, 5, 0, 0, 0, 2, 0, 7, 0, 0, 0, 8, 0, 0, 0] := by decide +kernel
/-- fresh instances of both types, created afterwards, read and encode an empty array -/
example : encodeInstD exS exD (runC exS exD init exOps) 2 = .ok [81, 0, 0, 0, 0, 0, 0] := by decide +kernel
example : encodeInstD exS exD (runC exS exD init exOps) 3 = .ok [84, 0, 0, 0, 0] := by decide +kernel
example : freshEncoding exS exD 0 = .ok [81, 0, 0, 0, 0, 0, 0] := by decide +kernel
/-- and so does a second decode of the same short frame -/
example : encodeInstD exS exD (runC exS exD init exOps) 4 = .ok [81, 5, 0, 0, 0, 0, 0] := by decide +kernel
/-- a cut inside the int: a shorter number (`int.from_bytes` of a short slice), still a message -/
example : encodeInstD exS exD (runC exS exD init [.op (.new 0), .op (.assign 0 [] 0 (.int 772)), .op (.mkbuf 0), .cut 0 2,
    .op (.decode 0 1)]) 1 = .ok [81, 4, 0, 0, 0, 0, 0] := by decide +kernel
/-- an empty frame is no message (`KeyError`: message id 0) -/
example : (stepC exS exD (runC exS exD init [.op (.new 0), .op (.mkbuf 0), .cut 0 0]) (.op (.decode 0 1))).toOption.isNone = true := by
  decide +kernel

end NasdaqModel.Props.C18Short
