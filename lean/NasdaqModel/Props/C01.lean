import NasdaqModel.Lemmas.BinCodecLemmas
/-
C01 — the binary message codec round-trips every definable message and value.

Model: `Model/BinCodec.lean` (`encode`, `decode`, `encodeMsg`, `decodeMsg`, `norm`, `read`, `wf`), transcribed from
`common/message/types.py` and `structures.py`.  All theorems are for every schema tree `t : Ty` (arbitrary nesting of records,
optional records and arrays, every integer size / signedness / byte order, both charsets), every value and every tail of
trailing bytes; they are proved by mutual induction over `Ty` / `Flds` in `Lemmas/BinCodecLemmas.lean`.

Only property theorems and their non-vacuity examples live here.
-/
namespace NasdaqModel.Props.C01
open NasdaqModel BinCodec

/-- Every in-domain value can be encoded. -/
theorem C01_encode_total (t : Ty) (v : Val) (hwf : wf t v = true) : ∃ n bs, encode t v = .ok (n, bs) :=
  ⟨_, _, (carried_all.1 t v hwf).enc⟩

/-- Decoding the encoded bytes — also when unrelated bytes follow — consumes exactly the reported length and yields the
    value with defaults filled in (`norm`). -/
theorem C01_roundtrip (t : Ty) (v : Val) (tail : Bytes) (n : Nat) (bs : Bytes)
    (hwf : wf t v = true) (henc : encode t v = .ok (n, bs)) :
    decode t (bs ++ tail) = .ok ((n : Int), norm t v) := by
  rw [(carried_all.1 t v hwf).enc] at henc
  injection henc with henc
  injection henc with h1 h2
  subst h1 h2
  exact (carried_all.1 t v hwf).dec tail

/-- Every field of the decoded value reads back equal through the typed attributes (defaults included; an optional record
    nothing was assigned to and `None` are the same observation: absent). -/
theorem C01_reads_equal (t : Ty) (v : Val) (hwf : wf t v = true) (p : List Step) :
    read t (norm t v) p = read t v p :=
  (carried_all.1 t v hwf).reads p

/-- The decoded value re-encodes to the identical bytes (and reported length). -/
theorem C01_reencode (t : Ty) (v : Val) (hwf : wf t v = true) : encode t (norm t v) = encode t v := by
  obtain ⟨h1, h2⟩ := (carried_all.1 t v hwf).norm_ok
  rw [(carried_all.1 t v hwf).enc, (carried_all.1 t (norm t v) h1).enc, h2]

/-- The decoded value is again in the domain (so the round trip can be iterated). -/
theorem C01_norm_wf (t : Ty) (v : Val) (hwf : wf t v = true) : wf t (norm t v) = true :=
  ((carried_all.1 t v hwf).norm_ok).1

/-- The length an encoder reports is the number of bytes it produced — for *every* value that encodes at all, in or out of
    the round-trip domain (no `wf` hypothesis): over-long fixed strings, empty chars, out-of-domain text included. -/
theorem C01_len_is_len (t : Ty) (v : Val) (n : Nat) (bs : Bytes) (henc : encode t v = .ok (n, bs)) : n = bs.length :=
  len_all.1 t v n bs henc

/-- A fixed-width field always occupies exactly its declared width (and reports it), whatever string is assigned. -/
theorem C01_fixed_width (iso : Bool) (k : Nat) (rj : Bool) (v : Val) (n : Nat) (bs : Bytes)
    (henc : encode (.fixed iso k rj) v = .ok (n, bs)) : bs.length = k ∧ n = k := by
  have h1 := len_all.1 _ _ n bs henc
  cases v <;> simp [encode, encFixed, bind_eq_ok] at henc
  omega

/-- A char field always occupies exactly one byte. -/
theorem C01_char_width (iso : Bool) (v : Val) (n : Nat) (bs : Bytes)
    (henc : encode (.char iso) v = .ok (n, bs)) : bs.length = 1 ∧ n = 1 := by
  have h1 := len_all.1 _ _ n bs henc
  cases v <;> simp [encode, encChar, bind_eq_ok] at henc
  omega

/-- Message level: the encoded message decodes — with unrelated bytes following — to the same class and the same record,
    consuming exactly the encoded length, which is the length reported. -/
theorem C01_msg_roundtrip (reg : List MsgDef) (m : MsgDef) (v : Val) (tail : Bytes) (n : Nat) (bs : Bytes)
    (hreg : findMsg reg (m.ind : Int) = some m) (hwf : wfMsg m v = true) (henc : encodeMsg m v = .ok (n, bs)) :
    decodeMsg reg (bs ++ tail) = .ok ((n : Int), m.cls, norm (.record m.fs) v) ∧ n = bs.length := by
  rw [encodeMsg_layout m v hwf] at henc
  injection henc with henc
  injection henc with h1 h2
  subst h1 h2
  exact ⟨decodeMsg_layout reg m v tail hreg hwf, rfl⟩

/-- An id that is not registered is refused (KeyError), whatever follows. -/
theorem C01_msg_unknown (reg : List MsgDef) (b : Bytes)
    (h : findMsg reg (intFromBytes false false (b.take 1)) = none) : decodeMsg reg b = .error .key := by
  simp [decodeMsg, h]

/-! ### non-vacuity: concrete, non-trivial values inside the hypotheses -/

/-- a message body with a big-endian signed short, a fixed string, an optional record, and an array of optional records
    with a big-endian unsigned count -/
def exTy : Ty :=
  .record (.cons 1 (.int 2 true true) .none
          (.cons 2 (.fixed true 4 false) .none
          (.cons 3 (.optrec (.cons 1 (.int 1 false false) (.int 7) (.cons 2 (.char false) .none .nil))) .none
          (.cons 4 (.arr (.optrec (.cons 1 (.str true) .none .nil)) 2 false true) .none .nil))))

def exVal : Val :=
  .recd [(1, .int (-2)), (2, .str [97, 233]), (3, .recd [(2, .str [66])]), (4, .list [.recd [], .recd [(1, .str [104, 105])]])]

example : wf exTy exVal = true := by decide
example : encode exTy exVal = .ok (17, [255, 254, 97, 233, 32, 32, 1, 7, 66, 0, 2, 0, 0, 2, 0, 104, 105]) := by decide
example : read exTy (norm exTy exVal) [.field 3, .field 1] = .int 7 := by decide          -- a default read back
example : read exTy (norm exTy exVal) [.field 4, .idx 1, .field 1] = .text [104, 105] := by decide
example : wfMsg { ind := 65, cls := 0, fs := .cons 1 (.int 8 false true) .none .nil } (.recd [(1, .int 18446744073709551615)]) = true := by
  decide
example : wf (.optrec (.cons 1 .bool .none .nil)) (.recd []) = true := by decide           -- absent optional record
example : wf (.record .nil) (.recd []) = true := by decide                                   -- a message body without fields
example : wf (.fixed true 3 false) (.str [97, 160]) = true := by decide                    -- NBSP at the end of a fixed string
example : encode (.fixed false 3 false) (.str [97, 98, 99, 100]) = .ok (3, [97, 98, 99]) := by decide   -- over-long: truncated
example : wf (.int 8 true false) (.int (-9223372036854775808)) = true := by decide

end NasdaqModel.Props.C01
