import NasdaqModel.Lemmas.FixLemmas
/-
C13 for dictionaries in which a repeating group REUSES tags of what encloses it (the library's own test dictionary: body fields
1, 2 and group 22[1, 2]; `NoLegs[LegSymbol, Currency]` next to a body-level `Currency`; an inner group that repeats its outer
group's first tag).  The statement asks for "header, body and trailer with disjoint tags" and "instances [that] start with their
first field" - not for pairwise distinct tags, which is what `wfDef` of `Props/C13.lean` demands.

What is here:
  * `wfDefShared` - the weaker well-formedness of the dictionary: the three segments use disjoint tags (nested ones included),
    the entries of every single level have distinct tags; tags may recur at different levels.
  * `countEnds` - the condition on the MESSAGE under which its wire form is unambiguous: an instance takes fields while the next tag
    is an entry of its group and not yet in the instance, so the announced count ends a group exactly when no instance can take the
    field that follows it (the first field of the next instance, or whatever follows the group in the enclosing instance / segment /
    next segment): that tag is no entry of the group, or the instance already holds it.  With pairwise distinct tags this is vacuous
    (`Fix.countEndsS_of_wfDef`).
  * the round trip of the model on the four messages of `corpus/C13/r-shared-*.json` - each with a group that ONLY the count ends -
    as kernel-decided theorems (`C13_shared_*`).
The general theorem `wfDefShared d → wfMsg d m → countEnds d m → decodeMsg reg (encMsg d m) = canonMsg d m`, for all dictionaries, is
`C13Shared_roundtrip` in `Props/C13SharedGen.lean`.
-/
namespace NasdaqModel.Props.C13Shared
open NasdaqModel Py Fix

/-- the entries of every single level have distinct tags -/
def levelDistinct : Nat → List Entry → Bool
  | 0, _ => false
  | fuel + 1, es => decide (tagsOf es).Nodup && es.all (fun e => match e with
      | .group _ sub _ => levelDistinct fuel sub
      | .field .. => true)

def disjointL (a b : List Nat) : Bool := a.all (fun t => !b.contains t)

/-- header, body and trailer with disjoint tags; inside a segment only the tags of one level are distinct (depth ≤ 8) -/
def wfDefShared (d : MsgDef) : Bool :=
  disjointL (deepTagsL d.hdr) (deepTagsL d.body) && disjointL (deepTagsL d.hdr) (deepTagsL d.trl) &&
  disjointL (deepTagsL d.body) (deepTagsL d.trl) &&
  levelDistinct 8 d.hdr && levelDistinct 8 d.body && levelDistinct 8 d.trl

def ceInsts (rec : List Entry → Seg → Option Nat → Bool) (sub : List Entry) (first : Option Nat) :
    List Seg → Option Nat → Bool
  | [], _ => true
  | [i], nxt => rec sub (canonFields sub i) nxt
  | i :: j :: r, nxt => rec sub (canonFields sub i) first && ceInsts rec sub first (j :: r) nxt

def ceItems (rec : List Entry → Seg → Option Nat → Bool) (es : List Entry) : Seg → Option Nat → Bool
  | [], _ => true
  | (t, v) :: rest, follow =>
    let nxt := match rest with
      | [] => follow
      | (t', _) :: _ => some t'
    (match v, lookupE es t with
     | .grp insts, some (.group _ sub _) => ceInsts rec sub (sub.head?.map Entry.tag) insts nxt
     | .grp _, _ => false
     | _, _ => true) && ceItems rec es rest follow

/-- `order`: the fields of a segment / instance in wire order; `follow`: the tag that comes next on the wire -/
def ce : Nat → List Entry → Seg → Option Nat → Bool
  | 0, _, _, _ => false
  | fuel + 1, es, order, follow =>
    (match follow with
     | some f => !((tagsOf es).contains f && !(keysOf order).contains f)
     | none => true) && ceItems (ce fuel) es order follow

def firstTag (s : Seg) : Option Nat := s.head?.map Prod.fst

/-- the count alone ends every group of the message (depth ≤ 8) -/
def countEnds (d : MsgDef) (m : Msg) : Bool :=
  ce 9 d.hdr m.hdr ((firstTag m.body).orElse fun _ => firstTag m.trl) &&
  ce 9 d.body m.body (firstTag m.trl) && ce 9 d.trl m.trl none

/-- inside the quantifier, encodes, and decodes through the registry to the same class, every byte consumed, the canonical form of
    the message (same values; `pyEq` is structural on canonical forms), equal to the original (`pyEqDict`), re-encoding identical -/
def roundTrips (d : MsgDef) (m : Msg) : Bool :=
  wfDefShared d && wfMsg d m && countEnds d m &&
  match encMsg d m with
  | .ok bs =>
    (match decodeMsg [d] bs with
     | .ok r => r.1 == bs.length && r.2.1.name == d.name && pyEq r.2.2 (canonMsg d m) && pyEqDict r.2.2 m &&
                (match encMsg d r.2.2 with
                 | .ok bs' => bs' == bs
                 | .error _ => false)
     | .error _ => false)
  | .error _ => false

def hdr35 : List Entry := [.field 35 .string true]

/-- tests/fix_messages.py: body fields 1, 2 and group 22[1, 2] -/
def basicDef : MsgDef :=
  { name := [66], type := [77], hdr := hdr35, trl := [],
    body := [.field 1 .int true, .field 2 .string true, .group 22 [.field 1 .int true, .field 2 .string false] false] }
/-- the group assigned BEFORE the same-tag body fields: `22=1|1=21|2=in|1=2|2=body|` -/
def basicMsg : Msg :=
  { hdr := [(35, .str [77])], trl := [],
    body := [(22, .grp [[(1, .int 21), (2, .str [105, 110])]]), (1, .int 2), (2, .str [98, 111, 100, 121])] }

/-- Symbol, NoLegs[LegSymbol, Currency?], Currency?, Text? -/
def orderDef : MsgDef :=
  { name := [79], type := [68], hdr := hdr35, trl := [],
    body := [.field 55 .string true, .group 555 [.field 600 .string true, .field 15 .string false] false,
             .field 15 .string false, .field 58 .string false] }
def orderMsg : Msg :=
  { hdr := [(35, .str [68])], trl := [],
    body := [(55, .str [65, 66, 67]), (555, .grp [[(600, .str [76, 49]), (15, .str [85, 83, 68])], [(600, .str [76, 50]), (15, .str [69, 85, 82])]]),
             (15, .str [83, 69, 75]), (58, .str [104, 105])] }

/-- NoOuter[Id, Note?, NoInner[Id, Note?], Qty?]: the inner group reuses the outer group's tags, its first one included -/
def nestedDef : MsgDef :=
  { name := [78], type := [78], hdr := hdr35, trl := [],
    body := [.group 100 [.field 101 .int true, .field 102 .string false,
                         .group 200 [.field 101 .int true, .field 102 .string false] false, .field 103 .int false] false] }
def nestedMsg : Msg :=
  { hdr := [(35, .str [78])], trl := [],
    body := [(100, .grp [[(101, .int 1), (200, .grp [[(101, .int 11), (102, .str [120])], [(101, .int 12)]])],
                         [(101, .int 2), (102, .str [110]), (200, .grp [[(101, .int 21)]]), (103, .int 5)]])] }

/-- a group announced with 0 instances, followed by a field whose tag the group uses too -/
def emptyDef : MsgDef :=
  { name := [69], type := [69], hdr := hdr35, trl := [],
    body := [.field 481 .string false, .group 577 [.field 481 .string false] false] }
def emptyMsg : Msg := { hdr := [(35, .str [69])], trl := [], body := [(577, .grp []), (481, .str [97])] }

theorem C13_shared_basic_roundtrip : roundTrips basicDef basicMsg = true := by decide +kernel
theorem C13_shared_order_roundtrip : roundTrips orderDef orderMsg = true := by decide +kernel
theorem C13_shared_nested_roundtrip : roundTrips nestedDef nestedMsg = true := by decide +kernel
theorem C13_shared_empty_group_roundtrip : roundTrips emptyDef emptyMsg = true := by decide +kernel

/-- none of them is inside `wfDef` (pairwise distinct tags): the theorems of `Props/C13.lean` do not speak about them -/
theorem C13_shared_outside_wfDef :
    wfDef basicDef = false ∧ wfDef orderDef = false ∧ wfDef nestedDef = false ∧ wfDef emptyDef = false := by decide +kernel

/-- the condition is about the message: the same dictionary, the leg WITHOUT its own Currency, followed by the body's Currency - the
    instance can take it, the wire is ambiguous, and the library (and the model) read it as the leg's -/
def orderAmbiguous : Msg :=
  { hdr := [(35, .str [68])], trl := [],
    body := [(55, .str [65]), (555, .grp [[(600, .str [76, 49])]]), (15, .str [83, 69, 75])] }
theorem C13_shared_ambiguous_is_excluded :
    countEnds orderDef orderAmbiguous = false ∧ roundTrips orderDef orderAmbiguous = false := by decide +kernel

end NasdaqModel.Props.C13Shared
