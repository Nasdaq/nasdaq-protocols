import NasdaqModel.Lemmas.SoupLemmas
/-
C12 / C03 / C04 — received data packets longer than the library itself can write.

The SoupBinTCP length prefix is an unsigned 16-bit number: a peer may send data packets with up to 65 534 payload bytes, while the
library's own encoder stops at 32 766 (`'!h'`).  Before the repair recorded in fixes/C03-soup-long-packets.md the decoder read the prefix
as *signed* and handed every received packet of 32 767 payload bytes and more to the application with an EMPTY payload.  These theorems
state, for the repaired decoder, that every payload of every legal length survives decoding byte-exact.
-/
namespace NasdaqModel.Props.C12Long
open NasdaqModel Py Soup

/-- **Sequenced data of every legal length decodes to its payload**: the wire form `[hi, lo, 'S'] ++ d` with
    `hi·256 + lo = 1 + |d|` decodes to `SequencedData d` — in particular for 32 767 ≤ |d| ≤ 65 534, which the signed reading lost. -/
theorem C12_decode_sequenced_any_length (d : Bytes) :
    decode ((1 + d.length) / 256 :: (1 + d.length) % 256 :: 83 :: d) = .ok (.seqData d) :=
  decode_seqData d

/-- the same for unsequenced data -/
theorem C12_decode_unsequenced_any_length (d : Bytes) :
    decode ((1 + d.length) / 256 :: (1 + d.length) % 256 :: 85 :: d) = .ok (.unseqData d) :=
  decode_unseqData d

/-- the pre-repair reading of the prefix (`struct.unpack('!h c', …)`), kept only to state what was wrong -/
def lenFieldSigned (b : Bytes) : Int := unpackBE16s (b.getD 0 0) (b.getD 1 0)

/-- **What the signed reading did** to a payload of 40 000 bytes: the prefix reads negative, so `len_ > 1` fails and the payload is
    dropped (the packet `[0x9C, 0x41, 'S', …]`). -/
theorem C12_signed_prefix_dropped_long_payloads : lenFieldSigned [156, 65, 83] = -25535 ∧ ¬ (lenFieldSigned [156, 65, 83] > 1) := by
  decide

/-- non-vacuity: a one-byte payload and the 3-byte header arithmetic of a 40 000-byte payload -/
example : decode [0, 2, 83, 7] = .ok (.seqData [7]) := by decide
example : (1 + 40000) / 256 = 156 ∧ (1 + 40000) % 256 = 65 := by decide

end NasdaqModel.Props.C12Long
