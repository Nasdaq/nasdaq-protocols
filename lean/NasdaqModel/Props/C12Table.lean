import NasdaqModel.Model.Soup
import NasdaqModel.Extracted.SoupTable
import NasdaqModel.Lemmas.TableLemmas
/-
C12 — the decoder's dispatch, sizes and classification, pinned to the running library for a whole finite table.

`Extracted/SoupTable.lean` is regenerated from the live library on every run (harness/extract_c12.py): the outcome of
`SoupMessage.from_bytes` on the 3- and 4-byte packet of each of the 256 type bytes and, for every registered indicator, on packets of
every total length 3..52 with three fillers.  The theorems say the model computes the same outcome on EVERY row (kernel evaluation of the
whole table, no sampling): a change of a struct format, of the dispatch on byte 2, of a heartbeat / logout flag or of an exception class in
the code regenerates a different table and the proof no longer checks.
-/
namespace NasdaqModel.Props.C12Table
open NasdaqModel Py Soup

/-- index in harness/extract_c12.py `KINDS` -/
def kindIdx : Pkt → Nat
  | .loginReq .. => 0 | .loginAcc .. => 1 | .loginRej .. => 2 | .seqData .. => 3 | .unseqData .. => 4 | .debug .. => 5
  | .clientHb => 6 | .serverHb => 7 | .endOfSession => 8 | .logoutReq => 9

/-- index in harness/extract_c12.py `ERRS` -/
def errIdx : Err → Nat
  | .overflow => 0 | .unicode => 1 | .value => 2 | .key => 3 | .struct => 4 | .type => 5 | .index => 6 | .invalidSoup => 7
  | .state => 8 | .eoq => 9 | .cancelled => 10 | .timeout => 11 | .dup => 12 | .attr => 13 | .refused => 14 | .other => 15

def probeBytes (t n fill : Nat) : Bytes := [0, n - 2, t] ++ List.replicate (n - 3) fill

/-- the model's outcome code for one probe: kind (+10 heartbeat, +20 logout) or 100 + exception class -/
def outcomeCode (b : Bytes) : Nat :=
  match decode b with
  | .ok p => kindIdx p + (if p.isHeartbeat then 10 else 0) + (if p.isLogout then 20 else 0)
  | .error e => 100 + errIdx e

def rowOK (r : Nat × Nat × Nat × Nat) : Bool := outcomeCode (probeBytes r.1 r.2.1 r.2.2.1) == r.2.2.2

/-- **Every row of the probed table**: the model decodes the probe packet to the same kind with the same heartbeat / logout flags, or
    fails with the same exception class, as the running library. -/
theorem C12_probe_table_agrees : Extracted.soupProbeTable.all rowOK = true := by decide +kernel

/-- the table is the whole domain it claims: all 256 type bytes at lengths 3 and 4 -/
theorem C12_probe_table_covers_all_types :
    (List.range 256).all (fun t => Extracted.soupProbeTable.any (fun r => r.1 == t && r.2.1 == 3) &&
                                   Extracted.soupProbeTable.any (fun r => r.1 == t && r.2.1 == 4)) = true := by
  -- the rows are sorted by type byte: among the rows of length 3 (and of length 4) the type bytes run through 0 … 255 in order
  have h3 : (List.range 256).isSublist ((Extracted.soupProbeTable.filter (·.2.1 == 3)).map (·.1)) = true := by decide +kernel
  have h4 : (List.range 256).isSublist ((Extracted.soupProbeTable.filter (·.2.1 == 4)).map (·.1)) = true := by decide +kernel
  simp only [any_key_eq_contains, List.all_eq_true, Bool.and_eq_true, List.contains_iff_mem]
  intro t ht
  exact ⟨(List.isSublist_iff_sublist.mp h3).subset ht, (List.isSublist_iff_sublist.mp h4).subset ht⟩

/-- exactly the registered indicators decode to something; every other type byte is an invalid packet -/
theorem C12_known_types_are_the_registered_ones :
    (List.range 256).all (fun t =>
      (outcomeCode (probeBytes t 3 65) != 100 + errIdx .invalidSoup || outcomeCode (probeBytes t 4 65) != 100 + errIdx .invalidSoup)
        == Extracted.soupIndicators.contains t) = true := by decide +kernel

example : outcomeCode (probeBytes 72 3 65) = 17 := by decide          -- ServerHeartbeat: kind 7, heartbeat
example : outcomeCode (probeBytes 76 49 49) = 0 := by decide +kernel  -- a 49-byte LoginRequest of '1's decodes

end NasdaqModel.Props.C12Table
