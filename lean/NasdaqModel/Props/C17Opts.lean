import NasdaqModel.Lemmas.GenHistoryLemmas
/-
C17, option changes.  `C17_no_leak_between_specs` (Props/C17.lean) quantifies over the whole invocation `b : Inv` — spec AND
options — and over every history; this file makes the option part explicit and adds what is specific to each option:

 * `--fix-version`: the table a FIX generation resolves its declared field types with is the documented table of *its own*
   version, whatever versions were generated before in the process (`C17_fix_types_follow_own_version`); the model's tables are
   the ones C16 ties to `version_types.py` (`C17_type_tables_are_the_documented_ones`).  This needs `freshTypeTables`; with
   memoised builders it is false (Witness/C17Opts.lean).
 * `--op-dir` occurs nowhere in what is written (`C17_op_dir_only_places_the_files`).
 * `--override-messages` decides only whether a repeated message key is an error: when both settings succeed they write the
   same files (`C17_override_only_decides_the_outcome`).
 * every option, any history made of invocations, constructions and `generate()` calls, any process state — type cache and
   live generator objects included (`C17_no_leak_between_option_changes`, for all worlds).
-/
namespace NasdaqModel.Props.C17Opts
open NasdaqModel GenHistory

/-- The model's type tables are `GenFix.supportedTypes` (tied to `get_supported_types` by the C16 check on every run), and the
    three update lists the memoised variant applies in place are exactly what distinguishes them. -/
theorem C17_type_tables_are_the_documented_ones :
    tableOf 42 = .ok GenFix.types42 ∧ tableOf 44 = .ok GenFix.types44 ∧ tableOf 50 = .ok GenFix.types50
    ∧ tableOf 502 = .ok GenFix.types502
    ∧ GenFix.types44 = GenFix.updateAll GenFix.types42 upd44 ∧ GenFix.types50 = GenFix.updateAll GenFix.types42 upd50
    ∧ GenFix.types502 = GenFix.updateAll GenFix.types50 upd502 :=
  -- by definition: nothing of the tables is inspected
  ⟨rfl, rfl, rfl, rfl, rfl, rfl, rfl⟩

/-- With a new dict per call, `get_supported_types(v)` is a function of `v`: it returns the documented table and leaves the
    process state alone — for EVERY state of the cache. -/
theorem C17_type_table_depends_on_version_only (sem : Semantics) (hf : sem.freshTypeTables = true) (c : TCache) (v : Nat) :
    typesFor sem c v = (c, tableOf v) := by
  simp [typesFor, hf]

/-- A FIX generation that succeeds wrote, into its fields module, the classes the table of ITS OWN version gives for the
    declared type names — in every world (any earlier generations of any versions, same process or not). -/
theorem C17_fix_types_follow_own_version (sem : Semantics) (hp : pureGen sem = true) (spec : FixSpec) (o : GenOpts) (w : World)
    (hok : (invoke sem w (.fix spec o)).2 = .ok ()) :
    ∃ tbl resolved, tableOf spec.version = .ok tbl ∧ resolveTypes tbl (declared spec) = .ok resolved
      ∧ read (invoke sem w (.fix spec o)).1.fs (o.dir, prefix_ o.pfx ++ sFix ++ o.app ++ sFields ++ sPy)
          = some [.fixFields spec.id spec.fields spec.counts resolved] := by
  cases hpg : (planGen sem w.st (.fix spec o)).2 with
  | error e =>
    rw [invoke_gen sem w _ rfl, hpg] at hok
    cases hok
  | ok rp =>
    obtain ⟨tbl, resolved, ht, hr, hl, _⟩ := planFix_ok sem w.st spec o rp hpg
    rw [C17_type_table_depends_on_version_only sem (pure_flags hp).2.2.2.2.2] at ht
    refine ⟨tbl, resolved, ht, hr, ?_⟩
    rw [invoke_gen sem w _ rfl, hpg]
    simp only [applyPlan, RelPlan.at, Inv.dir]
    rw [read_applyActs_trunc _ _ (planGen_acts_trunc sem hp w.st _ rp hpg), hl]

/-- The output directory occurs nowhere in what a generator writes: the same invocation into another directory has the same
    outcome and writes the same relative files with the same content (every semantics, every state). -/
theorem C17_op_dir_only_places_the_files (sem : Semantics) (st : ProcState) (i : Inv) (d : Dir) :
    planGen sem st (i.retarget d) = planGen sem st i :=
  planGen_retarget sem st i d

/-- `--override-messages` / `--no-override-messages` only decides whether a spec that declares a message key twice is an error:
    two ITCH/OUCH/SQF invocations that differ in nothing but that flag and both succeed write the same files. -/
theorem C17_override_only_decides_the_outcome (sem : Semantics) (st : ProcState) (impl : Impl) (spec : SoupSpec) (o : GenOpts)
    (b : Bool) (rp rp' : RelPlan)
    (h : (planSoup sem st impl spec o).2 = .ok rp) (h' : (planSoup sem st impl spec { o with override := b }).2 = .ok rp') :
    rp' = rp := by
  revert h h'
  simp only [planSoup]
  split
  · intro h; cases h
  · intro h h'
    split at h
    · cases h
    · split at h'
      · cases h'
      · injection h with h
        injection h' with h'
        rw [← h, ← h']

/-- without a repeated key the flag changes nothing at all -/
theorem C17_override_irrelevant_without_duplicates (sem : Semantics) (st : ProcState) (impl : Impl) (spec : SoupSpec) (o : GenOpts)
    (b : Bool) (hd : dupKey (msgKeys 0 spec.msgs) = false) :
    planSoup sem st impl spec { o with override := b } = planSoup sem st impl spec o := by
  simp [planSoup, hd]

/-- **No leak between option changes (all worlds).**  Whatever the process state — class-level registries, the type-table
    cache, the generator objects still alive — and whatever the file system holds, an invocation `b` (spec and ALL its options:
    version, prefix, app name, init flag, override flag, pdu, package, directory) has the outcome it has alone, and every file
    it writes is the file it writes alone.  The histories of `C17_no_leak_between_specs` are the special case of reachable worlds. -/
theorem C17_no_leak_between_option_changes_of_pure (sem : Semantics) (hp : pureGen sem = true) (b : Inv) (hg : b.isGen = true)
    (w : World) :
    (invoke sem w b).2 = (invoke sem w0 b).2
    ∧ ((invoke sem w0 b).2 = .ok () → ∀ n, n ∈ targetNames b →
        read (invoke sem w b).1.fs (b.dir, n) = read (invoke sem w0 b).1.fs (b.dir, n)) := by
  refine ⟨by rw [invoke_outcome_pure sem hp w b hg, invoke_outcome_pure sem hp w0 b hg], fun hok n hn => ?_⟩
  obtain ⟨rp, hrp⟩ := planGen_ok_of_invoke sem hp w0 b hg hok
  rw [read_invoke_pure sem hp w b hg rp hrp n hn, read_invoke_pure sem hp w0 b hg rp hrp n hn]

/-- The same for `current`, after any history of invocations, constructions, `generate()` calls and process
    boundaries, in which any option may change from one step to the next. -/
theorem C17_no_leak_between_option_changes (b : Inv) (hg : b.isGen = true) (h : List Ev) :
    (invoke current (run current w0 h) b).2 = (invoke current w0 b).2
    ∧ ((invoke current w0 b).2 = .ok () → ∀ n, n ∈ targetNames b →
        read (invoke current (run current w0 h) b).1.fs (b.dir, n) = read (invoke current w0 b).1.fs (b.dir, n)) :=
  C17_no_leak_between_option_changes_of_pure current pureGen_current b hg _

section examples
private def optsG (d : Nat) : GenOpts := ⟨[103], [], true, .out d, true⟩
private def dictSP2 : FixSpec := ⟨1, 502, [1, 20], [20], [], []⟩
private def dict44 : FixSpec := ⟨2, 44, [1, 20], [20], [], []⟩
private def soupDup : SoupSpec := ⟨1, some [(1, 0)], [1], [65, 66, 65]⟩     -- message id 65 twice, both `incoming`
-- a succeeding FIX generation of a lower version after a higher one, and what the theorem gives for it
example : (invoke current (run current w0 [.inv (.fix dictSP2 (optsG 1))]) (.fix dict44 (optsG 2))).2 = .ok () := by decide +kernel
example : resolveTypes GenFix.types44 (declared dict44) = .ok [.FixInt, .FixString] := by decide +kernel
example : resolveTypes GenFix.types502 (declared dictSP2) = .ok [.FixInt, .FixLocalMktDate] := by decide +kernel
-- the override flag: a repeated key is an error without it, and the later declaration wins with it
example : (invoke current w0 (.soup .ouch soupDup { optsG 1 with override := false })).2 = .error .value := by decide +kernel
example : (invoke current w0 (.soup .ouch soupDup (optsG 1))).2 = .ok () := by decide +kernel
example : importAfter current w0 (.soup .ouch soupDup (optsG 1)) = .ok () := by decide +kernel
example : dupKey (msgKeys 0 [65, 66, 65]) = true ∧ dupKey (msgKeys 0 [65, 65]) = false := by decide +kernel
end examples

end NasdaqModel.Props.C17Opts
