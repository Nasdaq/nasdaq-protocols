import NasdaqModel.Lemmas.SyncFacadeProgress
import NasdaqModel.Lemmas.SyncFacadeMeasure
import NasdaqModel.Witness.C20
/-
C20 — the synchronous facade always returns or raises; its thread always ends.

Model: `Model/SyncFacade.lean` — the code from /repo 86c1975 (send_unseq_data through the executor), 1753c2b
(`_wait_for`: StateError once the loop thread is gone) and 564383d (the close callback takes no lock; `_shutdown`) on.
Any number of caller threads, the executor's loop thread, peer events; one transition = one atomic statement of one
thread; every interleaving allowed, nothing assumed fair.  All theorems quantify over ALL configurations (any number of
threads, any programs, any peer script) and ALL interleavings; proofs are invariants by induction over the transition
sequence and a strictly decreasing measure.

FULL STATEMENT (`C20_no_hang`):
    ∀ cfg ls s, exec (init cfg) ls = some s → (∀ l, step s l = none) →
      ∀ i c, s.callers[i]? = some c → c.finished = true ∨ legitWait s c = true
together with `C20_thread_exits` (thread exited, event set, session closed, lock free whenever a close was started),
`C20_close_returns_thread_exited`, `C20_after_close_state_error` (send_unseq_data included) and the run-length bound.

What stays `_partial` is a statement about the *exception class*, not about blocking: with two receive() calls waiting
at once the queue's single `_recv_task` slot forgets one of them; close() then answers it with StateError (after the thread
has exited) instead of EndOfQueue.  `C20_close_answers_blocked_receive_partial` proves "once close() has begun no receive
is left waiting" for runs in which every step satisfies `okStep` (never two receives waiting at once: `execOk`); `C20_forgotten_receiver_needs_okStep`
shows the hypothesis is needed (Witness.C20.run3, replayed on the implementation).
-/
namespace NasdaqModel.Props.C20
open NasdaqModel.SyncFacade

/-- `closed_event` set ⇒ `loop.stop` has been requested -/
theorem C20_event_implies_stop {cfg : Cfg} {s : St} (h : Reachable cfg s) :
    s.closedEvent = true → s.stopReq = true := by
  intro he
  rcases (ginv_cases (inv1_reachable h).1).2 with ⟨_, hs, _⟩ | ⟨_, he', _, _⟩
  · exact hs
  · rw [he] at he'; cases he'

/-- the executor thread exits only after the close callback has completed: stop requested, event set, lock released -/
theorem C20_thread_exit_implies_closed {cfg : Cfg} {s : St} (h : Reachable cfg s) :
    s.loopAlive = false →
      s.closePc = .done ∧ s.stopReq = true ∧ s.closedEvent = true ∧ s.sessClosed = true ∧ s.lock ≠ some .loop := by
  intro ha
  obtain ⟨hd, hs, he⟩ | ⟨_, _, ha', _⟩ := (ginv_cases (inv1_reachable h).1).2
  · exact ⟨hd, hs, he, by rw [St.sessClosed, hd]; rfl, (ginv_cases (inv1_reachable h).1).1⟩
  · rw [ha] at ha'; cases ha'

/-- the thread, once exited, stays exited; a close procedure, once started, is never forgotten -/
theorem C20_thread_never_restarts {s s' : St} {l : Label} (h : step s l = some s') :
    (s.loopAlive = false → s'.loopAlive = false) ∧ (s.closePc ≠ .idle → s'.closePc ≠ .idle) :=
  step_mono h

/-- lock discipline: a caller thread owns `close_lock` exactly while it is between `with self.close_lock:` and the end
of that block; the loop thread never owns it (the close callback must not wait for a lock a caller may hold) -/
theorem C20_lock_discipline {cfg : Cfg} {s : St} (h : Reachable cfg s) :
    (∀ (i : Nat) (c : Caller), s.callers[i]? = some c → (critPc c = true ↔ s.lock = some (.caller i))) ∧
    s.lock ≠ some .loop := by
  have hI := inv1_reachable h
  exact ⟨fun i c hc => (hI.2 i c hc).2.2, (ginv_cases hI.1).1⟩

theorem C20_mutual_exclusion {cfg : Cfg} {s : St} (h : Reachable cfg s) {i j : Nat} {ci cj : Caller}
    (hi : s.callers[i]? = some ci) (hj : s.callers[j]? = some cj) (ci_in : critPc ci = true)
    (cj_in : critPc cj = true) : i = j := by
  obtain ⟨hc, _⟩ := C20_lock_discipline h
  have li := (hc i ci hi).mp ci_in
  have lj := (hc j cj hj).mp cj_in
  rw [li] at lj; simpa using lj

/-- when `close()` / `logout()` has returned, the executor thread has exited and the session reports closed -/
theorem C20_close_returns_thread_exited {cfg : Cfg} {s : St} (h : Reachable cfg s) {i : Nat} {c : Caller}
    (hc : s.callers[i]? = some c) {op : Op} (hop : op.isClose = true) (hret : (op, Outcome.ok) ∈ c.hist) :
    s.loopAlive = false ∧ s.sessClosed = true := by
  have hI := inv12_reachable h
  have hcl : closedIn c.hist = true := by
    unfold closedIn
    exact List.any_eq_true.mpr ⟨(op, .ok), hret, by simp [hop]⟩
  have ha := (hI.2 i c hc).gone hcl
  exact ⟨ha, (C20_thread_exit_implies_closed h ha).2.2.2.1⟩

/-- reading of `goodHist`: a call finished after a returned close()/logout() of the same thread ended as
`expectedAfterClose` says — StateError for receive / send / execute -/
theorem goodHist_spec {pre post : List (Op × Outcome)} {op : Op} {o : Outcome}
    (h : goodHist (pre ++ (op, o) :: post) = true) (hc : closedIn post = true) : o = expectedAfterClose op := by
  induction pre with
  | nil => simp [goodHist, hc] at h; exact h.2
  | cons p pre ih =>
    obtain ⟨op', o'⟩ := p
    simp only [List.cons_append, goodHist, Bool.and_eq_true] at h
    exact ih h.1

/-- after `close()` / `logout()` returned, every later call of that thread fails with the state error
(receive, send_msg/send_debug, send_unseq_data, execute); close/logout return at once -/
theorem C20_after_close_state_error {cfg : Cfg} {s : St} (h : Reachable cfg s) {i : Nat} {c : Caller}
    (hc : s.callers[i]? = some c) {pre post : List (Op × Outcome)} {op : Op} {o : Outcome}
    (hh : c.hist = pre ++ (op, o) :: post) (hcl : closedIn post = true) : o = expectedAfterClose op := by
  have hI := inv12_reachable h
  have g := (hI.2 i c hc).good
  rw [hh] at g
  exact goodHist_spec g hcl

/-- … and of ANY thread: once the executor thread has exited, a receive / send / execute call that is at its
`_must_be_active()` check is not blocked and ends with StateError in that very step (fails fast) -/
theorem C20_call_on_dead_executor_fails_fast {s : St} {i : Nat} {c : Caller} {op : Op} {rest : List Op}
    (hc : s.callers[i]? = some c) (hdead : s.loopAlive = false) (hp : c.prog = op :: rest)
    (hpc : c.pc = .chk1 ∨ c.pc = .chk2) (hop : op.isClose = false) :
    stepCaller s i = some { s with callers := updAt s.callers i (fun _ => finish c op .state) } := by
  rcases c with ⟨prog, pc, job, hist⟩
  simp only at hp hpc; subst hp
  rcases hpc with rfl | rfl <;> simp [stepCaller, hc, callerStep, hdead, hop]

theorem C20_measure_decreases {s s' : St} {l : Label} (h : step s l = some s') : mu s' < mu s := step_mu h

/-- every run from the initial state of any configuration has at most `mu (init cfg)` transitions -/
theorem C20_runs_bounded {cfg : Cfg} {ls : List Label} {s : St} (h : exec (init cfg) ls = some s) :
    ls.length ≤ mu (init cfg) := by
  have := exec_length_le h; omega

theorem sumMu_init (ps : List (List Op)) : sumMu (ps.map initCaller) = 14 * (ps.map List.length).sum := by
  induction ps with
  | nil => rfl
  | cons p ps ih => simp only [List.map_cons, sumMu, ih, List.sum_cons, callerMu, initCaller, jobRank]; omega

/-- the bound, explicitly: 14 steps per call, 6 for the loop thread, one per peer event -/
theorem C20_runs_bounded_explicit {cfg : Cfg} {ls : List Label} {s : St} (h : exec (init cfg) ls = some s) :
    ls.length ≤ 14 * (cfg.progs.map List.length).sum + 6 + cfg.peer.length := by
  have := C20_runs_bounded h
  simp only [mu, init, sumMu_init, closeRank] at this
  simpa using this

theorem terminal_iff (s : St) : terminal s = true ↔ ∀ l, step s l = none := by
  constructor
  · intro h l
    simp only [terminal, List.all_eq_true, Option.isNone_iff_eq_none] at h
    by_cases hm : l ∈ allLabels s
    · exact h l hm
    · cases l with
      | caller i =>
        have : ¬ i < s.callers.length := by
          intro hi; apply hm
          simp only [allLabels, List.mem_append, List.mem_flatMap, List.mem_range]
          exact Or.inl ⟨i, hi, by simp⟩
        simp [step, stepCaller, List.getElem?_eq_none (Nat.le_of_not_lt this)]
      | job i =>
        have : ¬ i < s.callers.length := by
          intro hi; apply hm
          simp only [allLabels, List.mem_append, List.mem_flatMap, List.mem_range]
          exact Or.inl ⟨i, hi, by simp⟩
        simp only [step, stepJob, List.getElem?_eq_none (Nat.le_of_not_lt this)]
        split <;> rfl
      | close | stop | peer => exact absurd (by simp [allLabels]) hm
  · intro h
    simp only [terminal, List.all_eq_true, Option.isNone_iff_eq_none]
    exact fun l _ => h l

/-- **Every maximal run ends with all callers returned** (or waiting in `receive()` for a peer that may still send, on
an open session with a live loop): no call blocks for ever — any number of threads, any interleaving, any peer events. -/
theorem C20_no_hang {cfg : Cfg} {ls : List Label} {s : St} (h : exec (init cfg) ls = some s)
    (hmax : ∀ l, step s l = none) :
    ∀ (i : Nat) (c : Caller), s.callers[i]? = some c → c.finished = true ∨ legitWait s c = true :=
  terminal_finished_or_waiting (invs_reachable ⟨ls, h⟩) hmax

/-- … and if a close was ever started (by `close()`, `logout()`, end of session or disconnect) the run ends with the
executor thread exited, the event set, the session closed and the lock free -/
theorem C20_thread_exits {cfg : Cfg} {ls : List Label} {s : St} (h : exec (init cfg) ls = some s)
    (hmax : ∀ l, step s l = none) (hstarted : s.closePc ≠ .idle) :
    s.loopAlive = false ∧ s.closedEvent = true ∧ s.sessClosed = true ∧ s.lock = none := by
  have I := invs_reachable ⟨ls, h⟩
  obtain ⟨hd, ha⟩ := closing_completes I hmax hstarted
  have r := C20_thread_exit_implies_closed ⟨ls, h⟩ ha
  refine ⟨ha, r.2.2.1, r.2.2.2.1, ?_⟩
  cases hl : s.lock with
  | none => rfl
  | some t =>
    cases t with
    | loop => exact absurd hl r.2.2.2.2
    | caller k => exact absurd hl (no_holder_when_terminal I hmax k)

/-- … and then nobody is left waiting for the peer either: all calls have returned or raised -/
theorem C20_all_returned_after_close {cfg : Cfg} {ls : List Label} {s : St}
    (h : exec (init cfg) ls = some s) (hmax : ∀ l, step s l = none) (hstarted : s.closePc ≠ .idle) :
    ∀ (i : Nat) (c : Caller), s.callers[i]? = some c → c.finished = true := by
  intro i c hc
  rcases C20_no_hang h hmax i c hc with hf | hw
  · exact hf
  · have ha := (C20_thread_exits h hmax hstarted).1
    unfold legitWait at hw
    split at hw
    · simp [ha] at hw
    · simp at hw

/-- a blocked `_wait_for` is never blocked by a dead executor: with the thread gone the caller's next statement is enabled -/
theorem C20_wait_enabled_when_thread_gone {s : St} {i : Nat} {c : Caller} (hc : s.callers[i]? = some c)
    (hp : c.prog ≠ []) (hpc : c.pc = .wait) (hdead : s.loopAlive = false) : stepCaller s i ≠ none := by
  rcases c with ⟨prog, pc, job, hist⟩
  simp only at hp hpc; subst hpc
  cases prog with
  | nil => exact absurd rfl hp
  | cons op rest =>
    simp only [stepCaller, hc, callerStep, hdead]
    cases op <;> cases job <;> simp [Op.isClose]

/-! ### what remains of the single `_recv_task` slot: the exception class (partial) -/

/-- inside `okStep` (never two receives waiting at once): once `AsyncSession.close` has begun no receive is left
waiting — the waiting one was answered with EndOfQueue by `queue.stop()` -/
theorem C20_close_answers_blocked_receive_partial {cfg : Cfg} {ls : List Label} {s : St}
    (h : execOk (init cfg) ls = some s) (hcl : s.sessClosed = true) :
    ∀ (i : Nat) (c : Caller), s.callers[i]? = some c → ∀ t, c.job ≠ .blocked t := by
  intro i c hc t ht
  have := ((inv3_execOk h) i c hc t ht).1
  rw [hcl] at this
  cases this

/-- the hypothesis is needed: in Witness.C20.run3 (two receives waiting, then close()) the session is closed and
caller 0 is still waiting -/
theorem C20_forgotten_receiver_needs_okStep :
    (exec (init Witness.C20.cfg3) (Witness.C20.run3.take 21)).map
      (fun s => (s.sessClosed, s.callers.map (·.job))) =
      some (true, [.blocked 0, .done .eoq, .none]) := by decide +kernel

/-- `soup.connect`: when it raises, its executor thread has been stopped and joined -/
theorem C20_connect_raises_thread_exited (ev : LoginEv) : (connect ev).1 = true → (connect ev).2 = false := by
  cases ev <;> decide

/-- **`soup.connect` and a peer that ends the session right behind its acceptance.**  With the wrapper installed in the very
step in which the login returns (`soup.connect` as repaired), for EVERY schedule of the loop thread — the peer's close
processed before, between or after any number of such steps — once the wrapper exists a later `close()` / `logout()`
returns: the close callback was in place when the session closed (`closed_event` set), or the session is still open and
`close()` closes it itself.  (`Witness.C20.C20_witness_connect_race`: with installation as a separate step this fails.) -/
theorem C20_connect_then_close_returns (evs : List ConnEv) (hf : fixedSchedule evs = true)
    (hi : (connRun evs).installed = true) : closeReturns (connRun evs) = true := by
  obtain ⟨_, h2⟩ := connOk_run evs hf
  unfold closeReturns
  rw [hi]
  cases hc : (connRun evs).sessionClosed
  · simp
  · simp [h2 hc]

example : fixedSchedule [.loginAndInstall, .sessionCloses] = true ∧ (connRun [.loginAndInstall, .sessionCloses]).installed = true ∧
    (connRun [.loginAndInstall, .sessionCloses]).eventSet = true := by decide +kernel


/-- two threads, a blocked receive woken by close(), the closer returns, later calls get StateError -/
example :
    let cfg : Cfg := { progs := [[.recv, .send], [.close, .recv]], peer := [.reply] }
    let run := Witness.C20.rep 3 (.caller 0) ++ [.job 0, .peer, .caller 0] ++   -- T0 receive() gets the message
      Witness.C20.rep 4 (.caller 0) ++ [.job 0] ++                            -- T0 send_msg() submitted and run
      Witness.C20.rep 6 (.caller 1) ++ [.job 1] ++ Witness.C20.rep 2 (.caller 1) ++   -- T1 close() up to closed_event.wait()
      Witness.C20.rep 4 .close ++ [.stop] ++ Witness.C20.rep 2 (.caller 1) ++  -- close procedure, loop stops, T1 returns
      [.caller 0] ++ Witness.C20.rep 2 (.caller 1)                            -- T0 gets its result, T1 receive() → StateError
    (execOk (init cfg) run).map (fun s => (terminal s, s.loopAlive, s.callers.map (·.hist))) =
      some (true, false, [[(.send, .ok), (.recv, .msg)], [(.recv, .state), (.close, .ok)]]) := by decide +kernel

/-- a receive blocked when the peer ends the session gets EndOfQueue; the thread exits -/
example :
    let cfg : Cfg := { progs := [[.recv]], peer := [.endOfSession] }
    let run := Witness.C20.rep 3 (.caller 0) ++ [.job 0, .peer] ++ Witness.C20.rep 4 .close ++ [.stop, .caller 0]
    (execOk (init cfg) run).map (fun s => (terminal s, s.loopAlive, s.callers.map (·.hist))) =
      some (true, false, [[(.recv, .eoq)]]) := by decide +kernel

/-- the interleavings of Witness/C20.lean are ordinary runs of the model (and satisfy `okStep` throughout, except the two-receive one) -/
example : (execOk (init Witness.C20.cfg1) Witness.C20.run1).isSome = true := by decide +kernel
example : (execOk (init Witness.C20.cfg2) Witness.C20.run2).isSome = true := by decide +kernel
example : execOk (init Witness.C20.cfg3) Witness.C20.run3 = none := by decide +kernel

end NasdaqModel.Props.C20
