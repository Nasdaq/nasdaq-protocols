import NasdaqModel.Lemmas.PyLemmas
import NasdaqModel.Lemmas.SoupLemmas
import NasdaqModel.Spec.SoupLayout
/-
C12 — SoupBinTCP packets encode to the protocol layout and decode back unchanged.
The domain of the property (`wfText`, `isCanonInt`, `wfPkt`), the property theorems and their non-vacuity examples; the private facts are
about the space-padded fields of the layout. What holds of the codec for every packet and every byte string is in `Lemmas/SoupLemmas.lean`.
-/
namespace NasdaqModel.Props.C12
open NasdaqModel Py Soup Spec.SoupLayout

/-- a text field the library can carry in a fixed-width login field of width `n` -/
def wfText (s : Str) (n : Nat) : Bool :=
  decide (s.length ≤ n) && s.all (· < 128) && edgeOk isSpace s

/-- `q` is the canonical decimal text of an integer (what `str(int)` produces) -/
def isCanonInt (q : Str) : Bool :=
  match parseIntBytes q with
  | .ok i => intStr i == q
  | .error _ => false

/-- the packets the property quantifies over: fields within the documented widths,
    payloads up to the largest packet the library can write -/
def wfPkt : Pkt → Bool
  | .loginReq u p s q => wfText u 6 && wfText p 10 && wfText s 10 && isCanonInt q && decide (q.length ≤ 20)
  | .loginAcc s q => wfText s 10 && decide ((intStr q).length ≤ 20)
  | .loginRej r => r == 65 || r == 83
  | .seqData d => decide (d.length ≤ 32766)
  | .unseqData d => decide (d.length ≤ 32766)
  | .debug t => decide (t.length ≤ 32766) && t.all (· < 128)
  | _ => true

private theorem padded_length {s : Str} {n : Nat} (h : s.length ≤ n) : (padded s n).length = n := by
  simp [padded]; omega

private theorem padded_ascii {s : Str} (n : Nat) (h : s.all (· < 128) = true) : (padded s n).all (· < 128) = true := by
  simp only [padded, List.all_append, h, Bool.true_and]
  simp [List.all_replicate]

private theorem pack_ok {s : Str} {n : Nat} (h : s.all (· < 128) = true) :
    pack s n = .ok (padded s n) := by
  unfold pack encodeAscii
  rw [show ljust s n = padded s n from rfl, if_pos (padded_ascii n h)]

private theorem packNs_padded {s : Str} {n : Nat} (h : s.length ≤ n) : packNs n (padded s n) = padded s n := by
  have hl := padded_length h
  unfold packNs
  rw [hl]
  simp [List.take_of_length_le (Nat.le_of_eq hl)]

private theorem wfText_parts {s : Str} {n : Nat} (h : wfText s n = true) :
    s.length ≤ n ∧ s.all (· < 128) = true ∧ edgeOk isSpace s = true := by
  simpa [wfText, and_assoc] using h

private theorem canon_exists {q : Str} (h : isCanonInt q = true) : ∃ i, q = intStr i := by
  unfold isCanonInt at h
  cases hq : parseIntBytes q with
  | ok i => rw [hq] at h; exact ⟨i, (beq_iff_eq.mp h).symm⟩
  | error e => rw [hq] at h; exact absurd h (by simp)

private theorem unpackString_padded {s : Str} {n : Nat} (h : wfText s n = true) :
    unpackString (padded s n) = .ok s := by
  obtain ⟨_, hall, hedge⟩ := wfText_parts h
  unfold unpackString decodeAscii
  rw [if_pos (padded_ascii n hall), ok_bind, pure_eq_ok, show padded s n = ljust s n from rfl, strip_ljust n hedge]

private theorem unpackInt_padded (i : Int) (n : Nat) : unpackInt (padded (intStr i) n) = .ok i := by
  have hedge : edgeOk (fun c => c == 32 || c == 0) (intStr i) = true :=
    intStr_edgeOk (fun d hd => by simp [isDigit] at hd; simp; omega) (by decide) i
  unfold unpackInt stripSpNul padded
  rw [stripBy_append_replicate _ hedge (by decide)]
  exact parseIntBytes_intStr i

/-- **Layout.** Every well-formed packet encodes to exactly the documented layout. -/
theorem C12_layout (p : Pkt) (h : wfPkt p = true) : encode p = .ok (layout p) := by
  cases p with
  | loginReq u pw s q =>
    simp only [wfPkt, Bool.and_eq_true, decide_eq_true_eq] at h
    obtain ⟨⟨⟨⟨hu, hp⟩, hs⟩, hq⟩, hql⟩ := h
    obtain ⟨hul, hua, _⟩ := wfText_parts hu
    obtain ⟨hpl, hpa, _⟩ := wfText_parts hp
    obtain ⟨hsl, hsa, _⟩ := wfText_parts hs
    obtain ⟨i, rfl⟩ := canon_exists hq
    have hh : header 47 76 = .ok [0, 47, 76] := by decide
    simp only [encode, hh, pack_ok hua, pack_ok hpa, pack_ok hsa, pack_ok (intStr_ascii i), ok_bind, pure_eq_ok,
      packNs_padded hul, packNs_padded hpl, packNs_padded hsl, packNs_padded hql]
    simp [layout, payload, typeChar, padded_length hul, padded_length hpl, padded_length hsl, padded_length hql]
  | loginAcc s q =>
    simp only [wfPkt, Bool.and_eq_true, decide_eq_true_eq] at h
    obtain ⟨hs, hql⟩ := h
    obtain ⟨hsl, hsa, _⟩ := wfText_parts hs
    have hh : header 31 65 = .ok [0, 31, 65] := by decide
    simp only [encode, hh, pack_ok hsa, pack_ok (intStr_ascii q), ok_bind, pure_eq_ok, packNs_padded hsl, packNs_padded hql]
    simp [layout, payload, typeChar, padded_length hsl, padded_length hql]
  | loginRej r =>
    have hr : r = 65 ∨ r = 83 := by simpa [wfPkt] using h
    rcases hr with rfl | rfl <;> decide
  | seqData d | unseqData d =>
    have hd : d.length ≤ 32766 := by simpa [wfPkt] using h
    simp only [encode, header_succ, if_pos hd, ok_bind, pure_eq_ok]
    simp [layout, payload, typeChar, Nat.add_comm]
  | debug t =>
    simp only [wfPkt, Bool.and_eq_true, decide_eq_true_eq] at h
    obtain ⟨hl, ha⟩ := h
    simp only [encode, header_succ, if_pos hl, ok_bind, pure_eq_ok, encodeAscii, ha, if_true]
    simp [layout, payload, typeChar, Nat.add_comm]
  | clientHb | serverHb | endOfSession | logoutReq => decide

/-- **Length prefix.** The first two bytes are the big-endian count of the bytes that follow. -/
theorem C12_length_prefix (p : Pkt) (h : wfPkt p = true) :
    ∃ hi lo, layout p = hi :: lo :: typeChar p :: payload p ∧
      hi * 256 + lo = (payload p).length + 1 ∧ lo < 256 ∧ hi < 128 ∧
      (layout p).length = 2 + (hi * 256 + lo) := by
  -- a well-formed packet can be built (`C12_layout`): `struct.pack('!h', …)` accepted the count of the bytes that follow
  obtain ⟨hb, rest, he, hh⟩ := encode_inv p _ (C12_layout p h)
  rw [header_succ] at hh
  split at hh
  · cases hh
    have hd : layout p = (1 + (payload p).length) / 256 :: (1 + (payload p).length) % 256 :: typeChar p :: payload p := rfl
    rw [hd] at he
    injection he with _ he
    injection he with _ he
    injection he with _ h4
    subst h4
    exact ⟨_, _, hd, by omega, by omega, by omega, by rw [hd]; simp only [List.length_cons]; omega⟩
  · cases hh

/-- **Round trip.** Decoding the bytes a well-formed packet encodes to yields an equal packet. -/
theorem C12_roundtrip (p : Pkt) (h : wfPkt p = true) (bs : Bytes) (he : encode p = .ok bs) :
    decode bs = .ok p := by
  rw [C12_layout p h] at he
  obtain rfl : layout p = bs := Except.ok.inj he
  cases p with
  | loginReq u pw s q =>
    simp only [wfPkt, Bool.and_eq_true, decide_eq_true_eq] at h
    obtain ⟨⟨⟨⟨hu, hp⟩, hs⟩, hq⟩, hql⟩ := h
    obtain ⟨i, rfl⟩ := canon_exists hq
    have hul := padded_length (wfText_parts hu).1
    have hpl := padded_length (wfText_parts hp).1
    have hsl := padded_length (wfText_parts hs).1
    have hqq := padded_length hql
    have hb : layout (.loginReq u pw s (intStr i)) =
        [0, 47, 76] ++ padded u 6 ++ padded pw 10 ++ padded s 10 ++ padded (intStr i) 20 := by
      simp [layout, payload, typeChar, hul, hpl, hsl, hqq]
    rw [hb, decode_loginReq_fields hul hpl hsl hqq, unpackString_padded hu, unpackString_padded hp,
      unpackString_padded hs, unpackInt_padded]
    rfl
  | loginAcc s q =>
    simp only [wfPkt, Bool.and_eq_true, decide_eq_true_eq] at h
    obtain ⟨hs, hql⟩ := h
    have hsl := padded_length (wfText_parts hs).1
    have hqq := padded_length hql
    have hb : layout (.loginAcc s q) = [0, 31, 65] ++ padded s 10 ++ padded (intStr q) 20 := by
      simp [layout, payload, typeChar, hsl, hqq]
    rw [hb, decode_loginAcc_fields hsl hqq, unpackString_padded hs, unpackInt_padded]
    rfl
  | loginRej r =>
    have hr : r = 65 ∨ r = 83 := by simpa [wfPkt] using h
    rcases hr with rfl | rfl <;> decide
  | seqData d => exact decode_seqData d
  | unseqData d => exact decode_unseqData d
  | debug t =>
    simp only [wfPkt, Bool.and_eq_true, decide_eq_true_eq] at h
    exact decode_debug t h.2
  | clientHb | serverHb | endOfSession | logoutReq => decide

/-- **Data payloads survive byte-exact**, for every content and every length `0 … 32766`. -/
theorem C12_payload_exact (d : Bytes) (h : d.length ≤ 32766) :
    encode (.seqData d) = .ok ([(d.length + 1) / 256, (d.length + 1) % 256, 83] ++ d) ∧
    decode ([(d.length + 1) / 256, (d.length + 1) % 256, 83] ++ d) = .ok (.seqData d) ∧
    encode (.unseqData d) = .ok ([(d.length + 1) / 256, (d.length + 1) % 256, 85] ++ d) ∧
    decode ([(d.length + 1) / 256, (d.length + 1) % 256, 85] ++ d) = .ok (.unseqData d) := by
  have w1 : wfPkt (.seqData d) = true := by simpa [wfPkt] using h
  have w2 : wfPkt (.unseqData d) = true := by simpa [wfPkt] using h
  have l1 : layout (.seqData d) = [(d.length + 1) / 256, (d.length + 1) % 256, 83] ++ d := by
    simp [layout, payload, typeChar, Nat.add_comm]
  have l2 : layout (.unseqData d) = [(d.length + 1) / 256, (d.length + 1) % 256, 85] ++ d := by
    simp [layout, payload, typeChar, Nat.add_comm]
  refine ⟨?_, ?_, ?_, ?_⟩
  · rw [← l1]; exact C12_layout _ w1
  · rw [← l1]; exact C12_roundtrip _ w1 _ (C12_layout _ w1)
  · rw [← l2]; exact C12_layout _ w2
  · rw [← l2]; exact C12_roundtrip _ w2 _ (C12_layout _ w2)

/-- **Largest packet.** A payload longer than 32 766 bytes cannot be written (the encoder raises). -/
theorem C12_too_long (d : Bytes) (h : d.length > 32766) :
    encode (.seqData d) = .error .struct ∧ encode (.unseqData d) = .error .struct ∧
    encode (.debug d) = .error .struct := by
  simp only [encode, header_succ, if_neg (Nat.not_le.mpr h), err_bind, and_self]

/-- **Kind.** Decoding never returns a packet of a type other than the one named by the type character. -/
theorem C12_kind (bs : Bytes) (p : Pkt) (h : decode bs = .ok p) : bs[2]? = some p.ty :=
  decode_type_byte h

/-! ### non-vacuity: concrete packets meeting the hypotheses -/

example : wfPkt (.loginReq [117, 115, 114] [112, 119] [] [49, 50]) = true := by decide
example : wfPkt (.loginAcc [115, 49] (-7)) = true := by decide
example : wfPkt (.seqData [0, 255, 83, 0, 3]) = true := by decide
example : wfPkt (.debug [104, 105, 32]) = true := by decide
example : decode [0, 4, 83, 0, 3, 83] = .ok (.seqData [0, 3, 83]) := by decide

end NasdaqModel.Props.C12
