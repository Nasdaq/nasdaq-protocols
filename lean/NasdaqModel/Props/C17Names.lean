import NasdaqModel.Lemmas.GenSoupAppLemmas
/-
C17 — "the files a generator writes depend only on the spec and options", for the ONE part of a generated ITCH / OUCH / SQF
module that lists names: `__all__`.

The text model of the soup-app generator (`Model/GenSoupApp.lean`, `gen impl app override spec`; it is the C15 model, transcribed
from common/message/parser.py, codegen.py and message_soup_app.mustache) is a Lean function of (protocol, application name,
`--override-messages`, specification) — nothing else exists that its result could depend on: no interpreter state, no hash seed,
no iteration order of a set.  What that function renders for `__all__`:

  * `C17_all_in_spec_order_with_duplicates` — for EVERY specification the generator accepts (no well-formedness hypothesis, names may
    occur any number of times): the three fixed names, then one entry per enum the parser kept, per record it kept, per message it
    kept, each in the parser's dict order.  A list, never a set: nothing is merged, nothing is reordered.
  * `C17_all_keeps_every_definition` — when the enum ids are pairwise distinct, the record ids are pairwise distinct and the message
    keys (id, group, direction) are pairwise distinct — NO hypothesis relates the names of different sections or the names of two
    messages to each other — `__all__` is the three fixed names followed by the name of EVERY definition in document order: a
    name that occurs twice (a request and its response, a record named like an enum, a message named like a record) is listed
    twice, at the positions of its two definitions.
  * `C17_all_same_for_every_override` — under the same hypothesis the list does not depend on `--override-messages`.

The harness compares `__all__` of the module the real generator writes with this list, name by name (driver op `gen.exports`), for
the fresh single run of every soup-app invocation of the C17 histories — among them the specs of `harness/c17.py` `DUPS` in
which a name occurs twice or three times —, and repeats every fresh single run in interpreters started with other hash seeds.
The seeded change C17l (`list(set(names))` when a name occurs twice) differs from this list in content (the name once) and, from
interpreter to interpreter, in order.
-/
namespace NasdaqModel.Props.C17Names
open NasdaqModel GenSoupApp

/-- the names every generated module exports before the names of the specification -/
def fixedExports : List Str := [cp "Message", cp "ClientSession", cp "connect_async"]

private theorem mapE_names {α β : Type} (f : α → Except Err β) (na : α → Str) (nb : β → Str)
    (hf : ∀ a b, f a = .ok b → nb b = na a) :
    ∀ (l : List α) (r : List β), mapE f l = .ok r → r.map nb = l.map na
  | [], r, h => by
      simp only [mapE] at h
      injection h with h; subst h; rfl
  | a :: as, r, h => by
      simp only [mapE] at h
      obtain ⟨b, hb, h⟩ := bind_ok_inv h
      obtain ⟨bs, hbs, h⟩ := bind_ok_inv h
      simp only [pure_eq_ok] at h
      injection h with h; subst h
      simp only [List.map_cons, hf a b hb, mapE_names f na nb hf as bs hbs]

private theorem genEnum_name {e : EnumEl} {d : EnumDecl} (h : genEnum e = .ok d) : d.name = e.name := by
  simp only [genEnum] at h
  obtain ⟨t, _, h⟩ := bind_ok_inv h
  simp only [pure_eq_ok] at h
  injection h with h; subst h; rfl

private theorem genRecord_name {d : Definitions} {r : RecordDef} {x : RecordDecl} (h : genRecord d r = .ok x) :
    x.name = r.name := by
  simp only [genRecord] at h
  obtain ⟨fs, _, h⟩ := bind_ok_inv h
  simp only [pure_eq_ok] at h
  injection h with h; subst h; rfl

private theorem genMessage_name {d : Definitions} {m : MessageDef} {x : MsgDecl} (h : genMessage d m = .ok x) :
    x.name = m.name := by
  simp only [genMessage] at h
  obtain ⟨fs, _, h⟩ := bind_ok_inv h
  simp only [pure_eq_ok] at h
  injection h with h; subst h; rfl

private theorem genDefs_exports {impl : Impl} {app : Str} {d : Definitions} {m : Module} (h : genDefs impl app d = .ok m) :
    m.exports = fixedExports ++ d.enums.map (·.2.name) ++ d.records.map (·.2.name) ++ d.messages.map (·.name) := by
  simp only [genDefs] at h
  obtain ⟨es, hes, h⟩ := bind_ok_inv h
  obtain ⟨ms, hms, h⟩ := bind_ok_inv h
  obtain ⟨rs, hrs, h⟩ := bind_ok_inv h
  simp only [pure_eq_ok] at h
  injection h with h; subst h
  have h1 := mapE_names (fun (kv : Str × EnumEl) => genEnum kv.2) (·.2.name) (·.name) (fun _ _ hh => genEnum_name hh) _ _ hes
  have h2 := mapE_names (fun (kv : Str × RecordDef) => genRecord d kv.2) (·.2.name) (·.name)
    (fun _ _ hh => genRecord_name hh) _ _ hrs
  have h3 := mapE_names (genMessage d) (·.name) (·.name) (fun _ _ hh => genMessage_name hh) _ _ hms
  simp only [fixedExports, h1, h2, h3]

/-- **C17_all_in_spec_order_with_duplicates.**  For every protocol, application name, `--override-messages` flag and EVERY
    specification for which the generator produces a module (names may repeat in any way): `__all__` is the three fixed names, then
    the name of every enum, every record and every message the parser kept — a list in the parser's (dict = first occurrence)
    order, one entry per definition, whatever the names are. -/
theorem C17_all_in_spec_order_with_duplicates (impl : Impl) (app : Str) (override : Bool) (s : Spec) (m : Module)
    (h : gen impl app override s = .ok m) :
    ∃ d, parse override s = .ok d ∧
      m.exports = fixedExports ++ d.enums.map (·.2.name) ++ d.records.map (·.2.name) ++ d.messages.map (·.name) := by
  simp only [gen] at h
  obtain ⟨d, hd, h⟩ := bind_ok_inv h
  exact ⟨d, hd, genDefs_exports h⟩

/-! ### when the dict keys are distinct, every definition is listed — names may still repeat -/

/-- `Parser._parse_messages` on messages whose keys are new: every message is appended, whatever its NAME is -/
private theorem parseMessages_names (defs : FieldDefs) (ovr : Bool) :
    ∀ (gs : List MessageEl) (acc r : List (Str × MessageDef)),
      (acc.map (·.1) ++ gs.map specMsgKey).Nodup →
      parseMessages defs ovr acc gs = .ok r →
      r.map (·.2.name) = acc.map (·.2.name) ++ gs.map (·.name)
  | [], acc, r, _, h => by
      simp only [parseMessages] at h
      injection h with h; subst h; simp
  | g :: gs, acc, r, hn, h => by
      simp only [parseMessages] at h
      obtain ⟨fs, _, h⟩ := bind_ok_inv h
      obtain ⟨i, hi, h⟩ := bind_ok_inv h
      have hkey : msgKey (⟨g.name, i, g.group, fs, g.direction⟩ : MessageDef) = specMsgKey g := by
        simp [msgKey, specMsgKey, hi]
      have hnotin : specMsgKey g ∉ acc.map (·.1) := by
        intro hm
        have := List.nodup_append.mp hn
        exact this.2.2 _ hm _ (by simp) rfl
      rw [hkey, dictGet?_none acc _ hnotin, dictSet_new acc _ _ hnotin] at h
      simp only [Option.isSome_none, Bool.false_and, Bool.false_eq_true, if_false] at h
      have hn' : ((acc ++ [(specMsgKey g, (⟨g.name, i, g.group, fs, g.direction⟩ : MessageDef))]).map (·.1)
          ++ gs.map specMsgKey).Nodup := by
        simpa [List.map_append, List.append_assoc] using hn
      rw [parseMessages_names defs ovr gs _ r hn' h]
      simp

/-- **C17_all_keeps_every_definition.**  Enum ids pairwise distinct, record ids pairwise distinct, message keys
    (message id, group, direction) pairwise distinct — and nothing else: a message may be named like another message, like an enum
    or like a record, a record like an enum.  Then `__all__` of every module the generator produces is the three fixed names
    followed by the name of every enum, every record and every message of the specification in document order; a name that occurs
    twice in the specification occurs twice in the list. -/
theorem C17_all_keeps_every_definition (impl : Impl) (app : Str) (override : Bool) (s : Spec) (m : Module)
    (henums : (s.enums.map (·.name)).Nodup) (hrecs : (s.records.map (·.name)).Nodup)
    (hkeys : (s.messages.map specMsgKey).Nodup)
    (h : gen impl app override s = .ok m) :
    m.exports = fixedExports ++ classNames s := by
  obtain ⟨d, hd, hx⟩ := C17_all_in_spec_order_with_duplicates impl app override s m h
  simp only [parse] at hd
  obtain ⟨defs, _, hd⟩ := bind_ok_inv hd
  obtain ⟨recs, hrs, hd⟩ := bind_ok_inv hd
  obtain ⟨msgs, hms, hd⟩ := bind_ok_inv hd
  simp only [pure_eq_ok] at hd
  injection hd with hd; subst hd
  -- records: the parsed list carries the names of the specification, hence distinct keys, hence the dict is the list
  have hstep : ∀ (a : RecordEl) (b : Str × RecordDef), (do
        let fs ← parseFields defs a.fields
        pure (a.name, (⟨a.name, fs⟩ : RecordDef))) = .ok b → b.1 = a.name ∧ b.2.name = a.name := by
    intro a b hh
    obtain ⟨fs, _, hh⟩ := bind_ok_inv hh
    simp only [pure_eq_ok] at hh
    injection hh with hh; subst hh
    exact ⟨rfl, rfl⟩
  have hrk : recs.map (·.1) = s.records.map (·.name) :=
    mapE_names _ (·.name) (·.1) (fun a b hh => (hstep a b hh).1) _ _ hrs
  have hrn : recs.map (·.2.name) = s.records.map (·.name) :=
    mapE_names _ (·.name) (·.2.name) (fun a b hh => (hstep a b hh).2) _ _ hrs
  have hrd : dictOfList recs = recs := dictOfList_nodup recs (by rw [hrk]; exact hrecs)
  have hed : dictOfList (s.enums.map fun e => (e.name, e)) = s.enums.map fun e => (e.name, e) :=
    dictOfList_nodup _ (by simpa [List.map_map, Function.comp_def] using henums)
  have hmn := parseMessages_names defs override s.messages [] msgs (by simpa using hkeys) hms
  simp only [hrd, hed, List.map_map, Function.comp_def] at hx
  simp only [List.map_nil, List.nil_append] at hmn
  rw [hx, hrn, hmn]
  simp [classNames, List.append_assoc]

/-- **C17_all_same_for_every_override.**  Under the same hypothesis the export list does not depend on the
    `--override-messages` flag (the flag only decides what happens to a repeated message KEY). -/
theorem C17_all_same_for_every_override (impl : Impl) (app : Str) (s : Spec) (m m' : Module)
    (henums : (s.enums.map (·.name)).Nodup) (hrecs : (s.records.map (·.name)).Nodup)
    (hkeys : (s.messages.map specMsgKey).Nodup)
    (h : gen impl app true s = .ok m) (h' : gen impl app false s = .ok m') :
    m.exports = m'.exports := by
  rw [C17_all_keeps_every_definition impl app true s m henums hrecs hkeys h,
      C17_all_keeps_every_definition impl app false s m' henums hrecs hkeys h']

/-! ### non-vacuity: specifications in which a name occurs twice / three times, accepted by the generator -/

private def fld (n t : String) : FieldEl := { name := some (cp n), ty := some (cp t) }

/-- an OUCH request (incoming) and its response (outgoing) with the same message id and the same NAME (the realistic case), an
    enum, a record -/
def exRequestResponse : Spec :=
  { enums := [⟨cp "Side", some (cp "char_ascii"), [⟨cp "Buy", cp "B"⟩, ⟨cp "Sell", cp "S"⟩]⟩]
    fielddefs := []
    records := [⟨cp "Leg", [fld "book" "int_4_be"]⟩]
    messages := [⟨cp "EnterOrder", cp "79", none, some (cp "incoming"), [fld "token" "int_8_be", fld "side" "enum:Side"]⟩,
                 ⟨cp "AccountQuery", cp "81", none, some (cp "incoming"), [fld "token" "int_8_be"]⟩,
                 ⟨cp "AccountQuery", cp "81", none, some (cp "outgoing"), [fld "token" "int_8_be", fld "next" "int_8_be"]⟩] }

example : ((exRequestResponse.enums.map (·.name)).Nodup ∧ (exRequestResponse.records.map (·.name)).Nodup
    ∧ (exRequestResponse.messages.map specMsgKey).Nodup) := by decide +kernel
/-- the name is listed twice, at the positions of its two definitions (a set would list it once, in hash order) -/
example : (gen .ouch (cp "oe") true exRequestResponse).map (·.exports)
    = .ok (fixedExports ++ [cp "Side", cp "Leg", cp "EnterOrder", cp "AccountQuery", cp "AccountQuery"]) := by decide +kernel
example : (gen .ouch (cp "oe") false exRequestResponse).map (·.exports)
    = .ok (fixedExports ++ [cp "Side", cp "Leg", cp "EnterOrder", cp "AccountQuery", cp "AccountQuery"]) := by decide +kernel

/-- the record and the second message are named like the enum: the name three times, in the three sections -/
def exThrice : Spec :=
  { enums := [⟨cp "Side", some (cp "char_ascii"), [⟨cp "Buy", cp "B"⟩]⟩]
    fielddefs := []
    records := [⟨cp "Side", [fld "r" "int_4_be"]⟩]
    messages := [⟨cp "M0", cp "65", none, some (cp "incoming"), [fld "own" "int_4_be"]⟩,
                 ⟨cp "Side", cp "66", none, some (cp "outgoing"), [fld "own" "int_4_be"]⟩] }

example : (gen .itch (cp "x") true exThrice).map (·.exports)
    = .ok (fixedExports ++ [cp "Side", cp "Side", cp "M0", cp "Side"]) := by decide +kernel

/-- an enum id declared twice is ONE dict entry (first position, the later definition): here the general theorem applies, the
    second one does not (its hypothesis fails) — the list has the name once because the PARSER kept one enum -/
def exEnumTwice : Spec :=
  { exThrice with enums := [⟨cp "Side", some (cp "char_ascii"), [⟨cp "Buy", cp "B"⟩]⟩, ⟨cp "Cap", some (cp "char_ascii"), []⟩,
                            ⟨cp "Side", some (cp "char_ascii"), [⟨cp "Buy", cp "X"⟩]⟩],
                  records := [] }

example : (gen .sqf (cp "x") true exEnumTwice).map (·.exports)
    = .ok (fixedExports ++ [cp "Side", cp "Cap", cp "M0", cp "Side"]) := by decide +kernel

end NasdaqModel.Props.C17Names
