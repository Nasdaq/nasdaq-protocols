import NasdaqModel.Props.C03
/-
C03, "delivered with any timing" — including segments that arrive WHILE the reader is inside a running message callback.

`Reader._process_1` awaits `on_msg_coro(msg)`; while that callback is suspended the reader task does not poll, but the transport goes
on calling `on_data`.  In Model/Framing.lean a `tick` is atomic: `deserialize()` and the emission are one event, so how long the
callback stays suspended is invisible to the machine `R` — an arrival during a callback is simply a `data` event between that tick
and the next one, and the theorems of Props/C03.lean, which quantify over EVERY interleaving of `data` and `tick`, already cover it.

This file makes that argument a theorem instead of a remark.  `RH` is the reader with the callback latency explicit:
`busy` = the reader task is suspended inside `on_msg_coro`; events `data seg` (enabled always — also while busy), `wake` (the reader
task is scheduled: one poll, unless it is busy) and `done` (the pending callback returns).  `RH` carries, as a ghost, the `data`/`tick`
list the embedded `R` has seen; `C03Handler_refines` shows the embedded `R` is exactly `run` over that list, which contains every
received byte, and the three C03 theorems follow for every `HEv` list: nothing bounds how long a callback takes, how many segments
arrive during it, or their sizes (in particular: as many bytes as the frame just consumed — the case a reader that compares buffer
lengths before and after a pass gets wrong, seeded change C03j).
-/
namespace NasdaqModel.Props.C03Handler
open NasdaqModel Py Framing Soup Spec.SoupLayout Props.C12 Props.C03

variable {μ : Type}

/-- events of a reader whose message callback takes time -/
inductive HEv where
  | data (seg : Bytes)      -- `reader.on_data(seg)`: at any moment, also while `on_msg_coro` is suspended
  | wake                    -- the reader task gets a turn: a poll (`deserialize()`), unless it is suspended inside a callback
  | done                    -- the pending `on_msg_coro` returns
  deriving Repr, DecidableEq, Inhabited

structure RH (μ : Type) where
  r : R μ := {}
  busy : Bool := false        -- the reader task is inside `await self.on_msg_coro(msg)`
  seen : List Ev := []        -- ghost: the `data` / `tick` events the embedded `R` has taken

/-- one poll of a reader that is not inside a callback: `R`'s tick; an emission leaves the reader suspended in the callback -/
def poll (P : Proto μ) (s : RH μ) : RH μ :=
  { r := (stepObs P s.r .tick).1
    busy := (match (stepObs P s.r .tick).2 with | .emit _ => true | _ => false)
    seen := s.seen ++ [.tick] }

def stepH (P : Proto μ) (s : RH μ) : HEv → RH μ
  | .data seg => { s with r := step P s.r (.data seg), seen := s.seen ++ [.data seg] }
  | .wake => if s.busy then s else poll P s
  | .done => { s with busy := false }

def runH (P : Proto μ) (evs : List HEv) : RH μ := evs.foldl (stepH P) {}

def receivedH : List HEv → Bytes
  | [] => []
  | .data s :: evs => s ++ receivedH evs
  | _ :: evs => receivedH evs

private theorem receivedH_append (a b : List HEv) : receivedH (a ++ b) = receivedH a ++ receivedH b := by
  induction a with
  | nil => rfl
  | cons e a ih => cases e <;> simp [receivedH, ih]

private def Sim (P : Proto μ) (s : RH μ) (recv : Bytes) : Prop :=
  s.r = run P s.seen ∧ received s.seen = recv

private theorem sim_step (P : Proto μ) (s : RH μ) (recv : Bytes) (h : Sim P s recv) (e : HEv) :
    Sim P (stepH P s e) (recv ++ receivedH [e]) := by
  obtain ⟨h1, h2⟩ := h
  cases e with
  | data seg =>
    refine ⟨?_, ?_⟩
    · simp only [stepH, run, List.foldl_append, List.foldl_cons, List.foldl_nil]
      rw [h1]; rfl
    · simp only [stepH, received_append, h2, received, receivedH]
  | wake =>
    by_cases hb : s.busy = true
    · simp only [stepH, hb, if_true, receivedH, List.append_nil]; exact ⟨h1, h2⟩
    · have e1 : stepH P s .wake = poll P s := by simp only [stepH, hb]; rfl
      rw [e1]
      refine ⟨?_, ?_⟩
      · show (stepObs P s.r .tick).1 = run P (s.seen ++ [.tick])
        rw [run, List.foldl_append, ← run, ← h1]; rfl
      · show received (s.seen ++ [.tick]) = recv ++ receivedH [.wake]
        rw [received_append, h2]; rfl
  | done => simp only [stepH, receivedH, List.append_nil]; exact ⟨h1, h2⟩

private theorem sim_foldl (P : Proto μ) : ∀ (evs : List HEv) (s : RH μ) (recv : Bytes), Sim P s recv →
    Sim P (evs.foldl (stepH P) s) (recv ++ receivedH evs) := by
  intro evs
  induction evs with
  | nil => intro s recv h; simpa [receivedH] using h
  | cons e evs ih =>
    intro s recv h
    have := ih (stepH P s e) _ (sim_step P s recv h e)
    have h3 : receivedH (e :: evs) = receivedH [e] ++ receivedH evs := receivedH_append [e] evs
    rw [List.foldl_cons, h3, ← List.append_assoc]
    exact this

/-- **Refinement.** Whatever the callbacks did — however long each stayed suspended, whatever arrived meanwhile — the reader's
    state is the state of the atomic-tick machine `R` after an event list that contains exactly the received bytes. -/
theorem C03Handler_refines (P : Proto μ) (evs : List HEv) :
    (runH P evs).r = run P (runH P evs).seen ∧ received (runH P evs).seen = receivedH evs := by
  have := sim_foldl P evs {} [] ⟨rfl, rfl⟩
  simpa [runH, Sim] using this

/-- a `done; wake` pair after the stream has arrived is one more effective poll of `R` -/
theorem C03Handler_done_wake_polls (P : Proto μ) (evs : List HEv) :
    (runH P (evs ++ [.done, .wake])).seen = (runH P evs).seen ++ [.tick] := by
  simp [runH, List.foldl_append, stepH, poll]

private theorem ticks_snoc (l : List Ev) : ticksAfterLastData (l ++ [.tick]) = ticksAfterLastData l + 1 := by
  simp [ticksAfterLastData, Ev.isTick, List.takeWhile]

def pairs : Nat → List HEv
  | 0 => []
  | n + 1 => pairs n ++ [.done, .wake]

theorem C03Handler_pairs_seen (P : Proto μ) (evs : List HEv) : ∀ n,
    (runH P (evs ++ pairs n)).seen = (runH P evs).seen ++ List.replicate n .tick
  | 0 => by simp [pairs]
  | n + 1 => by
    rw [pairs, ← List.append_assoc, C03Handler_done_wake_polls, C03Handler_pairs_seen P evs n, List.replicate_succ',
      List.append_assoc]

theorem C03Handler_pairs_ticks (P : Proto μ) (evs : List HEv) (n : Nat) :
    n ≤ ticksAfterLastData (runH P (evs ++ pairs n)).seen := by
  rw [C03Handler_pairs_seen]
  induction n with
  | zero => exact Nat.zero_le _
  | succ n ih =>
    rw [List.replicate_succ', ← List.append_assoc, ticks_snoc]
    exact Nat.succ_le_succ ih

theorem C03Handler_pairs_received (evs : List HEv) : ∀ n, receivedH (evs ++ pairs n) = receivedH evs
  | 0 => by simp [pairs]
  | n + 1 => by
    rw [pairs, ← List.append_assoc, receivedH_append, C03Handler_pairs_received evs n]
    simp [receivedH]

/-- **C03Handler_prefix.** With callbacks of any duration and segments arriving at any moment — during a suspended callback too —
    what has been emitted is a prefix of the expected messages. -/
theorem C03Handler_prefix (ms : List Pkt) (hwf : ∀ p ∈ ms, wfPkt p = true) (evs : List HEv)
    (hrecv : receivedH evs <+: soupStream ms) :
    (runH soupProto evs).r.out <+: expected soupProto ms := by
  obtain ⟨h1, h2⟩ := C03Handler_refines soupProto evs
  rw [h1]
  exact C03_prefix ms hwf _ (h2 ▸ hrecv)

/-- **C03Handler_complete.** Once the whole stream has arrived — the last segments possibly during a callback — and the pending
    callback has returned and the reader has had a turn, `ms.length` times over, everything expected has been emitted, each once,
    in order; stopped iff a logout was in the stream; close signalled exactly once in that case. -/
theorem C03Handler_complete (ms : List Pkt) (hwf : ∀ p ∈ ms, wfPkt p = true) (evs : List HEv)
    (hrecv : receivedH evs = soupStream ms) (n : Nat) (hn : ms.length ≤ n) :
    (runH soupProto (evs ++ pairs n)).r.out = expected soupProto ms ∧
    ((runH soupProto (evs ++ pairs n)).r.stopped = true ↔ hasLogout soupProto ms = true) ∧
    (runH soupProto (evs ++ pairs n)).r.closeSignals = (if hasLogout soupProto ms then 1 else 0) := by
  obtain ⟨h1, h2⟩ := C03Handler_refines soupProto (evs ++ pairs n)
  rw [h1]
  exact C03_complete ms hwf _ (by rw [h2, C03Handler_pairs_received, hrecv])
    (Nat.le_trans hn (C03Handler_pairs_ticks soupProto evs n))

theorem C03Handler_fix_prefix (fs : List Bytes) (hwf : ∀ f ∈ fs, wfFixFrame f = true) (evs : List HEv)
    (hrecv : receivedH evs <+: fixStream fs) :
    (runH fixProto evs).r.out <+: expected fixProto fs := by
  obtain ⟨h1, h2⟩ := C03Handler_refines fixProto evs
  rw [h1]
  exact C03_fix_prefix fs hwf _ (h2 ▸ hrecv)

theorem C03Handler_fix_complete (fs : List Bytes) (hwf : ∀ f ∈ fs, wfFixFrame f = true) (evs : List HEv)
    (hrecv : receivedH evs = fixStream fs) (n : Nat) (hn : fs.length ≤ n) :
    (runH fixProto (evs ++ pairs n)).r.out = expected fixProto fs ∧
    ((runH fixProto (evs ++ pairs n)).r.stopped = true ↔ hasLogout fixProto fs = true) ∧
    (runH fixProto (evs ++ pairs n)).r.closeSignals = (if hasLogout fixProto fs then 1 else 0) := by
  obtain ⟨h1, h2⟩ := C03Handler_refines fixProto (evs ++ pairs n)
  rw [h1]
  exact C03_fix_complete fs hwf _ (by rw [h2, C03Handler_pairs_received, hrecv])
    (Nat.le_trans hn (C03Handler_pairs_ticks fixProto evs n))

/-! ## non-vacuity: the schedule of seeded change C03j -/

-- two data packets of EQUAL size, one per segment; the second segment arrives while the callback for the first is suspended
-- (`wake` emitted it, `done` has not happened yet); nothing arrives afterwards
private def exPkts : List Pkt := [.seqData [65, 65], .seqData [66, 66]]
private def exEvs : List HEv := [.data [0, 3, 83, 65, 65], .wake, .data [0, 3, 83, 66, 66]]
example : ∀ p ∈ exPkts, wfPkt p = true := by decide
example : receivedH exEvs = soupStream exPkts := by decide
example : (runH soupProto exEvs).busy = true ∧ (runH soupProto exEvs).r.out = [.seqData [65, 65]] ∧
    (runH soupProto exEvs).r.buf = [0, 3, 83, 66, 66] := by decide
-- the callback returns, the reader gets its turns: both messages, each once, in order
example : (runH soupProto (exEvs ++ pairs 2)).r.out = [.seqData [65, 65], .seqData [66, 66]] ∧
    (runH soupProto (exEvs ++ pairs 2)).r.buf = [] := by decide
-- while busy a `wake` does nothing: no second callback is started before the first has returned
example : (runH soupProto (exEvs ++ [.wake, .wake])).r.out = [.seqData [65, 65]] := by decide

end NasdaqModel.Props.C03Handler
