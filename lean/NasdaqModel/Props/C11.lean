import NasdaqModel.Lemmas.SessionLemmas4
/-
C11 — login either yields a working session or fails cleanly.

Theorems about the login procedure of the session machine (`callLogin`, `loginResume` in Model/Session.lean, which
transcribe `SoupClientSession.login` / `FixSession.login` and the mapping done by `connect_async`).  The quantification is
over every state in which the step can happen — hence over every reply stream, segmentation, disconnect offset and
cancellation phase that can lead to such a state.  The end-to-end statement over whole attempts (outcome ∈ {active,
refused}; refused / cancelled ⇒ closed and clean) is the composition of these with C05 (`C05_close_never_deadlocks`,
`C05_completed_exactly_once`) and C06 (`C06_quiescent_clean`); the harness oracle checks that composition on the
implementation for every generated attempt.
-/
namespace NasdaqModel.Props.C11
open NasdaqModel Sess

abbrev reach (cfg : Cfg) (evs : List Ev) : St := runEvs cfg {} evs

/-- **The login request is written first.** Starting a login writes the login request before anything else happens in
    that step. -/
theorem C11_login_request_first (cfg : Cfg) (s : St) (u : Nat) (hu : s.status (.U u) = .absent)
    (hb : s.rcvBusy = false) (hv : alive (s.status .V) = false) (hres : s.vres = none) :
    ∃ rest, (step cfg s (.callLogin u)).trace = s.trace ++ Obs.write .login :: rest := by
  simp only [step, hu, hb, hv, bne_self_eq_false, Bool.or_self, Bool.false_eq_true, if_false]
  unfold startRecv
  simp only [St.emit, hb, hv, hres, Option.isSome_none, Bool.or_self, Bool.false_eq_true, if_false]
  split
  · exact ⟨[.ret u .state], by simp [St.setStatus, St.emit]⟩
  · split
    · exact ⟨[], by simp [St.setStatus, St.setProg]⟩
    · split
      · exact ⟨[.ret u .refused], by simp [St.setStatus, St.emit]⟩
      · exact ⟨[], by simp [St.setStatus, St.setProg, St.spawn]⟩

/-- **Outcome 1: active.** When `login()` resumes with the acceptance and the session is neither closed nor closing, it
    returns the session (`ret u ok`), both heartbeat monitors have been started, the dispatcher has been started if a
    message callback is configured and dispatching had not been started before, and the session is still open. -/
theorem C11_accept_yields_active_session (cfg : Cfg) (s : St) (u : Nat)
    (hst : s.status (.U u) = .ready) (hp : s.prog (.U u) = .loginWait u)
    (hv : s.vres = some 0) (hc : s.closed = false) (hct : s.closingTask = false) :
    (step cfg s (.run (.U u))).trace = s.trace ++ [.loginReply 0, .ret u .ok] ∧
    (step cfg s (.run (.U u))).closed = false ∧
    (step cfg s (.run (.U u))).status .L = .ready ∧ (step cfg s (.run (.U u))).status .M = .ready ∧
    (cfg.hasMsgCb = true → s.dispSet = false →
      (step cfg s (.run (.U u))).status .D = .ready ∧ (step cfg s (.run (.U u))).prog .D = .dispLoop) := by
  have e0 : step cfg s (.run (.U u)) = loginResume cfg { s with imm := none } (.U u) u := by
    simp [step, runnable, hst, stepRun, hp]
  have e : step cfg s (.run (.U u)) =
      ((((({ s with imm := none, vres := none, rcvBusy := false, gone := s.gone ++ [(0, true)] } : St).emit (.loginReply 0)).startHeartbeats).startDispatching cfg).emit
        (.ret u .ok)).finish (.U u) := by
    rw [e0]
    unfold loginResume
    simp only [hv]
    rw [if_pos (by simp [St.emit, hc, hct])]
  rw [e]
  generalize hs1 : (({ s with imm := none, vres := none, rcvBusy := false, gone := s.gone ++ [(0, true)] } : St).emit (.loginReply 0)).startHeartbeats = s1
  have h1t : s1.trace = s.trace ++ [.loginReply 0] := by rw [← hs1]; rfl
  have h1c : s1.closed = false := by rw [← hs1]; exact (closed_of_core (core_startHeartbeats _)).trans hc
  have h1L : s1.status .L = .ready := by rw [← hs1]; rfl
  have h1M : s1.status .M = .ready := by rw [← hs1]; rfl
  have h1d : s1.dispSet = s.dispSet := by rw [← hs1, St.startHeartbeats_eq]; rfl
  have hcore := core_startDispatching s1 cfg
  simp only [core, Prod.mk.injEq] at hcore
  obtain ⟨c1, _, _, c4⟩ := hcore
  refine ⟨?_, ?_, ?_, ?_, ?_⟩
  · show (s1.startDispatching cfg).trace ++ [.ret u .ok] = _
    rw [c4, h1t]; simp
  · show (s1.startDispatching cfg).closed = false
    rw [c1]; exact h1c
  · show (if Tid.L = Tid.U u then Status.done else
        if (s1.startDispatching cfg).status .L = .waitT (.U u) then .ready else (s1.startDispatching cfg).status .L) = _
    have : (s1.startDispatching cfg).status .L = .ready := by
      unfold St.startDispatching; split
      · simp [St.spawn, St.setStatus, St.setProg, h1L]
      · exact h1L
    simp [this]
  · show (if Tid.M = Tid.U u then Status.done else
        if (s1.startDispatching cfg).status .M = .waitT (.U u) then .ready else (s1.startDispatching cfg).status .M) = _
    have : (s1.startDispatching cfg).status .M = .ready := by
      unfold St.startDispatching; split
      · simp [St.spawn, St.setStatus, St.setProg, h1M]
      · exact h1M
    simp [this]
  · intro hm hd
    have hD : (s1.startDispatching cfg).status .D = .ready ∧ (s1.startDispatching cfg).prog .D = .dispLoop := by
      unfold St.startDispatching
      rw [if_pos (by simp [hm, h1d, hd])]
      exact ⟨rfl, rfl⟩
    constructor
    · show (if Tid.D = Tid.U u then Status.done else
        if (s1.startDispatching cfg).status .D = .waitT (.U u) then .ready else (s1.startDispatching cfg).status .D) = _
      simp [hD.1]
    · exact hD.2

/-- **Outcome 2: refused, for any reply other than an acceptance** — a rejection, any other packet, or an acceptance that
    arrives on a session that was closed / is closing meanwhile: `login()` does not return the session; it closes the session
    (the closed flag is set in that very step) before raising. -/
theorem C11_other_reply_closes (cfg : Cfg) (s : St) (u n : Nat)
    (hst : s.status (.U u) = .ready) (hp : s.prog (.U u) = .loginWait u) (hv : s.vres = some n)
    (hn : n ≠ 0 ∨ s.closed = true ∨ s.closingTask = true) :
    (step cfg s (.run (.U u))).closed = true := by
  have e : step cfg s (.run (.U u)) =
      enterClose cfg (({ s with imm := none, vres := none, rcvBusy := false, gone := s.gone ++ [(n, true)] } : St).emit (.loginReply n))
        (.U u) (.userTail u .refused) := by
    have : (decide (n = 0) && !(s.closed || s.closingTask)) = false := by
      rcases hn with h | h | h <;> simp [h]
    simp only [step, runnable, hst, beq_self_eq_true, Bool.true_or, if_true, stepRun, hp, loginResume, hv, St.emit, this,
      Bool.false_eq_true, if_false]
  rw [e]
  exact enterClose_closed _ _ _ _

/-- **Outcome 2: refused, for a disconnect at any point of the reply.** When the peer disconnected (the closing task
    stopped the queue, which cancelled the helper task), `login()` ends with the connection-refused error. -/
theorem C11_disconnect_is_refused (cfg : Cfg) (s : St) (u : Nat)
    (hst : s.status (.U u) = .ready ∨ s.status (.U u) = .cancelled) (hp : s.prog (.U u) = .loginWait u)
    (hv : s.vres = none) (hq : s.qClosed = true) :
    (step cfg s (.run (.U u))).trace = s.trace ++ [.ret u .refused] := by
  rcases hst with hst | hst <;>
    simp [step, runnable, hst, stepRun, hp, loginResume, hv, hq, St.emit, St.finish]

/-- **The caller's cancellation closes the session.** When the caller cancels (or times out) the attempt while the reply
    is outstanding, `login()` closes the session before the cancellation propagates: the closed flag is set in that step. -/
theorem C11_cancel_closes (cfg : Cfg) (s : St) (u : Nat)
    (hp : s.prog (.U u) = .loginWait u) (hq : s.qClosed = false)
    (hst : s.status (.U u) = .cancelled ∨ (s.status (.U u) = .ready ∧ s.vres = none)) :
    (step cfg s (.run (.U u))).closed = true := by
  rcases hst with hst | ⟨hst, hv⟩
  · have e : step cfg s (.run (.U u)) = enterClose cfg
        (({ s with imm := none, vres := none, rcvBusy := false, queue := s.vres.toList ++ s.queue } : St).setStatus (.U u) .ready)
        (.U u) (.userTail u .cancelled) := by
      simp [step, runnable, hst, stepRun, hp, hq]
    rw [e]; exact enterClose_closed _ _ _ _
  · have e : step cfg s (.run (.U u)) = enterClose cfg ({ s with imm := none, rcvBusy := false } : St)
        (.U u) (.userTail u .cancelled) := by
      simp [step, runnable, hst, stepRun, hp, loginResume, hv, hq]
    rw [e]; exact enterClose_closed _ _ _ _

/-- **Closed for good**: a reachable state that reports closed still reports closed after any further event (`C07_closed_is_final`
    at the reachable states).  That the close then runs to its end is `C05_close_never_deadlocks`. -/
theorem C11_failed_login_leaves_closing_session (cfg : Cfg) (evs : List Ev) (ev : Ev)
    (hc : (reach cfg evs).closed = true) : (reach cfg (evs ++ [ev])).closed = true := by
  rw [show reach cfg (evs ++ [ev]) = step cfg (reach cfg evs) ev from runEvs_snoc cfg {} evs ev]
  exact step_closed_mono cfg _ ev hc

/-! ### non-vacuity -/

private def cfg1 : Cfg :=
  { msgBeh := fun _ => .ret, cbBeh := .ret, hasCb := true, dispatchOnConnect := false, hasMsgCb := true, fixLogin := false }

/-- acceptance with a data message piggy-backed in the same segment: the callback sees it only after login returned -/
example : (reach cfg1 [.connect, .callLogin 1, .run .V, .data [.msg 0, .msg 5], .run .R, .run .R, .run .V, .run (.U 1), .run .D]).trace =
    [.write .login, .loginReply 0, .ret 1 .ok, .msgEnter 5, .msgExit 5] := by decide
/-- a rejection: refused, session closed, callback completed -/
example : (reach cfg1 [.connect, .callLogin 1, .run .V, .data [.msg 7], .run .R, .run .V, .run (.U 1), .run .R, .run (.U 1)]).trace =
    [.write .login, .loginReply 7, .tclose, .cbEnter, .cbExit, .ret 1 .refused] := by decide

end NasdaqModel.Props.C11
