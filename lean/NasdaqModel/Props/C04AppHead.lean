import NasdaqModel.Props.C04App
import NasdaqModel.Lemmas.AppSessionHead
import NasdaqModel.Witness.C05App
/-
C04, application sessions — the second dispatcher delivers the head of the second queue and leaves the rest as it is, **for
every behaviour of the message callback**, the one that closes the session at once included.

`Props/C04App.lean` `C04App_dispatch_delivers_head` states "the rest of the queue stays as it is" only for callbacks that do not
close the session at once: since /repo 4b4f253 such a callback carries out `soup_session.close()` within the very step of the
second dispatcher that entered it (`Model/AppSession.lean` `closeOnD2`): the inner event `callClose d2u` and, if the close body
does not suspend, `_on_soup_close` and the closer's inner step out of the callback stage.  The missing fact is that none of these
inner steps enters an inner message callback (`Lemmas/AppSessionHead.lean`: `callClose` runs the close body only; once the inner
queue is stopped no step enters a message callback), so `_on_soup_message` is not run and nothing is put on the second queue.
The only extra hypothesis is that the soup session beneath is a legal one (`IReachable`: reached by an inner event sequence —
true of every reachable product state, `C04App_inner_reachable`); without it the statement is false: a made-up inner state
"in the callback stage, closer = the inner dispatcher, queue not stopped" would let the closer's step deliver an inner message.
-/
namespace NasdaqModel.Props.C04AppHead
open NasdaqModel App C04App

private theorem step_eq (a : ACfg) (s : St) (v : Nat) (q : List Nat)
    (hD : s.astatus .D2 = .ready) (hp : s.aprog .D2 = .dispLoop) (hq : s.q2Closed = false) (hb : s.rcv2Busy = false)
    (hv : s.vres2 = none) (hqu : s.q2 = v :: q) :
    step a s (.run .D2) = dispHandle2 a
      (({ s with imm2 := false, q2 := q, gone2 := s.gone2 ++ [(v, true)] } : St).emit2 (.msgEnter v)) v := by
  simp [step, runnable2, hD, stepRun2, hp, stepDisp2, hq, hb, hv, hqu]

/-- **The rest of the queue stays as it is, whatever the message callback does** (over a legal soup session). -/
theorem C04AppHead_dispatch_keeps_rest (a : ACfg) (s : St) (v : Nat) (q : List Nat)
    (hD : s.astatus .D2 = .ready) (hp : s.aprog .D2 = .dispLoop) (hq : s.q2Closed = false) (hb : s.rcv2Busy = false)
    (hv : s.vres2 = none) (hqu : s.q2 = v :: q) (hr : IReachable a s.inner) :
    (step a s (.run .D2)).q2 = q := by
  rw [step_eq a s v q hD hp hq hb hv hqu]
  exact dispHandle2_q2
    (s := ({ s with imm2 := false, q2 := q, gone2 := s.gone2 ++ [(v, true)] } : St).emit2 (.msgEnter v)) hr v

/-- **The missing case of `C04App_dispatch_delivers_head`: a callback that closes the session at once.** The close of the soup
    session that the callback carries out within this very step hands no further message to the second queue: after the step
    the queue is exactly the rest. -/
theorem C04AppHead_closing_callback_keeps_rest (a : ACfg) (s : St) (v : Nat) (q : List Nat)
    (hD : s.astatus .D2 = .ready) (hp : s.aprog .D2 = .dispLoop) (hq : s.q2Closed = false) (hb : s.rcv2Busy = false)
    (hv : s.vres2 = none) (hqu : s.q2 = v :: q) (hr : IReachable a s.inner) (_hc : a.msgBeh v = .close) :
    (step a s (.run .D2)).q2 = q :=
  C04AppHead_dispatch_keeps_rest a s v q hD hp hq hb hv hqu hr

/-- **The second dispatcher delivers the head of the second queue — every callback behaviour**: a step of `D2` on a non-stopped
    application queue with `v` at its head enters the application message callback for `v` and for no other value, and the
    rest of the queue stays as it is. -/
theorem C04AppHead_dispatch_delivers_head_all (a : ACfg) (s : St) (v : Nat) (q : List Nat)
    (hD : s.astatus .D2 = .ready) (hp : s.aprog .D2 = .dispLoop) (hq : s.q2Closed = false) (hb : s.rcv2Busy = false)
    (hv : s.vres2 = none) (hqu : s.q2 = v :: q) (hi : InvF a s) (hr : IReachable a s.inner) :
    appDelivered (step a s (.run .D2)).trace2 = appDelivered s.trace2 ++ [v] ∧
    (step a s (.run .D2)).q2 = q :=
  ⟨(C04App_dispatch_delivers_head a s v q hD hp hq hb hv hqu hi).1,
   C04AppHead_dispatch_keeps_rest a s v q hD hp hq hb hv hqu hr⟩

/-- the same in every reachable state of the product machine: no invariant is left as a hypothesis -/
theorem C04AppHead_dispatch_delivers_head_reach (a : ACfg) (evs : List Ev) (v : Nat) (q : List Nat)
    (hD : (reach a evs).astatus .D2 = .ready) (hp : (reach a evs).aprog .D2 = .dispLoop)
    (hq : (reach a evs).q2Closed = false) (hb : (reach a evs).rcv2Busy = false)
    (hv : (reach a evs).vres2 = none) (hqu : (reach a evs).q2 = v :: q) :
    appDelivered (reach a (evs ++ [.run .D2])).trace2 = appDelivered (reach a evs).trace2 ++ [v] ∧
    (reach a (evs ++ [.run .D2])).q2 = q := by
  rw [reach_snoc]
  exact C04AppHead_dispatch_delivers_head_all a (reach a evs) v q hD hp hq hb hv hqu (runEvs_InvF a evs)
    (runEvs_InvL a evs).reach

/-! ### non-vacuity: the recorded close-from-handler history (`Witness.C05App.historyA`) -/

open Witness.C05App in
set_option maxRecDepth 100000 in
/-- step 16 of `historyA` is the dispatch of `3`, whose callback awaits `app.close()`: the hypotheses hold before it (queue
    `[3, 4]`), the callback does close, the close is carried out in that step (`D2` is `inSoup` after it) and the queue is `[4]` -/
example :
    (reach cfgA (historyA.take 15)).astatus .D2 = .ready ∧ (reach cfgA (historyA.take 15)).aprog .D2 = .dispLoop ∧
    (reach cfgA (historyA.take 15)).q2Closed = false ∧ (reach cfgA (historyA.take 15)).rcv2Busy = false ∧
    (reach cfgA (historyA.take 15)).vres2 = none ∧ (reach cfgA (historyA.take 15)).q2 = [3, 4] ∧
    cfgA.msgBeh 3 = .close ∧ historyA.take 16 = historyA.take 15 ++ [.run .D2] ∧
    (reach cfgA (historyA.take 16)).astatus .D2 = .inSoup ∧ (reach cfgA (historyA.take 16)).inner.closed = true ∧
    (reach cfgA (historyA.take 16)).q2 = [4] ∧
    appDelivered (reach cfgA (historyA.take 16)).trace2 = [3] := by decide +kernel

open Witness.C05App in
set_option maxRecDepth 100000 in
example : appDelivered (reach cfgA (historyA.take 15 ++ [.run .D2])).trace2
      = appDelivered (reach cfgA (historyA.take 15)).trace2 ++ [3] ∧
    (reach cfgA (historyA.take 15 ++ [.run .D2])).q2 = [4] :=
  C04AppHead_dispatch_delivers_head_reach cfgA (historyA.take 15) 3 [4] (by decide +kernel) (by decide +kernel) (by decide +kernel) (by decide +kernel)
    (by decide +kernel) (by decide +kernel)

end NasdaqModel.Props.C04AppHead
