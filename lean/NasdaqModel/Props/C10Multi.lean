import NasdaqModel.Props.C10
import NasdaqModel.Model.SeqMulti
/-
C10 — several sessions alive in one process (Model/SeqMulti.lean: the process state is the product of the per-session states).

The statement of C10 is per session ("a SoupBinTCP server session's counter …", "a FIX session stamps the k-th message …") and quantifies
over all histories and schedules.  In a process with several sessions a schedule interleaves the operations (application sends,
timer-driven heartbeats, logons) of ALL of them.  The theorems here say that this makes no difference:

  * frame property: an operation on session `a` leaves every other session's state (counter, frames / packets written) alone;
  * projection: the final state of session `a` after ANY history of the process is the per-session run of `a`'s own sub-history
    — so two histories with the same sub-histories end in the same world (the interleaving is irrelevant), and operations of
    different sessions commute;
  * hence the theorems of Props/C10.lean hold for every session of the process under every interleaving with the others:
    the k-th frame a FIX session writes after its logon carries logon MsgSeqNum + k (logon with or without a stated number), a soup
    session's counter is initial + sequenced packets written (server) / adopted + … (client), a send rejected by validation
    changes nothing anywhere.

`Witness/C10Multi.lean` decides that a semantics with one counter shared between sessions violates each of these.
No theorem of Props/C10.lean is restated or weakened; they are used as they are.
-/
namespace NasdaqModel.Props.C10Multi
open NasdaqModel Soup SeqNum NasdaqModel.Props.C10

private theorem modifyAt_get_ne (f : Sess → Sess) : ∀ (w : World) (a b : Nat), a ≠ b → (modifyAt f w a)[b]? = w[b]?
  | [], _, _, _ => rfl
  | _ :: _, 0, 0, h => absurd rfl h
  | _ :: _, 0, _ + 1, _ => by simp [modifyAt]
  | _ :: _, _ + 1, 0, _ => by simp [modifyAt]
  | _ :: rest, a + 1, b + 1, h => by
    simp only [modifyAt, List.getElem?_cons_succ]
    exact modifyAt_get_ne f rest a b (by omega)

private theorem modifyAt_get_eq (f : Sess → Sess) : ∀ (w : World) (a : Nat), (modifyAt f w a)[a]? = (w[a]?).map f
  | [], _ => rfl
  | _ :: _, 0 => by simp [modifyAt]
  | _ :: rest, a + 1 => by
    simp only [modifyAt, List.getElem?_cons_succ]
    exact modifyAt_get_eq f rest a

private theorem modifyAt_length (f : Sess → Sess) : ∀ (w : World) (a : Nat), (modifyAt f w a).length = w.length
  | [], _ => rfl
  | _ :: _, 0 => by simp [modifyAt]
  | _ :: rest, a + 1 => by simp [modifyAt, modifyAt_length f rest a]

private theorem modifyAt_comm (f g : Sess → Sess) :
    ∀ (w : World) (a b : Nat), a ≠ b → modifyAt g (modifyAt f w a) b = modifyAt f (modifyAt g w b) a
  | [], _, _, _ => rfl
  | _ :: _, 0, 0, h => absurd rfl h
  | _ :: _, 0, _ + 1, _ => by simp [modifyAt]
  | _ :: _, _ + 1, 0, _ => by simp [modifyAt]
  | _ :: rest, a + 1, b + 1, h => by
    simp only [modifyAt, List.cons.injEq, true_and]
    exact modifyAt_comm f g rest a b (by omega)

private theorem modifyAt_fix (f : Sess → Sess) : ∀ (w : World) (a : Nat), (∀ s, w[a]? = some s → f s = s) → modifyAt f w a = w
  | [], _, _ => rfl
  | s :: _, 0, h => by simp [modifyAt, h s (by simp)]
  | _ :: rest, a + 1, h => by
    simp only [modifyAt, List.cons.injEq, true_and]
    exact modifyAt_fix f rest a (fun s hs => h s (by simpa using hs))

/-- **An operation on session `a` does not change session `b`** (`b ≠ a`): neither its counter nor what it has written. -/
theorem C10Multi_step_other (w : World) (a b : Nat) (op : MOp) (h : a ≠ b) :
    (worldStep w (a, op))[b]? = w[b]? :=
  modifyAt_get_ne _ w a b h

/-- … and changes session `a` exactly as the single-session step does -/
theorem C10Multi_step_own (w : World) (a : Nat) (op : MOp) :
    (worldStep w (a, op))[a]? = (w[a]?).map (fun s => (sessStep s op).1) :=
  modifyAt_get_eq _ w a

/-- the set of sessions never changes (no operation creates or removes a session) -/
theorem C10Multi_step_length (w : World) (ev : Ev) : (worldStep w ev).length = w.length :=
  modifyAt_length _ w ev.1

/-- in particular the numbers: an operation on `a` leaves every other session's counter where it was -/
theorem C10Multi_step_other_counter (w : World) (a b : Nat) (op : MOp) (h : a ≠ b) :
    ((worldStep w (a, op))[b]?).map Sess.counter = (w[b]?).map Sess.counter := by
  rw [C10Multi_step_other w a b op h]

/-- **operations of different sessions commute**: the order in which the scheduler runs them is irrelevant -/
theorem C10Multi_steps_commute (w : World) (a b : Nat) (x y : MOp) (h : a ≠ b) :
    worldStep (worldStep w (a, x)) (b, y) = worldStep (worldStep w (b, y)) (a, x) :=
  modifyAt_comm _ _ w a b h

private theorem sub_cons_eq (a : Nat) (op : MOp) (rest : List Ev) : sub a ((a, op) :: rest) = op :: sub a rest := by
  simp [sub]

private theorem sub_cons_ne (a b : Nat) (op : MOp) (rest : List Ev) (h : b ≠ a) : sub a ((b, op) :: rest) = sub a rest := by
  simp [sub, h]

/-- **Projection.**  After any history of the process — the operations of all sessions interleaved in any way — the state of
    session `a` is the single-session run of `a`'s own operations. -/
theorem C10Multi_projection (evs : List Ev) : ∀ (w : World) (a : Nat),
    (worldRun w evs)[a]? = (w[a]?).map (fun s => sessRun s (sub a evs)) := by
  induction evs with
  | nil =>
    intro w a
    cases h : w[a]? <;> simp [worldRun, sub, sessRun, h]
  | cons ev rest ih =>
    intro w a
    obtain ⟨b, op⟩ := ev
    show (worldRun (worldStep w (b, op)) rest)[a]? = _
    rw [ih]
    by_cases hb : b = a
    · subst hb
      rw [C10Multi_step_own, sub_cons_eq]
      cases h : w[b]? <;> simp [sessRun]
    · rw [C10Multi_step_other w b a op hb, sub_cons_ne a b op rest hb]

/-- a history in which session `a` does nothing leaves it exactly as it was, whatever the other sessions did -/
theorem C10Multi_others_invisible (w : World) (evs : List Ev) (a : Nat) (h : ∀ ev ∈ evs, ev.1 ≠ a) :
    (worldRun w evs)[a]? = w[a]? := by
  have hs : sub a evs = [] := by
    simp only [sub, List.map_eq_nil_iff, List.filter_eq_nil_iff]
    intro ev hev
    simpa using h ev hev
  rw [C10Multi_projection, hs]
  cases w[a]? <;> simp [sessRun]

/-- **the interleaving is irrelevant**: two histories of the process that give every session the same sub-history end in the
    same world -/
theorem C10Multi_interleaving_irrelevant (w : World) (evs evs' : List Ev) (h : ∀ a, sub a evs = sub a evs') :
    worldRun w evs = worldRun w evs' := by
  apply List.ext_getElem?
  intro a
  rw [C10Multi_projection, C10Multi_projection, h a]

/-- what the callers of session `a`'s operations observe (exception / outcome of every send, the number stamped on every frame
    written) is what they observe when `a` runs alone -/
theorem C10Multi_outcomes_projection (evs : List Ev) : ∀ (w : World) (a : Nat) (s : Sess), w[a]? = some s →
    ((worldTrace w evs).filter (fun t => t.1 == a)).map (fun t => t.2.1) = sessOuts s (sub a evs) := by
  induction evs with
  | nil => intro w a s _; rfl
  | cons ev rest ih =>
    intro w a s hs
    obtain ⟨b, op⟩ := ev
    by_cases hb : b = a
    · subst hb
      have hnext : (worldStep w (b, op))[b]? = some (sessStep s op).1 := by rw [C10Multi_step_own, hs]; rfl
      have hout : worldOut w (b, op) = (sessStep s op).2 := by simp [worldOut, hs]
      rw [sub_cons_eq]
      simp only [worldTrace, sessOuts, List.filter_cons, beq_self_eq_true, if_true, List.map_cons, hout]
      rw [ih _ b _ hnext]
    · have hnext : (worldStep w (b, op))[a]? = some s := by rw [C10Multi_step_other w b a op hb, hs]
      rw [sub_cons_ne a b op rest hb]
      have hba : (b == a) = false := by simpa using hb
      simp only [worldTrace, List.filter_cons, hba]
      exact ih _ a s hnext

private theorem sessRun_fix (ops : List FixOp) : ∀ s : FixSt, sessRun (.fix s) (ops.map MOp.fix) = .fix (fixRunR s ops) := by
  induction ops with
  | nil => intro s; rfl
  | cons op rest ih =>
    intro s
    show sessRun (.fix (fixStepR s op).1) (rest.map MOp.fix) = .fix (fixRunR (fixStepR s op).1 rest)
    exact ih _

private theorem sessRun_soup (ops : List SoupOp) : ∀ s : SoupSt, sessRun (.soup s) (ops.map MOp.soup) = .soup (soupRun s ops) := by
  induction ops with
  | nil => intro s; rfl
  | cons op rest ih =>
    intro s
    show sessRun (.soup (soupStep s op).1) (rest.map MOp.soup) = .soup (soupRun (soupStep s op).1 rest)
    exact ih _

/-- **FIX, every session, every interleaving.**  Let session `a` be a fresh FIX session of a process with any other sessions, and
    let its own operations be `sends before the logon ++ logon (MsgSeqNum q) ++ {sends of every kind, heartbeats}`.  Then after ANY
    history of the process with that sub-history — the other sessions logging on, sending and heart-beating in between, in any
    order — the k-th frame `a` has written since its logon carries `q + k`, and its counter is `q +` frames written. -/
theorem C10Multi_fix_kth (w : World) (evs : List Ev) (a : Nat) (pre ops : List FixOp) (q : Int) (m : FixMsg)
    (ha : w[a]? = some (.fix fixInit))
    (hsub : sub a evs = (pre ++ .login q m :: ops).map MOp.fix)
    (hpre : noLogin pre = true) (hops : noLogin ops = true) :
    ∃ s : FixSt, (worldRun w evs)[a]? = some (.fix s) ∧
      (∀ k, (hk : k < s.frames.length) → s.frames[k] = q + k) ∧ s.next = some (q + s.frames.length) := by
  refine ⟨fixRunR fixInit (pre ++ .login q m :: ops), ?_, C10_fix_kth_repaired pre ops q m hpre hops⟩
  rw [C10Multi_projection, ha, hsub]
  show some (sessRun (Sess.fix fixInit) ((pre ++ .login q m :: ops).map MOp.fix)) = _
  rw [sessRun_fix]

/-- the same for a logon that states no MsgSeqNum (the header then reads `logonSeq none` = 0): numbering is contiguous from the
    number the logon itself carries -/
theorem C10Multi_fix_kth_unstated (w : World) (evs : List Ev) (a : Nat) (pre ops : List FixOp) (m : FixMsg)
    (ha : w[a]? = some (.fix fixInit))
    (hsub : sub a evs = (pre ++ .login (logonSeq none) m :: ops).map MOp.fix)
    (hpre : noLogin pre = true) (hops : noLogin ops = true) :
    ∃ s : FixSt, (worldRun w evs)[a]? = some (.fix s) ∧
      (∀ k, (hk : k < s.frames.length) → s.frames[k] = (k : Int)) ∧ s.next = some (s.frames.length : Int) := by
  obtain ⟨s, h1, h2, h3⟩ := C10Multi_fix_kth w evs a pre ops (logonSeq none) m ha hsub hpre hops
  refine ⟨s, h1, ?_, ?_⟩
  · intro k hk; simpa [logonSeq] using h2 k hk
  · simpa [logonSeq] using h3

/-- **a send rejected by validation changes nothing in the whole process** — no frame, no number, in no session -/
theorem C10Multi_fix_reject_consumes_nothing (w : World) (a : Nat) (m : FixMsg) (h : m.bodyValid = false) :
    worldStep w (a, .fix (.send m)) = w := by
  apply modifyAt_fix
  intro s _
  cases s with
  | soup s => rfl
  | fix s =>
    show Sess.fix (fixSendR s m).1 = Sess.fix s
    rw [C10_fix_repaired_failed_send_consumes_nothing s m (by intro n; simp [fixSendR, h])]

/-- the same for EVERY send that writes nothing (rejected, or not serialisable: `send_msg` as in the code) -/
theorem C10Multi_fix_failed_send_consumes_nothing (w : World) (a : Nat) (s : FixSt) (m : FixMsg)
    (ha : w[a]? = some (.fix s)) (h : ∀ n, (fixSendR s m).2 ≠ .written n) :
    worldStep w (a, .fix (.send m)) = w := by
  apply modifyAt_fix
  intro s' hs'
  have : s' = .fix s := by simpa [ha] using hs'.symm
  subst this
  show Sess.fix (fixSendR s m).1 = Sess.fix s
  rw [C10_fix_repaired_failed_send_consumes_nothing s m h]

/-- **SoupBinTCP, every session, every interleaving**: the counter of soup session `a` is its value at the start plus the sequenced
    packets `a` itself has written since — packets other sessions write (sequenced ones included) never move it. -/
theorem C10Multi_soup_counts (w : World) (evs : List Ev) (a : Nat) (s0 : SoupSt) (ops : List SoupOp)
    (ha : w[a]? = some (.soup s0)) (hsub : sub a evs = ops.map MOp.soup) :
    ∃ s : SoupSt, (worldRun w evs)[a]? = some (.soup s) ∧
      s.seq = s0.seq + ((countSeq s.written : Int) - (countSeq s0.written : Int)) := by
  refine ⟨soupRun s0 ops, ?_, C10_soup_counts s0 ops⟩
  rw [C10Multi_projection, ha, hsub]
  show some (sessRun (Sess.soup s0) (ops.map MOp.soup)) = _
  rw [sessRun_soup]

/-- a soup client that logs in first: the counter counts from what the login left (the adopted number when accepted —
    `C10_soup_adopt` — the old one otherwise), whatever the other sessions of the process do meanwhile -/
theorem C10Multi_soup_client_counts (w : World) (evs : List Ev) (a : Nat) (s0 : SoupSt) (req : Pkt) (replies : List Bytes)
    (ops : List SoupOp) (ha : w[a]? = some (.soup s0)) (hsub : sub a evs = .soupLogin req replies :: ops.map MOp.soup) :
    ∃ s : SoupSt, (worldRun w evs)[a]? = some (.soup s) ∧
      s.seq = (clientLogin s0 req replies).1.seq
        + ((countSeq s.written : Int) - (countSeq (clientLogin s0 req replies).1.written : Int)) := by
  refine ⟨soupRun (clientLogin s0 req replies).1 ops, ?_, C10_soup_client_counts s0 req replies ops⟩
  rw [C10Multi_projection, ha, hsub]
  show some (sessRun (Sess.soup (clientLogin s0 req replies).1) (ops.map MOp.soup)) = _
  rw [sessRun_soup]

private def w3 : World := [.fix fixInit, .fix fixInit, .soup (soupInit .server 41)]

private def evs3 : List Ev :=
  [(0, .fix (.send ⟨true, true⟩)),                      -- session 0: a send before its logon (TypeError, nothing written)
   (1, .fix (.login 7 ⟨true, true⟩)),                   -- session 1 logs on stating 7
   (0, .fix (.login (logonSeq none) ⟨true, true⟩)),     -- session 0 logs on without stating a number
   (2, .soup (.send (.seqData [1, 2]))),
   (1, .fix (.send ⟨true, true⟩)),
   (0, .fix (.send ⟨false, true⟩)),                     -- rejected by validation
   (0, .fix (.heartbeat ⟨true, true⟩)),
   (2, .soup .heartbeat),
   (1, .fix (.send ⟨true, false⟩)),                     -- passes validation, cannot be serialised
   (0, .fix (.send ⟨true, true⟩)),
   (1, .fix (.heartbeat ⟨true, true⟩)),
   (2, .soup (.send (.seqData [83])))]

-- the hypotheses of `C10Multi_fix_kth` / `_unstated` / `C10Multi_soup_counts` hold for sessions 1, 0 and 2 of this history …
example : w3[1]? = some (.fix fixInit) ∧
    sub 1 evs3 = (([] : List FixOp) ++ FixOp.login 7 ⟨true, true⟩ ::
      [FixOp.send ⟨true, true⟩, FixOp.send ⟨true, false⟩, FixOp.heartbeat ⟨true, true⟩]).map MOp.fix
    ∧ noLogin [FixOp.send ⟨true, true⟩, FixOp.send ⟨true, false⟩, FixOp.heartbeat ⟨true, true⟩] = true := by decide +kernel
example : sub 0 evs3 = ([FixOp.send ⟨true, true⟩] ++ FixOp.login (logonSeq none) ⟨true, true⟩ ::
    [FixOp.send ⟨false, true⟩, FixOp.heartbeat ⟨true, true⟩, FixOp.send ⟨true, true⟩]).map MOp.fix
    ∧ noLogin [FixOp.send ⟨true, true⟩] = true
    ∧ noLogin [FixOp.send ⟨false, true⟩, FixOp.heartbeat ⟨true, true⟩, FixOp.send ⟨true, true⟩] = true := by decide +kernel
example : sub 2 evs3 = [SoupOp.send (.seqData [1, 2]), .heartbeat, .send (.seqData [83])].map MOp.soup := by decide +kernel
-- … and the result is not trivial: session 0 wrote 0, 1, 2; session 1 wrote 7, 8, 9; the soup server counts 41 + 2
example : worldRun w3 evs3 = [.fix ⟨some 3, [0, 1, 2]⟩, .fix ⟨some 10, [7, 8, 9]⟩,
    .soup ⟨.server, true, 43, [[0, 3, 83, 1, 2], [0, 1, 72], [0, 2, 83, 83]]⟩] := by decide +kernel
-- the outcomes the callers of session 1 saw
example : ((worldTrace w3 evs3).filter (fun t => t.1 == 1)).map (fun t => t.2.1)
    = [.fix (.written 7), .fix (.written 8), .fix .encodeError, .fix (.written 9)] := by decide +kernel
-- another interleaving of the same sub-histories (all of session 2 first, then 1, then 0)
example : worldRun w3 ((evs3.filter (·.1 == 2)) ++ (evs3.filter (·.1 == 1)) ++ (evs3.filter (·.1 == 0))) = worldRun w3 evs3 := by
  decide +kernel

end NasdaqModel.Props.C10Multi
