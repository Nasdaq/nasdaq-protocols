import NasdaqModel.Lemmas.FramingProgress
import NasdaqModel.Lemmas.RefineInstances
/-
C07, byte level — hostile bytes cannot make the reader spin.

`Props/C07.lean` proves "never open and deaf" for the session machine, where a malformed frame is the token `bad`.  Here the
same is proved one level down, for the readers' `deserialize()` on ARBITRARY byte strings (Model/Framing.lean, transcribed from
common/session.py `Reader`, soup/_reader.py, fix/_reader.py): whatever the buffer holds, a poll either ends the reader (close
signalled — the session closes, C05), or finds the head of the buffer incomplete *as announced* and leaves it for more bytes, or
takes a NON-EMPTY frame off the buffer.  So without new data a reader is settled after at most `len(buffer)` polls: it can never
go on polling an unchanged buffer while the session stays open behind it.  For FIX, since /repo 658ee1f (a negative BodyLength
raises `ValueError`), a cut frame has at least `end+1+7 ≥ 8` bytes whatever the dictionary (`C07_fix_frame_nonempty`,
`C07_fix_reader_settles_any`); before that repair it rested on the dictionary dispatch `Message.Def[get_msg_type(frame)]`
rejecting the EMPTY frame a BodyLength such as `9=-23` produced (`C07_fix_frame_consumes`, hypothesis `known [] = false`, still
true and kept; the pre-repair reader is in `Witness/C04Bytes.lean`).
All theorems are for every buffer / every reader state / every event history; nothing is bounded.
-/
namespace NasdaqModel.Props.C07Framing
open NasdaqModel Py Framing

/-- **SoupBinTCP: a framed packet is at least its length prefix.**  Whatever `deserialize()` returns as a message, it removed at
    least the two prefix bytes from the buffer. -/
theorem C07_soup_frame_consumes (buf rest : Bytes) (m : Soup.Pkt) (h : soupDeser buf = .ok (some (m, rest))) :
    rest.length + 2 ≤ buf.length :=
  soupDeser_consumes h

/-- **FIX: the frame and the rest partition the buffer** for every BodyLength the reader accepts — zero, signed `+`, padded —
    because `b[:n] + b[n:] == b`. -/
theorem C07_fix_frame_partition (buf f rest : Bytes) (h : fixDeser buf = .ok (some (f, rest))) : f ++ rest = buf :=
  fixDeser_partition h

/-- **FIX: a frame that passes the dictionary dispatch is non-empty**, so the buffer gets strictly shorter — for every dictionary
    without the empty message type and every field-level decoder. -/
theorem C07_fix_frame_consumes (known : Bytes → Bool) (decode : Bytes → Except Err Unit) (hk : known [] = false)
    (buf f rest : Bytes) (h : fixDeserD known decode buf = .ok (some (f, rest))) : rest.length < buf.length :=
  fixDeserD_consumes known decode h

/-- **FIX: a cut frame is never empty — no dictionary needed** (since /repo 658ee1f): BodyLength `n ≥ 0`, so the frame is the
    first `end+1+n+7 ≥ 8` bytes of the buffer and the buffer gets strictly shorter, with or without the dispatch. -/
theorem C07_fix_frame_nonempty (buf f rest : Bytes) (h : fixDeser buf = .ok (some (f, rest))) :
    f ≠ [] ∧ rest.length < buf.length :=
  fixDeser_consumes h

theorem C07_fix_frame_consumes_any (known : Bytes → Bool) (decode : Bytes → Except Err Unit)
    (buf f rest : Bytes) (h : fixDeserD known decode buf = .ok (some (f, rest))) : rest.length < buf.length :=
  fixDeserD_consumes known decode h

/-- **One poll makes progress.**  A reader that is not settled (not stopped, buffer not empty, head of the buffer not waiting for
    more bytes) stops or shortens its buffer at its next poll. -/
theorem C07_poll_progress {μ : Type} (P : Proto μ) (hP : Consuming P) (r : R μ) (h : ¬ Settled P r) :
    (step P r .tick).stopped = true ∨ (step P r .tick).buf.length < r.buf.length :=
  step_tick_progress P hP h

/-- **No spinning.**  From every reader state — in particular the one reached by any history of segments and polls — `len(buffer)`
    polls without new data leave the reader settled: stopped (the close was signalled), or with an empty buffer, or waiting for the
    rest of a frame whose announced length exceeds what is buffered. -/
theorem C07_reader_settles {μ : Type} (P : Proto μ) (hP : Consuming P) (evs : List Ev) :
    Settled P (ticks P (run P evs).buf.length (run P evs)) :=
  ticks_settle P hP _ _ (Nat.le_refl _)

/-- … and a settled reader stays exactly as it is until new data arrive (no emission, no close signal, no buffer change). -/
theorem C07_settled_is_quiet {μ : Type} (P : Proto μ) (r : R μ) (h : Settled P r) (n : Nat) : ticks P n r = r :=
  ticks_settled P n h

/-- the SoupBinTCP reader is such a reader -/
theorem C07_soup_reader_settles (evs : List Ev) :
    Settled soupProto (ticks soupProto (run soupProto evs).buf.length (run soupProto evs)) :=
  C07_reader_settles soupProto soupProto_consuming evs

/-- the FIX reader (with the dictionary dispatch) is such a reader -/
theorem C07_fix_reader_settles (known : Bytes → Bool) (decode : Bytes → Except Err Unit) (hk : known [] = false) (evs : List Ev) :
    Settled (fixProtoD known decode) (ticks (fixProtoD known decode) (run (fixProtoD known decode) evs).buf.length
      (run (fixProtoD known decode) evs)) :=
  C07_reader_settles _ (fixProtoD_consuming known decode) evs

/-- … for EVERY dictionary and field-level decoder, and for framing alone -/
theorem C07_fix_reader_settles_any (known : Bytes → Bool) (decode : Bytes → Except Err Unit) (evs : List Ev) :
    Settled (fixProtoD known decode) (ticks (fixProtoD known decode) (run (fixProtoD known decode) evs).buf.length
      (run (fixProtoD known decode) evs)) :=
  C07_reader_settles _ (fixProtoD_consuming known decode) evs

theorem C07_fix_framing_settles (evs : List Ev) :
    Settled fixProto (ticks fixProto (run fixProto evs).buf.length (run fixProto evs)) :=
  C07_reader_settles _ Refine.fixProto_consuming evs

/-! ### non-vacuity: concrete hostile buffers -/

/-- `8=FIX.4.4␁9=-23␁35=0␁` : BodyLength −23 makes the computed frame length 16 − 23 + 7 = 0 -/
private def neg23 : Bytes := [56, 61, 70, 73, 88, 46, 52, 46, 52, 1, 57, 61, 45, 50, 51, 1, 51, 53, 61, 48, 1]

/-- since /repo 658ee1f a negative BodyLength is rejected outright (before: framing handed out the EMPTY frame and left the buffer
    untouched, and only the dictionary dispatch turned that into `KeyError`; `Witness/C04Bytes.lean` keeps the old reader) … -/
example : fixDeser neg23 = .error .value := by decide

/-- … so the reader stops, the session closes, whatever the dispatch would have said -/
example : fixDeserD (fun ty => ty == [48] || ty == [53]) (fun _ => .ok ()) neg23 = .error .value := by decide
example : (step (fixProtoD (fun ty => ty == [48] || ty == [53]) (fun _ => .ok ())) { buf := neg23 } .tick).stopped = true := by decide

/-- a BodyLength negative beyond the buffer (`9=-99`; before the repair `buf[:-76]`, empty again, nothing consumed) -/
private def neg99 : Bytes := [56, 61, 70, 73, 88, 46, 52, 46, 52, 1, 57, 61, 45, 57, 57, 1, 51, 53, 61, 48, 1]
example : fixDeser neg99 = .error .value := by decide

/-- `9=-25` (before the repair: frame length −2, the last two bytes of WHATEVER HAD ARRIVED cut off — segmentation dependent) -/
private def neg25 : Bytes := [56, 61, 70, 73, 88, 46, 52, 46, 52, 1, 57, 61, 45, 50, 53, 1, 51, 53, 61, 48, 1]
example : fixDeser neg25 = .error .value := by decide

/-- a zero-length SoupBinTCP frame (`00 00`) is rejected (no type byte): the reader stops -/
example : soupDeser [0, 0, 0, 1, 72] = .error .invalidSoup := by decide
example : (step soupProto { buf := [0, 0, 0, 1, 72] } .tick).stopped = true := by decide

/-- a heartbeat is taken off the buffer (3 bytes), the following incomplete frame waits -/
example : (ticks soupProto 5 { buf := [0, 1, 72, 0, 9, 83] }).buf = [0, 9, 83] := by decide
example : Settled soupProto { buf := [0, 9, 83] } := Or.inr (Or.inr (by decide))

end NasdaqModel.Props.C07Framing
