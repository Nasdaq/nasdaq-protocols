import NasdaqModel.Model.ParserDecl
import NasdaqModel.Props.C02
import NasdaqModel.Extracted.TypeTable
/-
C02, field declarations: "integers in the declared width, signedness and byte order … arrays as an element count in the declared
2-byte count type followed by the elements".  The `endian` attribute of an array field selects the byte order of the COUNT only
(documentation of the array attribute: "you can control the endian of this length by adding the endian attribute"); the elements
are of the declared DATATYPE, whose layout is the documented table's.  Proved for the model of `parser.py`'s selection, and
checked row by row on what the running parser generates (`Extracted.arrayElemTable`, regenerated on every run: endian attribute
× declaration form × declared element DATATYPE, each element type probed behaviourally).
-/
namespace NasdaqModel.Props.C02Decl
open NasdaqModel BinCodec ParserDecl Spec.Layout

/-- The element type of the generated field is the declared DATATYPE — for every value of `endian` and `array`. -/
theorem C02_decl_elem (d : FieldDecl) : (fieldType d).elem = d.type := by
  unfold fieldType
  cases d.array with
  | none => rfl
  | some a =>
    by_cases h : a = "double" <;> simp [h, TyExpr.elem]

/-- Every array level counts its elements in the documented count type of the `endian` attribute. -/
theorem C02_decl_counts (d : FieldDecl) :
    ∀ c ∈ (fieldType d).counts, c = documentedArrayCount (d.endian.getD "") := by
  have hc := C02.C02_array_count d.endian
  unfold fieldType
  cases d.array with
  | none => simp [TyExpr.counts]
  | some a =>
    by_cases h : a = "double" <;> simp [h, TyExpr.counts, hc]

/-- Two declarations that differ in the `endian` attribute only generate the same element type. -/
theorem C02_decl_endian_irrelevant (t : String) (a : Option String) (e e' : Option String) :
    (fieldType ⟨t, a, e⟩).elem = (fieldType ⟨t, a, e'⟩).elem := by
  rw [C02_decl_elem, C02_decl_elem]

/-- …and that is what the running parser does: every probed row (endian attribute × declaration form × declared DATATYPE id)
    generated an element type that behaves as the documented table says for the DECLARED id. -/
theorem C02_array_elem_extracted :
    ∀ row ∈ Extracted.arrayElemTable, documentedTable.lookup row.2.2.1 = some row.2.2.2 := by decide +kernel

/-- the probe covers every documented id, for each endian attribute (rows are not vacuous) -/
theorem C02_array_elem_rows_cover :
    ∀ a ∈ ["big", "little", "none"], ∀ r ∈ documentedTable,
      (Extracted.arrayElemTable.any fun row => row.1 == a && row.2.2.1 == r.1) = true := by decide +kernel

example : fieldType ⟨"int_4", some "true", some "big"⟩ = .array (.prim "int_4") "uint_2_be" := by decide
example : fieldType ⟨"int_4", some "double", none⟩ = .array (.array (.prim "int_4") "uint_2") "uint_2" := by decide
set_option maxRecDepth 100000 in
example : Extracted.arrayElemTable.length = 576 := by decide +kernel

end NasdaqModel.Props.C02Decl
