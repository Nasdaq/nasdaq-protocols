import NasdaqModel.Lemmas.HeapDLemmas
/-
C18 with DECLARED defaults on array fields (`Model/HeapD.lean`): lists, lists of rows (two-dimensional arrays), lists of records
as `Field.default_value`, read through `copy.deepcopy` (the code since /repo c3c2285); declared defaults on record-typed fields, which
the library ignores.

"Reading or changing a field of one message or record - including in-place mutation of a list or nested record obtained by reading a
field that was never assigned - never changes what any other instance, existing or created later, reads or encodes."

  * `C18D_frame`, `C18D_encode_frame`  - every schema, every table of declared defaults, EVERY history and every further operation:
    what any instance other than the one the operation is about reads (to any depth, declared defaults included) and encodes is
    unchanged.
  * `C18D_temporary_is_nobodys`       - an in-place operation that ends inside what a never-assigned field with a declared default
    reads as (at ANY depth: a row of a default, a record inside a default, a list inside that record) changes NO instance, the one it
    was read from included, and leaves every class-level datum as it is: the next read sees the declared default again.
  * `C18D_inv_always`                 - the ownership invariant of `Lemmas/HeapLemmas.lean` in every reachable state.
The schema hypothesis `S.freshArrayDefault = true` is the code as it is (a never-assigned array WITHOUT a declared default reads as a
new empty list, /repo fcb8b8f), to which the harness pins the model.
The one-level copy (`list(default)`, the code before c3c2285; `dict(default.values)` for a record default) is refuted on a concrete
history in `Witness/C18Defaults.lean`.
-/
namespace NasdaqModel.Props.C18Defaults
open NasdaqModel Heap HeapD

theorem C18D_inv_always (S : Schema) (hS : S.freshArrayDefault = true) (D : Defaults) (ops : List Op) :
    Inv (runD S D init ops) :=
  runD_inv hS D ops init init_inv

/-- **C18D_frame.**  Every schema, every table of declared defaults (lists, rows, records, nested to any depth), EVERY history,
    every further operation - reads and in-place changes through never-assigned fields at any depth included: what any instance `b`
    other than the one the operation is about reads is unchanged.  `b` ranges over existing instances and over ids not yet in use. -/
theorem C18D_frame (S : Schema) (hS : S.freshArrayDefault = true) (D : Defaults) (ops : List Op) (op : Op)
    (b : Nat) (hb : b ≠ op.target (runD S D init ops)) (n : Nat) :
    viewD S D n (runD S D init (ops ++ [op])) b = viewD S D n (runD S D init ops) b := by
  rw [runD_append]
  unfold stepKD
  cases hs : stepD S D (runD S D init ops) op with
  | error e => rfl
  | ok H' => exact stepD_frame hS (C18D_inv_always S hS D ops) hs hb n

/-- **C18D_encode_frame.**  The same for what `b` encodes (bytes or exception class). -/
theorem C18D_encode_frame (S : Schema) (hS : S.freshArrayDefault = true) (D : Defaults) (ops : List Op) (op : Op)
    (b : Nat) (hb : b ≠ op.target (runD S D init ops)) :
    encodeInstD S D (runD S D init (ops ++ [op])) b = encodeInstD S D (runD S D init ops) b := by
  rw [runD_append]
  unfold stepKD
  cases hs : stepD S D (runD S D init ops) op with
  | error e => rfl
  | ok H' => exact stepD_frame_encode hS (C18D_inv_always S hS D ops) hs hb

/-- the in-place operations that `stepD` treats itself, with instance and path (`Op.writes` without `copy`, which `stepD` hands
    to `Heap.step` unchanged) -/
def inPlace : Op → Option (Nat × List Step)
  | .assign a p _ _ => some (a, p)
  | .append a p _ => some (a, p)
  | .setIdx a p _ _ => some (a, p)
  | _ => Option.none

/-- **C18D_temporary_is_nobodys.**  An in-place operation whose path ends inside what a never-assigned field with a declared default
    reads as - the default list itself, a row of it, a record in it, a list inside such a record: any depth - leaves the WHOLE state
    as it is, whether it succeeds or raises: no instance (the one it was read from included) reads or encodes anything else
    afterwards, and the declared default, being data of the schema, is what the next read and the next instance see again. -/
theorem C18D_temporary_is_nobodys (S : Schema) (D : Defaults) (H : Heap) (op : Op) (a : Nat) (p : List Step) (t : Tree)
    (hop : inPlace op = some (a, p)) (ht : targetD S D H a p = .ok (.tmp t)) :
    stepKD S D H op = H := by
  unfold stepKD
  cases hs : stepD S D H op with
  | error e => rfl
  | ok H' =>
    simp only
    cases op with
    | assign a' p' k x =>
      simp only [inPlace, Option.some.injEq, Prod.mk.injEq] at hop
      obtain ⟨rfl, rfl⟩ := hop
      simp only [stepD, ht, ok_bind] at hs
      cases t with
      | obj c ks ts =>
        simp only at hs
        obtain ⟨_, _, hs⟩ := bind_ok_inv hs
        injection hs with hs; exact hs.symm
      | _ => simp at hs
    | append a' p' x =>
      simp only [inPlace, Option.some.injEq, Prod.mk.injEq] at hop
      obtain ⟨rfl, rfl⟩ := hop
      simp only [stepD, ht, ok_bind] at hs
      cases t with
      | list xs => simp only at hs; injection hs with hs; exact hs.symm
      | _ => simp at hs
    | setIdx a' p' i x =>
      simp only [inPlace, Option.some.injEq, Prod.mk.injEq] at hop
      obtain ⟨rfl, rfl⟩ := hop
      simp only [stepD, ht, ok_bind] at hs
      cases t with
      | list xs =>
        simp only at hs
        split at hs
        · injection hs with hs; exact hs.symm
        · simp at hs
      | _ => simp at hs
    | _ => simp [inPlace] at hop

/-! ### non-vacuity: a two-dimensional default, a default list of records whose record holds a list, a nested record with a default
inside; in-place changes at depth 2 and 3 through never-assigned fields -/

/-- class 0: record (int, array of int with declared default [10, 20]); class 1: message 'C' with an array field whose declared
    default is the rows [[1, 2], [3]], a nested record of class 0, an array of class-0 records with declared default
    [Rec0(5, [8])] -/
def exS : Schema :=
  ⟨true, [.binRec Option.none [.int ⟨4, true, false⟩ Option.none, .arr (.int ⟨2, false, true⟩) ⟨2, false, true⟩],
          .binRec (some 67) [.arr (.int ⟨4, true, false⟩) ⟨2, false, false⟩, .recd 0, .arr (.recd 0) ⟨2, false, false⟩]]⟩

def exD : Defaults :=
  ⟨[((0, 1), .list [.int 10, .int 20]),
    ((1, 0), .list [.list [.int 1, .int 2], .list [.int 3]]),
    ((1, 2), .list [.obj 0 [0, 1] [.int 5, .list [.int 8]]])]⟩

def exOps : List Op :=
  [.new 1, .new 1,
   .append 0 [.fld 0, .idx 0] (.int 9),                 -- a.cells[0].append(9): a ROW of the declared default
   .append 0 [.fld 2, .idx 0, .fld 1] (.int 9),         -- a.recs[0].sizes.append(9): a list inside a record inside the default
   .setIdx 0 [.fld 1, .fld 1] 0 (.int 7),               -- a.inner.sizes[0] = 7: declared default of a field of the nested record
   .assign 0 [.fld 2, .idx 0] 0 (.int 6),               -- a.recs[0].price = 6
   .new 1]

example : exS.freshArrayDefault = true := rfl
example : (exOps.map (fun op => (inPlace op).isSome)).count true = 4 := by decide +kernel
/-- all four in-place operations end inside a temporary and succeed -/
example : targetD exS exD (runD exS exD init (exOps.take 2)) 0 [.fld 0, .idx 0] matches .ok (.tmp (.list _)) := by decide +kernel
example : targetD exS exD (runD exS exD init (exOps.take 2)) 0 [.fld 2, .idx 0, .fld 1] matches .ok (.tmp (.list _)) := by decide +kernel
example : targetD exS exD (runD exS exD init (exOps.take 2)) 0 [.fld 1, .fld 1] matches .ok (.tmp (.list _)) := by decide +kernel
example : targetD exS exD (runD exS exD init (exOps.take 2)) 0 [.fld 2, .idx 0] matches .ok (.tmp (.obj 0 _ _)) := by decide +kernel
example : (runD exS exD init exOps).insts.length = 3 := by decide +kernel
/-- the same history with the one-dimensional default [1, 2] on the first field (rows are not encodable as an array of ints) -/
def exD1 : Defaults := ⟨[((0, 1), .list [.int 10, .int 20]), ((1, 0), .list [.int 1, .int 2]), ((1, 2), .list [.obj 0 [0, 1] [.int 5, .list [.int 8]]])]⟩
def exOps1 : List Op :=
  [.new 1, .new 1, .append 0 [.fld 0] (.int 9), .append 0 [.fld 2, .idx 0, .fld 1] (.int 9), .setIdx 0 [.fld 1, .fld 1] 0 (.int 7), .new 1]
/-- every instance - the one the changes went through, the other one, the one created afterwards - encodes the declared defaults:
    id 'C'; count 2, 1, 2; inner record 0, count 2 (big endian), 10, 20; count 1, record 5, count 1, 8 -/
example : [0, 1, 2].map (encodeInstD exS exD1 (runD exS exD1 init exOps1)) =
    List.replicate 3 (.ok [67, 2, 0, 1, 0, 0, 0, 2, 0, 0, 0, 0, 0, 0, 0, 0, 2, 0, 10, 0, 20, 1, 0, 5, 0, 0, 0, 0, 1, 0, 8]) := by decide +kernel

end NasdaqModel.Props.C18Defaults
