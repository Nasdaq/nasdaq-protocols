import NasdaqModel.Props.C13
/-
C13 for the SHORTEST wire forms: a field is `tag` `=` `value` SOH, so with a one-digit tag and the empty text (String / char; "empty
strings" are named in the property's quantifier) a field - and a group instance that holds its first field and nothing else - is
THREE bytes, and a message may end in any number of such instances.  The decoder of the model (`grpLoop` / `containerFromBytes`,
transcribed from `GroupContainer.from_bytes`) has no "enough bytes left for the announced count" test, and the theorems of
`Props/C13.lean` have no hypothesis on the width of tags or values: `wfText []` holds, `wfDef` / `wfMsg` say nothing about the
size of a tag.  So `C13_roundtrip` / `C13_statement` already cover these messages; nothing had to be weakened or extended.

What is here makes that explicit, for all sizes:
  * `C13_short_field_bytes`       - a field with tag `t < 10` and the empty text is exactly the two bytes `t` `=` (+ SOH on the wire);
  * `C13_short_instance_bytes`    - an instance holding only such a first field is written as that one field, whatever other
                                    (optional) entries the group has;
  * `C13_short_family_statement`  - for EVERY count tag `c`, first-field tag `t`, further group entries `rest` (distinct tags) and EVERY
                                    number `n` of instances `t=<SOH>` closing the message (empty trailer): the message encodes, decodes
                                    through the registry to the same class with every byte consumed, to itself (the instances are
                                    already in dictionary order), re-encodes identically and compares equal - a corollary of
                                    `C13_statement`;
  * `C13_short_wire_*`            - the wire form of the family for concrete sizes (3 bytes per instance), decided by the kernel.
`Witness/C13Short.lean` shows what a decoder with a minimum-instance-length guard of 4 does on the same messages.
-/
namespace NasdaqModel.Props.C13Short
open NasdaqModel Py Fix Props.C13

/-- a field with a one-digit tag and an empty value: `t=` (two bytes; the SOH that follows it on the wire is the third) -/
theorem C13_short_field_bytes (t : Nat) (ht : t < 10) : fieldBytes t [] = [48 + t, 61] := by
  simp [fieldBytes, natDigits_eq t, ht]

/-- an instance that holds only its first field, with the empty text, is written as exactly that field - the other entries of the
    group (tags different from the first one) contribute nothing -/
theorem C13_short_instance_bytes (t : Nat) (ht : t < 10) (r : Bool) (rest : List Entry) (hrest : ∀ e ∈ rest, e.tag ≠ t) :
    encGroupFields (.field t .string r :: rest) [(t, .str [])] = .ok [[48 + t, 61]] := by
  have hr : ∀ (rest : List Entry), (∀ e ∈ rest, e.tag ≠ t) → encGroupFields rest [(t, .str [])] = .ok [] := by
    intro rest
    induction rest with
    | nil => intro _; rfl
    | cons e es ih =>
      intro h
      have he : e.tag ≠ t := h e (by simp)
      have : lookupV [(t, Val.str [])] e.tag = none := by simp [lookupV, Ne.symm he]
      rw [encGroupFields, this]
      exact ih (fun x hx => h x (by simp [hx]))
  have hl : lookupV [(t, Val.str [])] (Entry.field t .string r).tag = some (.str []) := by simp [lookupV, Entry.tag]
  rw [encGroupFields, hl]
  simp only [encEntry, tyToBytes, encodeAscii, List.all_nil, if_true, ok_bind, pure_eq_ok, hr rest hrest,
    C13_short_field_bytes t ht]

/-- header `35`, body = one group `c` whose first entry is the String field `t`, any further entries `rest`; empty trailer -/
def shortDef (c t : Nat) (rest : List Entry) : MsgDef :=
  { name := [83], type := [83], hdr := [.field 35 .string true], body := [.group c (.field t .string true :: rest) false], trl := [] }

/-- `n` instances holding only the first field with the empty text, the group the last thing of the message -/
def shortMsg (c t n : Nat) : Msg :=
  { hdr := [(35, .str [83])], body := [(c, .grp (List.replicate n [(t, .str [])]))], trl := [] }

private theorem wfInsts_replicate (t : Nat) (rest : List Entry) (n : Nat) :
    wfInsts (.field t .string true :: rest) (List.replicate n [(t, .str [])]) = true := by
  induction n with
  | zero => simp [wfInsts]
  | succ k ih =>
    rw [List.replicate_succ, wfInsts, ih]
    simp [wfFields, lookupE, Entry.tag, wfVal, wfPrim, wfText, firstPresent, hasKey, lookupV, keysOf]

private theorem canon_replicate (t : Nat) (rest : List Entry) (hrest : ∀ e ∈ rest, e.tag ≠ t) (n : Nat) :
    (List.replicate n [(t, Val.str [])]).map (fun i => canonFields (.field t .string true :: rest) i)
      = List.replicate n [(t, Val.str [])] := by
  have hr : ∀ (rest : List Entry), (∀ e ∈ rest, e.tag ≠ t) → canonFields rest [(t, Val.str [])] = [] := by
    intro rest
    induction rest with
    | nil => intro _; rfl
    | cons e es ih =>
      intro h
      have he : e.tag ≠ t := h e (by simp)
      have : lookupV [(t, Val.str [])] e.tag = none := by simp [lookupV, Ne.symm he]
      rw [canonFields, this]
      exact ih (fun x hx => h x (by simp [hx]))
  have h1 : canonFields (.field t .string true :: rest) [(t, Val.str [])] = [(t, Val.str [])] := by
    have hl : lookupV [(t, Val.str [])] (Entry.field t .string true).tag = some (.str []) := by simp [lookupV, Entry.tag]
    rw [canonFields, hl]
    simp [hr rest hrest, canonVal, Entry.tag]
  simp [List.map_replicate, h1]

/-- the family is inside the quantifier of `Props/C13.lean` for every size -/
theorem C13_short_family_wf (c t : Nat) (rest : List Entry) (n : Nat) : wfMsg (shortDef c t rest) (shortMsg c t n) = true := by
  simp [wfMsg, wfSeg, wfFields, shortDef, shortMsg, lookupE, Entry.tag, wfVal, wfPrim, wfText, keysOf, wfInsts_replicate]

/-- the decoded form of a message of the family is the message itself -/
theorem C13_short_family_canon (c t : Nat) (rest : List Entry) (hrest : ∀ e ∈ rest, e.tag ≠ t) (n : Nat) :
    canonMsg (shortDef c t rest) (shortMsg c t n) = shortMsg c t n := by
  simp [canonMsg, canonSeg, shortDef, shortMsg, lookupE, Entry.tag, canonVal, canon_replicate t rest hrest n]

/-- **Any number of minimal instances closing the message round-trips.**  For every count tag `c`, first-field tag `t` (one digit or
    not), further entries `rest` of the group, and every `n`: the message with `n` instances `t=<SOH>` as its last bytes encodes; the
    bytes decode through the registry to the same class, every byte consumed, to the message itself; it re-encodes identically and
    compares `==`.  There is no lower bound on the bytes an instance occupies beyond the three bytes a field needs. -/
theorem C13_short_family_statement (c t : Nat) (rest : List Entry) (n : Nat)
    (hd : wfDef (shortDef c t rest) = true) (hrest : ∀ e ∈ rest, e.tag ≠ t) :
    ∃ bs, encMsg (shortDef c t rest) (shortMsg c t n) = .ok bs ∧
      decodeMsg [shortDef c t rest] bs = .ok (bs.length, shortDef c t rest, shortMsg c t n) ∧
      encMsg (shortDef c t rest) (shortMsg c t n) = .ok bs ∧
      pyEqDict (shortMsg c t n) (shortMsg c t n) = true := by
  have hreg : lookupReg [shortDef c t rest] (shortDef c t rest).type = some (shortDef c t rest) := by
    simp [lookupReg, shortDef]
  have hentry : lookupE (shortDef c t rest).hdr 35 = some (.field 35 .string true) := by simp [shortDef, lookupE, Entry.tag]
  obtain ⟨bs, h1, h2, h3, h4⟩ := C13_statement [shortDef c t rest] (shortDef c t rest) (shortMsg c t n) hd
    (C13_short_family_wf c t rest n) true [] rfl hentry hreg
  rw [C13_short_family_canon c t rest hrest n] at h2 h3 h4
  exact ⟨bs, h1, h2, h3, h4⟩

/-- `Alloc`-like group: count 78, Account(1) String first, AllocQty(80) float optional -/
def allocRest : List Entry := [.field 80 .float false]

example : wfDef (shortDef 78 1 allocRest) = true := by decide +kernel
example : ∀ e ∈ allocRest, e.tag ≠ 1 := by decide +kernel

/-- `35=S|78=1|1=|` : the bytes after the count field are ONE instance of three bytes -/
theorem C13_short_wire_one : encMsg (shortDef 78 1 allocRest) (shortMsg 78 1 1)
    = .ok [51,53,61,83,1, 55,56,61,49,1, 49,61,1] := by decide +kernel

/-- `35=S|78=3|1=|1=|1=|` : three instances, nine bytes -/
theorem C13_short_wire_three : encMsg (shortDef 78 1 allocRest) (shortMsg 78 1 3)
    = .ok [51,53,61,83,1, 55,56,61,51,1, 49,61,1, 49,61,1, 49,61,1] := by decide +kernel

/-- twenty-one instances: 5 + 6 + 21 * 3 bytes, and the round trip of the model, decided on the concrete message -/
theorem C13_short_wire_twentyone :
    (match encMsg (shortDef 78 1 allocRest) (shortMsg 78 1 21) with
     | .ok bs => bs.length == 5 + 6 + 21 * 3 &&
                 (match decodeMsg [shortDef 78 1 allocRest] bs with
                  | .ok r => r.1 == bs.length && pyEq r.2.2 (shortMsg 78 1 21)
                  | .error _ => false)
     | .error _ => false) = true := by decide +kernel

/-- a group nested in a group, the inner one (first field `1`, String) closing the last outer instance, CheckSum-free trailer:
    `35=N|555=1|600=X|78=2|1=|1=|` -/
def nestedDef : MsgDef :=
  { name := [78], type := [78], hdr := [.field 35 .string true], trl := [.field 10 .string false],
    body := [.field 58 .string false,
             .group 555 [.field 600 .string true, .field 687 .int false,
                         .group 78 [.field 1 .string true, .field 80 .float false] false] false] }
def nestedMsg : Msg :=
  { hdr := [(35, .str [78])], trl := [],
    body := [(555, .grp [[(600, .str [88]), (78, .grp [[(1, .str [])], [(1, .str [])]])]])] }
/-- nine minimal instances in front of a 7-byte trailer `10=077|`: 9 * 4 > 9 * 3 + 7 -/
def nineMsg : Msg :=
  { hdr := [(35, .str [78])], trl := [(10, .str [48, 55, 55])],
    body := [(555, .grp [[(600, .str [88]), (78, .grp (List.replicate 9 [(1, .str [])]))]])] }

theorem C13_short_nested_wf : wfDef nestedDef = true ∧ wfMsg nestedDef nestedMsg = true ∧ wfMsg nestedDef nineMsg = true := by
  decide +kernel

/-- both are instances of `C13_statement`: -/
example : ∃ bs, encMsg nestedDef nestedMsg = .ok bs ∧ decodeMsg [nestedDef] bs = .ok (bs.length, nestedDef, canonMsg nestedDef nestedMsg) ∧
    encMsg nestedDef (canonMsg nestedDef nestedMsg) = .ok bs ∧ pyEqDict (canonMsg nestedDef nestedMsg) nestedMsg = true :=
  C13_statement [nestedDef] nestedDef nestedMsg C13_short_nested_wf.1 C13_short_nested_wf.2.1 true [] rfl rfl rfl

theorem C13_short_wire_nested : encMsg nestedDef nestedMsg
    = .ok [51,53,61,78,1, 53,53,53,61,49,1, 54,48,48,61,88,1, 55,56,61,50,1, 49,61,1, 49,61,1] := by decide +kernel

end NasdaqModel.Props.C13Short
