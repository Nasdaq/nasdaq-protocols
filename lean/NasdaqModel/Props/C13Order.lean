import NasdaqModel.Props.C13Anchor
/-
C13 — the ORDER of the fields of header, body and trailer.  The statement lets the fields be assigned in any order and demands that the
decoded message "compares equal to the original".  `Message.__eq__` compares the three segments as OrderedDicts (`segEqTop`: order
sensitive at the top level, plain-dict only inside group instances), so equality after a round trip NEEDS the wire order of every segment
to be the order in which its fields were assigned.  `DataSegment.to_bytes` writes `values` in insertion order and gives no tag a place of
its own — not BeginString (8), not BodyLength (9), not CheckSum (10): the codec does no framing (that is C14's).

  * `C13Order_eq_is_order_sensitive` — `pyEqDict a b = true` forces the same key order in header, body and trailer;
  * `C13Order_decoded_keeps_assignment_order` — what decoding returns (`canonMsg d m`, by `C13_roundtrip`) lists the fields of every
    top-level segment in the order of `m`, whatever the tags are;
  * `C13Order_roundtrip_order` — the two together with `C13_roundtrip_any_order`, on the bytes: the decoded message's segments have the
    assigned key order (so no encoder that moves a field — "CheckSum last" — can satisfy the statement with this `==`; the decided
    counterexample is `Witness/C13Order.lean`);
  * the dictionary with FIX's standard header and trailer (8, 35, 34 / 93, 89, 10) and a message that assigns CheckSum FIRST in the
    trailer and BeginString LAST in the header is inside the quantifier and round-trips (`C13Order_standard_trailer_roundtrip`).
-/
namespace NasdaqModel.Props.C13Order
open NasdaqModel Py Fix Props.C13 Props.C13Anchor

private theorem segEqTop_keys : ∀ (a b : Seg), segEqTop a b = true → keysOf a = keysOf b
  | [], [], _ => rfl
  | [], _ :: _, h => by simp [segEqTop] at h
  | _ :: _, [], h => by simp [segEqTop] at h
  | (k, v) :: s, (k', v') :: s', h => by
    simp only [segEqTop, Bool.and_eq_true, beq_iff_eq] at h
    simp only [keysOf, List.map_cons, List.cons.injEq]
    exact ⟨h.1.1, segEqTop_keys s s' h.2⟩

private theorem keysOf_canonSeg (es : List Entry) (s : Seg) : keysOf (canonSeg es s) = keysOf s := by
  simp [keysOf, canonSeg, List.map_map, Function.comp_def]

/-- **`==` is order sensitive on header, body and trailer.** -/
theorem C13Order_eq_is_order_sensitive (a b : Msg) (h : pyEqDict a b = true) :
    keysOf a.hdr = keysOf b.hdr ∧ keysOf a.body = keysOf b.body ∧ keysOf a.trl = keysOf b.trl := by
  simp only [pyEqDict, Bool.and_eq_true] at h
  exact ⟨segEqTop_keys _ _ h.1.1, segEqTop_keys _ _ h.1.2, segEqTop_keys _ _ h.2⟩

/-- **The decoded form keeps the assignment order of every top-level segment**, for every dictionary and every message. -/
theorem C13Order_decoded_keeps_assignment_order (d : MsgDef) (m : Msg) :
    keysOf (canonMsg d m).hdr = keysOf m.hdr ∧ keysOf (canonMsg d m).body = keysOf m.body ∧
    keysOf (canonMsg d m).trl = keysOf m.trl := by
  simp only [canonMsg, keysOf_canonSeg, and_self]

/-- **On the bytes**: whatever `decodeMsg` returns for the encoding of a well-formed message holds the fields of header, body and
    trailer in the order in which they were assigned — CheckSum assigned before Signature stays before it. -/
theorem C13Order_roundtrip_order (reg : List MsgDef) (d : MsgDef) (m : Msg) (bs : Bytes)
    (hd : wfDef d = true) (hm : wfMsg d m = true) (henc : encMsg d m = .ok bs)
    (r : Bool) (hmem : (35, Val.str d.type) ∈ m.hdr)
    (hentry : lookupE d.hdr 35 = some (.field 35 .string r)) (hreg : lookupReg reg d.type = some d)
    (n : Nat) (d' : MsgDef) (m' : Msg) (hdec : decodeMsg reg bs = .ok (n, d', m')) :
    keysOf m'.hdr = keysOf m.hdr ∧ keysOf m'.body = keysOf m.body ∧ keysOf m'.trl = keysOf m.trl ∧ pyEqDict m' m = true := by
  have h := C13_roundtrip_any_order reg d m bs hd hm henc r hmem hentry hreg
  rw [h] at hdec
  cases hdec
  obtain ⟨h1, h2, h3⟩ := C13Order_decoded_keeps_assignment_order d m
  exact ⟨h1, h2, h3, C13_eq_original d m hd hm⟩

/-- header BeginString(8), MsgType(35), MsgSeqNum(34); body Text(58); trailer SignatureLength(93), Signature(89), CheckSum(10) -/
def orderDef : MsgDef :=
  { name := [79, 114, 100], type := [72, 75],
    hdr := [.field 8 .string true, .field 35 .string true, .field 34 .int false],
    body := [.field 58 .string false],
    trl := [.field 93 .int false, .field 89 .string false, .field 10 .string true] }

/-- MsgSeqNum, MsgType, BeginString assigned in that order; trailer: CheckSum FIRST, then SignatureLength, Signature
    (corpus/C13/trailer-checksum-assigned-first.json) -/
def orderMsg : Msg :=
  { hdr := [(34, .int 7), (35, .str [72, 75]), (8, .str [70, 73, 88])],
    body := [(58, .str [104, 105])],
    trl := [(10, .str [48, 48, 55]), (93, .int 2), (89, .str [122, 122])] }

example : wfDef orderDef = true := by decide +kernel
example : wfMsg orderDef orderMsg = true := by decide +kernel
example : (35, Val.str orderDef.type) ∈ orderMsg.hdr := .tail _ (.head _)
example : lookupE orderDef.hdr 35 = some (.field 35 .string true) := rfl
example : lookupReg [orderDef] orderDef.type = some orderDef := rfl

/-- the wire: `34=7|35=HK|8=FIX|58=hi|10=007|93=2|89=zz|` — assignment order, CheckSum in front of the signature -/
theorem C13Order_standard_trailer_wire :
    encMsg orderDef orderMsg = .ok [51,52,61,55,1, 51,53,61,72,75,1, 56,61,70,73,88,1, 53,56,61,104,105,1,
                                    49,48,61,48,48,55,1, 57,51,61,50,1, 56,57,61,122,122,1] := by decide +kernel

/-- it decodes to the same class, every byte consumed, to a message `==` the original with the trailer still `[10, 93, 89]` -/
theorem C13Order_standard_trailer_roundtrip :
    (match encMsg orderDef orderMsg with
     | .ok bs => (match decodeMsg [orderDef] bs with
                  | .ok r => r.1 == bs.length && pyEqDict r.2.2 orderMsg && keysOf r.2.2.trl == [10, 93, 89] &&
                             keysOf r.2.2.hdr == [34, 35, 8]
                  | .error _ => false)
     | .error _ => false) = true := by decide +kernel

end NasdaqModel.Props.C13Order
