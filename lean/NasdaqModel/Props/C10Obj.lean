import NasdaqModel.Props.C10
import NasdaqModel.Model.SeqObj
/-
C10, FIX part, on message OBJECTS: "the k-th message written after the logon carries logon MsgSeqNum + k, with no gap or repeat …, and
a send rejected by validation writes nothing and consumes no number" — for every history in which the application sends the same
message object several times, changes it in place between the sends (valid → invalid → valid, serialisable → not serialisable in any
segment), sends messages obtained from the reader (their headers carry the peer's numbers), sets `Header.MsgSeqNum` itself to anything,
and logs on with an object that went through any of this before.  The number an object's header carries is never read by `send_msg`
(only by `login`, for the logon object, as the statement says); a failed send gives back the number saved before the draw.
-/
namespace NasdaqModel.Props.C10Obj
open NasdaqModel SeqNum NasdaqModel.Props.C10

def noObjLogin (ops : List ObjOp) : Bool := ops.all (fun op => !op.isLogin)

/-- the heaps hold the same messages, whatever numbers their headers carry -/
def sameMsgs (h h' : Heap) : Prop := h.map Obj.msg = h'.map Obj.msg

/-! ### `send_msg` on an object is `send_msg` on the value the object is at that moment -/

private theorem objSendR_sess (s : FixSt) (o : Obj) : (objSendR s o).1 = (fixSendR s o.msg.toMsg).1 := by
  unfold objSendR fixSendR
  have hv : o.msg.toMsg.bodyValid = o.msg.bodyValid := rfl
  rw [hv]
  cases o.msg.bodyValid <;> simp
  cases s.next <;> simp
  cases o.msg.toMsg.encodable <;> simp

private theorem objSendR_out (s : FixSt) (o : Obj) : (objSendR s o).2.2 = (fixSendR s o.msg.toMsg).2 := by
  unfold objSendR fixSendR
  have hv : o.msg.toMsg.bodyValid = o.msg.bodyValid := rfl
  rw [hv]
  cases o.msg.bodyValid <;> simp
  cases s.next <;> simp
  cases o.msg.toMsg.encodable <;> simp

private theorem objSendR_msg (s : FixSt) (o : Obj) : (objSendR s o).2.1.msg = o.msg := by
  unfold objSendR
  cases o.msg.bodyValid <;> simp
  cases s.next <;> simp
  cases o.msg.toMsg.encodable <;> simp

private theorem objRunR_cons (st : OSt) (op : ObjOp) (rest : List ObjOp) :
    objRunR st (op :: rest) = objRunR (objStepR st op).1 rest := rfl

private theorem objRunR_append (a b : List ObjOp) : ∀ st, objRunR st (a ++ b) = objRunR (objRunR st a) b := by
  intro st; simp [objRunR, List.foldl_append]

private theorem objValueOps_append (a b : List ObjOp) :
    ∀ st, objValueOps st (a ++ b) = objValueOps st a ++ objValueOps (objRunR st a) b := by
  induction a with
  | nil => intro st; rfl
  | cons op rest ih =>
    intro st
    show _ ++ objValueOps (objStepR st op).1 (rest ++ b) = (_ ++ objValueOps (objStepR st op).1 rest) ++ _
    rw [ih, objRunR_cons, List.append_assoc]

/-- **Object identity is invisible to the session.**  For every heap and every history on objects, the session ends in the state the
    value-level model (`fixRunR`, Props/C10) reaches on the history of the values the objects were when they were sent. -/
theorem C10Obj_session_is_value_run (ops : List ObjOp) :
    ∀ st : OSt, (objRunR st ops).sess = fixRunR st.sess (objValueOps st ops) := by
  induction ops with
  | nil => intro st; rfl
  | cons op rest ih =>
    intro st
    rw [objRunR_cons, ih]
    cases op with
    | send i =>
      simp only [objValueOps, objStepR, objStepWith]
      cases h : st.heap[i]? with
      | none => simp
      | some o =>
        simp only [List.singleton_append]
        show _ = fixRunR (fixStepR st.sess (.send o.msg.toMsg)).1 _
        simp only [fixStepR, objSendR_sess]
    | login i =>
      simp only [objValueOps, objStepR, objStepWith]
      cases h : st.heap[i]? with
      | none => simp
      | some o =>
        simp only [List.singleton_append]
        show _ = fixRunR (fixStepR st.sess (.login (logonSeq o.stamp) o.msg.toMsg)).1 _
        simp only [fixStepR, objSendR_sess]
    | heartbeat m =>
      simp only [objValueOps, objStepR, objStepWith, List.singleton_append]
      show _ = fixRunR (fixStepR st.sess (.heartbeat m.toMsg)).1 _
      simp only [fixStepR, objSendR_sess]
    | mutate i m | setStamp i n => simp [objValueOps, objStepR, objStepWith]

private theorem noLogin_valueOps (ops : List ObjOp) (h : noObjLogin ops = true) :
    ∀ st, noLogin (objValueOps st ops) = true := by
  induction ops with
  | nil => intro st; rfl
  | cons op rest ih =>
    intro st
    simp only [noObjLogin, List.all_cons, Bool.and_eq_true] at h
    have hr := ih (by simpa [noObjLogin] using h.2) (objStepR st op).1
    simp only [noLogin] at hr ⊢
    cases op with
    | send i =>
      simp only [objValueOps, List.all_append, Bool.and_eq_true]
      refine ⟨?_, hr⟩
      split <;> simp [FixOp.isLogin]
    | login i => simp [ObjOp.isLogin] at h
    | heartbeat m =>
      simp only [objValueOps, List.all_append, Bool.and_eq_true]
      exact ⟨by simp [FixOp.isLogin], hr⟩
    | mutate i m | setStamp i n => simpa [objValueOps] using hr

/-- **k-th frame carries logon MsgSeqNum + k**, for every history on objects
    `anything before the logon ++ login(obj i) ++ {sends and re-sends of any object in whatever state it is, in-place changes, numbers set
    on headers by hand or by the reader, heartbeats}`; `o` is the logon object as it is at the moment of the logon, the logon MsgSeqNum is
    the number ITS header carries then. -/
theorem C10Obj_fix_kth (heap : Heap) (pre ops : List ObjOp) (i : Nat) (o : Obj)
    (hpre : noObjLogin pre = true) (hops : noObjLogin ops = true)
    (ho : (objRunR ⟨fixInit, heap⟩ pre).heap[i]? = some o) :
    (∀ k, (hk : k < (objRunR ⟨fixInit, heap⟩ (pre ++ .login i :: ops)).sess.frames.length) →
        (objRunR ⟨fixInit, heap⟩ (pre ++ .login i :: ops)).sess.frames[k] = logonSeq o.stamp + k) ∧
    (objRunR ⟨fixInit, heap⟩ (pre ++ .login i :: ops)).sess.next
      = some (logonSeq o.stamp + (objRunR ⟨fixInit, heap⟩ (pre ++ .login i :: ops)).sess.frames.length) := by
  have e : (objRunR ⟨fixInit, heap⟩ (pre ++ .login i :: ops)).sess
      = fixRunR fixInit (objValueOps ⟨fixInit, heap⟩ pre ++ .login (logonSeq o.stamp) o.msg.toMsg ::
          objValueOps (objStepR (objRunR ⟨fixInit, heap⟩ pre) (.login i)).1 ops) := by
    rw [C10Obj_session_is_value_run, objValueOps_append]
    simp only [objValueOps, ho, List.singleton_append]
  rw [e]
  exact C10_fix_kth_repaired _ _ _ _ (noLogin_valueOps pre hpre _) (noLogin_valueOps ops hops _)

/-- **A send that writes nothing consumes no number** — rejected by validation or not serialisable in any segment, whatever object it
    is and whatever number its header carries. -/
theorem C10Obj_failed_send_consumes_nothing (st : OSt) (i : Nat)
    (h : ∀ n, (objStepR st (.send i)).2 ≠ some (.written n)) : (objStepR st (.send i)).1.sess = st.sess := by
  simp only [objStepR, objStepWith] at h ⊢
  cases ho : st.heap[i]? with
  | none => simp
  | some o =>
    simp only [ho] at h ⊢
    rw [objSendR_sess]
    apply C10_fix_repaired_failed_send_consumes_nothing
    intro n hn
    apply h n
    rw [objSendR_out, hn]

/-- a send rejected by validation touches nothing at all: the session is as before and so is the object (the number its header
    carries from earlier stays where it is and is never looked at) -/
theorem C10Obj_rejected_send_changes_nothing (st : OSt) (i : Nat) (o : Obj)
    (ho : st.heap[i]? = some o) (hv : o.msg.bodyValid = false) :
    objStepR st (.send i) = (st, some .rejected) := by
  simp only [objStepR, objStepWith, ho, objSendR, hv, Bool.not_false, if_true]
  have : st.heap.set i o = st.heap := by
    obtain ⟨hi, rfl⟩ := List.getElem?_eq_some_iff.mp ho
    exact List.set_getElem_self hi
  rw [this]

/-- after a send that was written, the object carries the number of its frame (and the session has moved on by one) -/
theorem C10Obj_written_stamps_object (st : OSt) (i : Nat) (n : Int)
    (h : (objStepR st (.send i)).2 = some (.written n)) :
    ((objStepR st (.send i)).1.heap[i]?).map Obj.stamp = some (some n) ∧ st.sess.next = some n ∧
    (objStepR st (.send i)).1.sess.next = some (n + 1) := by
  simp only [objStepR, objStepWith] at h ⊢
  cases ho : st.heap[i]? with
  | none => simp [ho] at h
  | some o =>
    have hi : i < st.heap.length := (List.getElem?_eq_some_iff.mp ho).1
    simp only [ho] at h ⊢
    simp only [Option.some.injEq] at h
    unfold objSendR at h ⊢
    cases hv : o.msg.bodyValid <;> simp [hv] at h ⊢
    cases hn : st.sess.next <;> simp [hn] at h ⊢
    cases he : o.msg.toMsg.encodable <;> simp [he] at h ⊢
    subst h
    simp [hi]

/-! ### the numbers objects carry are never read by `send_msg` -/

private theorem sameMsgs_get {h h' : Heap} (hm : sameMsgs h h') (i : Nat) :
    (h[i]?).map Obj.msg = (h'[i]?).map Obj.msg := by
  have := congrArg (fun l => l[i]?) hm
  simpa [List.getElem?_map] using this

private theorem sameMsgs_set {h h' : Heap} (hm : sameMsgs h h') (i : Nat) (o o' : Obj) (ho : o.msg = o'.msg) :
    sameMsgs (h.set i o) (h'.set i o') := by
  unfold sameMsgs at hm ⊢
  rw [List.map_set, List.map_set, hm, ho]

private theorem objSendR_sess_msg (s : FixSt) (o o' : Obj) (h : o.msg = o'.msg) :
    (objSendR s o).1 = (objSendR s o').1 ∧ (objSendR s o).2.2 = (objSendR s o').2.2 := by
  rw [objSendR_sess, objSendR_sess, objSendR_out, objSendR_out, h]
  exact ⟨rfl, rfl⟩

private theorem sameMsgs_upd {h h' : Heap} (hm : sameMsgs h h') (i : Nat) (f g : Obj → Obj)
    (hf : ∀ o o' : Obj, o.msg = o'.msg → (f o).msg = (g o').msg) : sameMsgs (updObj h i f) (updObj h' i g) := by
  have hg := sameMsgs_get hm i
  unfold updObj
  cases ho : h[i]? with
  | none =>
    cases ho' : h'[i]? with
    | none => simpa using hm
    | some o' => simp [ho, ho'] at hg
  | some o =>
    cases ho' : h'[i]? with
    | none => simp [ho, ho'] at hg
    | some o' =>
      have : o.msg = o'.msg := by simpa [ho, ho'] using hg
      exact sameMsgs_set hm i _ _ (hf o o' this)

private theorem sameMsgs_upd_self (h : Heap) (i : Nat) (f : Obj → Obj) (hf : ∀ o, (f o).msg = o.msg) :
    sameMsgs (updObj h i f) h := by
  unfold updObj
  cases ho : h[i]? with
  | none => rfl
  | some o =>
    obtain ⟨hi, rfl⟩ := List.getElem?_eq_some_iff.mp ho
    unfold sameMsgs
    rw [List.map_set, hf]
    apply List.ext_getElem?
    intro j
    by_cases hj : i = j
    · subst hj; simp [hi]
    · simp [hj]

private theorem step_ignores_stamps (st st' : OSt) (op : ObjOp) (hs : st.sess = st'.sess) (hm : sameMsgs st.heap st'.heap)
    (hop : op.isLogin = false) :
    (objStepR st op).1.sess = (objStepR st' op).1.sess ∧ sameMsgs (objStepR st op).1.heap (objStepR st' op).1.heap ∧
    (objStepR st op).2 = (objStepR st' op).2 := by
  cases op with
  | login i => simp [ObjOp.isLogin] at hop
  | send i =>
    have hg := sameMsgs_get hm i
    simp only [objStepR, objStepWith]
    cases ho : st.heap[i]? with
    | none =>
      cases ho' : st'.heap[i]? with
      | none => exact ⟨hs, hm, rfl⟩
      | some o' => simp [ho, ho'] at hg
    | some o =>
      cases ho' : st'.heap[i]? with
      | none => simp [ho, ho'] at hg
      | some o' =>
        have e : o.msg = o'.msg := by simpa [ho, ho'] using hg
        have := objSendR_sess_msg st.sess o o' e
        refine ⟨?_, ?_, ?_⟩
        · show (objSendR st.sess o).1 = (objSendR st'.sess o').1
          rw [← hs]; exact this.1
        · show sameMsgs (st.heap.set i (objSendR st.sess o).2.1) (st'.heap.set i (objSendR st'.sess o').2.1)
          exact sameMsgs_set hm i _ _ (by rw [objSendR_msg, objSendR_msg, e])
        · show some (objSendR st.sess o).2.2 = some (objSendR st'.sess o').2.2
          rw [← hs, this.2]
  | heartbeat m =>
    simp only [objStepR, objStepWith]
    refine ⟨by rw [hs], hm, by rw [hs]⟩
  | mutate i m =>
    simp only [objStepR, objStepWith]
    exact ⟨hs, sameMsgs_upd hm i _ _ (fun _ _ _ => rfl), trivial⟩
  | setStamp i n =>
    simp only [objStepR, objStepWith]
    exact ⟨hs, sameMsgs_upd hm i _ _ (fun _ _ h => h), trivial⟩

/-- **The number a message object carries is never read by `send_msg`.**  Two runs of the same history (no logon in it) that start
    from the same session state and from heaps holding the same messages — with ANY numbers on their headers, and whatever numbers the
    history itself sets on them — end in the same session state: same frames written, same counter. -/
theorem C10Obj_session_ignores_stamps (ops : List ObjOp) (hl : noObjLogin ops = true) :
    ∀ st st' : OSt, st.sess = st'.sess → sameMsgs st.heap st'.heap →
      (objRunR st ops).sess = (objRunR st' ops).sess := by
  induction ops with
  | nil => intro st st' hs _; exact hs
  | cons op rest ih =>
    intro st st' hs hm
    simp only [noObjLogin, List.all_cons, Bool.and_eq_true] at hl
    have := step_ignores_stamps st st' op hs hm (by simpa using hl.1)
    rw [objRunR_cons, objRunR_cons]
    exact ih (by simpa [noObjLogin] using hl.2) _ _ this.1 this.2.1

/-- … in particular setting numbers on headers (by hand, or by taking the object from the reader) changes nothing the session does -/
theorem C10Obj_setStamp_invisible (st : OSt) (i : Nat) (n : Option Int) (ops : List ObjOp) (hl : noObjLogin ops = true) :
    (objRunR st (.setStamp i n :: ops)).sess = (objRunR st ops).sess := by
  rw [objRunR_cons]
  apply C10Obj_session_ignores_stamps ops hl
  · rfl
  · exact sameMsgs_upd_self st.heap i _ (fun _ => rfl)

example : noObjLogin [.send 1, .mutate 1 ⟨false, true, true, true⟩, .send 1, .setStamp 2 (some 7), .send 2, .heartbeat okMsg,
    .mutate 1 okMsg, .send 1] = true := by decide +kernel
-- the logon object was sent (TypeError) and numbered by hand before the logon; objects are re-sent valid, invalid, valid again, with a
-- header that cannot be serialised, with a number set by hand: 41, 42, … with no gap or repeat
example : (objRunR ⟨fixInit, [⟨none, okMsg⟩, ⟨none, okMsg⟩, ⟨some 3, ⟨false, true, true, true⟩⟩]⟩
    ([.send 0, .setStamp 0 (some 41), .send 2] ++ .login 0 ::
     [.send 1, .send 2, .mutate 1 ⟨false, true, true, true⟩, .send 1, .mutate 2 okMsg, .send 2, .mutate 1 ⟨true, false, true, true⟩, .send 1,
      .setStamp 1 (some 41), .mutate 1 okMsg, .heartbeat okMsg, .send 1, .send 0])).sess.frames = [41, 42, 43, 44, 45, 46] := by decide +kernel
example : (objRunR ⟨fixInit, witnessResend.1⟩ witnessResend.2).sess.frames = [20, 21, 22, 23] := by decide +kernel

end NasdaqModel.Props.C10Obj
