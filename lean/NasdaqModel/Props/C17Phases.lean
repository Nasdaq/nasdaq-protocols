import NasdaqModel.Lemmas.GenHistoryLemmas
/-
C17 at the granularity of the generator API.  An entry point is `construct` (parse the spec, build the generator object — the
FIX generator evaluates its template context there, the ASN.1 generator empties its directory) followed by `generate()`; a
build script may construct several generators before it lets any of them write.  Histories therefore contain
`Ev.construct k i` and `Ev.generate k` besides whole invocations, in any interleaving.

 * `C17_invocation_is_construct_then_generate` — the whole invocation is the composition of its halves (every semantics).
 * `C17_construct_outcome_depends_on_spec_only`, `C17_construct_writes_nothing` — the first half.
 * `C17_generate_depends_on_construction_only` — **the output of `generate k` depends only on the spec and options generator k
   was constructed from**: whatever happened in the process between the construction and the call — constructions and
   `generate()`s of other generators, whole invocations, of any spec and with any options — every file it writes is the file
   the invocation writes alone in a fresh process.
 * `C17_generate_directory_is_fresh` — and when the directory held nothing else, it is the fresh directory and the package
   imports as the fresh one.
   Needs `pureGen` (in particular `rebindContexts`: the captured group list is the generator's own); with `Group.Contexts`
   emptied in place it is false (Witness/C17Phases.lean).
-/
namespace NasdaqModel.Props.C17Phases
open NasdaqModel GenHistory

/-- an event that neither ends the process nor constructs a generator under the number `k` -/
def keepsGen (k : Nat) : Ev → Bool
  | .newProcess => false
  | .construct j _ => j != k
  | _ => true

private theorem getGen_step (sem : Semantics) (w : World) (k : Nat) (e : Ev) (h : keepsGen k e = true) :
    getGen (step sem w e).st.gens k = getGen w.st.gens k := by
  cases e with
  | newProcess => cases h
  | inv i => simp only [step, gens_invoke]
  | construct j i => exact getGen_construct sem w j k i (by simpa [keepsGen] using h)
  | generate j => simp only [step, st_generate]

private theorem getGen_run (sem : Semantics) (k : Nat) (evs : List Ev) (h : evs.all (keepsGen k) = true) (w : World) :
    getGen (run sem w evs).st.gens k = getGen w.st.gens k :=
  foldl_keeps (step sem) (fun w => getGen w.st.gens k) (keepsGen k) (fun w e => getGen_step sem w k e) evs w h

private theorem construct_eq (sem : Semantics) (w : World) (k : Nat) (i : Inv) :
    construct sem w k i =
      match (planGen sem w.st i).2 with
      | .error e => (⟨(planGen sem w.st i).1, w.fs⟩, .error e)
      | .ok rp =>
        (⟨{ (planGen sem w.st i).1 with
              gens := setGen (planGen sem w.st i).1.gens k ⟨i.dir, rp.acts, rp.modules, sharedGroupsOf sem i⟩ },
          if rp.wipe then wipe w.fs i.dir else w.fs⟩, .ok ()) := rfl

/-- The construction fails exactly when, and as, the whole invocation fails (every semantics, every world): everything that
    can go wrong in the modelled spec families goes wrong while the spec is parsed and the context evaluated. -/
theorem C17_construct_outcome_is_invocation_outcome (sem : Semantics) (w : World) (k : Nat) (i : Inv) (hg : i.isGen = true) :
    (construct sem w k i).2 = (invoke sem w i).2 := by
  rw [construct_eq, invoke_gen sem w i hg]
  cases (planGen sem w.st i).2 <;> rfl

/-- With reset-at-start semantics the outcome of the construction depends on the spec and options only. -/
theorem C17_construct_outcome_depends_on_spec_only (sem : Semantics) (hp : pureGen sem = true) (w : World) (k : Nat) (i : Inv)
    (hg : i.isGen = true) : (construct sem w k i).2 = (invoke sem w0 i).2 := by
  rw [C17_construct_outcome_is_invocation_outcome sem w k i hg, invoke_outcome_pure sem hp w i hg,
    invoke_outcome_pure sem hp w0 i hg]

/-- Constructing a generator writes nothing: outside its output directory the file system is untouched, and inside it nothing
    is created (the ASN.1 generator's constructor empties the directory; the others leave it as it is). -/
theorem C17_construct_writes_nothing (sem : Semantics) (w : World) (k : Nat) (i : Inv) (p : Path) :
    read (construct sem w k i).1.fs p = read w.fs p ∨ read (construct sem w k i).1.fs p = none := by
  rw [construct_eq]
  cases (planGen sem w.st i).2 with
  | error e => exact Or.inl rfl
  | ok rp =>
    simp only []
    cases rp.wipe with
    | false => exact Or.inl rfl
    | true =>
      simp only [if_true, read_wipe]
      by_cases h : p.1.under i.dir = true
      · exact Or.inr (by simp [h])
      · exact Or.inl (by simp [h])

private theorem obj_at_generate (sem : Semantics) (hp : pureGen sem = true) (w : World) (k : Nat)
    (i : Inv) (hg : i.isGen = true) (evs : List Ev) (hev : evs.all (keepsGen k) = true)
    (hok : (construct sem w k i).2 = .ok ()) :
    ∃ rp, (planGen sem st0 i).2 = .ok rp ∧
      getGen (run sem (construct sem w k i).1 evs).st.gens k = some ⟨i.dir, rp.acts, rp.modules, none⟩ := by
  rw [C17_construct_outcome_depends_on_spec_only sem hp w k i hg] at hok
  obtain ⟨rp, hrp⟩ := planGen_ok_of_invoke sem hp w0 i hg hok
  exact ⟨rp, hrp, by rw [getGen_run sem k evs hev, getGen_construct_pure sem hp w k i rp hrp]⟩

/-- **Main theorem.**  Generator `k` is constructed from invocation `i` (spec and options) in any world `w`; then anything
    happens in the process (`evs`: whole invocations, constructions and `generate()`s of other generators — no process
    boundary, and the number `k` is not given to another generator); then `generate k` runs.  It succeeds, and every file it
    writes holds exactly what the invocation `i` writes when it runs alone in a fresh process into an empty directory. -/
theorem C17_generate_depends_on_construction_only_of_pure (sem : Semantics) (hp : pureGen sem = true) (w : World) (k : Nat)
    (i : Inv) (hg : i.isGen = true) (evs : List Ev) (hev : evs.all (keepsGen k) = true)
    (hok : (construct sem w k i).2 = .ok ()) :
    let w2 := run sem (construct sem w k i).1 evs
    (generate sem w2 k).2 = .ok ()
    ∧ (invoke sem w0 i).2 = .ok ()
    ∧ ∀ n, n ∈ targetNames i → read (generate sem w2 k).1.fs (i.dir, n) = read (invoke sem w0 i).1.fs (i.dir, n) := by
  intro w2
  obtain ⟨rp, hrp, hobj⟩ := obj_at_generate sem hp w k i hg evs hev hok
  exact generate_pure_obj sem hp i hg rp hrp w2 k hobj

/-- If, moreover, the directory holds nothing but (possibly) files of the same target when `generate k` runs, the directory is
    the fresh one and the package imports exactly as the fresh one does. -/
theorem C17_generate_directory_is_fresh_of_pure (sem : Semantics) (hp : pureGen sem = true) (w : World) (k : Nat)
    (i : Inv) (hg : i.isGen = true) (evs : List Ev) (hev : evs.all (keepsGen k) = true)
    (hok : (construct sem w k i).2 = .ok ())
    (hdir : dirOnly (run sem (construct sem w k i).1 evs).fs i.dir (targetNames i) = true) :
    let w2 := run sem (construct sem w k i).1 evs
    dirView (generate sem w2 k).1.fs i.dir = dirView (invoke sem w0 i).1.fs i.dir
    ∧ importAfterGenerate sem w2 k = importAfter sem w0 i := by
  intro w2
  obtain ⟨rp, hrp, hobj⟩ := obj_at_generate sem hp w k i hg evs hev hok
  exact generate_pure_obj_dir sem hp i hg rp hrp w2 k hobj hdir

/-- For EVERY semantics (shared group list or not): constructing a generator and calling its `generate()` right away leaves
    the file system the whole invocation leaves. -/
theorem C17_invocation_is_construct_then_generate (sem : Semantics) (w : World) (k : Nat) (i : Inv) (hg : i.isGen = true)
    (hok : (invoke sem w i).2 = .ok ()) :
    (construct sem w k i).2 = .ok ()
    ∧ (generate sem (construct sem w k i).1 k).2 = .ok ()
    ∧ (generate sem (construct sem w k i).1 k).1.fs = (invoke sem w i).1.fs := by
  have hc := C17_construct_outcome_is_invocation_outcome sem w k i hg
  rw [hok] at hc
  refine ⟨hc, ?_⟩
  rw [invoke_gen sem w i hg] at hok ⊢
  rw [construct_eq]
  cases hrp : (planGen sem w.st i).2 with
  | error e => simp [hrp] at hok
  | ok rp =>
    simp only [generate, getGen_setGen_same, true_and]
    simp only [applyPlan, RelPlan.at]
    -- the only thing `generate()` may read from the process state is the shared group list — which, right after the
    -- construction, holds exactly what the construction put there (`planFix_ok`)
    have hacts : (GenObj.actsNow ⟨i.dir, rp.acts, rp.modules, sharedGroupsOf sem i⟩
        { (planGen sem w.st i).1 with gens := setGen (planGen sem w.st i).1.gens k ⟨i.dir, rp.acts, rp.modules, sharedGroupsOf sem i⟩ })
        = rp.acts := by
      cases i with
      | soup impl spec o => rfl
      | asn1 spec pdu pk o => rfl
      | newProject t n a => simp [Inv.isGen] at hg
      | userEdit p n => simp [Inv.isGen] at hg
      | fix spec o =>
        obtain ⟨_, _, _, _, _, hgroups⟩ := planFix_ok sem w.st spec o rp hrp
        simp only [GenObj.actsNow, sharedGroupsOf]
        split
        · rfl
        · rename_i mp hmp
          split at hmp
          · cases hmp
          · injection hmp with hmp
            subst hmp
            exact hgroups
    rw [hacts]
    cases rp.wipe <;> rfl

/-- **`generate k` depends only on spec k and its options**, for every interleaving of constructions, generations and
    whole invocations — the library as it is (`current`). -/
theorem C17_generate_depends_on_construction_only (w : World) (k : Nat) (i : Inv) (hg : i.isGen = true) (evs : List Ev)
    (hev : evs.all (keepsGen k) = true) (hok : (construct current w k i).2 = .ok ()) :
    let w2 := run current (construct current w k i).1 evs
    (generate current w2 k).2 = .ok ()
    ∧ (invoke current w0 i).2 = .ok ()
    ∧ ∀ n, n ∈ targetNames i → read (generate current w2 k).1.fs (i.dir, n) = read (invoke current w0 i).1.fs (i.dir, n) :=
  C17_generate_depends_on_construction_only_of_pure current pureGen_current w k i hg evs hev hok

theorem C17_generate_directory_is_fresh (w : World) (k : Nat) (i : Inv) (hg : i.isGen = true) (evs : List Ev)
    (hev : evs.all (keepsGen k) = true) (hok : (construct current w k i).2 = .ok ())
    (hdir : dirOnly (run current (construct current w k i).1 evs).fs i.dir (targetNames i) = true) :
    let w2 := run current (construct current w k i).1 evs
    dirView (generate current w2 k).1.fs i.dir = dirView (invoke current w0 i).1.fs i.dir
    ∧ importAfterGenerate current w2 k = importAfter current w0 i :=
  C17_generate_directory_is_fresh_of_pure current pureGen_current w k i hg evs hev hok hdir

section examples
private def optsG (d : Nat) : GenOpts := ⟨[103], [], true, .out d, true⟩
private def optsH (d : Nat) : GenOpts := ⟨[104], [], true, .out d, true⟩
private def fixA : FixSpec := ⟨1, 44, [1, 2], [1], [.mk 1 [2] [.mk 2 [1] []]], [1, 2]⟩
private def fixB : FixSpec := ⟨2, 44, [3], [3], [.mk 1 [3] []], [1]⟩
private def between : List Ev := [.construct 1 (.fix fixB (optsH 2)), .inv (.fix fixB (optsH 3)), .generate 1]
example : (construct current w0 0 (.fix fixA (optsG 1))).2 = .ok () := by decide +kernel
example : between.all (keepsGen 0) = true := by decide +kernel
example : dirOnly (run current (construct current w0 0 (.fix fixA (optsG 1))).1 between).fs (.out 1)
    (targetNames (.fix fixA (optsG 1))) = true := by decide +kernel
example : importAfterGenerate current (run current (construct current w0 0 (.fix fixA (optsG 1))).1 between) 0 = .ok () := by decide +kernel
-- a construction that fails alone fails in every history
example : (construct current (run current w0 between) 5 (.fix { fixA with version := 42 } (optsG 1))).2 = .error .key := by decide +kernel
end examples

end NasdaqModel.Props.C17Phases
