import NasdaqModel.Lemmas.AppSessionFlow
import NasdaqModel.Props.C04
/-
C04, application sessions — what the ITCH / OUCH / SQF / ASN.1 application session hands to its consumer is, in order and
without gaps, duplicates or inventions, the decoded payloads of the messages the SoupBinTCP session handed to it; composed with
the theorems about the inner session machine (`Props/C04.lean`): a prefix / subsequence of the decodable messages on the wire.

Theorems about the product machine `Model/AppSession.lean` (inner session machine × application layer) for **every**
configuration — any `decode` (`skip` = not a SequencedData packet, `fail` = decode raises, `val v` = any value, falsy ones
included), pull mode or callback mode, callbacks of any behaviour — and **every** event sequence: any interleaving of inner
events, second-dispatcher / receive-helper / user-task steps, `receive_message()` calls, cancellations and closes.
-/
namespace NasdaqModel.Props.C04App
open NasdaqModel App

abbrev reach (a : ACfg) (evs : List Ev) : St := runEvs a {} evs

/-- **The soup session beneath is a legal soup session.** The inner component of every reachable state of the product machine
    is a state of the inner session machine reached by an event sequence of its own: C04 – C07 hold for it verbatim. -/
theorem C04App_inner_reachable (a : ACfg) (evs : List Ev) :
    ∃ es, (reach a evs).inner = Sess.runEvs (innerCfg a) {} es :=
  runEvs_reach a evs

/-- **What the application consumer observes is what the model counts as handed over**: the values named by the application
    `msgEnter` and by a returning `receive_message()`, in order, are exactly the `taken2` list. -/
theorem C04App_delivered_is_taken (a : ACfg) (evs : List Ev) :
    appDelivered (reach a evs).trace2 = (reach a evs).taken2 :=
  (runEvs_InvF a evs).deliv

/-- **Conservation through the second stage.** The decoded payloads of the inner messages handed to `_on_soup_message`
    (undecodable ones and non-data packets dropped) are, in order: gone for good (handed to the application consumer:
    `C04App_nothing_lost`), held for the pending `receive_message()`, or still in the second queue. -/
theorem C04App_flow (a : ACfg) (evs : List Ev) :
    (reach a evs).gone2.map (·.1) ++ (reach a evs).vres2.toList ++ (reach a evs).q2
      = (entered (reach a evs).inner.trace).filterMap (valOf a) := by
  have i := runEvs_InvF a evs
  rw [i.flow, i.fed_eq]

private theorem gone_all_taken (g : List (Nat × Bool)) (h : (g.filter (fun p => !p.2)).map (·.1) = []) :
    g.map (·.1) = (g.filter (·.2)).map (·.1) := by
  induction g with
  | nil => rfl
  | cons p g ih =>
    obtain ⟨n, b⟩ := p
    cases b with
    | true => simp at h ⊢; exact ih (by simpa using h)
    | false => simp at h

/-- **Nothing is dropped, on either queue.** Since the repair of C04-late-cancel-loses-message a cancelled receive puts the
    value its helper task held back in front of the queue (same class, `DispatchableMessageQueue`, on both stages); the previous
    semantics and the history on which it loses a value are kept in `Witness/C04App.lean`. -/
theorem C04App_nothing_lost (a : ACfg) (evs : List Ev) : (reach a evs).lost2 = [] ∧ (reach a evs).inner.lost = [] := by
  refine ⟨(runEvs_InvF a evs).lost, ?_⟩
  obtain ⟨es, he⟩ := runEvs_reach a evs
  rw [he]; exact C04.C04_nothing_lost (innerCfg a) es

/-- **Exact accounting on the second stage.** Delivered, then held for the pending `receive_message()`, then queued = the
    decoded payloads handed to `_on_soup_message`, in every reachable state, whatever was cancelled. -/
theorem C04App_accounting (a : ACfg) (evs : List Ev) :
    appDelivered (reach a evs).trace2 ++ (reach a evs).vres2.toList ++ (reach a evs).q2
      = (entered (reach a evs).inner.trace).filterMap (valOf a) := by
  have i := runEvs_InvF a evs
  have ht : (reach a evs).gone2.map (·.1) = (reach a evs).taken2 := gone_all_taken _ i.lost
  rw [i.deliv, ← ht]
  exact C04App_flow a evs

/-- **Prefix through the second stage.** What the application consumer was handed is a prefix of `decode` applied to what the
    soup session delivered to the application session — every history, late cancels of `receive_message()` included. -/
theorem C04App_prefix (a : ACfg) (evs : List Ev) :
    appDelivered (reach a evs).trace2 <+: (entered (reach a evs).inner.trace).filterMap (valOf a) := by
  rw [← C04App_accounting a evs]
  exact ⟨(reach a evs).vres2.toList ++ (reach a evs).q2, by simp⟩

/-- **Order, no duplicates, no inventions through the second stage** (a consequence of `C04App_prefix`, kept with its own proof). -/
theorem C04App_sublist (a : ACfg) (evs : List Ev) :
    List.Sublist (appDelivered (reach a evs).trace2) ((entered (reach a evs).inner.trace).filterMap (valOf a)) := by
  have i := runEvs_InvF a evs
  rw [i.deliv, ← C04App_flow a evs]
  unfold St.taken2
  have h1 : List.Sublist (((reach a evs).gone2.filter (·.2)).map (·.1)) ((reach a evs).gone2.map (·.1)) :=
    List.Sublist.map _ List.filter_sublist
  refine h1.trans ?_
  simp only [List.append_assoc]
  exact List.sublist_append_left _ _

/-- the inner messages taken by pull — `receive_msg()` results and the login reply — rather than handed to `_on_soup_message` -/
def pulled (l : List Sess.Obs) : List Nat := l.filterMap fun o => match o with
  | .ret _ (.msg n) => some n
  | .loginReply n => some n
  | _ => none

private theorem entered_cons (o : Sess.Obs) (l : List Sess.Obs) :
    entered (o :: l) = (match o with | .msgEnter n => [n] | _ => []) ++ entered l := by
  cases o <;> simp [entered]

private theorem delivered_cons (o : Sess.Obs) (l : List Sess.Obs) :
    Sess.delivered (o :: l) = (Sess.deliveredObs o).toList ++ Sess.delivered l := by
  unfold Sess.delivered
  rw [List.filterMap_cons]
  cases Sess.deliveredObs o <;> simp

private theorem pulled_cons (o : Sess.Obs) (l : List Sess.Obs) :
    pulled (o :: l) = (match o with | .ret _ (.msg n) => [n] | .loginReply n => [n] | _ => []) ++ pulled l := by
  cases o with
  | ret u r => cases r <;> simp [pulled]
  | _ => simp [pulled]

private theorem entered_sublist_delivered (l : List Sess.Obs) : List.Sublist (entered l) (Sess.delivered l) := by
  induction l with
  | nil => exact List.Sublist.slnil
  | cons o l ih =>
    rw [entered_cons, delivered_cons]
    cases o with
    | msgEnter n => exact List.Sublist.append (List.Sublist.refl _) ih
    | loginReply n => exact (ih.cons n)
    | ret u r =>
      cases r with
      | msg n => exact (ih.cons n)
      | _ => exact ih
    | _ => exact ih

private theorem decoded_delivered_eq (g : Nat → Option Nat) (l : List Sess.Obs) (h : ∀ n ∈ pulled l, g n = none) :
    (Sess.delivered l).filterMap g = (entered l).filterMap g := by
  induction l with
  | nil => rfl
  | cons o l ih =>
    rw [pulled_cons] at h
    have ih := ih (fun n hn => h n (List.mem_append_right _ hn))
    rw [entered_cons, delivered_cons, List.filterMap_append, List.filterMap_append, ih]
    congr 1
    cases o with
    | msgEnter n => rfl
    | loginReply n =>
      have hn : g n = none := h n (by simp)
      simp [Sess.deliveredObs, hn]
    | ret u r =>
      cases r with
      | msg n =>
        have hn : g n = none := h n (by simp)
        simp [Sess.deliveredObs, hn]
      | _ => rfl
    | _ => rfl

/-- **Order, no duplicates, no inventions — from the wire to the application consumer, unconditionally.** Whatever the
    consumer mode of either stage, whatever is cancelled and when: the values handed to the application consumer are a
    subsequence of `decode` applied to the messages carried by the frames received so far. -/
theorem C04App_wire_sublist (a : ACfg) (evs : List Ev) :
    List.Sublist (appDelivered (reach a evs).trace2)
      ((Sess.msgsOf (reach a evs).inner.wire).filterMap (valOf a)) := by
  obtain ⟨es, he⟩ := runEvs_reach a evs
  have h1 := C04App_sublist a evs
  have h2 : List.Sublist (Sess.delivered (reach a evs).inner.trace) (Sess.msgsOf (reach a evs).inner.wire) := by
    rw [he]; exact C04.C04_sublist (innerCfg a) es
  exact h1.trans (((entered_sublist_delivered _).trans h2).filterMap _)

/-- **Prefix — from the wire to the application consumer (the property).** If the messages the soup session handed out by
    pull — the login reply — are not application data (well-formedness of the deployment: `login()` consumes the acceptance;
    the `example` at the end of the file satisfies it), the values handed to the application consumer are a prefix of the
    decodable application messages carried by the bytes received so far: same order, nothing skipped, nothing twice, nothing that
    was not sent; pull and callback mode, any decoded value (falsy ones included), cancelled receives — late cancels on either
    queue included (no exclusion any more). -/
theorem C04App_wire_prefix (a : ACfg) (evs : List Ev)
    (hp : ∀ n ∈ pulled (reach a evs).inner.trace, valOf a n = none) :
    appDelivered (reach a evs).trace2 <+: (Sess.msgsOf (reach a evs).inner.wire).filterMap (valOf a) := by
  obtain ⟨es, he⟩ := runEvs_reach a evs
  have h1 := C04App_prefix a evs
  have h2 : Sess.delivered (reach a evs).inner.trace <+: Sess.msgsOf (reach a evs).inner.wire := by
    rw [he]; exact C04.C04_prefix (innerCfg a) es
  rw [← decoded_delivered_eq (valOf a) _ hp] at h1
  obtain ⟨r, hr⟩ := h2
  refine h1.trans ?_
  rw [← hr, List.filterMap_append]
  exact List.prefix_append _ _

/-- **The second dispatcher delivers the head of the second queue**: a step of `D2` on a non-stopped application queue with
    `v` at its head enters the application message callback for `v` — and for no other value; the rest of the queue stays as it
    is (stated for callbacks that do not close the session at once: such a callback carries out the close of the soup session
    within this very step, see `Model/AppSession.lean` `closeOnD2`; that nothing is lost or reordered then is `C04App_flow`). -/
theorem C04App_dispatch_delivers_head (a : ACfg) (s : St) (v : Nat) (q : List Nat)
    (hD : s.astatus .D2 = .ready) (hp : s.aprog .D2 = .dispLoop) (hq : s.q2Closed = false) (hb : s.rcv2Busy = false)
    (hv : s.vres2 = none) (hqu : s.q2 = v :: q) (hi : InvF a s) :
    appDelivered (step a s (.run .D2)).trace2 = appDelivered s.trace2 ++ [v] ∧
    (a.msgBeh v ≠ .close → (step a s (.run .D2)).q2 = q) := by
  have e : step a s (.run .D2) = dispHandle2 a
      (({ s with imm2 := false, q2 := q, gone2 := s.gone2 ++ [(v, true)] } : St).emit2 (.msgEnter v)) v := by
    simp [step, runnable2, hD, stepRun2, hp, stepDisp2, hq, hb, hv, hqu]
  have i1 : InvF a (({ s with imm2 := false, q2 := q, gone2 := s.gone2 ++ [(v, true)] } : St).emit2 (.msgEnter v)) :=
    InvF.deliver_head (s := { s with imm2 := false }) (InvF.of_fcore (s := s) (s' := { s with imm2 := false }) rfl hi) hqu hv rfl
  have i2 := (InvF.data a).dispHandle2 i1 v
  rw [← e] at i2
  have hg : (step a s (.run .D2)).gone2 = s.gone2 ++ [(v, true)] ∧ (a.msgBeh v ≠ .close → (step a s (.run .D2)).q2 = q) := by
    rw [e]
    obtain ⟨h1, h2⟩ := dispHandle2_q2_gone2 a
      (({ s with imm2 := false, q2 := q, gone2 := s.gone2 ++ [(v, true)] } : St).emit2 (.msgEnter v)) v
    exact ⟨h2, h1⟩
  refine ⟨?_, hg.2⟩
  rw [i2.deliv, hi.deliv]
  unfold St.taken2
  rw [hg.1, taken2_append_true]

/-- **A cancelled `receive_message()` is clean.** A receive blocked on the empty application queue of an open session that the
    caller cancels ends with the cancellation (not the end-of-queue error), consumes nothing, and the next receive may start. -/
theorem C04App_cancel_waiting (a : ACfg) (s : St) (u : Nat)
    (hW : s.astatus (.W u) = .waitV) (hpW : s.aprog (.W u) = .recvWait u)
    (hV : s.astatus .V2 = .waitQ) (hpV : s.aprog .V2 = .vget) (hq : s.q2Closed = false) (hv : s.vres2 = none) :
    let s' := step a (step a (step a s (.appCancel u)) (.run .V2)) (.run (.W u))
    s'.tr = s.tr ++ [.app (.ret u .cancelled)] ∧ s'.q2 = s.q2 ∧ s'.gone2 = s.gone2 ∧ s'.q2Closed = false ∧
      s'.rcv2Busy = false ∧ s'.vres2 = none ∧ alive2 (s'.astatus .V2) = false := by
  simp [step, St.cancel2, hW, hV, runnable2, St.setA, stepRun2, hpV, St.finish2, hpW, hv, hq, St.emit2, alive2]

theorem reach_snoc (a : ACfg) (evs : List Ev) (e : Ev) : reach a (evs ++ [e]) = step a (reach a evs) e := by
  simp [reach, runEvs, List.foldl_append]

theorem reach_snoc2 (a : ACfg) (evs : List Ev) (e1 e2 : Ev) :
    reach a (evs ++ [e1, e2]) = step a (step a (reach a evs) e1) e2 := by
  simp [reach, runEvs, List.foldl_append]

/-- **A cancelled `receive_message()` consumes no value, and the next receive returns the next undelivered value.**
    In any reachable state, let the cancellation of user task `W u` be delivered inside its `receive_message()` — early or *late*
    (the helper task had already taken a value off the application queue, `vres2 = some v`: the window of the former finding).
    The caller sees the cancellation (end-of-queue if the queue was stopped meanwhile), nothing is delivered, no receive is
    pending any more and the undelivered values are all still there, in order: the held value first, then the queue; delivered ++
    queue is exactly what was fed to the application queue; and the next `receive_message()` in pull mode returns precisely the
    first undelivered value, without suspending. -/
theorem C04App_cancelled_receive_consumes_nothing (a : ACfg) (evs : List Ev) (u : Nat)
    (hst : (reach a evs).astatus (.W u) = .cancelled) (hp : (reach a evs).aprog (.W u) = .recvWait u) :
    let s := reach a evs
    let s' := reach a (evs ++ [.run (.W u)])
    s'.trace2 = s.trace2 ++ [.ret u (if s.q2Closed then .eoq else .cancelled)] ∧
    appDelivered s'.trace2 = appDelivered s.trace2 ∧
    s'.vres2 = none ∧ s'.rcv2Busy = false ∧ s'.q2 = s.vres2.toList ++ s.q2 ∧
    appDelivered s'.trace2 ++ s'.q2 = (entered s'.inner.trace).filterMap (valOf a) ∧
    (∀ v q u', s'.q2 = v :: q → s'.disp2Set = false → s'.built = true → s'.astatus (.W u') = .absent →
      alive2 (s'.astatus .V2) = false →
      (reach a (evs ++ [.run (.W u), .appRecv u'])).trace2 = s'.trace2 ++ [.ret u' (.msg v)] ∧
      (reach a (evs ++ [.run (.W u), .appRecv u'])).q2 = q) := by
  intro s s'
  have e : s' = step a s (.run (.W u)) := reach_snoc a evs _
  have hst' : s.astatus (.W u) = .cancelled := hst
  have hp' : s.aprog (.W u) = .recvWait u := hp
  have h1 : s'.trace2 = s.trace2 ++ [.ret u (if s.q2Closed then .eoq else .cancelled)] ∧ s'.vres2 = none ∧ s'.rcv2Busy = false ∧
      s'.q2 = s.vres2.toList ++ s.q2 := by
    rw [e]
    cases hq : s.q2Closed <;>
      simp [step, runnable2, hst', stepRun2, hp', hq, St.emit2, St.finish2, St.trace2, List.filterMap_append, PObs.appOf]
  obtain ⟨ht, hv, hb, hqu⟩ := h1
  have hd : appDelivered s'.trace2 = appDelivered s.trace2 := by
    rw [ht]
    cases s.q2Closed <;> simp [appDelivered, List.filterMap_append, deliveredA]
  have hacc := C04App_accounting a (evs ++ [.run (.W u)])
  refine ⟨ht, hd, hv, hb, hqu, ?_, ?_⟩
  · have : appDelivered s'.trace2 ++ s'.vres2.toList ++ s'.q2 = (entered s'.inner.trace).filterMap (valOf a) := hacc
    rw [hv] at this; simpa using this
  · intro v q u' hq hds hbu hu' hV
    have e2 : reach a (evs ++ [.run (.W u), .appRecv u']) = step a s' (.appRecv u') := by
      rw [reach_snoc2, e]
    rw [e2]
    simp [step, startRecv2, hb, hv, hds, hq, hbu, hu', hV, St.emit2, St.setA, St.trace2, List.filterMap_append, PObs.appOf]

/-! ### non-vacuity: a concrete lifetime -/

/-- 0 = the login acceptance (not data), 4 = a payload whose decode raises, 5 = a payload that decodes to the falsy value `0` -/
private def a1 : ACfg :=
  { dec := fun n => if n = 0 then .skip else if n = 4 then .fail else if n = 5 then .val 0 else .val n
    hasMsgCb := true, msgBeh := fun _ => .ret, hasCb := true, cbBeh := .ret, closedFirst := true }

private def login : List Ev :=
  [.inner .connect, .inner (.callLogin 1), .inner (.run .V), .inner (.data [.msg 0]), .inner (.run .R), .inner (.run .V),
   .inner (.run (.U 1))]

private def life : List Ev := login ++
  [.run .D2, .inner (.run .D), .inner (.data [.msg 3, .msg 4, .msg 5, .msg 6]),
   .inner (.run .R), .inner (.run .R), .inner (.run .R), .inner (.run .R),
   .inner (.run .D), .inner (.run .D), .inner (.run .D), .inner (.run .D), .inner (.run .D),
   .run .D2, .run .D2, .run .D2, .run .D2]

set_option maxRecDepth 100000 in
example : (reach a1 life).trace2 =
    [.msgEnter 3, .msgExit 3, .msgEnter 0, .msgExit 0, .msgEnter 6, .msgExit 6] := by decide +kernel
set_option maxRecDepth 100000 in
example : (Sess.msgsOf (reach a1 life).inner.wire).filterMap (valOf a1) = [3, 0, 6] := by decide +kernel
set_option maxRecDepth 100000 in
example : pulled (reach a1 life).inner.trace = [0] ∧ valOf a1 0 = none := by decide +kernel

end NasdaqModel.Props.C04App
