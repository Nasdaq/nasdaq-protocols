import NasdaqModel.Lemmas.SessionTick
/-
C04 — messages reach the consumer in order, without gaps, duplicates or inventions; a cancelled receive is clean.

Theorems about the session machine (`Model/Session.lean`) for every configuration and every event sequence: any
segmentation into `data` events, any interleaving of reader polls, dispatcher steps, handler steps of any length,
receive / receive_nowait / login calls, cancellations, and closes.
-/
namespace NasdaqModel.Props.C04
open NasdaqModel Sess

abbrev reach (cfg : Cfg) (evs : List Ev) : St := runEvs cfg {} evs

/-- **What the consumer observes is what the model counts as handed over**: the messages named by `msgEnter`, by a
    returning receive and by the login reply, in order, are exactly the `taken` list. -/
theorem C04_delivered_is_taken (cfg : Cfg) (evs : List Ev) :
    delivered (reach cfg evs).trace = (reach cfg evs).taken :=
  (runEvs_InvG cfg evs).deliv

/-- **Conservation of messages.** Everything the reader took off the wire is, in order, either gone for good
    (delivered: `C04_nothing_lost`), held for the pending receive, or still queued; and the frames the reader
    took plus the frames still buffered are exactly the frames received. -/
theorem C04_flow (cfg : Cfg) (evs : List Ev) :
    (reach cfg evs).gone.map (·.1) ++ (reach cfg evs).vres.toList ++ (reach cfg evs).queue
      = msgsOf (reach cfg evs).consumed ∧
    (reach cfg evs).consumed ++ (reach cfg evs).buf = (reach cfg evs).wire := by
  have i := runEvs_InvG cfg evs
  exact ⟨by rw [i.flow, i.recvd], i.wire⟩

private theorem gone_all_taken (g : List (Nat × Bool)) (h : (g.filter (fun p => !p.2)).map (·.1) = []) :
    g.map (·.1) = (g.filter (·.2)).map (·.1) := by
  induction g with
  | nil => rfl
  | cons p g ih =>
    obtain ⟨n, b⟩ := p
    cases b with
    | true => simp at h ⊢; exact ih (by simpa using h)
    | false => simp at h

/-- **Nothing is dropped.** No message ever leaves the queue other than into the hands of a consumer: since the repair of
    C04-late-cancel-loses-message a cancelled receive puts the message its helper task held back in front of the queue
    (the previous semantics is kept, with the history on which it loses a message, in `Witness/C04Late.lean`). -/
theorem C04_nothing_lost (cfg : Cfg) (evs : List Ev) : (reach cfg evs).lost = [] :=
  (runEvs_InvG cfg evs).lost

/-- **Exact accounting.** What has been delivered, then the message held for the pending receive, then the queue, is exactly
    the sequence of messages the reader has decoded so far — in every reachable state, whatever was cancelled. -/
theorem C04_accounting (cfg : Cfg) (evs : List Ev) :
    delivered (reach cfg evs).trace ++ (reach cfg evs).vres.toList ++ (reach cfg evs).queue = msgsOf (reach cfg evs).consumed := by
  have i := runEvs_InvG cfg evs
  have ht : (reach cfg evs).taken = (reach cfg evs).gone.map (·.1) := (gone_all_taken _ i.lost).symm
  rw [i.deliv]
  show (reach cfg evs).taken ++ _ ++ _ = _
  rw [ht, i.flow, i.recvd]

/-- **Prefix (the property).** The sequence handed to the consumer is a prefix of the decodable messages carried by the
    frames received so far: same order, nothing skipped, nothing twice, nothing that was not sent — for every configuration
    and every event sequence, late cancels of receives included. -/
theorem C04_prefix (cfg : Cfg) (evs : List Ev) :
    delivered (reach cfg evs).trace <+: msgsOf (reach cfg evs).wire := by
  have i := runEvs_InvG cfg evs
  rw [← i.wire, msgsOf_append, ← C04_accounting cfg evs]
  exact ⟨(reach cfg evs).vres.toList ++ (reach cfg evs).queue ++ msgsOf (reach cfg evs).buf, by simp⟩

theorem reach_snoc (cfg : Cfg) (evs : List Ev) (e : Ev) : reach cfg (evs ++ [e]) = step cfg (reach cfg evs) e :=
  runEvs_snoc cfg {} evs e

theorem reach_snoc2 (cfg : Cfg) (evs : List Ev) (e1 e2 : Ev) :
    reach cfg (evs ++ [e1, e2]) = step cfg (step cfg (reach cfg evs) e1) e2 := by
  simp [reach, runEvs, List.foldl_append]

/-- **A cancelled receive consumes no message, and the next receive returns the next undelivered message.**
    In any reachable state, let the cancellation of user task `u` be delivered inside its `receive_msg()` — early (the helper
    task was cancelled with it) or *late* (the helper had already taken a message off the queue, `vres = some n`: the window of
    C04-late-cancel-loses-message, `Witness/C04Late.lean`).  Then the caller sees the cancellation (the end-of-queue error if the queue was stopped meanwhile),
    nothing is delivered, no receive is pending any more, and the undelivered messages are all still there, in order, in front
    of the next reader: the held message first, then the queue.  Delivered ++ queue is exactly what the reader has decoded;
    and the next `receive_msg_nowait()` returns precisely the first undelivered message (the held one, if there was one). -/
theorem C04_cancelled_receive_consumes_nothing (cfg : Cfg) (evs : List Ev) (u : Nat)
    (hst : (reach cfg evs).status (.U u) = .cancelled) (hp : (reach cfg evs).prog (.U u) = .recvWait u) :
    let s := reach cfg evs
    let s' := reach cfg (evs ++ [.run (.U u)])
    s'.trace = s.trace ++ [.ret u (if s.qClosed then .eoq else .cancelled)] ∧
    delivered s'.trace = delivered s.trace ∧
    s'.vres = none ∧ s'.rcvBusy = false ∧ s'.queue = s.vres.toList ++ s.queue ∧
    delivered s'.trace ++ s'.queue = msgsOf s'.consumed ∧
    (∀ n q u', s'.queue = n :: q → s'.dispSet = false →
      (reach cfg (evs ++ [.run (.U u), .callRecvNowait u'])).trace = s'.trace ++ [.ret u' (.msg n)] ∧
      (reach cfg (evs ++ [.run (.U u), .callRecvNowait u'])).queue = q) := by
  intro s s'
  have e : s' = step cfg s (.run (.U u)) := reach_snoc cfg evs _
  have hst' : s.status (.U u) = .cancelled := hst
  have hp' : s.prog (.U u) = .recvWait u := hp
  have h1 : s'.trace = s.trace ++ [.ret u (if s.qClosed then .eoq else .cancelled)] ∧ s'.vres = none ∧ s'.rcvBusy = false ∧
      s'.queue = s.vres.toList ++ s.queue := by
    rw [e]
    cases hq : s.qClosed <;>
      simp [step, runnable, hst', stepRun, hp', hq, St.emit, St.finish]
  obtain ⟨ht, hv, hb, hqu⟩ := h1
  have hd : delivered s'.trace = delivered s.trace := by
    rw [ht, delivered_append]
    cases s.qClosed <;> simp [deliveredObs]
  have hacc := C04_accounting cfg (evs ++ [.run (.U u)])
  refine ⟨ht, hd, hv, hb, hqu, ?_, ?_⟩
  · show delivered s'.trace ++ s'.queue = msgsOf s'.consumed
    have : delivered s'.trace ++ s'.vres.toList ++ s'.queue = msgsOf s'.consumed := hacc
    rw [hv] at this; simpa using this
  · intro n q u' hq hds
    have e2 : reach cfg (evs ++ [.run (.U u), .callRecvNowait u']) = step cfg s' (.callRecvNowait u') := by
      rw [reach_snoc2, e]
    rw [e2]
    simp [step, hb, hv, hds, hq, St.emit]

/-- **The next blocking `receive_msg()` returns the head as well**: on a state with no receive pending, no dispatcher, no live helper task
    and a non-empty queue it returns the first queued message without suspending (state-level; after a cancelled receive the
    first three hold by `C04_cancelled_receive_consumes_nothing`, the helper of the cancelled receive has ended). -/
theorem C04_receive_returns_head (cfg : Cfg) (s : St) (u : Nat) (n : Nat) (q : List Nat)
    (hb : s.rcvBusy = false) (hv : s.vres = none) (hV : alive (s.status .V) = false) (hd : s.dispSet = false)
    (hu : s.status (.U u) = .absent) (hq : s.queue = n :: q) :
    (step cfg (step cfg s (.callRecv u)) (.run (.U u))).trace = s.trace ++ [.ret u (.msg n)] ∧
    (step cfg (step cfg s (.callRecv u)) (.run (.U u))).queue = q ∧
    (step cfg (step cfg s (.callRecv u)) (.run (.U u))).vres = none := by
  simp [step, startRecv, hb, hv, hV, hd, hu, hq, runnable, St.setStatus, St.setProg, stepRun, St.emit, St.finish]

/-- **Order, no duplicates, no inventions** (also a consequence of `C04_prefix`): what the
    consumer saw is a subsequence of what was sent: never reordered, never duplicated, never invented. -/
theorem C04_sublist (cfg : Cfg) (evs : List Ev) :
    List.Sublist (delivered (reach cfg evs).trace) (msgsOf (reach cfg evs).wire) := by
  have i := runEvs_InvG cfg evs
  obtain ⟨hf, hw⟩ := C04_flow cfg evs
  rw [i.deliv, ← hw, msgsOf_append, ← hf]
  unfold St.taken
  have h1 : List.Sublist (((reach cfg evs).gone.filter (·.2)).map (·.1)) ((reach cfg evs).gone.map (·.1)) :=
    List.Sublist.map _ List.filter_sublist
  refine h1.trans ?_
  simp only [List.append_assoc]
  exact List.sublist_append_left _ _

/-- **Dispatch delivers the head of the queue**: a dispatcher step on an open session with a non-empty queue enters the
    message callback for the *first* queued message (together with `C07_poll_consumes_one_frame`: every fully received
    message is delivered after a bounded number of reader polls and dispatcher steps, while handlers return). -/
theorem C04_dispatch_delivers_head (cfg : Cfg) (s : St) (n : Nat) (q : List Nat)
    (hD : s.status .D = .ready) (hp : s.prog .D = .dispLoop) (hq : s.qClosed = false) (hb : s.rcvBusy = false)
    (hv : s.vres = none) (hqu : s.queue = n :: q) :
    delivered (step cfg s (.run .D)).trace = delivered s.trace ++ [n] ∧
      (step cfg s (.run .D)).queue = q ∧ (step cfg s (.run .D)).vres = none := by
  have e := disp_eq_take cfg s hD hp hq hb hv hqu
  have g := gcore_dispHandle cfg (({ s with imm := none, queue := q, gone := s.gone ++ [(n, true)] } : St).emit (.msgEnter n)) n
  rw [← e] at g
  simp only [gcore, Prod.mk.injEq] at g
  obtain ⟨_, _, _, _, gq, gv, _, gd⟩ := g
  refine ⟨?_, gq, by rw [gv]; exact hv⟩
  rw [gd]
  show delivered (s.trace ++ [.msgEnter n]) = _
  rw [delivered_append]; rfl

/-- **A cancelled receive is clean.** A receive blocked on an empty queue of an open session that the caller cancels
    ends with the cancellation (not the end-of-queue error), consumes nothing, and leaves the session usable: the
    queue, the delivered sequence and the closed flag are untouched and the next receive may start. -/
theorem C04_cancel_waiting (cfg : Cfg) (s : St) (u : Nat)
    (hU : s.status (.U u) = .waitT .V) (hpU : s.prog (.U u) = .recvWait u)
    (hV : s.status .V = .waitQ) (hpV : s.prog .V = .vget) (hq : s.qClosed = false) (hv : s.vres = none) :
    let s' := step cfg (step cfg (step cfg s (.cancel u)) (.run .V)) (.run (.U u))
    s'.trace = s.trace ++ [.ret u .cancelled] ∧ s'.queue = s.queue ∧ s'.gone = s.gone ∧ s'.closed = s.closed ∧
      s'.rcvBusy = false ∧ s'.vres = none ∧ alive (s'.status .V) = false := by
  simp [step, St.cancelTask, hU, hV, runnable, St.setStatus, stepRun, hpV, St.finish, hpU, hv, hq, St.emit, alive]

end NasdaqModel.Props.C04
