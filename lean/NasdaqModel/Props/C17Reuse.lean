import NasdaqModel.Lemmas.GenHistoryLemmas
import NasdaqModel.Model.GenReuse
import NasdaqModel.Props.C17Phases
/-
C17 — ONE parsed spec object handed to several generators (Model/GenReuse.lean).

A build script may call `parse()` / `Parser.parse()` once and construct several generators on the object it returned (other
app name, prefix, init flag, output directory, soup-app protocol).  Histories therefore contain, besides everything of
Props/C17Phases.lean, `REv.parse j p` (parsed object number `j`) and `REv.constructOn k j impl o` (generator `k` on object `j`).

 * `C17_parse_then_construct_is_planFix` / `…_is_planSoup`, `C17_construct_is_parse_then_constructOn` — the cut loses nothing:
   for EVERY semantics `construct k i` of Model/GenHistory.lean is `parse k` followed by `constructOn k k`.
 * `C17_constructOn_leaves_parsed_objects` — constructing a generator on a parsed object changes no parsed object.
 * `C17_generate_on_parsed_depends_on_construction_only` — **the output of `generate k` depends only on the spec VALUE that
   was parsed and on the options generator `k` was constructed with — not on what else the parsed object was used for**:
   parse `p` as object `j` in any world; then anything (`evs1`: whole invocations, other parses, constructions ON THE SAME
   OBJECT `j` and on others, their `generate()`s — no process boundary, `j` not parsed again); construct `k` on `j`; then
   anything again (`evs2`, `k` not constructed again); `generate k`: it succeeds and every file it writes is the file the whole
   invocation (that spec, those options) writes alone in a fresh process into an empty directory.
 * `C17_generate_on_parsed_directory_is_fresh` — and the directory / the import of the package are the fresh ones when the
   directory holds nothing else.
Both need `pureGen` and hold for the library as it is (`current`); with parsed `Group` objects that keep their first codegen
context (`memo`, seeded change C16l) they are false: Witness/C17Reuse.lean.
-/
namespace NasdaqModel.Props.C17Reuse
open NasdaqModel GenHistory GenReuse
open NasdaqModel.Props.C17Phases (keepsGen)

private theorem getP_setP_same (l : List (Nat × Parsed)) (k : Nat) (p : Parsed) : getP (setP l k p) k = some p := by
  induction l with
  | nil => simp [setP, getP]
  | cons e rest ih =>
    obtain ⟨j, q⟩ := e
    by_cases hj : j = k
    · simp [setP, getP, hj]
    · simp [setP, getP, hj, ih]

private theorem getP_setP_other (l : List (Nat × Parsed)) (j k : Nat) (p : Parsed) (h : j ≠ k) :
    getP (setP l j p) k = getP l k := by
  induction l with
  | nil => simp [setP, getP, h]
  | cons e rest ih =>
    obtain ⟨m, x⟩ := e
    by_cases hm : m = j
    · subst hm
      simp [setP, getP, h]
    · by_cases hk : m = k
      · subst hk
        simp [setP, getP, hm]
      · simp [setP, getP, hm, hk, ih]

private theorem renderFix_rendered (sem : Semantics) (st : ProcState) (spec : FixSpec) (res : List GenFix.TyCls)
    (rd : Option (List (Nm × Nat))) (o : GenOpts) : (renderFix sem false st spec res rd o).2.1 = rd := by
  unfold renderFix
  cases !versionOk spec.version <;> rfl

private theorem renderFix_gens (sem : Semantics) (memo : Bool) (st : ProcState) (spec : FixSpec) (res : List GenFix.TyCls)
    (rd : Option (List (Nm × Nat))) (o : GenOpts) : (renderFix sem memo st spec res rd o).1.gens = st.gens := by
  simp only [renderFix]
  split <;> rfl

private theorem parseFix_gens (sem : Semantics) (st : ProcState) (spec : FixSpec) : (parseFix sem st spec).1.gens = st.gens := by
  simp only [parseFix]
  split
  · rfl
  · split <;> rfl

private theorem parseSoup_gens (sem : Semantics) (st : ProcState) (spec : SoupSpec) (ov : Bool) :
    (parseSoup sem st spec ov).1.gens = st.gens := by
  simp only [parseSoup]
  split
  · rfl
  · split <;> rfl

/-- an event that neither ends the process nor parses something under the number `j` -/
def keepsParsed (j : Nat) : REv → Bool
  | .old .newProcess => false
  | .parse j' _ => j' != j
  | _ => true

/-- an event that neither ends the process nor constructs a generator under the number `k` -/
def keepsGenR (k : Nat) : REv → Bool
  | .old e => keepsGen k e
  | .parse _ _ => true
  | .constructOn k' _ _ _ => k' != k

private theorem getP_stepR (sem : Semantics) (rw : RWorld) (j : Nat) (e : REv) (h : keepsParsed j e = true) :
    getP (stepR sem false rw e).parsed j = getP rw.parsed j := by
  cases e with
  | old e =>
    cases e <;> first | rfl | simp [keepsParsed] at h
  | parse j' p =>
    simp only [keepsParsed, bne_iff_ne, ne_eq] at h
    cases p with
    | fix spec =>
      simp only [stepR, parseR]
      cases (parseFix sem rw.w.st spec).2 with
      | error e => rfl
      | ok res => exact getP_setP_other _ _ _ _ h
    | soup spec ov =>
      simp only [stepR, parseR]
      cases (parseSoup sem rw.w.st spec ov).2 with
      | error e => rfl
      | ok res => exact getP_setP_other _ _ _ _ h
  | constructOn k j' impl o =>
    simp only [stepR, constructOn]
    cases hg : getP rw.parsed j' with
    | none => rfl
    | some p =>
      cases p with
      | soup spec ov res => rfl
      | fix spec res rd =>
        simp only [renderFix_rendered]
        have hp : getP (setP rw.parsed j' (.fix spec res rd)) j = getP rw.parsed j := by
          by_cases hj : j' = j
          · subst hj; rw [getP_setP_same, hg]
          · exact getP_setP_other _ _ _ _ hj
        cases (renderFix sem false rw.w.st spec res rd o).2.2 <;> exact hp

/-- `planFix` (parse, construct, what `generate()` writes) cut at the end of `parse()`: every semantics, every state. -/
theorem C17_parse_then_construct_is_planFix (sem : Semantics) (st : ProcState) (spec : FixSpec) (o : GenOpts) :
    planFix sem st spec o =
      match (parseFix sem st spec).2 with
      | .error e => ((parseFix sem st spec).1, .error e)
      | .ok res => ((renderFix sem false (parseFix sem st spec).1 spec res none o).1,
                    (renderFix sem false (parseFix sem st spec).1 spec res none o).2.2) := by
  simp only [planFix, parseFix]
  cases (typesFor sem st.types spec.version).2 with
  | error e => rfl
  | ok tbl =>
    simp only []
    cases resolveTypes tbl (declared spec) with
    | error e => rfl
    | ok res =>
      unfold renderFix
      cases !versionOk spec.version <;> rfl

/-- `planSoup` cut at the end of `Parser.parse()`: every semantics, every state. -/
theorem C17_parse_then_construct_is_planSoup (sem : Semantics) (st : ProcState) (impl : Impl) (spec : SoupSpec) (o : GenOpts) :
    planSoup sem st impl spec o =
      match (parseSoup sem st spec o.override).2 with
      | .error e => ((parseSoup sem st spec o.override).1, .error e)
      | .ok res => ((parseSoup sem st spec o.override).1, .ok (renderSoup sem impl spec res o)) := by
  simp only [planSoup, parseSoup]
  cases resolveAll (match spec.root with | some r => r | none => if sem.resetFieldDefs then [] else st.fieldDefs) spec.uses with
  | error e => rfl
  | ok res =>
    simp only []
    split <;> rfl

private theorem getGen_stepR (sem : Semantics) (memo : Bool) (rw : RWorld) (k : Nat) (e : REv) (h : keepsGenR k e = true) :
    getGen (stepR sem memo rw e).w.st.gens k = getGen rw.w.st.gens k := by
  cases e with
  | old e =>
    cases e with
    | newProcess => cases h
    | inv i => simp only [stepR, stepOld, step, gens_invoke]
    | construct j i => exact getGen_construct sem rw.w j k i (by simpa [keepsGenR, keepsGen] using h)
    | generate j => simp only [stepR, stepOld, step, st_generate]
  | parse j p =>
    cases p with
    | fix spec =>
      simp only [stepR, parseR]
      cases (parseFix sem rw.w.st spec).2 <;> simp [parseFix_gens]
    | soup spec ov =>
      simp only [stepR, parseR]
      cases (parseSoup sem rw.w.st spec ov).2 <;> simp [parseSoup_gens]
  | constructOn k' j impl o =>
    simp only [keepsGenR, bne_iff_ne, ne_eq] at h
    simp only [stepR, constructOn]
    cases getP rw.parsed j with
    | none => rfl
    | some p =>
      cases p with
      | soup spec ov res => simp [getGen_setGen_other _ _ _ _ h]
      | fix spec res rd =>
        simp only []
        cases (renderFix sem memo rw.w.st spec res rd o).2.2 with
        | error e => simp [renderFix_gens]
        | ok rp => simp [renderFix_gens, getGen_setGen_other _ _ _ _ h]

private theorem getP_runR (sem : Semantics) (j : Nat) (evs : List REv) (h : evs.all (keepsParsed j) = true) (rw : RWorld) :
    getP (runR sem false rw evs).parsed j = getP rw.parsed j :=
  foldl_keeps (stepR sem false) (fun rw => getP rw.parsed j) (keepsParsed j) (fun rw e => getP_stepR sem rw j e) evs rw h

private theorem getGen_runR (sem : Semantics) (memo : Bool) (k : Nat) (evs : List REv) (h : evs.all (keepsGenR k) = true) (rw : RWorld) :
    getGen (runR sem memo rw evs).w.st.gens k = getGen rw.w.st.gens k :=
  foldl_keeps (stepR sem memo) (fun rw => getGen rw.w.st.gens k) (keepsGenR k) (fun rw e => getGen_stepR sem memo rw k e) evs rw h

private theorem parseFix_indep (sem : Semantics) (hp : pureGen sem = true) (st : ProcState) (spec : FixSpec) :
    (parseFix sem st spec).2 = (parseFix sem st0 spec).2 := by
  obtain ⟨_, _, _, _, _, h6⟩ := pure_flags hp
  simp only [parseFix, typesFor, h6, if_true]
  cases tableOf spec.version with
  | error e => rfl
  | ok tbl =>
    simp only []
    cases resolveTypes tbl (declared spec) <;> rfl

private theorem parseSoup_indep (sem : Semantics) (hp : pureGen sem = true) (st : ProcState) (spec : SoupSpec) (ov : Bool) :
    (parseSoup sem st spec ov).2 = (parseSoup sem st0 spec ov).2 := by
  obtain ⟨_, h2, _, _, _, _⟩ := pure_flags hp
  simp only [parseSoup, h2, if_true]
  split
  · rfl
  · split <;> rfl

private theorem renderFix_indep (sem : Semantics) (hp : pureGen sem = true) (memo : Bool) (st st' : ProcState) (spec : FixSpec)
    (res : List GenFix.TyCls) (rd : Option (List (Nm × Nat))) (o : GenOpts) :
    (renderFix sem memo st spec res rd o).2 = (renderFix sem memo st' spec res rd o).2 := by
  obtain ⟨_, _, h3, h4, _, _⟩ := pure_flags hp
  simp only [renderFix, h3, h4, if_true]
  split <;> rfl

private theorem planFix_of_parse (sem : Semantics) (hp : pureGen sem = true) (st st' : ProcState) (spec : FixSpec) (o : GenOpts)
    (res : List GenFix.TyCls) (h : (parseFix sem st spec).2 = .ok res) :
    (planFix sem st0 spec o).2 = (renderFix sem false st' spec res none o).2.2 := by
  rw [parseFix_indep sem hp] at h
  rw [C17_parse_then_construct_is_planFix, h]
  simp only []
  rw [renderFix_indep sem hp false _ st']

private theorem planSoup_of_parse (sem : Semantics) (hp : pureGen sem = true) (st : ProcState) (impl : Impl) (spec : SoupSpec) (o : GenOpts)
    (ov : Bool) (res : List Nat) (h : (parseSoup sem st spec ov).2 = .ok res) :
    (planSoup sem st0 impl spec { o with override := ov }).2 = .ok (renderSoup sem impl spec res o) := by
  rw [parseSoup_indep sem hp] at h
  rw [C17_parse_then_construct_is_planSoup]
  simp only [h]
  rfl

/-- parsed object `p` is what parsing `ps` gives (in a fresh process: under `pureGen`, in any process) -/
def FromParse (sem : Semantics) : PSpec → Parsed → Prop
  | .fix spec, .fix spec' res rd => spec' = spec ∧ rd = none ∧ (parseFix sem st0 spec).2 = .ok res
  | .soup spec ov, .soup spec' ov' res => spec' = spec ∧ ov' = ov ∧ (parseSoup sem st0 spec ov).2 = .ok res
  | _, _ => False

private theorem parseR_ok (sem : Semantics) (hp : pureGen sem = true) (rw : RWorld) (j : Nat) (ps : PSpec)
    (hok : (parseR sem rw j ps).2 = .ok ()) :
    ∃ p, getP (parseR sem rw j ps).1.parsed j = some p ∧ FromParse sem ps p := by
  cases ps with
  | fix spec =>
    simp only [parseR] at hok ⊢
    cases h : (parseFix sem rw.w.st spec).2 with
    | error e => simp [h] at hok
    | ok res =>
      refine ⟨.fix spec res none, ?_, rfl, rfl, ?_⟩
      · simp [getP_setP_same]
      · rw [← parseFix_indep sem hp]; exact h
  | soup spec ov =>
    simp only [parseR] at hok ⊢
    cases h : (parseSoup sem rw.w.st spec ov).2 with
    | error e => simp [h] at hok
    | ok res =>
      refine ⟨.soup spec ov res, ?_, rfl, rfl, ?_⟩
      · simp [getP_setP_same]
      · rw [← parseSoup_indep sem hp]; exact h

private theorem constructOn_of_parsed (sem : Semantics) (hp : pureGen sem = true) (rw : RWorld) (k j : Nat) (impl : Impl) (o : GenOpts)
    (ps : PSpec) (p : Parsed) (hget : getP rw.parsed j = some p) (hfrom : FromParse sem ps p) :
    ((constructOn sem false rw k j impl o).2 = match (planGen sem st0 (ps.inv impl o)).2 with
        | .ok _ => .ok () | .error e => .error e)
    ∧ ∀ rp, (planGen sem st0 (ps.inv impl o)).2 = .ok rp →
        getGen (constructOn sem false rw k j impl o).1.w.st.gens k = some ⟨(ps.inv impl o).dir, rp.acts, rp.modules, none⟩ := by
  cases ps with
  | fix spec =>
    cases p with
    | soup s' ov' res => exact absurd hfrom (by simp [FromParse])
    | fix spec' res rd =>
      obtain ⟨h1, h2, h3⟩ := hfrom
      subst h1; subst h2
      have hpl := planFix_of_parse sem hp st0 rw.w.st spec' o res h3
      simp only [PSpec.inv, planGen, hpl, constructOn, hget, Inv.dir]
      cases hr : (renderFix sem false rw.w.st spec' res none o).2.2 with
      | error e => exact ⟨rfl, fun rp h => by cases h⟩
      | ok rp =>
        refine ⟨rfl, fun rp' h => ?_⟩
        injection h with h; subst h
        simp [getGen_setGen_same, objOf, sharedGroupsOf_pure sem hp, Inv.dir]
  | soup spec ov =>
    cases p with
    | fix s' res rd => exact absurd hfrom (by simp [FromParse])
    | soup spec' ov' res =>
      obtain ⟨h1, h2, h3⟩ := hfrom
      subst h1; subst h2
      have hpl := planSoup_of_parse sem hp st0 impl spec' o ov' res h3
      simp only [PSpec.inv, planGen, hpl, constructOn, hget, Inv.dir]
      refine ⟨trivial, fun rp' h => ?_⟩
      injection h with h; subst h
      simp [getGen_setGen_same, objOf, sharedGroupsOf_pure sem hp, Inv.dir]

private theorem inv_isGen (ps : PSpec) (impl : Impl) (o : GenOpts) : (ps.inv impl o).isGen = true := by
  cases ps <;> rfl

private theorem obj_at_generate (sem : Semantics) (hp : pureGen sem = true) (rw : RWorld) (j k : Nat) (ps : PSpec) (impl : Impl)
    (o : GenOpts) (evs1 evs2 : List REv) (h1 : evs1.all (keepsParsed j) = true) (h2 : evs2.all (keepsGenR k) = true)
    (hokp : (parseR sem rw j ps).2 = .ok ())
    (hokc : (constructOn sem false (runR sem false (parseR sem rw j ps).1 evs1) k j impl o).2 = .ok ()) :
    ∃ rp, (planGen sem st0 (ps.inv impl o)).2 = .ok rp ∧
      getGen (runR sem false (constructOn sem false (runR sem false (parseR sem rw j ps).1 evs1) k j impl o).1 evs2).w.st.gens k
        = some ⟨(ps.inv impl o).dir, rp.acts, rp.modules, none⟩ := by
  obtain ⟨p, hget0, hfrom⟩ := parseR_ok sem hp rw j ps hokp
  have hget1 : getP (runR sem false (parseR sem rw j ps).1 evs1).parsed j = some p := by
    rw [getP_runR sem j evs1 h1]; exact hget0
  obtain ⟨hout, hobj⟩ := constructOn_of_parsed sem hp _ k j impl o ps p hget1 hfrom
  rw [hokc] at hout
  cases hrp : (planGen sem st0 (ps.inv impl o)).2 with
  | error e => simp [hrp] at hout
  | ok rp =>
    refine ⟨rp, rfl, ?_⟩
    rw [getGen_runR sem false k evs2 h2]
    exact hobj rp hrp


private theorem renderFix_wipe (sem : Semantics) (memo : Bool) (st : ProcState) (spec : FixSpec) (res : List GenFix.TyCls)
    (rd : Option (List (Nm × Nat))) (o : GenOpts) (rp : RelPlan) (h : (renderFix sem memo st spec res rd o).2.2 = .ok rp) :
    rp.wipe = false := by
  simp only [renderFix] at h
  split at h
  · cases h
  · injection h with h; subst h; rfl


/-- For EVERY semantics: `construct k i` of Model/GenHistory.lean (parse + generator object, one event) is `parse k` followed by
    `constructOn k k` — same outcome, same world (process state, live generator objects, file system). -/
theorem C17_construct_is_parse_then_constructOn (sem : Semantics) (rw : RWorld) (k : Nat) (ps : PSpec) (impl : Impl) (o : GenOpts) :
    construct sem rw.w k (ps.inv impl o) =
      match (parseR sem rw k ps).2 with
      | .error e => ((parseR sem rw k ps).1.w, .error e)
      | .ok _ => ((constructOn sem false (parseR sem rw k ps).1 k k impl o).1.w,
                  (constructOn sem false (parseR sem rw k ps).1 k k impl o).2) := by
  cases ps with
  | fix spec =>
    simp only [PSpec.inv, construct, planGen, C17_parse_then_construct_is_planFix, parseR]
    cases hpr : (parseFix sem rw.w.st spec).2 with
    | error e => rfl
    | ok res =>
      simp only [constructOn, getP_setP_same]
      cases hr : (renderFix sem false (parseFix sem rw.w.st spec).1 spec res none o).2.2 with
      | error e => rfl
      | ok rp =>
        have hw := renderFix_wipe _ _ _ _ _ _ _ _ hr
        simp [hw, objOf, Inv.dir]
  | soup spec ov =>
    simp only [PSpec.inv, construct, planGen, C17_parse_then_construct_is_planSoup, parseR]
    cases hpr : (parseSoup sem rw.w.st spec ov).2 with
    | error e => rfl
    | ok res =>
      simp only [constructOn, getP_setP_same]
      simp [objOf, Inv.dir, renderSoup]

/-- Parse `ps` as object `j` in any world; then anything that does not parse under the number `j` again (`evs1`); construct `k` on
    `j`; then anything that does not construct under the number `k` again (`evs2`); then `generate k`: it succeeds, and every file it
    writes holds what the whole invocation (that spec, those options) writes alone in a fresh process into an empty directory. -/
theorem C17_generate_on_parsed_depends_on_construction_only_of_pure (sem : Semantics) (hp : pureGen sem = true) (rw : RWorld) (j k : Nat) (ps : PSpec) (impl : Impl)
    (o : GenOpts) (evs1 evs2 : List REv) (h1 : evs1.all (keepsParsed j) = true) (h2 : evs2.all (keepsGenR k) = true)
    (hokp : (parseR sem rw j ps).2 = .ok ())
    (hokc : (constructOn sem false (runR sem false (parseR sem rw j ps).1 evs1) k j impl o).2 = .ok ()) :
    let i := ps.inv impl o
    let rw2 := runR sem false (constructOn sem false (runR sem false (parseR sem rw j ps).1 evs1) k j impl o).1 evs2
    (generateR sem rw2 k).2 = .ok ()
    ∧ (invoke sem w0 i).2 = .ok ()
    ∧ ∀ n, n ∈ targetNames i → read (generateR sem rw2 k).1.w.fs (i.dir, n) = read (invoke sem w0 i).1.fs (i.dir, n) := by
  intro i rw2
  obtain ⟨rp, hrp, hobj⟩ := obj_at_generate sem hp rw j k ps impl o evs1 evs2 h1 h2 hokp hokc
  have hg := inv_isGen ps impl o
  exact generate_pure_obj sem hp i hg rp hrp rw2.w k hobj

/-- If, moreover, the directory holds nothing but (possibly) files of the same target when `generate k` runs, the directory is
    the fresh one and the package imports exactly as the fresh one does. -/
theorem C17_generate_on_parsed_directory_is_fresh_of_pure (sem : Semantics) (hp : pureGen sem = true) (rw : RWorld) (j k : Nat) (ps : PSpec) (impl : Impl)
    (o : GenOpts) (evs1 evs2 : List REv) (h1 : evs1.all (keepsParsed j) = true) (h2 : evs2.all (keepsGenR k) = true)
    (hokp : (parseR sem rw j ps).2 = .ok ())
    (hokc : (constructOn sem false (runR sem false (parseR sem rw j ps).1 evs1) k j impl o).2 = .ok ())
    (hdir : dirOnly (runR sem false (constructOn sem false (runR sem false (parseR sem rw j ps).1 evs1) k j impl o).1 evs2).w.fs
              (ps.inv impl o).dir (targetNames (ps.inv impl o)) = true) :
    let i := ps.inv impl o
    let rw2 := runR sem false (constructOn sem false (runR sem false (parseR sem rw j ps).1 evs1) k j impl o).1 evs2
    dirView (generateR sem rw2 k).1.w.fs i.dir = dirView (invoke sem w0 i).1.fs i.dir
    ∧ importAfterGenerate sem rw2.w k = importAfter sem w0 i := by
  intro i rw2
  obtain ⟨rp, hrp, hobj⟩ := obj_at_generate sem hp rw j k ps impl o evs1 evs2 h1 h2 hokp hokc
  have hg := inv_isGen ps impl o
  exact generate_pure_obj_dir sem hp i hg rp hrp rw2.w k hobj hdir

/-- Constructing a generator on a parsed object changes no parsed object (the library: `memo := false`), for every semantics. -/
theorem C17_constructOn_leaves_parsed_objects (sem : Semantics) (rw : RWorld) (k j j' : Nat) (impl : Impl) (o : GenOpts) :
    getP (constructOn sem false rw k j impl o).1.parsed j' = getP rw.parsed j' :=
  getP_stepR sem rw j' (.constructOn k j impl o) rfl

theorem C17_generate_on_parsed_depends_on_construction_only (rw : RWorld) (j k : Nat) (ps : PSpec) (impl : Impl)
    (o : GenOpts) (evs1 evs2 : List REv) (h1 : evs1.all (keepsParsed j) = true) (h2 : evs2.all (keepsGenR k) = true)
    (hokp : (parseR current rw j ps).2 = .ok ())
    (hokc : (constructOn current false (runR current false (parseR current rw j ps).1 evs1) k j impl o).2 = .ok ()) :
    let i := ps.inv impl o
    let rw2 := runR current false (constructOn current false (runR current false (parseR current rw j ps).1 evs1) k j impl o).1 evs2
    (generateR current rw2 k).2 = .ok ()
    ∧ (invoke current w0 i).2 = .ok ()
    ∧ ∀ n, n ∈ targetNames i → read (generateR current rw2 k).1.w.fs (i.dir, n) = read (invoke current w0 i).1.fs (i.dir, n) :=
  C17_generate_on_parsed_depends_on_construction_only_of_pure current pureGen_current rw j k ps impl o evs1 evs2 h1 h2 hokp hokc

theorem C17_generate_on_parsed_directory_is_fresh (rw : RWorld) (j k : Nat) (ps : PSpec) (impl : Impl)
    (o : GenOpts) (evs1 evs2 : List REv) (h1 : evs1.all (keepsParsed j) = true) (h2 : evs2.all (keepsGenR k) = true)
    (hokp : (parseR current rw j ps).2 = .ok ())
    (hokc : (constructOn current false (runR current false (parseR current rw j ps).1 evs1) k j impl o).2 = .ok ())
    (hdir : dirOnly (runR current false (constructOn current false (runR current false (parseR current rw j ps).1 evs1) k j impl o).1 evs2).w.fs
              (ps.inv impl o).dir (targetNames (ps.inv impl o)) = true) :
    let i := ps.inv impl o
    let rw2 := runR current false (constructOn current false (runR current false (parseR current rw j ps).1 evs1) k j impl o).1 evs2
    dirView (generateR current rw2 k).1.w.fs i.dir = dirView (invoke current w0 i).1.fs i.dir
    ∧ importAfterGenerate current rw2.w k = importAfter current w0 i :=
  C17_generate_on_parsed_directory_is_fresh_of_pure current pureGen_current rw j k ps impl o evs1 evs2 h1 h2 hokp hokc hdir

section examples
private def optsG (d : Nat) : GenOpts := ⟨[103], [], true, .out d, true⟩
private def optsH (d : Nat) : GenOpts := ⟨[104], [112], false, .out d, true⟩
private def fixA : FixSpec := ⟨1, 44, [1, 2], [1], [.mk 1 [2] [.mk 2 [1] []]], [1, 2]⟩
private def fixB : FixSpec := ⟨2, 44, [3], [3], [.mk 1 [3] []], [1]⟩
private def soupA : SoupSpec := ⟨1, some [(1, 0), (2, 1)], [1, 2], [65, 66]⟩
/-- the parsed object is used by another generator, which writes, and another dictionary is generated, before generator 1 is
    constructed on it -/
private def before : List REv :=
  [.constructOn 0 0 .itch (optsG 1), .old (.generate 0), .old (.inv (.fix fixB (optsG 3))), .parse 5 (.fix fixB)]
private def between : List REv := [.constructOn 2 0 .itch (optsG 4), .old (.generate 2), .old (.generate 0)]
example : (parseR current rw0 0 (.fix fixA)).2 = .ok () := by decide +kernel
example : before.all (keepsParsed 0) = true := by decide +kernel
example : between.all (keepsGenR 1) = true := by decide +kernel
example : (constructOn current false (runR current false (parseR current rw0 0 (.fix fixA)).1 before) 1 0 .itch (optsH 2)).2 = .ok () := by
  decide +kernel
example : dirOnly (runR current false (constructOn current false (runR current false (parseR current rw0 0 (.fix fixA)).1 before)
    1 0 .itch (optsH 2)).1 between).w.fs (.out 2) (targetNames (.fix fixA (optsH 2))) = true := by decide +kernel
example : importAfterGenerate current (runR current false (constructOn current false
    (runR current false (parseR current rw0 0 (.fix fixA)).1 before) 1 0 .itch (optsH 2)).1 between).w 1 = .ok () := by decide +kernel
-- soup-app: one `Parser.parse` result, an ITCH and an OUCH generator
example : (parseR current rw0 0 (.soup soupA true)).2 = .ok () := by decide +kernel
example : (constructOn current false (runR current false (parseR current rw0 0 (.soup soupA true)).1
    [.constructOn 0 0 .itch (optsG 1), .old (.generate 0)]) 1 0 .ouch (optsH 2)).2 = .ok () := by decide +kernel
end examples

end NasdaqModel.Props.C17Reuse
