import NasdaqModel.Lemmas.HeapLemmas
/-
C18 — messages are independent values: no state is shared between instances.

Model: Model/Heap.lean (object heap; cell 0 is the class-level `Array.default_value` list; every cell carries a ghost
owner tag).  The theorems are over ALL schemas, ALL operation histories (any length, any number of instances) and ALL
observation depths `n`.  `view S n H b` is everything instance `b` reads (deep, with defaults); what `b` encodes is a
function of its view (`encodeInst`), so the frame property for views carries over to encodings (`C18_encode_frame_partial`).

The code (`get_field_value` in common/message/structures.py hands out `copy.deepcopy` of a class-level list) is the model with
`Schema.freshArrayDefault = true`: an unset array field reads as a new list each time.  For it the statements hold for EVERY
history: `C18_frame`, `C18_encode_frame`, `C18_observe_pure`, `C18_inv_always`.

`Schema.freshArrayDefault = false` is the library before that change: reading a never-assigned array field returned the
class-level list itself, and mutating it in place changed every other instance.  That model does NOT satisfy the full statement
(Witness/C18.lean proves the negation on a concrete history)

  theorem C18_frame_as_is (S : Schema) (ops : List Op) (op : Op) (b n : Nat) (hb : b ≠ op.target (run S init ops)) :
      view S n (run S init (ops ++ [op])) b = view S n (run S init ops) b

and its frame theorems carry the explicit hypothesis `safeRun` — no operation of the history writes into a class-level cell,
i.e. no in-place mutation of a value obtained by reading a never-assigned array field — and are named `…_partial`; the
theorems for the code are their instances (`safeRun_of_fresh`).
-/
namespace NasdaqModel.Props.C18
open NasdaqModel Heap

/-- **C18_inv_reachable.**  Ownership invariant of every reachable state: references never leave their owner (so the
    mutable cells reachable from distinct instances are disjoint and contain no class-level cell other than through an
    unassigned default), every root belongs to its instance, buffers belong to the caller. -/
theorem C18_inv_reachable (S : Schema) (ops : List Op) (hsafe : safeRun S init ops = true) :
    Inv (run S init ops) :=
  run_inv ops init init_inv hsafe

/-- **C18_frame_partial.**  For every schema, every history `ops` and every further operation `op` such that no operation
    of the history writes into a class-level cell: what any instance `b` other than the one `op` is about (for `new` /
    `decode`: other than the instance being created) reads — to any depth, through all defaults — is the same before and
    after `op`.  `b` ranges over all instance ids: existing ones, and ids not yet in use (which stay unused). -/
theorem C18_frame_partial (S : Schema) (ops : List Op) (op : Op)
    (hsafe : safeRun S init (ops ++ [op]) = true)
    (b : Nat) (hb : b ≠ op.target (run S init ops)) (n : Nat) :
    view S n (run S init (ops ++ [op])) b = view S n (run S init ops) b := by
  obtain ⟨h1, h2⟩ := safeRun_append ops init op hsafe
  rw [run_append]
  unfold stepK
  cases hs : step S (run S init ops) op with
  | error e => rfl
  | ok H' => exact step_frame (C18_inv_reachable S ops h1) hs h2 hb n

/-- **C18_encode_frame_partial.**  Same for what `b` encodes (bytes or the exception class). -/
theorem C18_encode_frame_partial (S : Schema) (ops : List Op) (op : Op)
    (hsafe : safeRun S init (ops ++ [op]) = true)
    (b : Nat) (hb : b ≠ op.target (run S init ops)) :
    encodeInst S (run S init (ops ++ [op])) b = encodeInst S (run S init ops) b := by
  obtain ⟨h1, h2⟩ := safeRun_append ops init op hsafe
  rw [run_append]
  unfold stepK
  cases hs : step S (run S init ops) op with
  | error e => rfl
  | ok H' => exact step_frame_encode (C18_inv_reachable S ops h1) hs h2 hb

/-- the operations that only observe (or touch a caller's buffer) are about nobody -/
def observes : Op → Bool
  | .read _ _ | .encode _ | .mkbuf _ | .scribble _ => true
  | _ => false

/-- **C18_observe_pure_partial.**  Reading a path, encoding, copying the encoding into a buffer and overwriting a buffer change
    what NO instance reads — including the instance read from / the instances decoded from that buffer.  These operations
    never write to a class-level cell themselves; the history before them must be class-safe. -/
theorem C18_observe_pure_partial (S : Schema) (ops : List Op) (op : Op) (hobs : observes op = true)
    (hsafe : safeRun S init ops = true) (b : Nat) (n : Nat) :
    view S n (run S init (ops ++ [op])) b = view S n (run S init ops) b := by
  have hi := C18_inv_reachable S ops hsafe
  rw [run_append]
  unfold stepK
  cases hs : step S (run S init ops) op with
  | error e => rfl
  | ok H' =>
    have hcs : classSafe S (run S init ops) op = true := by
      cases op <;> simp [observes] at hobs <;> simp [classSafe, writeOwner]
    obtain ⟨hext, _, _⟩ := step_sound hi hs hcs
    have hextra : H'.insts = (run S init ops).insts := by
      cases step_did hs with
      | nothing | wrote | mkbuf | scribble => rfl
      | created _ _ _ hcr => cases op <;> simp [observes, Op.creates] at hobs hcr
    unfold view
    rw [hextra]
    cases hcr : (run S init ops).insts[b]? with
    | none => rfl
    | some cr =>
      simp only
      congr 1
      apply deref_agree S (Mine b) _ _ ?_ hi.closed (hi.refs0 b) _ _ (hi.root_refs (Or.inl rfl) hcr)
      · intro a c hc hq
        obtain ⟨c', hc', _, hk⟩ := hext.keep a c hc
        rw [hc', hk]
        intro hp
        cases op <;> simp [observes] at hobs <;> simp only [opOwners] at hp <;>
          first
          | exact hp
          | (rcases hq with h | h <;> rw [h] at hp <;> cases hp)

/-! ### the same, at full strength, for the code (`freshArrayDefault = true`) -/

/-- **C18_frame.**  With `get_field_value` handing out a list of the caller's own: for every schema, EVERY history and every
    further operation, what any instance other than the one the operation is about reads is unchanged. -/
theorem C18_frame (S : Schema) (hS : S.freshArrayDefault = true) (ops : List Op) (op : Op)
    (b : Nat) (hb : b ≠ op.target (run S init ops)) (n : Nat) :
    view S n (run S init (ops ++ [op])) b = view S n (run S init ops) b :=
  C18_frame_partial S ops op (safeRun_of_fresh hS _ init init_inv) b hb n

theorem C18_encode_frame (S : Schema) (hS : S.freshArrayDefault = true) (ops : List Op) (op : Op)
    (b : Nat) (hb : b ≠ op.target (run S init ops)) :
    encodeInst S (run S init (ops ++ [op])) b = encodeInst S (run S init ops) b :=
  C18_encode_frame_partial S ops op (safeRun_of_fresh hS _ init init_inv) b hb

theorem C18_observe_pure (S : Schema) (hS : S.freshArrayDefault = true) (ops : List Op) (op : Op)
    (hobs : observes op = true) (b n : Nat) :
    view S n (run S init (ops ++ [op])) b = view S n (run S init ops) b :=
  C18_observe_pure_partial S ops op hobs (safeRun_of_fresh hS _ init init_inv) b n

/-- **C18_inv_always.**  The ownership invariant holds in every reachable state. -/
theorem C18_inv_always (S : Schema) (hS : S.freshArrayDefault = true) (ops : List Op) : Inv (run S init ops) :=
  C18_inv_reachable S ops (safeRun_of_fresh hS _ init init_inv)

/-- **C18_append_to_default_is_lost.**  Appending to what a path of reads ends in when that is a temporary list of the caller
    (`mutTarget = .ok none`: a never-assigned array field read with `freshArrayDefault = true`) succeeds and leaves the heap as
    it is. -/
theorem C18_append_to_default_is_lost (S : Schema) (H : Heap) (a : Nat) (p : List Step) (t : Tree)
    (h : mutTarget S H a p = .ok Option.none) : step S H (.append a p t) = .ok H := by
  simp [step, h]

/-- what "a new instance shares nothing" means structurally -/
structure FreshInstance (H H' : Heap) : Prop where
  /-- exactly one instance was added, rooted in a new cell -/
  added : ∃ c root, H'.insts = H.insts ++ [(c, root)] ∧ H.cells.length ≤ root
  /-- no existing cell (other instances, class-level defaults, the byte buffer decoded from) was written -/
  old_untouched : ∀ a, a < H.cells.length → H'.cells[a]? = H.cells[a]?
  /-- every cell of the new instance is new -/
  own_cells_new : ∀ (a : Addr) (c : Cell), H'.cells[a]? = some c → c.own = Owner.inst H.insts.length → H.cells.length ≤ a
  /-- the ownership invariant holds afterwards; in particular (`Inv.closed`) cells reference only cells of their own owner:
      nothing of the new instance points into another instance, a class-level cell or a buffer, and nothing old points into it -/
  closed : Inv H'

private theorem fresh_of_create {H : Heap} (t : Tree) (c : Nat) (root : Addr) (hi : Inv H)
    (hroot : (allocTree (Owner.inst H.insts.length) t H.cells).2 = Val.ref root) :
    FreshInstance H { H with cells := (allocTree (Owner.inst H.insts.length) t H.cells).1,
                             insts := H.insts ++ [(c, root)] } := by
  have hal := allocTree_ok (Owner.inst H.insts.length) t H.cells
  have hcs := create_sound t c root hi hroot
  obtain ⟨e, he, hp⟩ := hal.1
  refine ⟨⟨c, root, rfl, ?_⟩, ?_, ?_, hcs.2⟩
  · obtain ⟨c', hc', ho'⟩ := hal.2 root (by rw [hroot]; simp [Val.refs])
    rcases Nat.lt_or_ge root H.cells.length with hlt | hge
    · exfalso
      rw [he, List.getElem?_append_left hlt] at hc'
      have := hi.bound root c' _ hc' ho'
      exact Nat.lt_irrefl _ this
    · exact hge
  · intro a ha
    simp only
    rw [he, List.getElem?_append_left ha]
  · intro a c' hc' ho'
    rcases Nat.lt_or_ge a H.cells.length with hlt | hge
    · exfalso
      rw [he, List.getElem?_append_left hlt] at hc'
      exact Nat.lt_irrefl _ (hi.bound a c' _ hc' ho')
    · exact hge

/-- **C18_decode_fresh.**  A decoded instance consists of new cells only; decoding writes to no existing cell (so it shares
    no mutable state with other decoded messages, with the buffer it was decoded from, or with class-level defaults), and
    the invariant — references never leave their owner — holds afterwards.  No class-safety hypothesis on the operation
    itself: decoding never writes into a class-level cell. -/
theorem C18_decode_fresh (S : Schema) (H H' : Heap) (c b : Nat) (hi : Inv H)
    (hs : step S H (.decode c b) = .ok H') : FreshInstance H H' := by
  cases step_did hs with
  | created c t root _ hroot => exact fresh_of_create t c root hi hroot
  | nothing h | wrote _ _ _ h => cases h

/-- **C18_new_fresh.**  The same for `Cls()`. -/
theorem C18_new_fresh (S : Schema) (H H' : Heap) (c : Nat) (hi : Inv H)
    (hs : step S H (.new c) = .ok H') : FreshInstance H H' := by
  cases step_did hs with
  | created c t root _ hroot => exact fresh_of_create t c root hi hroot
  | nothing h | wrote _ _ _ h => cases h

/-- **C18_copy_confined.**  Assigning to a FIX segment of instance `b` an object READ from instance `a` (a group container
    with nested groups, a scalar, …) writes only to cells of `b` and to new cells tagged `b`; no cell of `a` (or of anybody
    else) is written or becomes reachable from `b`: afterwards every reference still stays inside its owner (`Inv`), so the
    two instances share no address, and by `C18_frame` no later operation about one of them changes the other. -/
theorem C18_copy_confined (S : Schema) (H H' : Heap) (b : Nat) (pb : List Step) (k : Key) (a : Nat) (pa : List Step)
    (hi : Inv H) (hsafe : classSafe S H (.copy b pb k a pa) = true)
    (hs : step S H (.copy b pb k a pa) = .ok H') :
    Ext (· = Owner.inst b) H.cells H'.cells ∧ Inv H' ∧ H'.insts = H.insts := by
  obtain ⟨hext, hinv, -⟩ := step_sound hi hs hsafe
  refine ⟨hext, hinv, ?_⟩
  cases step_did hs with
  | nothing | wrote => rfl
  | created _ _ _ h => cases h

/-- **C18_clone_fresh.**  A message built from `from_value` copies of another message's segments consists of new cells only. -/
theorem C18_clone_fresh (S : Schema) (H H' : Heap) (a : Nat) (hi : Inv H)
    (hs : step S H (.clone a) = .ok H') : FreshInstance H H' := by
  cases step_did hs with
  | created c t root _ hroot => exact fresh_of_create t c root hi hroot
  | nothing h | wrote _ _ _ h => cases h

/-- **C18_buffer_independent_partial.**  After decoding, overwriting the buffer changes what nobody reads (instance of
    `C18_observe_pure_partial`, stated for the exact scenario of the property). -/
theorem C18_buffer_independent_partial (S : Schema) (ops : List Op) (c buf : Nat)
    (hsafe : safeRun S init ops = true) (b n : Nat) :
    view S n (run S init (ops ++ [Op.decode c buf] ++ [Op.scribble buf])) b
      = view S n (run S init (ops ++ [Op.decode c buf])) b := by
  have : safeRun S init (ops ++ [Op.decode c buf]) = true := by
    have key : ∀ (ops : List Op) (H : Heap), safeRun S H ops = true → safeRun S H (ops ++ [Op.decode c buf]) = true := by
      intro ops
      induction ops with
      | nil => intro H _; simp [safeRun, classSafe, writeOwner]
      | cons o os ih =>
        intro H h
        simp only [List.cons_append, safeRun, Bool.and_eq_true] at h ⊢
        exact ⟨h.1, ih _ h.2⟩
    exact key ops init hsafe
  exact C18_observe_pure_partial S (ops ++ [Op.decode c buf]) (Op.scribble buf) rfl this b n

/-- **C18_view_local.**  What instance `b` reads is determined by the cells tagged `b` and the class-level cells: two heaps
    that agree on those (and on `b`'s table entry) give `b` the same view. -/
theorem C18_view_local (S : Schema) (H H2 : Heap) (b n : Nat) (hi : Inv H)
    (hroot : H2.insts[b]? = H.insts[b]?)
    (hagree : ∀ (a : Addr) (c : Cell), H.cells[a]? = some c → Mine b c.own → H2.cells[a]? = some c) :
    view S n H2 b = view S n H b := by
  unfold view
  rw [hroot]
  cases hcr : H.insts[b]? with
  | none => rfl
  | some cr =>
    simp only
    congr 1
    exact deref_agree S (Mine b) _ _ hagree hi.closed (hi.refs0 b) _ _ (hi.root_refs (Or.inl rfl) hcr)

/-- **C18_read_owned.**  Whatever a chain of reads starting at instance `a` returns is a scalar, one of `a`'s own cells, or
    a class-level cell — never a cell of another instance or a buffer.  (The class-level alternative is the defect.) -/
theorem C18_read_owned (S : Schema) (H : Heap) (a : Nat) (cr : Nat × Addr) (p : List Step) (v : Val) (hi : Inv H)
    (ha : H.insts[a]? = some cr) (hr : resolve S H.cells (.ref cr.2) p = .ok v) :
    RefsIn (Mine a) H.cells v.refs :=
  resolve_owned hi.closed (defaultsIn_of_zero (hi.refs0 a)) p _ v (hi.root_refs (Or.inl rfl) ha) hr

/-- **C18_read_owned_fresh.**  With `freshArrayDefault = true` the class-level alternative disappears: whatever a chain of reads
    starting at instance `a` returns is a scalar, a list of the caller's own, or one of `a`'s own cells. -/
theorem C18_read_owned_fresh (S : Schema) (hS : S.freshArrayDefault = true) (H : Heap) (a : Nat) (cr : Nat × Addr)
    (p : List Step) (v : Val) (hi : Inv H)
    (ha : H.insts[a]? = some cr) (hr : resolve S H.cells (.ref cr.2) p = .ok v) :
    RefsIn (· = Owner.inst a) H.cells v.refs :=
  resolve_owned hi.closed (defaultsIn_of_fresh hS _ _) p _ v (hi.root_refs (Q := (· = Owner.inst a)) rfl ha) hr

/-- **C18_held_reference_frame.**  Any later change of the heap that is confined to cells tagged `a` and to new cells tagged
    `a` — e.g. mutating, at any later time, an object once obtained by reading `a` and found to be `a`'s own by
    `C18_read_owned` — leaves the view of every other instance unchanged. -/
theorem C18_held_reference_frame (S : Schema) (H H2 : Heap) (a b n : Nat) (hi : Inv H) (hab : b ≠ a)
    (hins : H2.insts[b]? = H.insts[b]?)
    (hext : Ext (· = Owner.inst a) H.cells H2.cells) :
    view S n H2 b = view S n H b := by
  apply C18_view_local S H H2 b n hi hins
  intro x c hc hq
  obtain ⟨c', hc', _, hk⟩ := hext.keep x c hc
  rw [hc', hk]
  intro hp
  rcases hq with h | h <;> rw [h] at hp
  · injection hp with hp; exact hab hp
  · cases hp

/-- **C18_class_cell_constant_partial.**  In a class-safe history the class-level list is never written: it stays empty, so a
    never-assigned array field of any instance — existing or created later, of any type — always reads `[]`. -/
theorem C18_class_cell_constant_partial (S : Schema) (ops : List Op) (hsafe : safeRun S init ops = true) :
    (run S init ops).cells[0]? = some ⟨Owner.cls, Body.list []⟩ := by
  have key : ∀ (ops : List Op) (H : Heap), Inv H → safeRun S H ops = true →
      H.cells[0]? = some ⟨Owner.cls, Body.list []⟩ → (run S H ops).cells[0]? = some ⟨Owner.cls, Body.list []⟩ := by
    intro ops
    induction ops with
    | nil => intro H _ _ h; exact h
    | cons op ops ih =>
      intro H hi hs h0
      simp only [safeRun, Bool.and_eq_true] at hs
      apply ih (stepK S H op) (stepK_inv hi hs.1) hs.2
      unfold stepK
      cases hst : step S H op with
      | error e => exact h0
      | ok H' =>
        simp only
        obtain ⟨hext, _, _⟩ := step_sound hi hst hs.1
        obtain ⟨c', hc', _, hk⟩ := hext.keep 0 _ h0
        rw [hc', hk (opOwners_not_cls H op)]
  exact key ops init init_inv hsafe rfl

/-! ### non-vacuity: concrete schemas and histories satisfying the hypotheses, with instances that really differ
(histories are kept short: `decide` evaluates them in the kernel) -/

/-- record 0: a byte with default 5 and a big-endian array; message 65 (class 1): a 2-byte int, an array of bytes,
    a nested record (class 0) and an array of records -/
def exSchema : Schema :=
  ⟨false, [.binRec none [.int ⟨1, false, false⟩ (some 5), .arr (.int ⟨2, true, true⟩) ⟨2, false, true⟩],
    .binRec (some 65) [.int ⟨2, false, false⟩ none, .arr (.int ⟨1, false, false⟩) ⟨2, false, false⟩, .recd 0,
                       .arr (.recd 0) ⟨2, false, false⟩]]⟩

/-- two instances; the first gets a list assigned, the list is mutated in place, a nested record is written through -/
def exOps : List Op :=
  [.new 1, .new 1, .assign 0 [] 1 (.list [.int 1, .int 2]), .append 0 [.fld 1] (.int 3), .assign 0 [.fld 2] 0 (.int 9)]

example : safeRun exSchema init exOps = true := by decide +kernel
example : encodeInst exSchema (run exSchema init exOps) 0 = .ok [65, 0, 0, 3, 0, 1, 2, 3, 9, 0, 0, 0, 0] := by decide +kernel
example : encodeInst exSchema (run exSchema init exOps) 1 = .ok [65, 0, 0, 0, 0, 5, 0, 0, 0, 0] := by decide +kernel

/-- a record appended to an assigned array of records, then changed in place through the list -/
def exOps2 : List Op :=
  [.new 1, .new 1, .assign 1 [] 3 (.list []), .append 1 [.fld 3] (.obj 0 [0, 1] [.int 1, .list [.int (-2)]]),
   .assign 1 [.fld 3, .idx 0] 0 (.int 8)]

example : safeRun exSchema init exOps2 = true := by decide +kernel
example : encodeInst exSchema (run exSchema init exOps2) 1 = .ok [65, 0, 0, 0, 0, 5, 0, 0, 1, 0, 8, 0, 1, 255, 254] := by decide +kernel
example : encodeInst exSchema (run exSchema init exOps2) 0 = .ok [65, 0, 0, 0, 0, 5, 0, 0, 0, 0] := by decide +kernel

/-- encode into a buffer, decode a second instance from it, overwrite the buffer -/
def exOps3 : List Op :=
  [.new 1, .assign 0 [] 1 (.list [.int 1, .int 2]), .mkbuf 0, .decode 1 0, .scribble 0]

example : safeRun exSchema init exOps3 = true := by decide +kernel
example : (run exSchema init exOps3).insts.length = 2 := by decide +kernel
example : encodeInst exSchema (run exSchema init exOps3) 1 = .ok [65, 0, 0, 2, 0, 1, 2, 5, 0, 0, 0, 0] := by decide +kernel

/-- FIX: a group class (0: delimiter 501, string 502), header (1), trailer (2), body (3) with a repeating group 500, message (4) -/
def exFix : Schema :=
  ⟨false, [.fixSeg true [.field 501 .int, .field 502 .str],
    .fixSeg false [.field 8 .str],
    .fixSeg false [.field 10 .int],
    .fixSeg false [.field 55 .str, .group 500 0],
    .fixMsg 1 3 2]⟩

def exFixOps : List Op :=
  [.new 4, .new 4,
   .assign 0 [.fld 1] 500 (.list [.obj 0 [501, 502] [.int 1, .str [65]], .obj 0 [501] [.int 2]]),
   .assign 0 [.fld 1, .fld 500, .idx 1] 502 (.str [66]),
   .append 0 [.fld 1, .fld 500] (.obj 0 [501] [.int 3])]

example : safeRun exFix init exFixOps = true := by decide +kernel
example : encodeInst exFix (run exFix init exFixOps) 0
    = .ok [53,48,48,61,51,1, 53,48,49,61,49,1,53,48,50,61,65,1, 53,48,49,61,50,1,53,48,50,61,66,1, 53,48,49,61,51,1] := by decide +kernel
example : encodeInst exFix (run exFix init exFixOps) 1 = .ok [1] := by decide +kernel

/-- header and body fields set, encoded into a buffer, decoded into a second instance
    (kept to scalar fields: kernel evaluation of the group parser is slow) -/
def exFixOps2 : List Op :=
  [.new 4, .assign 0 [.fld 0] 8 (.str [70]), .assign 0 [.fld 1] 55 (.str [65, 66]), .mkbuf 0, .decode 4 0]

example : safeRun exFix init exFixOps2 = true := by decide +kernel
example : encodeInst exFix (run exFix init exFixOps2) 1 = .ok [56,61,70,1, 53,53,61,65,66,1] := by decide +kernel

/-- `freshArrayDefault = true`: the same message type, appending to the never-assigned array of instance 0 is lost, nobody changes -/
def exFresh : Schema := { exSchema with freshArrayDefault := true }

def exFreshOps : List Op := [.new 1, .new 1, .append 0 [.fld 1] (.int 7), .new 1]

example : exFresh.freshArrayDefault = true := rfl
example : mutTarget exFresh (run exFresh init (exFreshOps.take 2)) 0 [.fld 1] = .ok Option.none := by decide +kernel
example : encodeInst exFresh (run exFresh init exFreshOps) 0 = .ok [65, 0, 0, 0, 0, 5, 0, 0, 0, 0] := by decide +kernel
example : encodeInst exFresh (run exFresh init exFreshOps) 2 = .ok [65, 0, 0, 0, 0, 5, 0, 0, 0, 0] := by decide +kernel
/-- while the model with `freshArrayDefault = false` shows the defect on the same history -/
example : encodeInst exSchema (run exSchema init exFreshOps) 2 = .error .other := by decide +kernel

/-- FIX with a nested repeating group: group 0 (delimiter 601) inside group 1 (delimiter 701, nested 600); instance 1 gets
    the container READ from instance 0, then the nested group is changed through instance 0 only -/
def exNested : Schema :=
  ⟨true, [.fixSeg true [.field 601 .int],
    .fixSeg true [.field 701 .int, .group 600 0],
    .fixSeg false [.field 8 .str],
    .fixSeg false [.field 10 .int],
    .fixSeg false [.group 700 1],
    .fixMsg 2 4 3]⟩

def exCopyOps : List Op :=
  [.new 5, .new 5,
   .assign 0 [.fld 1] 700 (.list [.obj 1 [701, 600] [.int 1, .list [.obj 0 [601] [.int 5]]]]),
   .copy 1 [.fld 1] 700 0 [.fld 1, .fld 700],
   .assign 0 [.fld 1, .fld 700, .idx 0, .fld 600, .idx 0] 601 (.int 9)]

example : encodeInst exNested (run exNested init (exCopyOps.take 4)) 1
    = .ok [55,48,48,61,49,1, 55,48,49,61,49,1, 54,48,48,61,49,1, 54,48,49,61,53,1] := by decide +kernel
example : encodeInst exNested (run exNested init exCopyOps) 1
    = .ok [55,48,48,61,49,1, 55,48,49,61,49,1, 54,48,48,61,49,1, 54,48,49,61,53,1] := by decide +kernel
example : encodeInst exNested (run exNested init exCopyOps) 0
    = .ok [55,48,48,61,49,1, 55,48,49,61,49,1, 54,48,48,61,49,1, 54,48,49,61,57,1] := by decide +kernel

end NasdaqModel.Props.C18
