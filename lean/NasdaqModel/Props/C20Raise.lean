import NasdaqModel.Model.SyncFacade
/-
C20, the executor beneath the facade when the coroutine ITSELF ends with an exception (seeded change C20j).

Statement: every call on the executor "returns its result, raises the underlying error, or raises a timeout/state error -
it never blocks forever".  `Model/SyncFacade.lean` (`passStep`, `waitFor`, `execute`, `executeSync`) is `_wait_for`'s slice
loop and the two `except concurrent.futures.TimeoutError` clauses line by line; the environment (clock, scheduler, loop
thread) contributes one `Pass` record per trip round the loop and is not restricted in any way.

  * `C20_wait_continues_iff`      a pass ends the loop (`passStep` returns something) exactly when `Pass.ends`: the future is
                                  done, the deadline is reached, or the thread is seen dead — so it goes round again exactly when
                                  none of these holds, never when the future is done
  * `C20_wait_leaves_loop_when_future_completes`
                                  the measure: if the future completes in pass k (counted from 0), `_wait_for` has left the loop
                                  after at most k + 1 passes — for EVERY outcome of the coroutine, TimeoutError included
  * `C20_wait_raises_the_coroutines_error` / `C20_execute_raises_the_coroutines_error`
                                  while nothing else happens (no deadline hit, thread alive), what comes out IS the coroutine's
                                  outcome: its value, or its own exception `e`, for every `e : Exc`
  * `C20_wait_outcome` / `C20_execute_outcome` / `C20_execute_sync_outcome`
                                  in every environment the call ends with the coroutine's outcome, a TimeoutError made by an
                                  expired wait (and then a pass really saw the slice expire, the future NOT done and the caller's
                                  deadline reached), or StateError (and then the thread was seen dead), or ValueError for a non-coroutine
  * `C20_wait_untimed_never_expiry` / `C20_execute_untimed_never_expiry` / `C20_execute_sync_never_expiry` / `C20_untimed_value_comes_back`
                                  (the code from /repo ea90e75 on) a call without a caller-side timeout never ends with the expiry of a slice:
                                  a coroutine that returned a value gets it returned; the semantics before that commit, which
                                  lost the result, is kept in `Witness/C20Raise.lean`
  * `C20_wait_terminates`         any infinite environment in which the future eventually completes, or the deadline is eventually
                                  reached, or the thread is eventually seen dead: `_wait_for` returns after finitely many passes
-/
namespace NasdaqModel.Props.C20Raise
open NasdaqModel.SyncFacade

/-- one pass, by what it observes: the future done (its own outcome comes out), else the deadline reached, else the thread
    dead with the future pending, else nothing -/
private theorem passStep_eq (fin : Fin) (p : Pass) :
    passStep fin p = if p.completes || p.doneAtCheck then some (deliver fin)
      else if p.deadline then some (.raised .expiry)
      else if !p.alive && !p.doneAtCheck2 then some (.raised .state) else none := by
  unfold passStep
  cases hc : p.completes
  · simp [Exc.isTimeout]
  · cases fin with
    | returned => simp [deliver]
    | raised e => cases e <;> simp [deliver, Exc.isTimeout]

/-- **When the loop ends, hence when it continues.** Independent of how the coroutine ends (`fin`), a pass leaves the loop iff
    `p.ends`; read contrapositively: another pass is made iff in this one the
    future was not done (neither within the slice nor at the check), the deadline was not reached, and it is not the case
    that the thread is dead with the future still pending.  In particular a done future always ends the loop. -/
theorem C20_wait_continues_iff (fin : Fin) (p : Pass) : (passStep fin p).isSome = p.ends := by
  rw [passStep_eq]
  unfold Pass.ends
  cases p.completes <;> cases p.doneAtCheck <;> cases p.deadline <;> cases p.alive <;> cases p.doneAtCheck2 <;> rfl

/-- the future is done by the end of the slice or at the handler's check: the pass hands out the future's OWN outcome -/
theorem passStep_done (fin : Fin) (p : Pass) (h : p.completes = true ∨ p.doneAtCheck = true) :
    passStep fin p = some (deliver fin) := by
  rw [passStep_eq, if_pos (by simpa using h)]

theorem passStep_completes (fin : Fin) (p : Pass) (h : p.completes = true) : passStep fin p = some (deliver fin) :=
  passStep_done fin p (Or.inl h)

theorem passStep_quiet (fin : Fin) (p : Pass) (h : p.quiet = true) : passStep fin p = none := by
  have := C20_wait_continues_iff fin p
  unfold Pass.quiet at h
  cases hs : passStep fin p with
  | none => rfl
  | some r => rw [hs] at this; simp at this; rw [← this] at h; simp at h

private theorem pollsIn_quiet (fin : Fin) (p : Pass) (h : p.quiet = true) : pollsIn fin p = 1 := by
  unfold Pass.quiet Pass.ends at h
  have hc : p.completes = false := by cases hc : p.completes <;> simp_all
  have hd : p.doneAtCheck = false := by cases hd : p.doneAtCheck <;> simp_all
  simp [pollsIn, hc, hd]

theorem pollsIn_le (fin : Fin) (p : Pass) : 1 ≤ pollsIn fin p ∧ pollsIn fin p ≤ 2 := by
  unfold pollsIn
  cases p.completes <;> cases fin <;> simp [deliver] <;> split <;> omega

/-- **The measure.** If the future completes during — or is found done in — pass number `pre.length` (counted from 0),
    `_wait_for` leaves the loop with some result after at most `pre.length + 1` passes — whatever happened in the earlier
    passes, whatever follows, and whatever the coroutine's outcome is (its own TimeoutError included: the done future
    ends the loop). -/
theorem C20_wait_leaves_loop_when_future_completes (fin : Fin) (pre post : List Pass) (p : Pass)
    (h : p.completes = true ∨ p.doneAtCheck = true) :
    (∃ r, waitFor fin (pre ++ p :: post) = some r) ∧ passesUsed fin (pre ++ p :: post) ≤ pre.length + 1 := by
  induction pre with
  | nil =>
    simp only [List.nil_append, waitFor, passesUsed, passStep_done fin p h, List.length_nil]
    exact ⟨⟨_, rfl⟩, Nat.le_refl _⟩
  | cons q rest ih =>
    cases hq : passStep fin q with
    | some r =>
      simp only [List.cons_append, waitFor, passesUsed, hq, List.length_cons]
      exact ⟨⟨r, rfl⟩, by omega⟩
    | none =>
      simp only [List.cons_append, waitFor, passesUsed, hq, List.length_cons]
      exact ⟨ih.1, by have := ih.2; omega⟩

/-- **The future's own outcome comes out.** Quiet passes, then the future completes within a slice *or is found done right
    after a slice expired*: `_wait_for` hands out exactly the coroutine's outcome — its value, or `e` for every exception
    class `e` (TimeoutError, a subclass of it, CancelledError, StateError, EndOfQueue, ValueError, any Exception, any
    BaseException) — in that pass, with at most one `future.result` call more than passes. -/
theorem C20_wait_raises_the_coroutines_error (fin : Fin) (pre post : List Pass) (p : Pass)
    (hq : ∀ q ∈ pre, q.quiet = true) (h : p.completes = true ∨ p.doneAtCheck = true) :
    waitFor fin (pre ++ p :: post) = some (deliver fin) ∧ passesUsed fin (pre ++ p :: post) = pre.length + 1 ∧
    pollsUsed fin (pre ++ p :: post) = pre.length + pollsIn fin p := by
  induction pre with
  | nil => simp [waitFor, passesUsed, pollsUsed, passStep_done fin p h]
  | cons q rest ih =>
    have hq' := passStep_quiet fin q (hq q (by simp))
    have hp := pollsIn_quiet fin q (hq q (by simp))
    have := ih (fun x hx => hq x (by simp [hx]))
    simp only [List.cons_append, waitFor, passesUsed, pollsUsed, hq', hp, List.length_cons, this.1, this.2.1, this.2.2, true_and]
    omega

/-- the same seen from the caller of `execute` (thread alive at the call, a coroutine was passed; the future, done in that
    pass, is still done in `execute`'s handler) -/
theorem C20_execute_raises_the_coroutines_error (fin : Fin) (pre post : List Pass) (p : Pass)
    (hq : ∀ q ∈ pre, q.quiet = true) (h : p.completes = true ∨ p.doneAtCheck = true) :
    execute true true fin (pre ++ p :: post) true = some (deliver fin) := by
  unfold execute
  rw [(C20_wait_raises_the_coroutines_error fin pre post p hq h).1]
  cases fin with
  | returned => simp [deliver]
  | raised e => cases e <;> simp [deliver, Exc.isTimeout]

/-- … and of `execute_sync` (the callable's exception travels through the `_bridge` coroutine) -/
theorem C20_execute_sync_raises_the_callables_error (fin : Fin) (pre post : List Pass) (p : Pass)
    (hq : ∀ q ∈ pre, q.quiet = true) (h : p.completes = true ∨ p.doneAtCheck = true) :
    executeSync true true true fin (pre ++ p :: post) true = some (deliver fin) := by
  unfold executeSync
  simpa using C20_execute_raises_the_coroutines_error fin pre post p hq h

/-- **What can come out of `_wait_for`, in any environment**: the coroutine's outcome — and then a pass found the future
    done; a TimeoutError of an expired wait — only if some pass saw its slice expire, the future NOT done, and the caller's
    deadline reached; StateError — only if some pass saw the thread dead with the future pending. -/
theorem C20_wait_outcome (fin : Fin) (ps : List Pass) (r : Res) (h : waitFor fin ps = some r) :
    (r = deliver fin ∧ ∃ p ∈ ps, p.completes = true ∨ p.doneAtCheck = true) ∨
    (r = .raised .expiry ∧ ∃ p ∈ ps, p.completes = false ∧ p.doneAtCheck = false ∧ p.deadline = true) ∨
    (r = .raised .state ∧ ∃ p ∈ ps, p.completes = false ∧ p.alive = false ∧ p.doneAtCheck2 = false) := by
  induction ps with
  | nil => simp [waitFor] at h
  | cons p rest ih =>
    simp only [waitFor] at h
    cases hp : passStep fin p with
    | none =>
      rw [hp] at h
      rcases ih h with ⟨h1, q, hq, h2⟩ | ⟨h1, q, hq, h2⟩ | ⟨h1, q, hq, h2⟩
      · exact Or.inl ⟨h1, q, by simp [hq], h2⟩
      · exact Or.inr (Or.inl ⟨h1, q, by simp [hq], h2⟩)
      · exact Or.inr (Or.inr ⟨h1, q, by simp [hq], h2⟩)
    | some r' =>
      rw [hp] at h
      simp only [Option.some.injEq] at h
      subst h
      rw [passStep_eq] at hp
      split at hp
      · rename_i hdone
        cases hp
        exact Or.inl ⟨rfl, p, by simp, by simpa using hdone⟩
      · rename_i hnd
        simp only [Bool.or_eq_true, not_or, Bool.not_eq_true] at hnd
        split at hp
        · rename_i hdl
          cases hp
          exact Or.inr (Or.inl ⟨rfl, p, by simp, hnd.1, hnd.2, hdl⟩)
        · split at hp
          · rename_i hde
            simp only [Bool.and_eq_true, Bool.not_eq_true'] at hde
            cases hp
            exact Or.inr (Or.inr ⟨rfl, p, by simp, hnd.1, hde.1, hde.2⟩)
          · cases hp

/-- **An untimed wait never times out.** Without a caller-side timeout (`deadline is None`: no pass can find a deadline
    reached) `_wait_for` ends with the coroutine's outcome, or with StateError once the thread was seen dead — the expiry of
    a slice never comes out (before /repo ea90e75 it did: `Witness/C20Raise`). -/
theorem C20_wait_untimed_never_expiry (fin : Fin) (ps : List Pass) (r : Res) (hnd : ∀ p ∈ ps, p.deadline = false)
    (h : waitFor fin ps = some r) :
    (r = deliver fin ∧ ∃ p ∈ ps, p.completes = true ∨ p.doneAtCheck = true) ∨
    (r = .raised .state ∧ ∃ p ∈ ps, p.completes = false ∧ p.alive = false ∧ p.doneAtCheck2 = false) := by
  rcases C20_wait_outcome fin ps r h with h1 | ⟨_, p, hp, _, _, hdl⟩ | h3
  · exact Or.inl h1
  · rw [hnd p hp] at hdl; simp at hdl
  · exact Or.inr h3

/-- `execute` on a live executor with a coroutine: `_wait_for`'s result, except that a TimeoutError caught while the future
    is not done becomes the executor's own -/
private theorem execute_of_wait {fin : Fin} {ps : List Pass} {dh : Bool} {r : Res} (h : execute true true fin ps dh = some r) :
    ∃ r', waitFor fin ps = some r' ∧
      (r = r' ∨ (dh = false ∧ r = .raised .expiry ∧ ∃ e, r' = .raised e ∧ e.isTimeout = true)) := by
  unfold execute at h
  simp only [Bool.not_true, Bool.false_eq_true, ↓reduceIte] at h
  cases hw : waitFor fin ps with
  | none => rw [hw] at h; cases h
  | some r' =>
    rw [hw] at h
    refine ⟨r', rfl, ?_⟩
    cases r' with
    | returned => exact .inl (Option.some.inj h).symm
    | raised e =>
      simp only at h
      split at h
      · rename_i ht
        cases dh
        · exact .inr ⟨rfl, (Option.some.inj h).symm, e, rfl, ht⟩
        · exact .inl (Option.some.inj h).symm
      · exact .inl (Option.some.inj h).symm

/-- the statement's list for `execute`: its result, the underlying error, a timeout error, a state error — or ValueError, which
    for a coroutine argument can only be the coroutine's own -/
theorem C20_execute_outcome (a0 isCoro : Bool) (fin : Fin) (ps : List Pass) (dh : Bool) (r : Res)
    (h : execute a0 isCoro fin ps dh = some r) :
    r = deliver fin ∨ r = .raised .expiry ∨ r = .raised .state ∨ (r = .raised .value ∧ isCoro = false) := by
  cases a0
  · exact Or.inr (Or.inr (Or.inl (by simpa [execute] using h.symm)))
  · cases isCoro
    · exact Or.inr (Or.inr (Or.inr ⟨by simpa [execute] using h.symm, rfl⟩))
    · obtain ⟨r', hw, hr⟩ := execute_of_wait h
      rcases hr with rfl | ⟨_, rfl, _⟩
      · rcases C20_wait_outcome fin ps r hw with ⟨h1, _⟩ | ⟨h1, _⟩ | ⟨h1, _⟩
        · exact Or.inl h1
        · exact Or.inr (Or.inl h1)
        · exact Or.inr (Or.inr (Or.inl h1))
      · exact Or.inr (Or.inl rfl)

/-- **An untimed call never raises a timeout of the executor's making.** `execute(coro)` without `timeout=`, in any
    environment that is consistent about `done()` (a future found done stays done: `hmono`): the call ends with the
    coroutine's outcome (its own TimeoutError if that is how it ended), with StateError — and then the executor was not
    active at the call or was seen dead under it — or with ValueError for a non-coroutine.  Never `.expiry`. -/
theorem C20_execute_untimed_never_expiry (a0 isCoro : Bool) (fin : Fin) (ps : List Pass) (dh : Bool) (r : Res)
    (hnd : ∀ p ∈ ps, p.deadline = false)
    (hmono : (∃ p ∈ ps, p.completes = true ∨ p.doneAtCheck = true) → dh = true)
    (h : execute a0 isCoro fin ps dh = some r) :
    r = deliver fin ∨
    (r = .raised .state ∧ (a0 = false ∨ ∃ p ∈ ps, p.completes = false ∧ p.alive = false ∧ p.doneAtCheck2 = false)) ∨
    (r = .raised .value ∧ isCoro = false) := by
  cases a0
  · exact Or.inr (Or.inl ⟨by simpa [execute] using h.symm, Or.inl rfl⟩)
  · cases isCoro
    · exact Or.inr (Or.inr ⟨by simpa [execute] using h.symm, rfl⟩)
    · obtain ⟨r', hw, hr⟩ := execute_of_wait h
      rcases C20_wait_untimed_never_expiry fin ps r' hnd hw with ⟨h1, hdone⟩ | ⟨h1, hdead⟩
      · -- the future was found done: it still is in `execute`'s handler, the outcome passes through
        rcases hr with rfl | ⟨hdh, _⟩
        · exact Or.inl h1
        · rw [hmono hdone] at hdh; cases hdh
      · rcases hr with rfl | ⟨_, _, e, he, ht⟩
        · exact Or.inr (Or.inl ⟨h1, Or.inr hdead⟩)
        · rw [h1] at he; cases he; cases ht

/-- **"Returns its result".** An untimed `execute` of a coroutine that returns a value returns that value; the only other
    way out is StateError with the executor seen dead under the call while the future was still pending. -/
theorem C20_untimed_value_comes_back (ps : List Pass) (dh : Bool) (r : Res)
    (hnd : ∀ p ∈ ps, p.deadline = false)
    (hmono : (∃ p ∈ ps, p.completes = true ∨ p.doneAtCheck = true) → dh = true)
    (h : execute true true .returned ps dh = some r) :
    r = .returned ∨ (r = .raised .state ∧ ∃ p ∈ ps, p.completes = false ∧ p.alive = false ∧ p.doneAtCheck2 = false) := by
  rcases C20_execute_untimed_never_expiry true true .returned ps dh r hnd hmono h with h1 | ⟨h1, h2⟩ | ⟨_, h2⟩
  · exact Or.inl h1
  · rcases h2 with h2 | h2
    · simp at h2
    · exact Or.inr ⟨h1, h2⟩
  · simp at h2

theorem C20_execute_sync_outcome (a0 isCallable a1 : Bool) (fin : Fin) (ps : List Pass) (dh : Bool) (r : Res)
    (h : executeSync a0 isCallable a1 fin ps dh = some r) :
    r = deliver fin ∨ r = .raised .expiry ∨ r = .raised .state ∨ (r = .raised .value ∧ isCallable = false) := by
  unfold executeSync at h
  cases a0
  · simp at h; exact Or.inr (Or.inr (Or.inl h.symm))
  · cases isCallable
    · simp at h; exact Or.inr (Or.inr (Or.inr ⟨h.symm, rfl⟩))
    · simp only [Bool.not_true, Bool.false_eq_true, ↓reduceIte] at h
      rcases C20_execute_outcome a1 true fin ps dh r h with h1 | h1 | h1 | ⟨_, h2⟩
      · exact Or.inl h1
      · exact Or.inr (Or.inl h1)
      · exact Or.inr (Or.inr (Or.inl h1))
      · simp at h2

/-- `execute_sync` takes no timeout at all: it never raises a timeout of the executor's making -/
theorem C20_execute_sync_never_expiry (a0 isCallable a1 : Bool) (fin : Fin) (ps : List Pass) (dh : Bool) (r : Res)
    (hnd : ∀ p ∈ ps, p.deadline = false)
    (hmono : (∃ p ∈ ps, p.completes = true ∨ p.doneAtCheck = true) → dh = true)
    (h : executeSync a0 isCallable a1 fin ps dh = some r) :
    r = deliver fin ∨ r = .raised .state ∨ (r = .raised .value ∧ isCallable = false) := by
  unfold executeSync at h
  cases a0
  · simp at h; exact Or.inr (Or.inl h.symm)
  · cases isCallable
    · simp at h; exact Or.inr (Or.inr ⟨h.symm, rfl⟩)
    · simp only [Bool.not_true, Bool.false_eq_true, ↓reduceIte] at h
      rcases C20_execute_untimed_never_expiry a1 true fin ps dh r hnd hmono h with h1 | ⟨h1, _⟩ | ⟨_, h2⟩
      · exact Or.inl h1
      · exact Or.inr (Or.inl h1)
      · simp at h2

/-- the passes an infinite environment provides up to (not including) pass `n` -/
def prefixOf (env : Nat → Pass) (n : Nat) : List Pass := (List.range n).map env

private theorem waitFor_append_some (fin : Fin) (xs ys : List Pass) (r : Res) (h : waitFor fin xs = some r) :
    waitFor fin (xs ++ ys) = some r := by
  induction xs with
  | nil => simp [waitFor] at h
  | cons x rest ih =>
    simp only [List.cons_append, waitFor] at h ⊢
    cases hx : passStep fin x with
    | some r' => rw [hx] at h; exact h
    | none => rw [hx] at h; exact ih h

private theorem waitFor_append_ends (fin : Fin) (xs : List Pass) (p : Pass) (h : p.ends = true) :
    ∃ r, waitFor fin (xs ++ [p]) = some r := by
  induction xs with
  | nil =>
    have := C20_wait_continues_iff fin p
    rw [h] at this
    cases hp : passStep fin p with
    | none => rw [hp] at this; simp at this
    | some r => exact ⟨r, by simp [waitFor, hp]⟩
  | cons x rest ih =>
    simp only [List.cons_append, waitFor]
    cases passStep fin x with
    | some r => exact ⟨r, rfl⟩
    | none => exact ih

/-- **Never blocks for ever.** Take any infinite environment.  If in some pass `k` the future completes, or is found done,
    or the deadline is found reached, or the thread is found dead while the future is pending, then `_wait_for` has returned
    or raised after at most `k + 1` passes.  (That one of these eventually happens is what the transition system proves of the
    loop thread: `C20_no_hang` — a coroutine handed to the loop is run, or the thread exits.) -/
theorem C20_wait_terminates (fin : Fin) (env : Nat → Pass) (k : Nat) (h : (env k).ends = true) :
    ∃ r, waitFor fin (prefixOf env (k + 1)) = some r ∧ ∀ n, k + 1 ≤ n → waitFor fin (prefixOf env n) = some r := by
  have hk : prefixOf env (k + 1) = prefixOf env k ++ [env k] := by
    simp [prefixOf, List.range_succ]
  obtain ⟨r, hr⟩ := waitFor_append_ends fin (prefixOf env k) (env k) h
  refine ⟨r, by rw [hk]; exact hr, ?_⟩
  intro n hn
  obtain ⟨m, rfl⟩ : ∃ m, n = (k + 1) + m := ⟨n - (k + 1), by omega⟩
  have hr' : List.range (k + 1 + m) = List.range (k + 1) ++ List.range' (k + 1) m := by
    rw [List.range_eq_range', List.range_eq_range']
    have := List.range'_append_1 (s := 0) (m := k + 1) (n := m)
    simpa using this.symm
  have : prefixOf env (k + 1 + m) = prefixOf env (k + 1) ++ (List.range' (k + 1) m).map env := by
    simp only [prefixOf, hr', List.map_append]
  rw [this]
  exact waitFor_append_some fin _ _ r (by rw [hk]; exact hr)

/-! ### non-vacuity — the call of the seeded change's demonstration:
    `bridge.execute(asyncio.wait_for(session.receive_msg(), 0.3))`, the peer stays silent: six slices expire, in the seventh
    the coroutine has ended with its own TimeoutError -/

private def quietPass : Pass := { completes := false, doneAtCheck := false, deadline := false, alive := true, doneAtCheck2 := false }
private def donePass : Pass := { completes := true, doneAtCheck := true, deadline := false, alive := true, doneAtCheck2 := true }
private def racePass : Pass := { completes := false, doneAtCheck := true, deadline := false, alive := true, doneAtCheck2 := true }
private def deadPass : Pass := { completes := false, doneAtCheck := false, deadline := false, alive := false, doneAtCheck2 := false }

example : quietPass.quiet = true := by decide +kernel
example : execute true true (.raised .timeout) (List.replicate 6 quietPass ++ [donePass]) true = some (.raised .timeout) := by decide +kernel
example : passesUsed (.raised .timeout) (List.replicate 6 quietPass ++ [donePass, donePass, donePass]) = 7 := by decide +kernel
/-- … with 8 calls of `future.result`: seven sliced ones, and the one in the handler that re-raises the coroutine's own error -/
example : pollsUsed (.raised .timeout) (List.replicate 6 quietPass ++ [donePass, donePass, donePass]) = 8 := by decide +kernel
example : execute true true (.raised .eoq) [quietPass, donePass] true = some (.raised .eoq) := by decide +kernel
example : execute true true .returned [quietPass, donePass] true = some .returned := by decide +kernel
/-- the slice expired and the future completed before the check: the VALUE comes out (before ea90e75: the slice's TimeoutError) -/
example : execute true true .returned [quietPass, racePass] true = some .returned := by decide +kernel
example : execute true true (.raised .eoq) [quietPass, racePass] true = some (.raised .eoq) := by decide +kernel
/-- the loop stopped under the call -/
example : execute true true (.raised .timeout) [quietPass, deadPass] false = some (.raised .state) := by decide +kernel
/-- caller-side timeout: the future is cancelled, a fresh TimeoutError -/
example : execute true true (.raised .value) [quietPass, { quietPass with deadline := true }] false = some (.raised .expiry) := by decide +kernel
example : waitFor (.raised .timeout) (List.replicate 50 quietPass) = none := by decide +kernel

end NasdaqModel.Props.C20Raise
