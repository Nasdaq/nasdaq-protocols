import NasdaqModel.Lemmas.PyLemmas
import NasdaqModel.Extracted.PyTable
/-
The Python semantics layer (`NasdaqModel/Py`) pinned to the running interpreter on whole finite tables.

The models take `str.strip()`, `bytes.strip(b' \x00')`, `int(bytes)` and `int(str)` as given.  `Extracted/PyTable.lean` is regenerated from the
interpreter the library runs on, on every run of `./check C12` (harness/extract_c12.py): the complete set of code points with
`chr(c).isspace()`, and the outcome of the four functions on every word up to length 2 (3 for smaller alphabets) over alphabets that
contain every character class the models distinguish (digits, signs, each ASCII blank, NUL, `_`, letters, `.`, U+001C..U+001F, U+0085,
U+00A0, DEL).  The theorems say the Lean definitions agree with the interpreter on EVERY row (kernel evaluation, no sampling), and that
`isSpace` is exactly the interpreter's whitespace set for every natural number.
-/
namespace NasdaqModel.Props.C12Py
open NasdaqModel Py

def optOf : Except Err Int → Option Int
  | .ok v => some v
  | .error _ => none

/-- **`int(bytes)`** -/
theorem C12_py_int_bytes_table : Extracted.pyIntBytesTable.all (fun r => optOf (parseIntBytes r.1) == r.2) = true := by decide +kernel

/-- **`int(str)` on ASCII text** (the whitespace `int()` skips there is TAB..CR and space — not U+001C..U+001F, which `str.strip()` removes) -/
theorem C12_py_int_str_table : Extracted.pyIntStrTable.all (fun r => optOf (parseIntWith isAsciiSpace r.1) == r.2) = true := by
  decide +kernel

/-- **`str.strip()`** -/
theorem C12_py_strip_table : Extracted.pyStripTable.all (fun r => strip r.1 == r.2) = true := by decide +kernel

/-- **`bytes.strip(b' \x00')`** -/
theorem C12_py_strip_spnul_table : Extracted.pyStripSpNulTable.all (fun r => stripSpNul r.1 == r.2) = true := by decide +kernel

/-- **`isSpace` is exactly `str.isspace`**, for every code point (and every natural number): the model's predicate holds of `c` iff `c` is in
    the set extracted from the interpreter. -/
theorem C12_py_isspace_exact (c : Nat) : isSpace c = Extracted.pyWhitespace.contains c := by
  rw [isSpace_eq_contains, show Extracted.pyWhitespace = spaceCodes by decide]

example : optOf (parseIntBytes [32, 45, 49, 95, 50, 10]) = some (-12) := by decide   -- int(b' -1_2\n')

end NasdaqModel.Props.C12Py
