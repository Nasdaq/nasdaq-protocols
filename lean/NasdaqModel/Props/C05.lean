import NasdaqModel.Lemmas.MonitorLemmas
import NasdaqModel.Lemmas.SessionLemmas4
/-
C05 — every way of ending a session closes it once, completely, without error.

Theorems about `Model/Session.lean` (the task-level session machine) for **every** configuration and **every**
event sequence: any interleaving of task steps, inbound frames, disconnects, user calls and cancellations.
-/
namespace NasdaqModel.Props.C05
open NasdaqModel Sess

abbrev reach (cfg : Cfg) (evs : List Ev) : St := runEvs cfg {} evs

/-- **The close sequence.** In every reachable state the observable trace is accepted by the close-sequence
    monitor: transport closed at most once, then the close callback entered at most once, then left at most
    once, and no message callback started after the transport was closed. -/
theorem C05_close_sequence (cfg : Cfg) (evs : List Ev) : monRun (reach cfg evs).trace ≠ 9 :=
  (runEvs_InvA cfg evs).accepted

/-- **At most once.** The transport is closed, and the user's close callback is entered and left, at most once —
    whatever combination and repetition of close triggers occurs. -/
theorem C05_cb_at_most_once (cfg : Cfg) (evs : List Ev) :
    (reach cfg evs).trace.count .tclose ≤ 1 ∧ (reach cfg evs).trace.count .cbEnter ≤ 1 ∧
    (reach cfg evs).trace.count .cbExit ≤ 1 := by
  have h := C05_close_sequence cfg evs
  exact ⟨(count_phaseObs (k := 0) (by omega) _ 0 h).1 (by omega), (count_phaseObs (k := 1) (by omega) _ 0 h).1 (by omega),
    (count_phaseObs (k := 2) (by omega) _ 0 h).1 (by omega)⟩

/-- **Transport first.** Whenever the close callback is entered, the transport has already been closed. -/
theorem C05_transport_closed_before_callback (cfg : Cfg) (evs : List Ev) (l1 l2 : List Obs)
    (e : (reach cfg evs).trace = l1 ++ Obs.cbEnter :: l2) : Obs.tclose ∈ l1 :=
  phaseObs_before (k := 0) (by omega) _ l1 l2 (C05_close_sequence cfg evs) e

/-- **Callback returns after it was entered.** -/
theorem C05_callback_exit_after_enter (cfg : Cfg) (evs : List Ev) (l1 l2 : List Obs)
    (e : (reach cfg evs).trace = l1 ++ Obs.cbExit :: l2) : Obs.cbEnter ∈ l1 :=
  phaseObs_before (k := 1) (by omega) _ l1 l2 (C05_close_sequence cfg evs) e

/-- **After the last message callback.** No message callback is started once the transport is closed; in particular
    none is started after the close callback was entered. -/
theorem C05_no_message_callback_after_close (cfg : Cfg) (evs : List Ev) (l1 l2 : List Obs) (n : Nat)
    (e : (reach cfg evs).trace = l1 ++ Obs.msgEnter n :: l2) : Obs.tclose ∉ l1 ∧ Obs.cbEnter ∉ l1 :=
  no_msgEnter_after_tclose _ l1 l2 n (C05_close_sequence cfg evs) e

/-- **Reports closed** exactly when the close body has been entered. -/
theorem C05_is_closed_iff (cfg : Cfg) (evs : List Ev) :
    (reach cfg evs).closed = true ↔ (reach cfg evs).cstage ≠ .idle :=
  (runEvs_InvA cfg evs).closed_iff

/-- **Completely, exactly once.** When the close has run to its end, the transport was closed exactly once and the
    close callback (if one is configured) was entered and left exactly once. -/
theorem C05_completed_exactly_once (cfg : Cfg) (evs : List Ev) (h : (reach cfg evs).cstage = .finished) :
    (reach cfg evs).closed = true ∧ Obs.tclose ∈ (reach cfg evs).trace ∧
    (reach cfg evs).trace.count .tclose ≤ 1 ∧
    (cfg.hasCb = true → Obs.cbEnter ∈ (reach cfg evs).trace ∧ Obs.cbExit ∈ (reach cfg evs).trace) := by
  have i := runEvs_InvA cfg evs
  have hph : monRun (reach cfg evs).trace = (if cfg.hasCb then 3 else 1) := by rw [i.phase, h]; rfl
  have h9 := C05_close_sequence cfg evs
  refine ⟨i.closed_iff.mpr (by rw [h]; simp), ?_, (C05_cb_at_most_once cfg evs).1, ?_⟩
  · apply tclose_mem_of_phase _ h9
    show 1 ≤ monRun _
    rw [hph]; split <;> omega
  · intro hcb
    have h3 : monRun (reach cfg evs).trace = 3 := by rw [hph, hcb]; rfl
    exact ⟨mem_phaseObs (k := 1) _ 0 (by omega) h9 (by show 1 < monRun _; omega),
      mem_phaseObs (k := 2) _ 0 (by omega) h9 (by show 2 < monRun _; omega)⟩

/-- **Closing twice is harmless.** On a closed session a further `close()` returns at once, with no other effect on
    what can be observed. -/
theorem C05_close_idempotent (cfg : Cfg) (s : St) (u : Nat) (hc : s.closed = true) (hu : s.status (.U u) = .absent) :
    (step cfg s (.callClose u)).trace = s.trace ++ [.ret u .ok] ∧
    (step cfg s (.callClose u)).cstage = s.cstage := by
  simp [step, hu, enterClose, hc, St.setStatus, St.setProg, runCont, St.emit, St.finish, CRes.toRes]

/-- **The close never deadlocks.** In every reachable state in which the session reports closed but the close has not
    run to its end, a definite task can take the next step of the close: the closer itself, or the (cancelled, hence
    runnable) task the closer is awaiting at that moment. Together with the stage counter (at most six stages, each awaited
    task ends in one step) this is the "never blocks forever" clause, for every interleaving and every trigger combination. -/
theorem C05_close_never_deadlocks (cfg : Cfg) (evs : List Ev) (hc : (reach cfg evs).closed = true)
    (hf : (reach cfg evs).cstage ≠ .finished) (ha : (reach cfg evs).cstage ≠ .aborted) :
    ∃ t, runnable (reach cfg evs) t = true ∧
      (isCloser (reach cfg evs) t ∨ ∃ t', isCloser (reach cfg evs) t' ∧ (reach cfg evs).status t' = .waitT t) := by
  have h3 : InvA cfg (reach cfg evs) ∧ InvR (reach cfg evs) ∧ InvB (reach cfg evs) := runEvs_InvARB cfg evs
  generalize reach cfg evs = s at *
  obtain ⟨a, _, b⟩ := h3
  have hne : s.cstage ≠ .idle := a.closed_iff.mp hc
  cases hs : s.cstage with
  | idle => exact absurd hs hne
  | finished => exact absurd hs hf
  | aborted => exact absurd hs ha
  | body t pc c =>
    obtain ⟨_, _, _, hal, hnq, _⟩ := b.bst t pc c hs
    cases hst : s.status t with
    | absent => rw [hst] at hal; simp [alive] at hal
    | done => rw [hst] at hal; simp [alive] at hal
    | waitQ => exact absurd hst hnq
    | ready => exact ⟨t, by simp [runnable, hst], Or.inl (Or.inl ⟨pc, c, hs⟩)⟩
    | cancelled => exact ⟨t, by simp [runnable, hst], Or.inl (Or.inl ⟨pc, c, hs⟩)⟩
    | waitT x =>
      have := (b.bwait t pc c x hs hst).2
      exact ⟨x, by simp [runnable, this], Or.inr ⟨t, Or.inl ⟨pc, c, hs⟩, hst⟩⟩
  | cb t k c =>
    obtain ⟨_, hst, _⟩ := b.cb t k c hs
    refine ⟨t, ?_, Or.inl (Or.inr ⟨k, c, hs⟩)⟩
    rcases hst with h | h <;> simp [runnable, h]

/-- **Completion is final**: once the close callback has returned, no event changes that. -/
theorem C05_finished_is_final (cfg : Cfg) (evs : List Ev) (ev : Ev) (h : (reach cfg evs).cstage = .finished) :
    (reach cfg (evs ++ [ev])).cstage = .finished := by
  have hc : (reach cfg evs).closed = true := (runEvs_InvA cfg evs).closed_iff.mpr (by rw [h]; simp)
  rw [show reach cfg (evs ++ [ev]) = step cfg (reach cfg evs) ev from runEvs_snoc cfg {} evs ev]
  exact step_finished_final cfg _ ev hc h

/-! ### non-vacuity: concrete lifetimes -/

private def cfg1 : Cfg :=
  { msgBeh := fun _ => .ret, cbBeh := .await 1, hasCb := true, dispatchOnConnect := true, hasMsgCb := true, fixLogin := false }

/-- peer logout while the dispatcher is idle: reader closes; callback awaits twice -/
example : (reach cfg1 [.connect, .run .D, .data [.msg 3, .logout], .run .R, .run .D, .run .D, .run .R, .run .D, .run .R,
    .run .R, .run .R]).trace =
    [.msgEnter 3, .msgExit 3, .tclose, .cbEnter, .cbExit] := by decide

example : (reach cfg1 [.connect, .run .D, .data [.msg 3, .logout], .run .R, .run .D, .run .D, .run .R, .run .D, .run .R,
    .run .R, .run .R]).cstage = .finished := by decide

/-- two competing closes: user `close()` and a peer disconnect -/
example : (reach cfg1 [.connect, .callClose 1, .eof, .run .D, .run (.U 1), .run .R, .run (.U 1), .run (.U 1), .run (.U 1)]).trace =
    [.tclose, .cbEnter, .cbExit, .ret 1 .ok] := by decide

end NasdaqModel.Props.C05
