import NasdaqModel.Lemmas.AppSessionLink
import NasdaqModel.Props.C05App
import NasdaqModel.Witness.C05App
/-
C05, application sessions — the link between the second dispatcher and its inner stand-in (the repair of
C05-app-close-from-message-callback, /repo 4b4f253).

Since the repair a `close()` awaited from the application-level message callback is carried out by the calling task, the second
dispatcher `D2`; in the inner machine that task is the reserved user task `U d2u`, and while `D2` has the status `inSoup` the product
event `run D2` is the inner event `run (U d2u)` (`Model/AppSession.lean`).  `Props/C05App.lean` proves that the close never
deadlocks by naming a definite *inner* task that can take the next step.  Here: the product machine can schedule that task when
it is `U d2u`: the user's inner events naming
`U d2u` are refused, so the only event that runs it is `run D2`, and only while `D2` is `inSoup`.

* `C05AppLink_closer_is_inSoup`: in every reachable product state (every configuration, every event list) in which `U d2u` is the
  closer of the soup session, `D2` is `inSoup` inside a message callback's `close()`, and the close event exists.
* `C05AppLink_reserved_task`: the inner task `U d2u` exists only as that closer, or after the close has ended.
* `C05AppLink_close_progress`: `C05App_close_never_deadlocks` read as progress of the product: the task it names is scheduled by a
  product event `run …`, which takes exactly the step named.

The invariant is `Lemmas/AppSessionLink.lean` (`InvL`, `step_InvL`); the inner lemmas are `Lemmas/AppSessionLinkInner.lean`
(`Sess.step_absent`: the inner machine never creates a user task on its own; `Sess.step_closerOrFinal`: the closer stays the closer
until the close ends).
-/
namespace NasdaqModel.Props.C05AppLink
open NasdaqModel App

abbrev reach (a : ACfg) (evs : List Ev) : St := runEvs a {} evs

/-- **The dispatcher's stand-in exists only as the closer.** In every reachable state the reserved inner task `U d2u` has never been
    created, or the second dispatcher is inside `soup_session.close()` (`inSoup`), the close event exists and `U d2u` is the closer
    of the soup session, or the close of the soup session has ended. -/
theorem C05AppLink_reserved_task (a : ACfg) (evs : List Ev) :
    (reach a evs).inner.status (.U d2u) = .absent ∨
    ((reach a evs).astatus .D2 = .inSoup ∧ (reach a evs).evt ≠ none ∧ Sess.isCloser (reach a evs).inner (.U d2u)) ∨
    ((reach a evs).inner.cstage = .finished ∨ (reach a evs).inner.cstage = .aborted) :=
  (runEvs_InvL a evs).link

/-- **The missing link.** In every reachable state of the product machine — every configuration, every event list — in which the
    reserved inner task `U d2u` is the closer of the soup session, the second dispatcher has the status `inSoup` (so `run D2` is
    the inner event `run (U d2u)`, `C05App_dispatcher_closer_step`), it is inside the `close()` of a message callback (body or
    cancellation clean-up), the close event exists, and the inner task is alive inside the close body. -/
theorem C05AppLink_closer_is_inSoup (a : ACfg) (evs : List Ev) (h : Sess.isCloser (reach a evs).inner (.U d2u)) :
    (reach a evs).astatus .D2 = .inSoup ∧ (reach a evs).evt ≠ none ∧
    ((∃ v, (reach a evs).aprog .D2 = .handlerClose v) ∨ ∃ v, (reach a evs).aprog .D2 = .cleanupClose v) ∧
    Sess.alive ((reach a evs).inner.status (.U d2u)) = true ∧ (reach a evs).inner.prog (.U d2u) = .inClose := by
  have i := runEvs_InvL a evs
  obtain ⟨_, _, ib⟩ := i.reach.invs
  have hal := ib.closer_alive h
  have hprog : (reach a evs).inner.prog (.U d2u) = .inClose := by
    rcases h with ⟨pc, c, hs⟩ | ⟨k, c, hs⟩
    · exact (ib.bst _ pc c hs).1
    · exact (ib.cb _ k c hs).1
  rcases i.link with h0 | ⟨h1, h2, _⟩ | hf
  · have h0' : (reach a evs).inner.status (.U d2u) = .absent := h0
    rw [h0'] at hal; cases hal
  · exact ⟨h1, h2, ((runEvs_Inv a evs).ss.ip .D2 h1).2, hal, hprog⟩
  · exact absurd hf (Sess.isCloser_not_final h)

/-- the converse direction the progress theorem uses: an inner task `U d2u` that can run is the dispatcher inside
    `soup_session.close()`, unless the close has ended -/
theorem C05AppLink_runnable_is_inSoup (a : ACfg) (evs : List Ev) (h : Sess.runnable (reach a evs).inner (.U d2u) = true)
    (hf : (reach a evs).inner.cstage ≠ .finished) (ha : (reach a evs).inner.cstage ≠ .aborted) :
    (reach a evs).astatus .D2 = .inSoup ∧ Sess.isCloser (reach a evs).inner (.U d2u) := by
  rcases C05AppLink_reserved_task a evs with h0 | ⟨h1, _, h3⟩ | hfin
  · rw [Sess.runnable, h0] at h; simp at h
  · exact ⟨h1, h3⟩
  · rcases hfin with h' | h'
    · exact absurd h' hf
    · exact absurd h' ha

/-- **The close makes progress in the product machine.** In every reachable state in which the soup session reports closed and
    its close has not run to its end (the code as it is, `closedFirst`): some product event `run …` is enabled and takes the step
    that `C05App_close_never_deadlocks` names —
    * the inner task `t` (the closer, or the cancelled task the closer awaits) is not the reserved one: the event `inner (run t)`
      is not refused and is the product step of `t`;
    * `t` is the reserved task `U d2u`: then the dispatcher is `inSoup` and the event `run D2` is the product step of `U d2u`;
    * the closer awaits the second dispatcher / the receive helper inside `queue.stop()`: that task is runnable and `run D2` /
      `run V2` is its step. -/
theorem C05AppLink_close_progress (a : ACfg) (evs : List Ev) (hcf : a.closedFirst = true)
    (hc : (reach a evs).inner.closed = true) (hf : (reach a evs).inner.cstage ≠ .finished)
    (ha : (reach a evs).inner.cstage ≠ .aborted) :
    (∃ t, runnableI (reach a evs) t = true ∧
      (Sess.isCloser (reach a evs).inner t ∨
        ∃ t', Sess.isCloser (reach a evs).inner t' ∧ (reach a evs).inner.status t' = .waitT t) ∧
      ((t ≠ .U d2u ∧ step a (reach a evs) (.inner (.run t)) = stepInner a (reach a evs) (.run t)) ∨
       (t = .U d2u ∧ (reach a evs).astatus .D2 = .inSoup ∧ Sess.isCloser (reach a evs).inner (.U d2u) ∧
         step a (reach a evs) (.run .D2) = stepInner a { (reach a evs) with imm2 := false } (.run (.U d2u))))) ∨
    ((reach a evs).cpc = .waitD2 ∧ runnable2 (reach a evs) .D2 = true ∧
      step a (reach a evs) (.run .D2) = stepRun2 a (reach a evs) .D2) ∨
    ((reach a evs).cpc = .waitV2 ∧ runnable2 (reach a evs) .V2 = true ∧
      step a (reach a evs) (.run .V2) = stepRun2 a (reach a evs) .V2) := by
  rcases C05App.C05App_close_never_deadlocks a evs hcf hc hf ha with ⟨t, hrun, hrole⟩ | ⟨h1, h2⟩ | ⟨h1, h2⟩
  · refine Or.inl ⟨t, hrun, hrole, ?_⟩
    by_cases ht : t = .U d2u
    · subst ht
      have hr : Sess.runnable (reach a evs).inner (.U d2u) = true := by
        unfold runnableI at hrun
        simp only [Bool.and_eq_true] at hrun
        exact hrun.1
      obtain ⟨hD, hcz⟩ := C05AppLink_runnable_is_inSoup a evs hr hf ha
      exact Or.inr ⟨rfl, hD, hcz, (C05App.C05App_dispatcher_closer_step a _ hD).1⟩
    · refine Or.inl ⟨ht, ?_⟩
      have hres : reservedEv (.run t) = false := by
        cases t with
        | U u =>
          have : u ≠ d2u := fun e => ht (by rw [e])
          simp [reservedEv, this]
        | _ => rfl
      simp [step, hres]
  · exact Or.inr (Or.inl ⟨h1, h2, by simp [step, h2]⟩)
  · exact Or.inr (Or.inr ⟨h1, h2, by simp [step, h2]⟩)

/-! ### non-vacuity: the recorded close-from-handler history (`Witness/C05App.lean`, `historyA`) -/

open Witness.C05App

set_option maxRecDepth 100000 in
/-- before the callback calls `close()` the reserved inner task does not exist -/
example : (reach cfgA (historyA.take 15)).inner.status (.U d2u) = .absent ∧ (reach cfgA (historyA.take 15)).evt = none ∧
    (reach cfgA (historyA.take 15)).astatus .D2 = .ready := by decide +kernel

set_option maxRecDepth 100000 in
/-- the step in which the callback for 3 awaits `close()`: `U d2u` is the closer (the hypothesis of `C05AppLink_closer_is_inSoup` is
    satisfiable), the dispatcher is `inSoup`; the closer awaits the cancelled inner dispatcher `D`, which is not the reserved
    task: the event `inner (run D)` takes the next step of the close (first case of `C05AppLink_close_progress`) -/
example : (reach cfgA (historyA.take 16)).inner.cstage = .body (.U d2u) 1 (.userTail d2u .ok) ∧
    (reach cfgA (historyA.take 16)).astatus .D2 = .inSoup ∧ (reach cfgA (historyA.take 16)).evt = some false ∧
    (reach cfgA (historyA.take 16)).aprog .D2 = .handlerClose 3 ∧
    (reach cfgA (historyA.take 16)).inner.status (.U d2u) = .waitT .D ∧
    (reach cfgA (historyA.take 16)).inner.prog (.U d2u) = .inClose ∧
    runnableI (reach cfgA (historyA.take 16)) .D = true ∧ runnableI (reach cfgA (historyA.take 16)) (.U d2u) = false := by decide +kernel

example : Sess.isCloser (reach cfgA (historyA.take 16)).inner (.U d2u) :=
  Or.inl ⟨1, .userTail d2u .ok, by
    have h : (reach cfgA (historyA.take 16)).inner.cstage = .body (.U d2u) 1 (.userTail d2u .ok) := by
      set_option maxRecDepth 100000 in decide +kernel
    exact h⟩

set_option maxRecDepth 100000 in
/-- one step later the task that can take the next step of the close is the reserved one (second case of
    `C05AppLink_close_progress`): the dispatcher is `inSoup`, the user's inner event naming `U d2u` is refused, and `run D2` moves the
    close body on (it stops the receive helper — not alive — and suspends on the local monitor: stage 3) -/
example : runnableI (reach cfgA (historyA.take 17)) (.U d2u) = true ∧
    (reach cfgA (historyA.take 17)).inner.cstage = .body (.U d2u) 1 (.userTail d2u .ok) ∧
    (reach cfgA (historyA.take 17)).astatus .D2 = .inSoup ∧
    (step cfgA (reach cfgA (historyA.take 17)) (.inner (.run (.U d2u)))).inner.cstage = .body (.U d2u) 1 (.userTail d2u .ok) ∧
    (step cfgA (reach cfgA (historyA.take 17)) (.run .D2)).inner.cstage = .body (.U d2u) 3 (.userTail d2u .ok) ∧
    (step cfgA (reach cfgA (historyA.take 17)) (.run .D2)).astatus .D2 = .inSoup := by decide +kernel

set_option maxRecDepth 100000 in
/-- the last step of the history: `run D2` ends the close body, runs `_on_soup_close` and returns into the callback — the close has
    ended (third alternative of `C05AppLink_reserved_task`), the dispatcher and its stand-in have ended -/
example : (reach cfgA (historyA.take 23)).inner.cstage = .body (.U d2u) 5 (.userTail d2u .ok) ∧
    runnableI (reach cfgA (historyA.take 23)) (.U d2u) = true ∧ (reach cfgA (historyA.take 23)).astatus .D2 = .inSoup ∧
    (reach cfgA historyA).inner.cstage = .finished ∧ (reach cfgA historyA).astatus .D2 = .done ∧
    (reach cfgA historyA).inner.status (.U d2u) = .done := by decide +kernel

end NasdaqModel.Props.C05AppLink
