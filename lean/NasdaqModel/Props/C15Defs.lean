import NasdaqModel.Props.C15
import NasdaqModel.Witness.C15Defs
/-
C15 — "def-references with and without renaming": a reference defines nothing.

`<field def="X"/>` and `<field name="Y" def="X"/>` stand for a copy of the reusable definition X (under the name Y).  The
table of reusable definitions is the `fielddef-root` section and nothing else: no reference adds to it, replaces an entry
of it or removes one, so what a `<field def="Y"/>` means does not depend on what stands before it in the file — in
particular not on an earlier reference that was renamed to `Y`.

How the model says this.  `GenSoupApp.parse` computes the table once (`parseFieldDefs s.fielddefs`) and hands that value
to every record and message, so "a reference leaves the table unchanged" is true of it BY CONSTRUCTION and cannot even
be stated about it.  `Witness/C15Defs.lean` therefore gives the parser with the table threaded through the file in
document order, generic in what a resolved reference does to the table (`Reg`).  Here: the theorems for the library's
policy `regNone`, and what a field means on the side of the specification and of the generated module (`meaningOf`).

The registering variant (`regRename`, a seeded change) is refuted on concrete well-formed specifications in
`Witness/C15Defs.lean`.
-/
namespace NasdaqModel.Props.C15Defs
open NasdaqModel GenSoupApp
open NasdaqModel.Witness.C15Defs (Reg regNone regRename parseFieldT parseFieldsT parseRecordsT parseMessagesT parseT genT)

/-- type and default of a `<field>` of a record or message.  For a reference: those of the definition of that name in the
    `fielddef-root` section — neither the reference's own `name` nor anything outside that section is looked at. -/
def meaningOf (s : Spec) (f0 : FieldEl) : Option (Ty × Option DVal) :=
  match f0.defn with
  | none => (denoteResolved s f0).toOption.map fun x => (x.ty, x.dflt)
  | some d =>
    match findDef? s d with
    | none => none
    | some base => (denoteResolved s base).toOption.map fun x => (x.ty, x.dflt)

private theorem mapE_append {α β : Type} (f : α → Except Err β) :
    ∀ (l l' : List α), mapE f (l ++ l') = (mapE f l >>= fun a => mapE f l' >>= fun b => pure (a ++ b))
  | [], l' => by
      simp only [List.nil_append, mapE, ok_bind, bind_pure]
  | x :: xs, l' => by
      simp only [List.cons_append, mapE, mapE_append f xs l', bind_assoc, pure_bind]

/-- **A reference leaves the table unchanged.**  One `<field>` element against any table: what it parses to is the
    model's `parseField`, and the table it leaves is the table it found. -/
theorem C15Defs_reference_leaves_table (defs : FieldDefs) (e : FieldEl) :
    parseFieldT regNone defs e = (parseField defs e >>= fun f => pure (f, defs)) := by
  unfold parseFieldT parseField regNone
  cases e.defn with
  | none => simp only [ok_bind, pure_eq_ok]
  | some d =>
    simp only
    split
    · simp only [ok_bind, pure_eq_ok]
    · cases dictGet? defs (some d) with
      | none => simp only [err_bind]
      | some fd => simp only [ok_bind, pure_eq_ok]

/-- **A list of references leaves the table unchanged**: the elements of one record / message, in order. -/
theorem C15Defs_fields_leave_table (defs : FieldDefs) :
    ∀ es : List FieldEl, parseFieldsT regNone defs es = (parseFields defs es >>= fun fs => pure (fs, defs))
  | [] => by simp only [parseFieldsT, parseFields, mapE, ok_bind, pure_eq_ok]
  | e :: es => by
      have ih := C15Defs_fields_leave_table defs es
      simp only [parseFields] at ih
      simp only [parseFieldsT, parseFields, mapE, C15Defs_reference_leaves_table]
      cases parseField defs e with
      | error x => simp only [err_bind]
      | ok f =>
        simp only [ok_bind, pure_eq_ok, ih]
        cases mapE (parseField defs) es with
        | error x => simp only [err_bind]
        | ok fs => simp only [ok_bind]

/-- as an implication: the table that comes out is the table that went in, and the fields are the model's, whatever the
    elements -/
theorem C15Defs_fields_table_unchanged {defs t : FieldDefs} {es : List FieldEl} {fs : List FieldDef}
    (h : parseFieldsT regNone defs es = .ok (fs, t)) : t = defs ∧ parseFields defs es = .ok fs := by
  rw [C15Defs_fields_leave_table] at h
  obtain ⟨_, hp, h⟩ := bind_ok_inv h
  cases h
  exact ⟨rfl, hp⟩

/-- **Elements standing before do not matter.**  A list of elements behind any other elements `pre` (references renamed
    to whatever name included) parses to what it parses to alone; `pre` contributes its own fields in front. -/
theorem C15Defs_elements_before_irrelevant (defs : FieldDefs) (pre es : List FieldEl) :
    parseFieldsT regNone defs (pre ++ es)
      = (parseFieldsT regNone defs pre >>= fun a => parseFieldsT regNone defs es >>= fun b => pure (a.1 ++ b.1, defs)) := by
  simp only [C15Defs_fields_leave_table, parseFields, mapE_append, bind_assoc, pure_bind]

/-- one `<record>` against a table (the body of the loop in `parse`) -/
private def recOf (defs : FieldDefs) (r : RecordEl) : Except Err (Str × RecordDef) :=
  parseFields defs r.fields >>= fun fs => pure (r.name, (⟨r.name, fs⟩ : RecordDef))

private theorem records_leave_table (defs : FieldDefs) :
    ∀ rs : List RecordEl, parseRecordsT regNone defs rs = (mapE (recOf defs) rs >>= fun out => pure (out, defs))
  | [] => by simp only [parseRecordsT, mapE, ok_bind, pure_eq_ok]
  | r :: rs => by
      simp only [parseRecordsT, mapE, recOf, C15Defs_fields_leave_table]
      cases parseFields defs r.fields with
      | error x => simp only [err_bind]
      | ok fs =>
        simp only [ok_bind, pure_eq_ok, records_leave_table defs rs]
        cases hm : mapE (recOf defs) rs with
        | error x => simp only [err_bind]
        | ok out => simp only [ok_bind]

private theorem parse_eq (override : Bool) (s : Spec) :
    parse override s = (parseFieldDefs s.fielddefs >>= fun defs => mapE (recOf defs) s.records >>= fun recs =>
      parseMessages defs override [] s.messages >>= fun msgs =>
        pure ⟨dictOfList (s.enums.map fun e => (e.name, e)), dictOfList recs, msgs.map (·.2)⟩) := rfl

private theorem messages_leave_table (defs : FieldDefs) (override : Bool) :
    ∀ (es : List MessageEl) (acc : List (Str × MessageDef)), parseMessagesT regNone override defs acc es
      = (parseMessages defs override acc es >>= fun out => pure (out, defs))
  | [], acc => by simp only [parseMessagesT, parseMessages, ok_bind, pure_eq_ok]
  | e :: es, acc => by
      simp only [parseMessagesT, parseMessages, C15Defs_fields_leave_table]
      cases parseFields defs e.fields with
      | error x => simp only [err_bind]
      | ok fs =>
        simp only [ok_bind, pure_eq_ok]
        cases convertMsgId e.msgId with
        | error x => simp only [err_bind]
        | ok id =>
          simp only [ok_bind]
          split
          · simp only [err_bind]
          · exact messages_leave_table defs override es _

private theorem parseT_regNone (override : Bool) (s : Spec) :
    parseT regNone override s
      = (parseFieldDefs s.fielddefs >>= fun t => parse override s >>= fun d => pure (d, t)) := by
  rw [parse_eq]
  unfold parseT
  cases parseFieldDefs s.fielddefs with
  | error x => simp only [err_bind]
  | ok defs =>
    simp only [ok_bind, records_leave_table]
    cases mapE (recOf defs) s.records with
    | error x => simp only [err_bind]
    | ok recs =>
      simp only [ok_bind, pure_eq_ok, messages_leave_table]
      cases parseMessages defs override [] s.messages with
      | error x => simp only [err_bind]
      | ok msgs => simp only [ok_bind]

/-- **The threaded parser is the model's parser**: same definitions, same failure. -/
theorem C15Defs_threaded_parse (override : Bool) (s : Spec) :
    (parseT regNone override s >>= fun r => pure r.1) = parse override s := by
  rw [parseT_regNone, parse_eq]
  cases parseFieldDefs s.fielddefs with
  | error x => rfl
  | ok defs =>
    simp only [ok_bind]
    generalize (mapE (recOf defs) s.records >>= _) = rest
    cases rest <;> rfl

/-- **The table at the end of the file is the table of the `fielddef-root` section** — after every record and every
    message, whatever references they hold. -/
theorem C15Defs_final_table {override : Bool} {s : Spec} {d : Definitions} {t : FieldDefs}
    (h : parseT regNone override s = .ok (d, t)) : parseFieldDefs s.fielddefs = .ok t := by
  rw [parseT_regNone] at h
  obtain ⟨t', ht', h⟩ := bind_ok_inv h
  obtain ⟨_, _, h⟩ := bind_ok_inv h
  cases h
  exact ht'

/-- the generator on top of the threaded parser is the model's generator, for every specification -/
theorem C15Defs_threaded_gen (impl : Impl) (app : Str) (override : Bool) (s : Spec) :
    genT regNone impl app override s = gen impl app override s := by
  unfold genT gen
  rw [← C15Defs_threaded_parse]
  cases parseT regNone override s with
  | error x => simp only [err_bind]
  | ok r => simp only [ok_bind, pure_eq_ok]

/-- the main theorem, for the generator on top of the threaded parser -/
theorem C15Defs_threaded_gen_denotes (impl : Impl) (app : Str) (override : Bool) (s : Spec) (h : wfSpec impl s = true) :
    (genT regNone impl app override s >>= evalModule) = denote impl s ∧ ∃ sch, denote impl s = .ok sch := by
  rw [C15Defs_threaded_gen]
  exact C15.C15_gen_denotes_eq impl app override s h

private theorem find_name_congr (n : Str) : ∀ (l l' : List RecordEl), l.map (·.name) = l'.map (·.name) →
    (l.find? fun r => r.name == n).map (·.name) = (l'.find? fun r => r.name == n).map (·.name)
  | [], [], _ => rfl
  | [], _ :: _, h => by cases h
  | _ :: _, [], h => by cases h
  | a :: l, b :: l', h => by
      simp only [List.map_cons, List.cons.injEq] at h
      obtain ⟨hab, hl⟩ := h
      simp only [List.find?_cons, hab]
      cases b.name == n with
      | true => simp only [Option.map_some, hab]
      | false => exact find_name_congr n l l' hl

/-- **The meaning of a `<field>` is local.**  Two specifications with the same enums, the same `fielddef-root` section
    and the same record names give every field element the same meaning — their records and messages may hold any
    fields at all: more, fewer or other renaming references, in any order, before or after this one. -/
theorem C15Defs_field_meaning_is_local {s s' : Spec} (he : s.enums = s'.enums) (hd : s.fielddefs = s'.fielddefs)
    (hr : s.records.map (·.name) = s'.records.map (·.name)) (f0 : FieldEl) :
    denoteField s f0 = denoteField s' f0 :=
  denoteField_congr (fun n => by unfold findEnum?; rw [he]) hd (fun n => find_name_congr n _ _ hr) f0

/-- in particular: replacing the field lists of all records and messages changes no field's meaning -/
theorem C15Defs_other_fields_irrelevant (s : Spec) (recFields : RecordEl → List FieldEl) (msgFields : MessageEl → List FieldEl)
    (f0 : FieldEl) :
    denoteField { s with records := s.records.map (fun r => { r with fields := recFields r }),
                         messages := s.messages.map (fun g => { g with fields := msgFields g }) } f0
      = denoteField s f0 :=
  C15Defs_field_meaning_is_local (s := { s with records := s.records.map (fun r => { r with fields := recFields r }),
                                                messages := s.messages.map (fun g => { g with fields := msgFields g }) })
    (s' := s) rfl rfl (by simp only [List.map_map, Function.comp_def]) f0

/-- **A field declared by reference has the type and default of the definition it names**: whenever the field has a
    meaning at all, its type and default are `meaningOf` — computed from the definition in the `fielddef-root` section
    without looking at the reference's name. -/
theorem C15Defs_reference_means_definition {s : Spec} (hw : wfFieldDefs s = true) {f0 : FieldEl} {x : FieldS}
    (h : denoteField s f0 = .ok x) : meaningOf s f0 = some (x.ty, x.dflt) := by
  unfold denoteField resolveDef at h
  unfold meaningOf
  cases hdn : f0.defn with
  | none =>
    rw [hdn] at h
    simp only at h ⊢
    rw [h]
    rfl
  | some d =>
    rw [hdn] at h
    simp only at h ⊢
    cases hf : findDef? s d with
    | none => rw [hf] at h; cases h
    | some base =>
      rw [hf] at h
      simp only at h ⊢
      -- the definition is named (`wfFieldDefs`)
      have hmem : base ∈ s.fielddefs := List.mem_of_find?_eq_some hf
      simp only [wfFieldDefs, Bool.and_eq_true, List.all_eq_true] at hw
      have hnm := (hw.1 base hmem).2
      obtain ⟨bn, hbn⟩ := Option.isSome_iff_exists.mp hnm
      obtain ⟨t, dom, h1, _, h3, h4⟩ := denoteResolved_ok_iff.mp h
      have hb : denoteResolved s base = .ok { x with name := bn } := denoteResolved_ok_iff.mpr ⟨t, dom, h1, hbn, h3, h4⟩
      rw [hb]
      rfl

/-- **Generated code.**  For every well-formed specification the generator succeeds, the module imports, and the type
    and the default of every field of every record class and every message class, position by position, are
    `meaningOf`: for a field declared by reference those of the definition of that name in the `fielddef-root` section,
    wherever the element stands and whatever stands before it. -/
theorem C15Defs_generated_fields_meaning (impl : Impl) (app : Str) (override : Bool) (s : Spec) (h : wfSpec impl s = true) :
    ∃ m sch, gen impl app override s = .ok m ∧ evalModule m = .ok sch
      ∧ sch.records.map (fun r => r.fields.map fun x => some (x.ty, x.dflt)) = s.records.map (fun r => r.fields.map (meaningOf s))
      ∧ sch.messages.map (fun g => g.fields.map fun x => some (x.ty, x.dflt)) = s.messages.map (fun g => g.fields.map (meaningOf s)) := by
  exact generated_fields app override h (fun x => some (x.ty, x.dflt)) (meaningOf s)
    (fun _ _ hx => (C15Defs_reference_means_definition (wfSpec_inv h).defs hx).symm)

open NasdaqModel.Witness.C15Defs (shadow shadowInRecord ack cancel reject refTo refAs) in
/-- the specifications of `Witness/C15Defs.lean` are well-formed; on `shadow` the field `id` declared by reference in
    `Reject` means 4 bytes although `Cancel` renames `orderId` (8 bytes) to `id` before it, and the threaded parser ends
    with the three definitions of the `fielddef-root` section -/
example : wfSpec .itch shadow = true ∧ wfSpec .sqf shadowInRecord = true
    ∧ meaningOf shadow (refTo "id") = some (.prim .uint4, none)
    ∧ meaningOf shadow (refAs "id" "orderId") = some (.prim .uint8, none)
    ∧ (∃ d t, parseT regNone true shadow = .ok (d, t) ∧ t.map (·.1) = [some (cp "orderId"), some (cp "id"), some (cp "quantity")])
    ∧ (∃ d t, parseT regRename true shadow = .ok (d, t)
        ∧ (dictGet? t (some (cp "id"))).map (·.ty) = some (some (cp "uint_8"))) := by
  decide +kernel

end NasdaqModel.Props.C15Defs
