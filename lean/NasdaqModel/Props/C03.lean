import NasdaqModel.Lemmas.FramingInstances
/-
C03 — stream framing is independent of TCP segmentation and timing.

Model: Model/Framing.lean (`Reader.on_data` / `_process` / `_process_1` / `stop`, `SoupMessageReader.deserialize`,
`FixMessageReader.deserialize`, `Message.get_msg_type`).  An event list `evs : List Ev` is an arbitrary interleaving of
`data seg` (one `on_data` call — any segmentation, including empty and one-byte segments and segments holding many messages)
and `tick` (one poll of the reader — any timing relative to the arrival of the segments).  All theorems quantify over *every*
event list; nothing bounds the number of messages, segments or polls.

Only property theorems and their non-vacuity examples live here; the proofs are in Lemmas/FramingLemmas.lean (generic
invariant) and Lemmas/FramingInstances.lean (the three framing facts for SoupBinTCP and FIX).
-/
namespace NasdaqModel.Props.C03
open NasdaqModel Py Framing Soup Spec.SoupLayout Props.C12

/-- the byte stream of a list of SoupBinTCP packets: their documented layouts, which (C12) is what `to_bytes` produces -/
def soupStream (ms : List Pkt) : Bytes := stream layout ms

def fixStream (fs : List Bytes) : Bytes := stream (fun f => f) fs

/-- the stream is made of the bytes the library writes for these packets (`C12_layout`, restated) -/
theorem C03_soup_stream_is_encoding (p : Pkt) (h : wfPkt p = true) : Soup.encode p = .ok (layout p) :=
  C12_layout p h

/-- **Key lemma 1.** A complete packet followed by anything is cut off exactly. -/
theorem C03_soup_deser_exact (p : Pkt) (rest : Bytes) (h : wfPkt p = true) :
    soupDeser (layout p ++ rest) = .ok (some (p, rest)) :=
  soup_exact p rest h

/-- **Key lemma 2.** A proper prefix of a packet (in particular a cut inside the 2-byte length prefix) asks for more bytes. -/
theorem C03_soup_deser_need_more (p : Pkt) (q : Bytes) (h : wfPkt p = true) (hq : q <+: layout p) (hne : q ≠ layout p) :
    soupDeser q = .ok none :=
  soup_short p q h hq hne

/-- **Key lemma 3.** Bytes arriving behind a packet that could already be framed do not change how it is framed (any buffer). -/
theorem C03_soup_deser_mono (buf more : Bytes) (m : Pkt) (r : Bytes) (h : soupDeser buf = .ok (some (m, r))) :
    soupDeser (buf ++ more) = .ok (some (m, r ++ more)) :=
  soupDeser_append more h

/-- **C03_prefix.** Whatever part of the stream has arrived, however it was cut and whenever the reader polled: what has been
    emitted is a prefix of the expected messages (the non-heartbeats before the first logout), in order, each once. -/
theorem C03_prefix (ms : List Pkt) (hwf : ∀ p ∈ ms, wfPkt p = true) (evs : List Ev)
    (hrecv : received evs <+: soupStream ms) :
    (run soupProto evs).out <+: expected soupProto ms :=
  generic_prefix soupSpec ms hwf evs hrecv

/-- **C03_complete.** Once the whole stream has arrived and the reader has polled at least once per packet afterwards, it has
    emitted exactly the expected messages, it is stopped iff the stream contains a logout, and the close signal was given
    exactly once in that case and never otherwise. -/
theorem C03_complete (ms : List Pkt) (hwf : ∀ p ∈ ms, wfPkt p = true) (evs : List Ev)
    (hrecv : received evs = soupStream ms) (hticks : ms.length ≤ ticksAfterLastData evs) :
    (run soupProto evs).out = expected soupProto ms ∧
    ((run soupProto evs).stopped = true ↔ hasLogout soupProto ms = true) ∧
    (run soupProto evs).closeSignals = (if hasLogout soupProto ms then 1 else 0) :=
  generic_complete soupSpec ms hwf evs hrecv hticks

/-- **C03_nothing_after_logout.** When the reader is stopped it stopped at the first logout: everything expected has been
    emitted, close was signalled once — and whatever arrives or is polled afterwards changes none of that. -/
theorem C03_nothing_after_logout (ms : List Pkt) (hwf : ∀ p ∈ ms, wfPkt p = true) (evs more : List Ev)
    (hrecv : received evs <+: soupStream ms) (hs : (run soupProto evs).stopped = true) :
    hasLogout soupProto ms = true ∧
    (run soupProto (evs ++ more)).out = expected soupProto ms ∧
    (run soupProto (evs ++ more)).closeSignals = 1 ∧
    (run soupProto (evs ++ more)).stopped = true := by
  obtain ⟨h1, h2, h3⟩ := generic_stopped soupSpec ms hwf evs hrecv hs
  obtain ⟨g1, g2, g3⟩ := generic_nothing_after_stop soupProto evs more hs
  exact ⟨h3, g1.trans h1, g2.trans h2, g3⟩

theorem C03_fix_deser_exact (f rest : Bytes) (h : wfFixFrame f = true) : fixDeser (f ++ rest) = .ok (some (f, rest)) :=
  fix_exact f rest h

/-- **Key lemma 2 (FIX).** A proper prefix of a frame — cut inside `9=n`, between `9=n` and its SOH, inside `35=`, inside the
    trailer — asks for more bytes. -/
theorem C03_fix_deser_need_more (f q : Bytes) (h : wfFixFrame f = true) (hq : q <+: f) (hne : q ≠ f) :
    fixDeser q = .ok none :=
  fix_short f q h hq hne

/-- heartbeat / logout classification of a well-formed frame is by its own MsgType field -/
theorem C03_fix_msgType (f ver ds ty rest : Bytes) (h : wfFixFrame f = true)
    (hp : fixParts f = some (ver, ds, tag35 ++ ty ++ 1 :: rest)) (hty : 1 ∉ ty) :
    getMsgType f = ty ∧ fixIsHeartbeat f = (ty == [48]) ∧ fixIsLogout f = (ty == [53]) := by
  have := fix_msgType h hp hty
  simp [fixIsHeartbeat, fixIsLogout, this]

theorem C03_fix_prefix (fs : List Bytes) (hwf : ∀ f ∈ fs, wfFixFrame f = true) (evs : List Ev)
    (hrecv : received evs <+: fixStream fs) :
    (run fixProto evs).out <+: expected fixProto fs :=
  generic_prefix fixSpec fs hwf evs hrecv

theorem C03_fix_complete (fs : List Bytes) (hwf : ∀ f ∈ fs, wfFixFrame f = true) (evs : List Ev)
    (hrecv : received evs = fixStream fs) (hticks : fs.length ≤ ticksAfterLastData evs) :
    (run fixProto evs).out = expected fixProto fs ∧
    ((run fixProto evs).stopped = true ↔ hasLogout fixProto fs = true) ∧
    (run fixProto evs).closeSignals = (if hasLogout fixProto fs then 1 else 0) :=
  generic_complete fixSpec fs hwf evs hrecv hticks

theorem C03_fix_nothing_after_logout (fs : List Bytes) (hwf : ∀ f ∈ fs, wfFixFrame f = true) (evs more : List Ev)
    (hrecv : received evs <+: fixStream fs) (hs : (run fixProto evs).stopped = true) :
    hasLogout fixProto fs = true ∧
    (run fixProto (evs ++ more)).out = expected fixProto fs ∧
    (run fixProto (evs ++ more)).closeSignals = 1 ∧
    (run fixProto (evs ++ more)).stopped = true := by
  obtain ⟨h1, h2, h3⟩ := generic_stopped fixSpec fs hwf evs hrecv hs
  obtain ⟨g1, g2, g3⟩ := generic_nothing_after_stop fixProto evs more hs
  exact ⟨h3, g1.trans h1, g2.trans h2, g3⟩

/-! ## any byte stream (no well-formedness assumed), either protocol -/

/-- the close signal is given at most once, and exactly when the reader becomes stopped -/
theorem C03_close_at_most_once {μ : Type} (P : Proto μ) (evs : List Ev) :
    (run P evs).closeSignals = (if (run P evs).stopped then 1 else 0) :=
  generic_close_once P evs

/-- a stopped reader emits nothing and signals nothing, whatever follows -/
theorem C03_stop_is_final {μ : Type} (P : Proto μ) (evs more : List Ev) (hs : (run P evs).stopped = true) :
    (run P (evs ++ more)).out = (run P evs).out ∧ (run P (evs ++ more)).closeSignals = (run P evs).closeSignals ∧
    (run P (evs ++ more)).stopped = true :=
  generic_nothing_after_stop P evs more hs

/-! ## non-vacuity: concrete well-formed inputs, segmentations and schedules -/

-- server heartbeat, sequenced data `01 02 03`, end of session, one more data packet (must not be emitted)
private def exPkts : List Pkt := [.serverHb, .seqData [1, 2, 3], .endOfSession, .seqData [9]]
example : ∀ p ∈ exPkts, wfPkt p = true := by decide
example : soupStream exPkts = [0, 1, 72, 0, 4, 83, 1, 2, 3, 0, 1, 90, 0, 2, 83, 9] := by decide
example : expected soupProto exPkts = [.seqData [1, 2, 3]] := by decide
-- cut inside the first length prefix, heartbeat and half of the data packet in one segment, everything else in one burst
private def exEvs : List Ev :=
  [.data [0], .tick, .data [1, 72, 0, 4, 83], .tick, .tick, .data [1, 2, 3, 0, 1, 90, 0, 2, 83, 9], .tick, .tick, .tick, .tick]
example : received exEvs = soupStream exPkts := by decide
example : exPkts.length ≤ ticksAfterLastData exEvs := by decide
example : (run soupProto exEvs).out = [.seqData [1, 2, 3]] ∧ (run soupProto exEvs).stopped = true ∧
    (run soupProto exEvs).closeSignals = 1 ∧ (run soupProto exEvs).buf = [0, 2, 83, 9] := by decide

-- `8=FIX.4.4|9=5|35=0|10=163|` (heartbeat), `8=FIX.4.4|9=13|35=D|58=35=5|10=107|` (order whose text contains `35=5`),
-- `8=FIX.4.4|9=5|35=5|10=168|` (logout)
private def exHb : Bytes := [56,61,70,73,88,46,52,46,52,1, 57,61,53,1, 51,53,61,48,1, 49,48,61,49,54,51,1]
private def exOrd : Bytes := [56,61,70,73,88,46,52,46,52,1, 57,61,49,51,1, 51,53,61,68,1, 53,56,61,51,53,61,53,1, 49,48,61,49,48,55,1]
private def exOut : Bytes := [56,61,70,73,88,46,52,46,52,1, 57,61,53,1, 51,53,61,53,1, 49,48,61,49,54,56,1]
example : wfFixFrame exHb = true ∧ wfFixFrame exOrd = true ∧ wfFixFrame exOut = true := by decide
example : fixIsHeartbeat exHb = true ∧ fixIsLogout exOut = true ∧ fixIsLogout exOrd = false ∧ fixIsHeartbeat exOrd = false := by
  decide
example : fixParts exOrd = some ([70,73,88,46,52,46,52], [49,51], tag35 ++ [68] ++ 1 :: [53,56,61,51,53,61,53,1, 49,48,61,49,48,55,1]) := by
  decide
example : expected fixProto [exHb, exOrd, exOut, exOrd] = [exOrd] := by decide
-- everything in one segment (several messages per segment), then polls
set_option maxRecDepth 4000 in
example : (run fixProto [.data (exHb ++ exOrd ++ exOut ++ exOrd), .tick, .tick, .tick, .tick]).out = [exOrd] := by decide +kernel
-- cut between `9=13` and its SOH
example : (run fixProto [.data (exOrd.take 14), .tick, .data (exOrd.drop 14), .tick]).out = [exOrd] := by decide
-- not well-formed: BodyLength one too small; the hypothesis `wfFixFrame` is not vacuous
example : wfFixFrame [56,61,70,73,88,46,52,46,52,1, 57,61,52,1, 51,53,61,48,1, 49,48,61,49,54,51,1] = false := by decide

end NasdaqModel.Props.C03
