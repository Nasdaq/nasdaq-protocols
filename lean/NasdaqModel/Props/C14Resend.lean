import NasdaqModel.Props.C14Echo
import NasdaqModel.Model.FixObj
/-
C14, message objects over time: "whatever message a FIX session sends" includes a message OBJECT that has been sent, was
changed in place — a body field, a field of a group instance, a field of an instance of a group nested in that instance (two,
three levels down), an instance appended to / inserted into / replaced in / removed from a (nested) list, a header field — and
is sent again through the same session, any number of times (`Model/FixObj.lean`: `Op`, `Edit`, `trace`).

  * `C14_resend_each_frame`   — no memory: the frame written by every send of a history is `frame` of the value the object
                                holds at that moment (sequence number and clock reading of that send), whatever was sent before;
  * `C14_resend_between`      — that value is what the previous send left in the object with the edits made since applied;
  * `C14_resend_shape`, `C14_resend_segmentation`, `C14_resend_decodes`
                              — hence every frame of the history has the shape of the statement, is framed as exactly one
                                message under any segmentation, and decodes to the message the object held at that send;
  * `C14_edit_set_visible`    — and what it held is what was assigned: after `target[t] = v` at any depth, the instance the
                                path leads to holds `v` under `t` (so the next frame decodes to it).
The semantics of the seeded change C14l (remembered instance bytes) fails exactly here: `Witness/C14Resend.lean`.
-/
namespace NasdaqModel.Props.C14Resend
open NasdaqModel Py Fix FixFrame FixObj

/-- **No memory.** Every send of a history writes the frame of the message value the object holds when `send_msg` is called —
    a function of that value, the session, the sequence number drawn and the clock; nothing of the earlier sends or edits
    enters — and leaves the stamped message of that very call in the object. -/
theorem C14_resend_each_frame (ver : Str) (d : MsgDef) (se : Sess) (ops : List Op) :
    ∀ (m : Msg) (ss : List Sent) (mf : Msg), trace ver d se m ops = .ok (ss, mf) →
      ∀ s ∈ ss, frame ver d se s.seq s.time s.before = .ok (s.frame, s.after) := by
  induction ops with
  | nil =>
    intro m ss mf h s hs
    simp only [trace] at h
    injection h with h; injection h with h1 _; subst h1
    simp at hs
  | cons op r ih =>
    intro m ss mf h s hs
    cases op with
    | edit sg p e =>
      simp only [trace] at h
      obtain ⟨m', _, h⟩ := bind_ok_inv h
      exact ih m' ss mf h s hs
    | send seq time =>
      simp only [trace] at h
      obtain ⟨fm, hfm, h⟩ := bind_ok_inv h
      obtain ⟨rest, hrest, h⟩ := bind_ok_inv h
      simp only [pure_eq_ok] at h
      injection h with h; injection h with h1 h2; subst h1
      rcases List.mem_cons.mp hs with rfl | hs
      · simpa using hfm
      · exact ih fm.2 rest.1 rest.2 (by simpa using hrest) s hs

/-- the edits of a history between two sends, applied in order -/
def applyEdits (d : MsgDef) : Msg → List (SegSel × Path × Edit) → Except Err Msg
  | m, [] => .ok m
  | m, (sg, p, e) :: r => do
      let m' ← applyEdit d m sg p e
      applyEdits d m' r

/-- **Between two sends.** A history that begins with edits and then sends: the value sent is the value the object held with
    those edits applied, in order; the rest of the history goes on from the stamped message that send left behind.
    (With `C14_resend_each_frame`: the k-th frame is a function of the first message, the edits before it and the stamps of
    the sends before it — and of nothing else.) -/
theorem C14_resend_between (ver : Str) (d : MsgDef) (se : Sess) (es : List (SegSel × Path × Edit)) (seq : Int) (time : Str)
    (r : List Op) :
    ∀ m : Msg, trace ver d se m (es.map (fun x => Op.edit x.1 x.2.1 x.2.2) ++ Op.send seq time :: r) =
      (do let m1 ← applyEdits d m es
          let fm ← frame ver d se seq time m1
          let rest ← trace ver d se fm.2 r
          pure ({ seq := seq, time := time, before := m1, frame := fm.1, after := fm.2 } :: rest.1, rest.2)) := by
  induction es with
  | nil => intro m; simp [trace, applyEdits]
  | cons x es ih =>
    intro m
    obtain ⟨sg, p, e⟩ := x
    simp only [List.map_cons, List.cons_append, trace, applyEdits]
    cases applyEdit d m sg p e with
    | error err => simp
    | ok m' => simp only [ok_bind]; exact ih m'

/-- **Shape, for every frame of a history** (`C14.C14_shape` at each send): `8=<version>|9=<n>|35=<type>|…|10=<ccc>|` with `n`
    the exact byte count and `ccc` the three-digit byte sum mod 256, of the message the object holds after that send's stamping. -/
theorem C14_resend_shape (ver : Str) (d : MsgDef) (se : Sess) (m : Msg) (ops : List Op) (ss : List Sent) (mf : Msg)
    (h : trace ver d se m ops = .ok (ss, mf)) :
    ∀ s ∈ ss, ∃ body ck : Bytes, encMsg d s.after = .ok body ∧
      s.frame = ([56, 61] ++ ver ++ [1]) ++ ([57, 61] ++ natDigits ([51, 53, 61] ++ d.type ++ 1 :: body).length ++ [1]) ++
            ([51, 53, 61] ++ d.type ++ 1 :: body) ++ ([49, 48, 61] ++ ck ++ [1]) ∧
      ck.length = 3 ∧ (∀ c ∈ ck, isDigit c = true) ∧
      digitsVal ck = byteSum (([56, 61] ++ ver ++ [1]) ++
            ([57, 61] ++ natDigits ([51, 53, 61] ++ d.type ++ 1 :: body).length ++ [1]) ++
            ([51, 53, 61] ++ d.type ++ 1 :: body)) % 256 :=
  fun s hs => C14.C14_shape ver d se s.seq s.time s.before s.after s.frame (C14_resend_each_frame ver d se ops m ss mf h s hs)

/-- **Any segmentation, for every frame of a history**: the reader frames exactly that frame. -/
theorem C14_resend_segmentation (ver : Str) (d : MsgDef) (se : Sess) (m : Msg) (ops : List Op) (ss : List Sent) (mf : Msg)
    (hv : wfVer ver = true) (h : trace ver d se m ops = .ok (ss, mf)) :
    ∀ s ∈ ss, ∀ segs : List Bytes, segs.flatten = s.frame → feed segs [] [] = .ok ([s.frame], []) :=
  fun s hs segs hsg => C14.C14_segmentation ver d se s.seq s.time s.before s.after s.frame hv
    (C14_resend_each_frame ver d se ops m ss mf h s hs) segs hsg

/-- **Decodes to what was sent, for every frame of a history.**  Whatever was sent and edited before, `Message.from_bytes` on the
    frame of a send yields the message the object held at that send (as left by the stamping of that send; group instances in
    dictionary order) plus the four framing fields.  `hwf`: the object is a valid message at each send (as in `C14_decodes_to_sent`). -/
theorem C14_resend_decodes (reg : List MsgDef) (ver : Str) (d : MsgDef) (se : Sess) (m : Msg) (ops : List Op)
    (ss : List Sent) (mf : Msg)
    (hvt : wfText ver = true) (hty : wfText d.type = true) (hd : wfDef d = true) (he : framingEntries d)
    (hreg : lookupReg reg d.type = some d)
    (h : trace ver d se m ops = .ok (ss, mf)) (hwf : ∀ s ∈ ss, wfMsg d s.after = true) :
    ∀ s ∈ ss, ∃ body, encMsg d s.after = .ok body ∧
      decodeMsg reg s.frame = .ok (s.frame.length, d,
        framed ver (counted d.type body).length d.type
          (rjust0 (natDigits (byteSum (summed ver d.type body) % 256)) 3) (canonMsg d s.after)) :=
  fun s hs => C14Echo.C14_decodes_to_sent_any_message reg ver d se s.seq s.time s.before s.after s.frame hvt hty hd he
    (hwf s hs) hreg (C14_resend_each_frame ver d se ops m ss mf h s hs)

private theorem lookupV_upsert_self (s : Seg) (t : Nat) (v : Val) : lookupV (upsert s t v) t = some v := by
  induction s with
  | nil => simp [upsert, lookupV]
  | cons kv s ih =>
    obtain ⟨k, w⟩ := kv
    simp only [upsert]
    split <;> simp [lookupV, *]

private theorem checkPrim_ok {ty : FTy} {v v' : Val} (h : checkPrim ty v = .ok v') : v' = v := by
  cases ty <;> cases v <;> simp [checkPrim] at h <;> exact h.symm

private theorem container_ok {es : List Entry} {s : Seg} {t : Nat} {sub : List Entry} {insts : List Seg}
    (h : container es s t = .ok (sub, insts)) : lookupV s t = some (.grp insts) := by
  unfold container at h
  split at h
  · simp at h
  · split at h
    · injection h with h; injection h with _ h2; subst h2; assumption
    · simp at h
  · simp at h

/-- **What was assigned is what the object holds.**  After `target[t] = v` (`v` a plain value) on the segment or the group instance
    a path of any depth leads to — no assignment on any enclosing object — the instance that path leads to holds `v` under `t`:
    with `C14_resend_decodes`, the next frame decodes to it. -/
theorem C14_edit_set_visible (t : Nat) (v : Val) (hv : ∀ i, v ≠ .grp i) (p : Path) :
    ∀ (es : List Entry) (s s' : Seg), editAt es s p (.set t v) = .ok s' →
      ∃ inst', instAt s' p = some inst' ∧ lookupV inst' t = some v := by
  induction p with
  | nil =>
    intro es s s' h
    simp only [editAt, editHere, setItem] at h
    split at h
    · simp at h
    · rename_i e _
      obtain ⟨v', hv', h⟩ := bind_ok_inv h
      simp only [pure_eq_ok] at h
      injection h with h; subst h
      have : v' = v := by
        cases e with
        | field _ ty _ => exact checkPrim_ok (by simpa [checkVal] using hv')
        | group _ sub _ =>
          cases v with
          | grp i => exact absurd rfl (hv i)
          | int _ => simp [checkVal] at hv'
          | flt _ => simp [checkVal] at hv'
          | bool _ => simp [checkVal] at hv'
          | str _ => simp [checkVal] at hv'
      subst this
      exact ⟨_, rfl, lookupV_upsert_self s t v'⟩
  | cons gi p ih =>
    intro es s s' h
    obtain ⟨gt, i⟩ := gi
    simp only [editAt] at h
    obtain ⟨⟨sub, insts⟩, hc, h⟩ := bind_ok_inv h
    simp only at h
    split at h
    · simp at h
    · rename_i inst hi
      obtain ⟨inst', hinst', h⟩ := bind_ok_inv h
      simp only [pure_eq_ok] at h
      injection h with h; subst h
      obtain ⟨x, hx, hl⟩ := ih sub inst inst' hinst'
      refine ⟨x, ?_, hl⟩
      have hlt : i < insts.length := by
        rcases Nat.lt_or_ge i insts.length with h | h
        · exact h
        · simp [List.getElem?_eq_none h] at hi
      simp only [instAt, lookupV_upsert_self]
      simp [hlt, hx]

/-- `FixObj.resendDef`: standard header, body QuoteID(117), legs 555 { 600, parties 539 { 524, 538 } }; `resendMsg`: `Q1`, one leg
    `A` with parties (`D1`, 1), (`D2`, 2); `resendMixed`: send; `legs[0].parties[1].NestedPartyID = 'XX'`; send; a party `ZZ`
    appended to that leg; `QuoteID = 'Q2'`; send -/
abbrev exDef : MsgDef := resendDef
abbrev exMsg : Msg := resendMsg
abbrev exOps : List Op := resendMixed

/-- the three frames exist; the object is a valid message at each send; the first frame carries `|524=D2|`, the second `|524=XX|`
    in its place, the third `|117=Q2|` and `|539=3|…|524=ZZ|` -/
example : (match trace resendVer exDef resendSess exMsg exOps with
    | .ok ([s1, s2, s3], _) =>
        let has (pat f : Bytes) : Bool := (findSub pat f).isSome
        has [1, 53, 50, 52, 61, 68, 50, 1] s1.frame && !has [1, 53, 50, 52, 61, 88, 88, 1] s1.frame &&
        has [1, 53, 50, 52, 61, 88, 88, 1] s2.frame && !has [1, 53, 50, 52, 61, 68, 50, 1] s2.frame &&
        has [1, 49, 49, 55, 61, 81, 50, 1] s3.frame && has [1, 53, 51, 57, 61, 51, 1] s3.frame &&
        has [1, 53, 50, 52, 61, 88, 88, 1, 53, 51, 56, 61, 50, 1, 53, 50, 52, 61, 90, 90, 1, 49, 48, 61] s3.frame &&
        pyEq s1.before exMsg && wfMsg exDef s1.after && wfMsg exDef s2.after && wfMsg exDef s3.after
    | _ => false) = true := by decide +kernel
example : framingEntries exDef := ⟨⟨true, rfl⟩, ⟨true, rfl⟩, ⟨true, rfl⟩, ⟨true, rfl⟩⟩
example : wfDef exDef = true ∧ wfText exDef.type = true := by decide +kernel

end NasdaqModel.Props.C14Resend
