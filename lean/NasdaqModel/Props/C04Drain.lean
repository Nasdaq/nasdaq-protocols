import NasdaqModel.Lemmas.SessionDrainAny
import NasdaqModel.Props.C04
/-
C04, third sentence — "While the session stays open and handlers return, every fully received message is delivered within a bounded
number of reader ticks" — as theorems about **runs** of the session machine (`Model/Session.lean`), for every configuration and
every reachable state (`reach cfg evs`, any history: pull phase, login switch-over, earlier deliveries, handlers in progress).

* One *reader tick* is the event `run R` (the reader wakes from its poll sleep and frames at most one message), one *dispatcher
  step* is `run D` (the dispatcher takes the next message and enters the callback, or a callback that awaits is resumed once).
* `sched k m` = `k` reader ticks, then `m` dispatcher steps.  `drainCost cfg s k` is the explicit bound on `m`: what the handler in
  progress still needs, plus per queued message and per message among the first `k` buffered frames one step, and `j + 1` more if
  its callback awaits `j + 1` times (`C04_drainCost_le`: at most what the handler in progress needs plus `(queue length + k) · (J + 2)` for await counts `≤ J + 1`).
  Heartbeat frames cost their own reader tick and nothing else (`C04_heartbeats_cost_one_tick_each`: a reader that went back to sleep behind a heartbeat
  until more bytes arrived, as seeded change C04j makes it, violates this).
* `C04_drain_callback`  — the schedule, interleaved in any way with arriving frames: *exactly* the queued messages and the
  messages among the first `k` frames are delivered (callback entered), in order, after what was delivered before.
* `C04_drain_monotone`  — any continuation whatsoever (other tasks, timers, user calls, more reader ticks, more frames) that
  contains the schedule as a subsequence and leaves the session open: those messages have been delivered, in that order and
  position (lower bound); with `C04_prefix` (upper bound) the delivered sequence is sandwiched: `C04_drain_sandwich`.
* `C04_callback_mode_loses_nothing` — while a session in callback mode stays open the list of dropped messages does not grow
  (since the repair of C04-late-cancel-loses-message that list is empty in every reachable state anyway: `C04.C04_nothing_lost`).
* `C04_drain_pull`      — pull mode: `k` reader ticks queue the messages, as many `receive_msg_nowait()` calls return them in order.

The proofs go through an abstract pipeline (`Lemmas/SessionDrainPipe.lean`: potential-function argument for any continuation, induction along the schedule for the exact result), a
refinement proof (`Lemmas/SessionDrainSim.lean`, `Lemmas/SessionDrainAny.lean`) and an invariant of all reachable states
(`Lemmas/SessionDrainInv.lean`: in callback mode the dispatcher of an open session is runnable or asleep on an empty queue; the
receive helper is alive only during a receive).
-/
namespace NasdaqModel.Props.C04Drain
open NasdaqModel Sess

abbrev reach (cfg : Cfg) (evs : List Ev) : St := runEvs cfg {} evs

def sched (k m : Nat) : List Ev := List.replicate k (.run .R) ++ List.replicate m (.run .D)

/-- connected, open, callback mode on (dispatcher started), not paused by a pending receive -/
def cbReady (s : St) : Bool :=
  !s.closed && s.status .R != .absent && s.dispSet && !s.rcvBusy && s.vres.isNone

/-- connected, open, no dispatcher, no receive pending -/
def pullReady (s : St) : Bool :=
  !s.closed && s.status .R != .absent && !s.dispSet && !s.rcvBusy && s.vres.isNone

/-- no logout / malformed frame among the first `k` buffered frames -/
def framesOk (s : St) (k : Nat) : Bool := (s.buf.take k).all goodFrame

/-- the message callbacks for the queued messages and for the messages among the first `k` buffered frames return (`ret`,
    `await j`) — or raise, or call `initiate_close()`: anything but closing the session from inside the callback -/
def handlersOk (cfg : Cfg) (s : St) (k : Nat) : Bool :=
  (s.queue ++ msgsOf (s.buf.take k)).all (fun n => !(cfg.msgBeh n).closes)

private theorem cbLive_of {s : St} (h : cbReady s = true) : CbLive s := by
  simp only [cbReady, Bool.and_eq_true, Bool.not_eq_true', bne_iff_ne, ne_eq, Option.isNone_iff_eq_none] at h
  exact ⟨h.1.1.1.1, h.1.1.1.2, h.1.1.2, h.1.2, h.2⟩

private theorem cbReady_of {s : St} (c : CbLive s) : cbReady s = true := by
  simp [cbReady, c.op, c.conn, c.disp, c.busy, c.vres]

private theorem good_of {cfg : Cfg} {s : St} {k : Nat} (h1 : framesOk s k = true) (h2 : handlersOk cfg s k = true) : Good cfg s k := by
  refine ⟨fun f hf => ?_, fun n hn => ?_⟩
  · exact List.all_eq_true.mp h1 f hf
  · have := List.all_eq_true.mp h2 n hn
    simpa using this

private theorem reach_append (cfg : Cfg) (evs evs' : List Ev) : reach cfg (evs ++ evs') = runEvs cfg (reach cfg evs) evs' :=
  runEvs_append' cfg {} evs evs'

/-- **Bounded delivery, callback mode.** Let `s = reach cfg evs` be any reachable state that is connected, open, in callback mode
    and not paused by a pending receive; let no logout / malformed frame be among its first `k` buffered frames and let the
    callbacks concerned not close the session.  Run `k` reader ticks followed by `m ≥ drainCost cfg s k` dispatcher steps —
    interleaved in any way with further `data` events (if there are any, the `k` frames must all be buffered already: new frames
    only append).  Then exactly the messages already queued and the messages among those `k` frames have been entered by the
    message callback, in order, after what was delivered before; the queue is empty; the buffer holds the remaining frames followed
    by what arrived; the session is still open and ready; and every callback has returned (the dispatcher is back in its loop). -/
theorem C04_drain_callback (cfg : Cfg) (evs sch : List Ev) (k m : Nat)
    (hr : cbReady (reach cfg evs) = true) (hf : framesOk (reach cfg evs) k = true) (hh : handlersOk cfg (reach cfg evs) k = true)
    (hs : sch.filter Ev.notData = sched k m)
    (hk : (∃ e ∈ sch, Ev.notData e = false) → k ≤ (reach cfg evs).buf.length)
    (hm : drainCost cfg (reach cfg evs) k ≤ m) :
    delivered (reach cfg (evs ++ sch)).trace =
      delivered (reach cfg evs).trace ++ (reach cfg evs).queue ++ msgsOf ((reach cfg evs).buf.take k) ∧
    (reach cfg (evs ++ sch)).queue = [] ∧
    (reach cfg (evs ++ sch)).buf = (reach cfg evs).buf.drop k ++ framesOf sch ∧
    cbReady (reach cfg (evs ++ sch)) = true ∧ (reach cfg (evs ++ sch)).prog .D = .dispLoop := by
  have c := cbLive_of hr
  have l := c.live (reached cfg evs)
  obtain ⟨d1, d2, d3, l', f', d4⟩ := drain_exact cfg sch (reach cfg evs) k m l (good_of hf hh) hk hs hm
  rw [reach_append]
  exact ⟨d1, d2, d3, cbReady_of (c.of_live l' f').1, d4⟩

/-- the schedule alone, for any `k` (more ticks than buffered frames are harmless), with exactly `drainCost` dispatcher steps -/
theorem C04_drain_callback_pure (cfg : Cfg) (evs : List Ev) (k : Nat)
    (hr : cbReady (reach cfg evs) = true) (hf : framesOk (reach cfg evs) k = true) (hh : handlersOk cfg (reach cfg evs) k = true) :
    delivered (reach cfg (evs ++ sched k (drainCost cfg (reach cfg evs) k))).trace =
      delivered (reach cfg evs).trace ++ (reach cfg evs).queue ++ msgsOf ((reach cfg evs).buf.take k) ∧
    (reach cfg (evs ++ sched k (drainCost cfg (reach cfg evs) k))).queue = [] ∧
    cbReady (reach cfg (evs ++ sched k (drainCost cfg (reach cfg evs) k))) = true ∧
    (reach cfg (evs ++ sched k (drainCost cfg (reach cfg evs) k))).prog .D = .dispLoop := by
  have hnd : ∀ e ∈ sched k (drainCost cfg (reach cfg evs) k), Ev.notData e = true := by
    intro e he
    simp only [sched, List.mem_append, List.mem_replicate] at he
    rcases he with ⟨_, rfl⟩ | ⟨_, rfl⟩ <;> rfl
  obtain ⟨a, b, _, d, e⟩ := C04_drain_callback cfg evs _ k _ hr hf hh (List.filter_eq_self.mpr hnd)
    (fun ⟨e, he, hd⟩ => by rw [hnd e he] at hd; cases hd) (Nat.le_refl _)
  exact ⟨a, b, d, e⟩

/-- **The bound, spelled out.** If every callback concerned awaits at most `J + 1` times (`behCost ≤ J + 2`), the number of
    dispatcher steps needed is at most what the handler in progress still needs plus `(queue length + k) · (J + 2)`. -/
theorem C04_drainCost_le (cfg : Cfg) (s : St) (k J : Nat)
    (hJ : ∀ n ∈ s.queue ++ msgsOf (s.buf.take k), behCost (cfg.msgBeh n) ≤ J + 2) :
    drainCost cfg s k ≤ phCost (phaseOfProg (s.prog .D)) + (s.queue.length + k) * (J + 2) := by
  have key : ∀ l : List Nat, (∀ n ∈ l, behCost (cfg.msgBeh n) ≤ J + 2) → cost cfg.msgBeh l ≤ l.length * (J + 2) := by
    intro l
    induction l with
    | nil => intro _; simp [cost]
    | cons n l ih =>
      intro h
      rw [cost_cons]
      have h1 := h n (by simp)
      have h2 := ih (fun x hx => h x (by simp [hx]))
      simp only [List.length_cons, Nat.add_mul, Nat.one_mul]
      omega
  have h1 := key _ hJ
  have h2 : (msgsOf (s.buf.take k)).length ≤ k :=
    Nat.le_trans (List.length_filterMap_le _ _) (List.length_take_le _ _)
  have h3 : (s.queue ++ msgsOf (s.buf.take k)).length * (J + 2) ≤ (s.queue.length + k) * (J + 2) := by
    apply Nat.mul_le_mul_right
    simp only [List.length_append]; omega
  unfold drainCost
  omega

/-- **Heartbeats cost their own tick and nothing else.** With `h` heartbeat frames in front of a message frame, `h + 1` reader
    ticks and the dispatcher steps for the queued messages and that one message deliver it — the heartbeats add no dispatcher
    step and no waiting for further input. -/
theorem C04_heartbeats_cost_one_tick_each (cfg : Cfg) (evs : List Ev) (h n : Nat) (rest : List Frame)
    (hr : cbReady (reach cfg evs) = true) (hb : (reach cfg evs).buf = List.replicate h .hb ++ .msg n :: rest)
    (hh : ∀ x ∈ (reach cfg evs).queue ++ [n], (cfg.msgBeh x).closes = false) :
    drainCost cfg (reach cfg evs) (h + 1) =
      phCost (phaseOfProg ((reach cfg evs).prog .D)) + cost cfg.msgBeh ((reach cfg evs).queue ++ [n]) ∧
    delivered (reach cfg (evs ++ sched (h + 1) (drainCost cfg (reach cfg evs) (h + 1)))).trace =
      delivered (reach cfg evs).trace ++ (reach cfg evs).queue ++ [n] := by
  have htake : (reach cfg evs).buf.take (h + 1) = List.replicate h .hb ++ [.msg n] := by
    rw [hb, List.take_append]
    simp [List.take_of_length_le]
  have hmsgs : msgsOf (List.replicate h Frame.hb ++ [.msg n]) = [n] := by
    simp [msgsOf]
  have hf : framesOk (reach cfg evs) (h + 1) = true := by
    simp only [framesOk, htake, List.all_eq_true]
    intro f hf
    simp only [List.mem_append, List.mem_replicate, List.mem_singleton] at hf
    rcases hf with ⟨_, rfl⟩ | rfl <;> rfl
  have hh' : handlersOk cfg (reach cfg evs) (h + 1) = true := by
    simp only [handlersOk, htake, hmsgs, List.all_eq_true]
    intro x hx
    simp [hh x hx]
  obtain ⟨a, _, _⟩ := C04_drain_callback_pure cfg evs (h + 1) hr hf hh'
  rw [htake, hmsgs] at a
  refine ⟨?_, a⟩
  unfold drainCost
  rw [htake, hmsgs]

/-- **Bounded delivery, monotone.** From the same kind of state, let `evs'` be *any* continuation — other tasks, timers, user
    calls, cancellations, more frames, more reader ticks — after which the session is still open, and which contains the schedule
    `sched k m` (with `m ≥ drainCost`) as a subsequence.  Then the queued messages and the messages among the first `k` buffered
    frames have been delivered, in order, immediately after what had been delivered before (nothing else got in between), and
    the session is still in callback mode and ready, and no message was dropped meanwhile.  No hypothesis on frames or handlers
    is needed: a logout / malformed frame among the `k` frames, or a callback that closes, would have closed the session. -/
theorem C04_drain_monotone (cfg : Cfg) (evs evs' : List Ev) (k m : Nat) (hr : cbReady (reach cfg evs) = true)
    (hopen : (reach cfg (evs ++ evs')).closed = false) (hsub : (sched k m).Sublist evs')
    (hm : drainCost cfg (reach cfg evs) k ≤ m) :
    delivered (reach cfg evs).trace ++ (reach cfg evs).queue ++ msgsOf ((reach cfg evs).buf.take k)
      <+: delivered (reach cfg (evs ++ evs')).trace ∧
    cbReady (reach cfg (evs ++ evs')) = true ∧ (reach cfg (evs ++ evs')).lost = (reach cfg evs).lost := by
  rw [reach_append] at hopen ⊢
  obtain ⟨h1, c', g'⟩ := drain_any cfg _ evs' k m (reached cfg evs) (cbLive_of hr) hopen hsub hm
  exact ⟨h1, cbReady_of c', g'⟩

/-- **Callback mode drops nothing.** While a session in callback mode stays open, no message is lost (the late cancel of
    `Witness/C04Late.lean` needs a pending receive, and receives fail with `StateError` in callback mode): whatever happens,
    the list of dropped messages does not grow.  (By `C04.C04_nothing_lost` that list is empty in every reachable state.) -/
theorem C04_callback_mode_loses_nothing (cfg : Cfg) (evs evs' : List Ev) (hr : cbReady (reach cfg evs) = true)
    (hopen : (reach cfg (evs ++ evs')).closed = false) :
    (reach cfg (evs ++ evs')).lost = (reach cfg evs).lost ∧ cbReady (reach cfg (evs ++ evs')) = true := by
  rw [reach_append] at hopen ⊢
  obtain ⟨c', _, g'⟩ := sim_run_open cfg evs' _ (reached cfg evs) (cbLive_of hr) hopen
  exact ⟨g', cbReady_of c'⟩

/-- **Sandwich**: lower bound from `C04_drain_monotone`, upper bound from `C04_prefix` — after such a continuation the delivered
    sequence starts with everything that was owed and is a prefix of what the wire carried (whatever happened in a pull phase
    before: a late cancel there loses nothing). -/
theorem C04_drain_sandwich (cfg : Cfg) (evs evs' : List Ev) (k m : Nat) (hr : cbReady (reach cfg evs) = true)
    (hopen : (reach cfg (evs ++ evs')).closed = false) (hsub : (sched k m).Sublist evs')
    (hm : drainCost cfg (reach cfg evs) k ≤ m) :
    delivered (reach cfg evs).trace ++ (reach cfg evs).queue ++ msgsOf ((reach cfg evs).buf.take k)
      <+: delivered (reach cfg (evs ++ evs')).trace ∧
    delivered (reach cfg (evs ++ evs')).trace <+: msgsOf (reach cfg (evs ++ evs')).wire := by
  obtain ⟨h1, _, _⟩ := C04_drain_monotone cfg evs evs' k m hr hopen hsub hm
  exact ⟨h1, C04.C04_prefix cfg (evs ++ evs')⟩

/-- **The next blocking receive after a cancelled receive.** On an open pull-mode session, after the cancellation of
    `receive_msg()` was delivered to user task `u` (early or late, `C04.C04_cancelled_receive_consumes_nothing`), a fresh
    `receive_msg()` returns the first undelivered message at once: the helper task of the cancelled receive has ended
    (`stash_no_getter`), no receive is pending, and the message the cancelled receive held is back in front of the queue. -/
theorem C04_receive_after_cancelled_receive (cfg : Cfg) (evs : List Ev) (u u' n : Nat) (q : List Nat)
    (hopen : (reach cfg evs).closed = false)
    (hst : (reach cfg evs).status (.U u) = .cancelled) (hp : (reach cfg evs).prog (.U u) = .recvWait u)
    (hq : (reach cfg evs).vres.toList ++ (reach cfg evs).queue = n :: q)
    (hd : (reach cfg evs).dispSet = false) (hu : (reach cfg evs).status (.U u') = .absent) :
    (reach cfg (evs ++ [.run (.U u), .callRecv u', .run (.U u')])).trace =
      (reach cfg evs).trace ++ [.ret u (if (reach cfg evs).qClosed then .eoq else .cancelled), .ret u' (.msg n)] ∧
    (reach cfg (evs ++ [.run (.U u), .callRecv u', .run (.U u')])).queue = q := by
  obtain ⟨_, hV⟩ := stash_no_getter cfg evs u hopen hst (Or.inr hp)
  obtain ⟨ht, _, hv, hb, hqu, _, _⟩ := C04.C04_cancelled_receive_consumes_nothing cfg evs u hst hp
  have e1 : C04.reach cfg (evs ++ [.run (.U u)]) = step cfg (reach cfg evs) (.run (.U u)) := C04.reach_snoc cfg evs _
  have huu : u' ≠ u := by intro e; subst e; rw [hst] at hu; cases hu
  generalize hs' : C04.reach cfg (evs ++ [.run (.U u)]) = s' at ht hv hb hqu e1
  have key : ∃ (x : St) (o : Obs), s' = (x.emit o).finish (.U u) ∧ x.status = (reach cfg evs).status ∧
      x.dispSet = (reach cfg evs).dispSet := by
    rw [e1]
    cases hqc : (reach cfg evs).qClosed
    · exact ⟨({ reach cfg evs with imm := none, vres := none, rcvBusy := false, queue := (reach cfg evs).vres.toList ++ (reach cfg evs).queue } : St),
        .ret u .cancelled, by simp [step, runnable, hst, stepRun, hp, hqc], rfl, rfl⟩
    · exact ⟨({ reach cfg evs with imm := none, vres := none, rcvBusy := false, queue := (reach cfg evs).vres.toList ++ (reach cfg evs).queue } : St),
        .ret u .eoq, by simp [step, runnable, hst, stepRun, hp, hqc], rfl, rfl⟩
  obtain ⟨x, o, hx, hxs, hxd⟩ := key
  have hV' : alive (s'.status .V) = false := by
    rw [hx]; exact dead_finish (s := x.emit o) _ (by show alive (x.status .V) = false; rw [hxs]; exact hV)
  have hd' : s'.dispSet = false := by
    rw [hx]; show x.dispSet = false; rw [hxd]; exact hd
  have hu' : s'.status (.U u') = .absent := by
    have hne : Tid.U u' ≠ Tid.U u := by intro e; injection e with e; exact huu e
    rw [hx, finish_status]
    show (if Tid.U u' = Tid.U u then Status.done else if x.status (.U u') = .waitT (.U u) then .ready else x.status (.U u')) = _
    rw [hxs]; simp [hne, hu]
  have e3 : reach cfg (evs ++ [.run (.U u), .callRecv u', .run (.U u')]) =
      step cfg (step cfg s' (.callRecv u')) (.run (.U u')) := by
    rw [← hs']; simp [reach, C04.reach, runEvs, List.foldl_append]
  rw [e3]
  obtain ⟨r1, r2, _⟩ := C04.C04_receive_returns_head cfg s' u' n q hb hv hV' hd' hu' (by rw [hqu]; exact hq)
  exact ⟨by rw [r1, ht]; simp, r2⟩

private theorem delivered_append_rets (tr : List Obs) (u : Nat) (l : List Nat) :
    delivered (tr ++ l.map (fun n => Obs.ret u (.msg n))) = delivered tr ++ l := by
  simp [delivered, List.filterMap_append, List.filterMap_map, Function.comp_def, deliveredObs]

/-- **Bounded delivery, pull mode.** From a reachable state that is connected, open, without dispatcher and without a pending
    receive, with no logout / malformed frame among the first `k` buffered frames: after `k` reader ticks the messages already
    queued and the messages among those frames are on the queue, in order; and as many `receive_msg_nowait()` calls return exactly
    them, in order, leaving the queue empty and the session open. -/
theorem C04_drain_pull (cfg : Cfg) (evs : List Ev) (k u : Nat)
    (hr : pullReady (reach cfg evs) = true) (hf : framesOk (reach cfg evs) k = true) :
    (reach cfg (evs ++ List.replicate k (.run .R))).queue =
      (reach cfg evs).queue ++ msgsOf ((reach cfg evs).buf.take k) ∧
    (reach cfg (evs ++ List.replicate k (.run .R) ++
        List.replicate ((reach cfg evs).queue ++ msgsOf ((reach cfg evs).buf.take k)).length (.callRecvNowait u))).trace =
      (reach cfg evs).trace ++ ((reach cfg evs).queue ++ msgsOf ((reach cfg evs).buf.take k)).map (fun n => Obs.ret u (.msg n)) ∧
    delivered (reach cfg (evs ++ List.replicate k (.run .R) ++
        List.replicate ((reach cfg evs).queue ++ msgsOf ((reach cfg evs).buf.take k)).length (.callRecvNowait u))).trace =
      delivered (reach cfg evs).trace ++ (reach cfg evs).queue ++ msgsOf ((reach cfg evs).buf.take k) ∧
    (reach cfg (evs ++ List.replicate k (.run .R) ++
        List.replicate ((reach cfg evs).queue ++ msgsOf ((reach cfg evs).buf.take k)).length (.callRecvNowait u))).queue = [] ∧
    (reach cfg (evs ++ List.replicate k (.run .R) ++
        List.replicate ((reach cfg evs).queue ++ msgsOf ((reach cfg evs).buf.take k)).length (.callRecvNowait u))).closed = false := by
  simp only [pullReady, Bool.and_eq_true, Bool.not_eq_true', bne_iff_ne, ne_eq, Option.isNone_iff_eq_none] at hr
  obtain ⟨⟨⟨⟨hop, hconn⟩, hdisp⟩, hbusy⟩, hvres⟩ := hr
  obtain ⟨hrs, hR, _⟩ := (reached cfg evs).r hop
  have hR' := hR.resolve_left hconn
  have l : RLive (reach cfg evs) := ⟨hR'.1, hR'.2, hrs, hbusy, hvres⟩
  obtain ⟨l1, _, q1, f1⟩ := pull_reader cfg k (reach cfg evs) l (fun f hf' => List.all_eq_true.mp hf f hf') _ rfl
  simp only [pflags, Prod.mk.injEq] at f1
  obtain ⟨fc, fd, _, _, ft, _⟩ := f1
  rw [reach_append, reach_append, reach_append]
  generalize hs1 : runEvs cfg (reach cfg evs) (List.replicate k (Ev.run Tid.R)) = s1 at *
  obtain ⟨t2, q2, c2⟩ := pull_nowait cfg u _ s1 q1 l1.busy l1.vres (by rw [fd]; exact hdisp) _ rfl
  refine ⟨q1, ?_, ?_, q2, ?_⟩
  · rw [t2, ft]
  · rw [t2, ft, delivered_append_rets, List.append_assoc]
  · rw [c2, fc]; exact hop

/-! ### 4. non-vacuity: concrete reachable states satisfying the hypotheses, and what the theorems say about them -/

/-- server-style configuration: callbacks from the start; the callback for message 2 awaits twice -/
private def cfgCb : Cfg :=
  { msgBeh := fun n => if n = 2 then .await 1 else .ret, cbBeh := .ret, hasCb := true, dispatchOnConnect := true,
    hasMsgCb := true, fixLogin := false }
/-- client configuration: callbacks are switched on by the accepted login -/
private def cfgLogin : Cfg := { cfgCb with dispatchOnConnect := false }

/-- a burst with heartbeats in between, nothing processed yet -/
private def burst : List Ev := [.connect, .data [.msg 1, .hb, .msg 2, .hb, .msg 3]]
example : cbReady (reach cfgCb burst) = true ∧ framesOk (reach cfgCb burst) 5 = true ∧ handlersOk cfgCb (reach cfgCb burst) 5 = true := by
  decide +kernel
example : drainCost cfgCb (reach cfgCb burst) 5 = 5 := by decide +kernel
example : (reach cfgCb (burst ++ sched 5 5)).trace =
    [.msgEnter 1, .msgExit 1, .msgEnter 2, .msgExit 2, .msgEnter 3, .msgExit 3] := by decide +kernel
/-- one dispatcher step fewer than `drainCost` and the last message is not yet delivered: the bound is tight here -/
example : delivered (reach cfgCb (burst ++ sched 5 4)).trace = [1, 2] := by decide +kernel

/-- a state in the middle of things: one message delivered, the callback for message 2 in progress, frames still buffered -/
private def midway : List Ev := burst ++ [.run .R, .run .R, .run .R, .run .D, .run .D]
example : cbReady (reach cfgCb midway) = true ∧ (reach cfgCb midway).prog .D = .handler 2 1 ∧ (reach cfgCb midway).buf = [.hb, .msg 3] ∧
    drainCost cfgCb (reach cfgCb midway) 2 = 3 := by decide +kernel
/-- the schedule interleaved with arriving frames: the new frames only append -/
example : delivered (reach cfgCb (midway ++ [.run .R, .data [.msg 4], .run .R, .run .D, .data [.hb], .run .D, .run .D])).trace = [1, 2, 3] ∧
    (reach cfgCb (midway ++ [.run .R, .data [.msg 4], .run .R, .run .D, .data [.hb], .run .D, .run .D])).buf = [.msg 4, .hb] := by decide +kernel

/-- pull-then-callback: the login reply is pulled, data piggy-backed on the acceptance is then delivered by callbacks -/
private def afterLogin : List Ev :=
  [.connect, .callLogin 1, .run .V, .data [.msg 0, .msg 5, .hb, .msg 6], .run .R, .run .V, .run (.U 1)]
example : cbReady (reach cfgLogin afterLogin) = true ∧ (reach cfgLogin afterLogin).buf = [.msg 5, .hb, .msg 6] ∧
    delivered (reach cfgLogin afterLogin).trace = [0] := by decide +kernel
example : delivered (reach cfgLogin (afterLogin ++ sched 3 2)).trace = [0, 5, 6] := by decide +kernel

/-- the seeded change C04j: a heartbeat in front of a message.  Two ticks, one dispatcher step. -/
example : delivered (reach cfgCb ([.connect, .data [.hb, .msg 7]] ++ sched 2 1)).trace = [7] := by decide +kernel

/-- a continuation full of other events that contains the schedule as a subsequence and leaves the session open -/
private def noisy : List Ev :=
  [.callSend, .run .R, .callRecv 3, .run .D, .run .R, .cancel 3, .data [.msg 4], .run .R, .run .R, .callRecvNowait 4, .run .R,
   .run .D, .run .D, .run .D, .callSend, .run .D, .run .D, .run .D]
example : (sched 5 5).Sublist noisy ∧ (reach cfgCb (burst ++ noisy)).closed = false := by decide +kernel
example : delivered (reach cfgCb (burst ++ noisy)).trace = [1, 2, 3] ∧ (reach cfgCb (burst ++ noisy)).buf = [.msg 4] := by decide +kernel

example : pullReady (reach cfgLogin burst) = true ∧ framesOk (reach cfgLogin burst) 5 = true := by decide +kernel
example : (reach cfgLogin (burst ++ List.replicate 5 (.run .R) ++ List.replicate 3 (.callRecvNowait 9))).trace =
    [.ret 9 (.msg 1), .ret 9 (.msg 2), .ret 9 (.msg 3)] := by decide +kernel

/-- the hypotheses are needed.  A malformed frame among the first `k`: the session closes (the dispatcher is cancelled before it
    ran), this schedule delivers nothing. -/
example : framesOk (reach cfgCb [.connect, .data [.msg 1, .bad, .msg 3]]) 3 = false ∧
    delivered (reach cfgCb ([.connect, .data [.msg 1, .bad, .msg 3]] ++ sched 3 3)).trace = [] ∧
    (reach cfgCb ([.connect, .data [.msg 1, .bad, .msg 3]] ++ sched 3 3)).closed = true := by decide +kernel
/-- A dispatcher next to a pending receive (API misuse, `cbReady` fails): the dispatcher leaves the queue to the receive. -/
example : cbReady (reach cfgCb [.callRecv 1, .connect, .data [.msg 1]]) = false ∧
    delivered (reach cfgCb ([.callRecv 1, .connect, .data [.msg 1]] ++ sched 1 3)).trace = [] := by decide +kernel

end NasdaqModel.Props.C04Drain
