import NasdaqModel.Lemmas.FixSharedBridge
import NasdaqModel.Lemmas.FixSharedAnchor
/-
C13 at the strength of the statement: dictionaries whose repeating groups SHARE tags with their surroundings.

`Props/C13.lean` / `C13Anchor.lean` prove the round trip for `wfDef d` (ALL tags of a message class pairwise distinct, nested groups
included); the library's own test dictionary (body fields 1, 2 + group 22[1, 2]) is outside it.  `Props/C13Shared.lean` named
the larger domain - `wfDefShared d` (header / body / trailer disjoint; the entries of ONE level distinct, tags may recur at other
levels) and `countEnds d m` (value dependent: the tag that follows a group instance on the wire is no entry of its group or the
instance holds it already, so the announced COUNT is what ends the group) - and decided four instances.  Here the round trip is proved
for EVERY dictionary and message of that domain.

Hypotheses (all decidable):
  wfDefShared d / countEnds d m   - the predicates of `Props/C13Shared.lean` (their recursion is fuel bounded: nesting depth ≤ 8);
  wfDefLevels d / countEndsS d m  - the fuel-free forms the proofs run on (`Lemmas/FixShared.lean`, `FixMessage.lean`), ANY nesting
                                    depth: `ldLevel` of the three segments; `levelOK` + `ceTop` per segment.  `wfDefShared → wfDefLevels`
                                    and, under it, `countEnds → countEndsS` (`Lemmas/FixSharedBridge.lean`).  Disjointness of the three
                                    segments is not needed once `countEndsS` holds (its top-level clause says the first tag of the next
                                    segment ends this one), so the `…_levels` theorems are the stronger ones;
  wfMsg d m, getMsgType …, lookupReg … - as in `Props/C13.lean`.
What is proved:
  * sufficiency   - `C13Shared_roundtrip` (+ `_levels`), re-encode / `==` / encodes / class, `C13Shared_statement`;
  * necessity     - `C13Shared_countEnds_necessary`, `C13Shared_roundtrip_iff` (round trip ⟺ `countEndsS`),
                    `C13Shared_roundtrip_iff_countEnds`, `C13Shared_violating_countEnds` (the fuel-bounded predicate, on its domain);
  * any header    - `C13Shared_statement_any_order` (+ `_levels`): MsgType anywhere in the header, with ONE more hypothesis that shared
                    tags make necessary: tag 35 is not nested inside a header group (`C13Shared_msgtype_nested_35`, replayed on the
                    implementation: `Message.from_bytes` raises KeyError('X') on `627=1|35=X|35=D|58=a|`);
  * the old domain (`wfDef`) is inside the new one (`C13Shared_extends_wfDef_levels`).
Not needed by any theorem: "a tag has the same field type wherever it occurs" and "count tags occur once" (`dict_ok` of harness/c13.py
asks for them; in the model every level has its own table, the implementation keeps process-global registries).
Only property theorems and non-vacuity examples live here.
-/
namespace NasdaqModel.Props.C13SharedGen
open NasdaqModel Py Fix Props.C13Shared

/-- **Round trip, any nesting depth, tags shared between levels** (fuel-free hypotheses).  Decoding the bytes of a well-formed
    message through the base class yields the class registered for its MsgType, consumes every byte and returns the message in
    canonical form - for every dictionary whose levels have distinct tags and every message in which the count ends every group. -/
theorem C13Shared_roundtrip_levels (reg : List MsgDef) (d : MsgDef) (m : Msg) (bs : Bytes)
    (hd : wfDefLevels d = true) (hm : wfMsg d m = true) (hc : countEndsS d m = true) (henc : encMsg d m = .ok bs)
    (hty : getMsgType bs = .ok d.type) (hreg : lookupReg reg d.type = some d) :
    decodeMsg reg bs = .ok (bs.length, d, canonMsg d m) :=
  decodeMsg_shared reg d m bs hd hm hc henc hty hreg

/-- **Round trip under the fuel-bounded predicates**: `wfDefShared d`, `wfMsg d m`, `countEnds d m`. -/
theorem C13Shared_roundtrip (reg : List MsgDef) (d : MsgDef) (m : Msg) (bs : Bytes)
    (hd : wfDefShared d = true) (hm : wfMsg d m = true) (hc : countEnds d m = true) (henc : encMsg d m = .ok bs)
    (hty : getMsgType bs = .ok d.type) (hreg : lookupReg reg d.type = some d) :
    decodeMsg reg bs = .ok (bs.length, d, canonMsg d m) :=
  C13Shared_roundtrip_levels reg d m bs (wfDefShared_levels hd) hm ((countEnds_iff_S hd hm).mp hc) henc hty hreg

/-- **Re-encode**: the decoded message encodes to the same bytes as the original (no condition on the message). -/
theorem C13Shared_reencode (d : MsgDef) (m : Msg) (hd : wfDefShared d = true) : encMsg d (canonMsg d m) = encMsg d m :=
  encMsg_canon d m (wfDefShared_levels hd)

/-- **Equality**: the decoded message compares `==` (`Message.__eq__` of the code as it is) to the original. -/
theorem C13Shared_eq_original (d : MsgDef) (m : Msg) (hd : wfDefShared d = true) (hm : wfMsg d m = true) :
    pyEqDict (canonMsg d m) m = true :=
  pyEqDict_canon d m (wfDefShared_levels hd) hm

/-- **Encoding never raises** on a message built from valid values. -/
theorem C13Shared_encodes (d : MsgDef) (m : Msg) (hd : wfDefShared d = true) (hm : wfMsg d m = true) : ∃ bs, encMsg d m = .ok bs :=
  encMsg_ok d m (wfDefShared_levels hd) hm

/-- **Class**: whatever `decodeMsg` returns for the bytes is the class registered for the type, every byte consumed. -/
theorem C13Shared_class (reg : List MsgDef) (d : MsgDef) (m : Msg) (bs : Bytes)
    (hd : wfDefShared d = true) (hm : wfMsg d m = true) (hc : countEnds d m = true) (henc : encMsg d m = .ok bs)
    (hty : getMsgType bs = .ok d.type) (hreg : lookupReg reg d.type = some d)
    (n : Nat) (d' : MsgDef) (m' : Msg) (hdec : decodeMsg reg bs = .ok (n, d', m')) :
    d' = d ∧ n = bs.length :=
  decodeMsg_class (C13Shared_roundtrip reg d m bs hd hm hc henc hty hreg) hdec

/-- **The statement of C13 in one piece on the shared-tag domain** (shape of `C13_statement`; MsgType read from the bytes): the
    message encodes; the bytes decode to the registered class, every byte consumed, to the canonical form of the message; that form
    re-encodes to the same bytes and compares `==` to the original. -/
theorem C13Shared_statement (reg : List MsgDef) (d : MsgDef) (m : Msg) (hd : wfDefShared d = true) (hm : wfMsg d m = true)
    (hc : countEnds d m = true) (hty : ∀ bs, encMsg d m = .ok bs → getMsgType bs = .ok d.type)
    (hreg : lookupReg reg d.type = some d) :
    ∃ bs, encMsg d m = .ok bs ∧ decodeMsg reg bs = .ok (bs.length, d, canonMsg d m) ∧
      encMsg d (canonMsg d m) = .ok bs ∧ pyEqDict (canonMsg d m) m = true :=
  roundtrip_statement reg d m (wfDefShared_levels hd) hm ((countEnds_iff_S hd hm).mp hc) hty hreg

/-- `C13Shared_statement` with the fuel-free hypotheses (any nesting depth; segments need not be disjoint) -/
theorem C13Shared_statement_levels (reg : List MsgDef) (d : MsgDef) (m : Msg) (hd : wfDefLevels d = true) (hm : wfMsg d m = true)
    (hc : countEndsS d m = true) (hty : ∀ bs, encMsg d m = .ok bs → getMsgType bs = .ok d.type)
    (hreg : lookupReg reg d.type = some d) :
    ∃ bs, encMsg d m = .ok bs ∧ decodeMsg reg bs = .ok (bs.length, d, canonMsg d m) ∧
      encMsg d (canonMsg d m) = .ok bs ∧ pyEqDict (canonMsg d m) m = true :=
  roundtrip_statement reg d m hd hm hc hty hreg

/-- **The condition is necessary** (general form of the decided `C13_shared_ambiguous_is_excluded`): in a level-distinct
    dictionary, whenever the bytes of a well-formed message decode to the message's canonical form - whatever number of bytes is
    reported as consumed - the count is what ends every group of the message.  A message violating `countEndsS` does not round-trip. -/
theorem C13Shared_countEnds_necessary (reg : List MsgDef) (d : MsgDef) (m : Msg) (bs : Bytes) (n : Nat)
    (hd : wfDefLevels d = true) (hm : wfMsg d m = true) (henc : encMsg d m = .ok bs)
    (hty : getMsgType bs = .ok d.type) (hreg : lookupReg reg d.type = some d)
    (hdec : decodeMsg reg bs = .ok (n, d, canonMsg d m)) : countEndsS d m = true :=
  countEndsS_of_decode reg d m bs n hd hm henc hty hreg hdec

/-- **Round trip ⟺ the count ends every group**, any nesting depth: `countEndsS` is exactly the set of messages of a level-distinct
    dictionary that survive `decode ∘ encode`. -/
theorem C13Shared_roundtrip_iff (reg : List MsgDef) (d : MsgDef) (m : Msg) (bs : Bytes)
    (hd : wfDefLevels d = true) (hm : wfMsg d m = true) (henc : encMsg d m = .ok bs)
    (hty : getMsgType bs = .ok d.type) (hreg : lookupReg reg d.type = some d) :
    decodeMsg reg bs = .ok (bs.length, d, canonMsg d m) ↔ countEndsS d m = true :=
  ⟨fun h => countEndsS_of_decode reg d m bs _ hd hm henc hty hreg h,
   fun h => decodeMsg_shared reg d m bs hd hm h henc hty hreg⟩

/-- inside `wfDefShared` the fuel-bounded condition and the fuel-free one are the same predicate -/
theorem C13Shared_countEnds_iff (d : MsgDef) (m : Msg) (hd : wfDefShared d = true) (hm : wfMsg d m = true) :
    countEnds d m = true ↔ countEndsS d m = true :=
  countEnds_iff_S hd hm

/-- **Round trip ⟺ `countEnds`** inside `wfDefShared`: `countEnds` is necessary and sufficient. -/
theorem C13Shared_roundtrip_iff_countEnds (reg : List MsgDef) (d : MsgDef) (m : Msg) (bs : Bytes)
    (hd : wfDefShared d = true) (hm : wfMsg d m = true) (henc : encMsg d m = .ok bs)
    (hty : getMsgType bs = .ok d.type) (hreg : lookupReg reg d.type = some d) :
    decodeMsg reg bs = .ok (bs.length, d, canonMsg d m) ↔ countEnds d m = true :=
  (C13Shared_roundtrip_iff reg d m bs (wfDefShared_levels hd) hm henc hty hreg).trans (countEnds_iff_S hd hm).symm

/-- **A message violating `countEnds` does not round-trip** (`C13Shared.orderAmbiguous`, for every dictionary and message of the
    domain): the decoder does not return the canonical form, whatever length it reports. -/
theorem C13Shared_violating_countEnds (reg : List MsgDef) (d : MsgDef) (m : Msg) (bs : Bytes) (n : Nat)
    (hd : wfDefShared d = true) (hm : wfMsg d m = true) (hc : countEnds d m = false) (henc : encMsg d m = .ok bs)
    (hty : getMsgType bs = .ok d.type) (hreg : lookupReg reg d.type = some d) :
    decodeMsg reg bs ≠ .ok (n, d, canonMsg d m) := by
  intro h
  have := (countEnds_iff_S hd hm).mpr
    (countEndsS_of_decode reg d m bs n (wfDefShared_levels hd) hm henc hty hreg h)
  rw [hc] at this
  exact absurd this (by simp)

/-- **MsgType, any assignment order, shared tags.**  The header holds `35 = <the class's type>` at any position and tag 35 does not
    occur INSIDE a header group (`h35`; with pairwise distinct tags this is automatic, with shared tags it is needed:
    `C13Shared_msgtype_nested_35`): the anchored `get_msg_type` finds the class's own type in the encoded bytes. -/
theorem C13Shared_msgtype_any_order (d : MsgDef) (m : Msg) (bs : Bytes)
    (hd : wfDefShared d = true) (hm : wfMsg d m = true) (henc : encMsg d m = .ok bs)
    (r : Bool) (hmem : (35, Val.str d.type) ∈ m.hdr)
    (hentry : lookupE d.hdr 35 = some (.field 35 .string r)) (h35 : ∀ e ∈ d.hdr, 35 ∉ innerTags e) :
    getMsgType bs = .ok d.type :=
  getMsgType_encMsg_levels (wfDefShared_levels hd) hm henc hmem hentry h35

/-- **The statement of C13 in one piece, any assignment order, any header, tags shared between levels** (`C13_statement_any_order`
    of `Props/C13Anchor.lean` on the larger domain): the message encodes; the bytes decode to the registered class, every byte
    consumed, to the canonical form of the message; that form re-encodes to the same bytes and compares `==` to the original. -/
theorem C13Shared_statement_any_order (reg : List MsgDef) (d : MsgDef) (m : Msg) (hd : wfDefShared d = true)
    (hm : wfMsg d m = true) (hc : countEnds d m = true)
    (r : Bool) (hmem : (35, Val.str d.type) ∈ m.hdr)
    (hentry : lookupE d.hdr 35 = some (.field 35 .string r)) (h35 : ∀ e ∈ d.hdr, 35 ∉ innerTags e)
    (hreg : lookupReg reg d.type = some d) :
    ∃ bs, encMsg d m = .ok bs ∧ decodeMsg reg bs = .ok (bs.length, d, canonMsg d m) ∧
      encMsg d (canonMsg d m) = .ok bs ∧ pyEqDict (canonMsg d m) m = true :=
  C13Shared_statement reg d m hd hm hc
    (fun bs henc => C13Shared_msgtype_any_order d m bs hd hm henc r hmem hentry h35) hreg

/-- `C13Shared_statement_any_order` with the fuel-free hypotheses (any nesting depth) -/
theorem C13Shared_statement_any_order_levels (reg : List MsgDef) (d : MsgDef) (m : Msg) (hd : wfDefLevels d = true)
    (hm : wfMsg d m = true) (hc : countEndsS d m = true)
    (r : Bool) (hmem : (35, Val.str d.type) ∈ m.hdr)
    (hentry : lookupE d.hdr 35 = some (.field 35 .string r)) (h35 : ∀ e ∈ d.hdr, 35 ∉ innerTags e)
    (hreg : lookupReg reg d.type = some d) :
    ∃ bs, encMsg d m = .ok bs ∧ decodeMsg reg bs = .ok (bs.length, d, canonMsg d m) ∧
      encMsg d (canonMsg d m) = .ok bs ∧ pyEqDict (canonMsg d m) m = true :=
  C13Shared_statement_levels reg d m hd hm hc
    (fun _ henc => getMsgType_encMsg_levels hd hm henc hmem hentry h35) hreg

/-- header: NoHops(627)[HopRef(35!) string], MsgType(35); body 58 - a header group that reuses tag 35 -/
def nested35Def : MsgDef :=
  { name := [68], type := [68], hdr := [.group 627 [.field 35 .string true] false, .field 35 .string true],
    body := [.field 58 .string false], trl := [] }
/-- the group assigned before MsgType: `627=1|35=X|35=D|58=a|` -/
def nested35Msg : Msg :=
  { hdr := [(627, .grp [[(35, .str [88])]]), (35, .str [68])], body := [(58, .str [97])], trl := [] }

/-- **`h35` is needed**: a dictionary and a message inside `wfDefShared` / `wfMsg` / `countEnds`, MsgType present in the header, but
    tag 35 also nested in a header group assigned first - the anchored lookup reads the nested field (`X`), the base-class decoder
    does not find the class (`KeyError`).  The codec itself is not at fault (`msgFromBytes` of the class round-trips). -/
theorem C13Shared_msgtype_nested_35 :
    wfDefShared nested35Def = true ∧ wfMsg nested35Def nested35Msg = true ∧ countEnds nested35Def nested35Msg = true ∧
    (35, Val.str nested35Def.type) ∈ nested35Msg.hdr ∧
    (encMsg nested35Def nested35Msg >>= getMsgType) = .ok [88] ∧
    (match encMsg nested35Def nested35Msg >>= decodeMsg [nested35Def] with
      | .error e => e == Err.key
      | .ok _ => false) = true ∧
    (match encMsg nested35Def nested35Msg with
      | .ok bs => (match msgFromBytes nested35Def bs with
                   | .ok r => r.1 == bs.length && pyEq r.2 (canonMsg nested35Def nested35Msg)
                   | .error _ => false)
      | .error _ => false) = true := by
  refine ⟨?_, ?_, ?_, .tail _ (.head _), ?_, ?_, ?_⟩
  all_goals decide +kernel

/-- **The old domain is inside the new one**: with pairwise distinct tags (`wfDef`) every level is distinct. -/
theorem C13Shared_extends_wfDef_levels (d : MsgDef) (hd : wfDef d = true) : wfDefLevels d = true :=
  wfDefLevels_of_wfDef hd

example : wfDefShared basicDef = true ∧ wfMsg basicDef basicMsg = true ∧ countEnds basicDef basicMsg = true := by decide +kernel
example : wfDefShared orderDef = true ∧ wfMsg orderDef orderMsg = true ∧ countEnds orderDef orderMsg = true := by decide +kernel
example : wfDefShared nestedDef = true ∧ wfMsg nestedDef nestedMsg = true ∧ countEnds nestedDef nestedMsg = true := by decide +kernel
example : wfDefShared emptyDef = true ∧ wfMsg emptyDef emptyMsg = true ∧ countEnds emptyDef emptyMsg = true := by decide +kernel
example : wfDefLevels basicDef = true ∧ countEndsS basicDef basicMsg = true := by decide +kernel
example : wfDefLevels orderDef = true ∧ countEndsS orderDef orderMsg = true := by decide +kernel
example : wfDefLevels nestedDef = true ∧ countEndsS nestedDef nestedMsg = true := by decide +kernel
/-- the fuel-free condition excludes the ambiguous message too -/
example : countEndsS orderDef orderAmbiguous = false := by decide +kernel
/-- the remaining hypotheses of `C13Shared_roundtrip` on the test dictionary -/
example : (encMsg basicDef basicMsg >>= getMsgType) = .ok basicDef.type := by decide +kernel
example : lookupReg [basicDef] basicDef.type = some basicDef := rfl

/-! ### non-vacuity: `Message_1` of /repo/tests/fix_messages.py as it stands - header 8, 9, 35; body 1, 2, 11, group 22[1, 2], 35;
    trailer 10, 1.  Body and trailer SHARE tag 1 and the body repeats 35: outside `wfDefShared` (segments not disjoint), inside the
    `…_levels` theorems -/

def libDef : MsgDef :=
  { name := [77, 49], type := [77],
    hdr := [.field 8 .string true, .field 9 .int true, .field 35 .string false],
    body := [.field 1 .int true, .field 2 .string true, .field 11 .int false,
             .group 22 [.field 1 .int true, .field 2 .string false] false, .field 35 .string false],
    trl := [.field 10 .string true, .field 1 .int false] }
/-- `8=F|9=5|35=M|22=2|1=21|2=x|1=22|1=7|2=b|10=c|1=9|`: the group assigned before the same-tag body fields, the trailer ends with 1 -/
def libMsg : Msg :=
  { hdr := [(8, .str [70]), (9, .int 5), (35, .str [77])],
    body := [(22, .grp [[(2, .str [120]), (1, .int 21)], [(1, .int 22)]]), (1, .int 7), (2, .str [98])],
    trl := [(10, .str [99]), (1, .int 9)] }

example : wfDefLevels libDef = true ∧ wfMsg libDef libMsg = true ∧ countEndsS libDef libMsg = true := by decide +kernel
example : wfDefShared libDef = false := by decide +kernel
example : (35, Val.str libDef.type) ∈ libMsg.hdr := .tail _ (.tail _ (.head _))
example : lookupE libDef.hdr 35 = some (.field 35 .string false) := rfl
example : ∀ e ∈ libDef.hdr, 35 ∉ innerTags e := by decide +kernel
example : lookupReg [libDef] libDef.type = some libDef := rfl

/-! ### non-vacuity of "any nesting depth": a chain of 11 nested groups, every one reusing tag 1 - outside the depth bound of `wfDefShared` -/

/-- `[1, NoSub(100+k)[ 1, NoSub(100+k-1)[ … ] ]]` -/
def chain : Nat → List Entry
  | 0 => [.field 1 .int true]
  | k + 1 => [.field 1 .int true, .group (100 + k) (chain k) false]
/-- one instance at every level, each holding its `1` and its nested group -/
def chainInst : Nat → Seg
  | 0 => [(1, .int 0)]
  | k + 1 => [(1, .int (k + 1)), (100 + k, .grp [chainInst k])]
def deepDef : MsgDef := { name := [90], type := [90], hdr := hdr35, body := chain 11, trl := [] }
def deepMsg : Msg := { hdr := [(35, .str [90])], body := chainInst 11, trl := [] }

example : wfDefLevels deepDef = true ∧ wfMsg deepDef deepMsg = true ∧ countEndsS deepDef deepMsg = true := by decide +kernel
example : wfDefShared deepDef = false := by decide +kernel
example : wfDef deepDef = false := by decide +kernel

end NasdaqModel.Props.C13SharedGen
