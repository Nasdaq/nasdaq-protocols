import NasdaqModel.Model.Seq
import NasdaqModel.Props.C12
import NasdaqModel.Props.C12Any
/-
C10 — sequence numbers count exactly the messages that consume them.

Soup: the counter of a session always equals its initial value plus the number of sequenced-data packets handed to
the transport (counted on the bytes written: type character 'S'), for every history of operations of every kind,
failing ones included; a client adopts exactly the number stated in the login acceptance.
FIX: two models of `FixSession.send_msg`.  `fixSendR` / `fixStepR` / `fixRunR` is the code (fix/session.py: when
`_prepare_complete_msg` raises, `self.sequence = count(seq_num)` gives the number back): for it the k-th frame written since
the logon carries logon MsgSeqNum + k in EVERY history (`C10_fix_kth_repaired`).  The unsuffixed `fixSend` / `fixStep` /
`fixRun` is `send_msg` without that handler (the number is taken before serialising and kept): for it the same statement needs
the hypothesis that no send fails *after* validation (`noEncodeFailure`, `C10_fix_kth_partial`; `Witness/C10.lean` shows the gap
without it); numbers are still never repeated and a rejected send consumes nothing.  The two differ only where serialisation
fails after validation (`fixSendR_cases`).
-/
namespace NasdaqModel.Props.C10
open NasdaqModel Py Soup SeqNum

private theorem encode_type_byte (p : Pkt) (b : Bytes) (h : encode p = .ok b) : b[2]? = some p.ty := by
  obtain ⟨hi, lo, rest, rfl, _⟩ := C12Any.C12_any_built_is_framed p b h
  rfl

private theorem ty_eq_S_iff (p : Pkt) : (p.ty == 83) = p.isSequenced := by
  cases p <;> rfl

private theorem isSeqFrame_encode (p : Pkt) (b : Bytes) (h : encode p = .ok b) : isSeqFrame b = p.isSequenced := by
  unfold isSeqFrame
  rw [encode_type_byte p b h, ← ty_eq_S_iff]
  simp

private theorem countSeq_snoc (ws : List Bytes) (b : Bytes) :
    countSeq (ws ++ [b]) = countSeq ws + (if isSeqFrame b then 1 else 0) := by
  unfold countSeq
  rw [List.filter_append]
  by_cases hb : isSeqFrame b <;> simp [hb]

/-- the quantity every operation preserves: counter minus sequenced packets written -/
private def delta (s : SoupSt) : Int := s.seq - (countSeq s.written : Int)

private theorem soupSend_delta (s : SoupSt) (p : Pkt) : delta (soupSend s p).1 = delta s := by
  unfold soupSend
  cases he : encode p with
  | error e => rfl
  | ok b =>
    by_cases hc : s.connected
    · simp only [hc, if_true, delta, countSeq_snoc, isSeqFrame_encode p b he]
      by_cases hs : p.isSequenced <;> simp [hs] <;> omega
    · simp [hc]

private theorem soupStep_delta (s : SoupSt) (op : SoupOp) : delta (soupStep s op).1 = delta s := by
  cases op <;> first | exact soupSend_delta s _ | rfl

private theorem soupRun_delta (ops : List SoupOp) : ∀ s, delta (soupRun s ops) = delta s := by
  induction ops with
  | nil => intro s; rfl
  | cons op rest ih =>
    intro s
    show delta (soupRun (soupStep s op).1 rest) = delta s
    rw [ih, soupStep_delta]

/-- **Counter = initial + sequenced packets written**, for every history (sends of every packet kind including those whose
    encoding fails or that are made without a transport, heartbeats, logout, end of session, close), every role and
    every initial value; stated for a run starting in an arbitrary state `s`. -/
theorem C10_soup_counts (s : SoupSt) (ops : List SoupOp) :
    (soupRun s ops).seq = s.seq + ((countSeq (soupRun s ops).written : Int) - (countSeq s.written : Int)) := by
  have h := soupRun_delta ops s
  unfold delta at h
  omega

/-- the same from a fresh session: `SoupServerSession(sequence=init)` / `SoupClientSession(sequence=init)` -/
theorem C10_soup_counts_init (role : Role) (init : Int) (ops : List SoupOp) :
    (soupRun (soupInit role init) ops).seq = init + (countSeq (soupRun (soupInit role init) ops).written : Int) := by
  have h := C10_soup_counts (soupInit role init) ops
  simpa [soupInit, countSeq] using h

/-- **Only sequenced data moves the counter**: heartbeats, debug packets, login replies, end-of-session, logout,
    unsequenced data, login requests and closes leave it alone. -/
theorem C10_soup_unsequenced_never_moves (s : SoupSt) (op : SoupOp)
    (h : ∀ p, op = .send p → p.isSequenced = false) : (soupStep s op).1.seq = s.seq := by
  have key : ∀ p : Pkt, p.isSequenced = false → (soupSend s p).1.seq = s.seq := by
    intro p hp
    unfold soupSend
    cases encode p with
    | error e => rfl
    | ok b => by_cases hc : s.connected <;> simp [hc, hp]
  cases op with
  | send p => exact key p (h p rfl)
  | heartbeat => exact key _ (by cases s.role <;> rfl)
  | logout | endSession => exact key _ rfl
  | close => rfl

/-- a sequenced-data packet that reaches the transport moves the counter by exactly one and is one write -/
theorem C10_soup_sequenced_moves_by_one (s : SoupSt) (p : Pkt) (hp : p.isSequenced = true)
    (hok : (soupSend s p).2 = none) :
    (soupSend s p).1.seq = s.seq + 1 ∧ ∃ b, encode p = .ok b ∧ (soupSend s p).1.written = s.written ++ [b] := by
  unfold soupSend at hok ⊢
  cases he : encode p with
  | error e => simp [he] at hok
  | ok b =>
    by_cases hc : s.connected
    · simp [hc, hp]
    · simp [he, hc] at hok

/-- a send that raises (encoding error, no transport) changes nothing: no write, counter untouched -/
theorem C10_soup_failed_send_no_effect (s : SoupSt) (p : Pkt) (e : Err) (h : (soupSend s p).2 = some e) :
    (soupSend s p).1 = s := by
  unfold soupSend at h ⊢
  cases he : encode p with
  | error e' => rfl
  | ok b =>
    by_cases hc : s.connected
    · simp [he, hc] at h
    · simp [hc]

private theorem awaitReply_skip_hbs (s : SoupSt) (hbs : List Bytes) (tail : List Bytes)
    (hhb : ∀ x ∈ hbs, ∃ p, decode x = .ok p ∧ p.isHeartbeat = true) :
    awaitReply s (hbs ++ tail) = awaitReply s tail := by
  induction hbs with
  | nil => rfl
  | cons x rest ih =>
    obtain ⟨p, hd, hp⟩ := hhb x (List.mem_cons_self ..)
    have := ih (fun y hy => hhb y (List.mem_cons_of_mem _ hy))
    show awaitReply s (x :: (rest ++ tail)) = _
    rw [awaitReply, hd]
    simp only [hp, if_true]
    exact this

/-- **Adoption.** If the first non-heartbeat frame the reader delivers decodes to `LoginAccepted(sess, q)`, `login`
    succeeds and `session.sequence` is exactly `q` — whatever the previous counter, whatever follows. -/
theorem C10_soup_adopt (s : SoupSt) (req : Pkt) (hbs : List Bytes) (b : Bytes) (rest : List Bytes)
    (sess : Str) (q : Int)
    (hsend : (soupSend s req).2 = none)
    (hhb : ∀ x ∈ hbs, ∃ p, decode x = .ok p ∧ p.isHeartbeat = true)
    (hb : decode b = .ok (.loginAcc sess q)) :
    (clientLogin s req (hbs ++ b :: rest)).2.2 = true ∧ (clientLogin s req (hbs ++ b :: rest)).1.seq = q := by
  unfold clientLogin
  cases hs : soupSend s req with
  | mk s' e =>
    rw [hs] at hsend
    simp only at hsend
    subst hsend
    simp only [awaitReply_skip_hbs s' hbs (b :: rest) hhb]
    rw [awaitReply, hb]
    simp [Pkt.isHeartbeat]

/-- the same in terms of what the server put on the wire: any well-formed acceptance (session id within 10 characters,
    number within 20 digits) encoded by the protocol layout is adopted with exactly its number -/
theorem C10_soup_adopt_wire (s : SoupSt) (req : Pkt) (b : Bytes) (rest : List Bytes) (sess : Str) (q : Int)
    (hsend : (soupSend s req).2 = none)
    (hwf : C12.wfPkt (.loginAcc sess q) = true) (henc : encode (.loginAcc sess q) = .ok b) :
    (clientLogin s req (b :: rest)).2.2 = true ∧ (clientLogin s req (b :: rest)).1.seq = q := by
  have hd := C12.C12_roundtrip (.loginAcc sess q) hwf b henc
  exact C10_soup_adopt s req [] b rest sess q hsend (by simp) hd

/-- a login that is not accepted leaves the counter where the request's send left it -/
theorem C10_soup_not_accepted_keeps (s : SoupSt) (req : Pkt) (replies : List Bytes)
    (h : (clientLogin s req replies).2.2 = false) :
    (clientLogin s req replies).1.seq = (soupSend s req).1.seq := by
  unfold clientLogin at h ⊢
  cases hs : soupSend s req with
  | mk s' e =>
    cases e with
    | some e => rfl
    | none =>
      simp only [hs] at h ⊢
      clear hs
      induction replies with
      | nil => rfl
      | cons x rest ih =>
        rw [awaitReply] at h ⊢
        cases hd : decode x with
        | error e => rfl
        | ok p =>
          simp only [hd] at h ⊢
          by_cases hp : p.isHeartbeat
          · simp only [hp, if_true] at h ⊢
            exact ih h
          · simp only [hp] at h ⊢
            cases p <;> first | rfl | simp at h

/-- after `clientLogin`, whatever its outcome, the counter keeps counting from where the login left it -/
theorem C10_soup_client_counts (s : SoupSt) (req : Pkt) (replies : List Bytes) (ops : List SoupOp) :
    let s1 := (clientLogin s req replies).1
    (soupRun s1 ops).seq = s1.seq + ((countSeq (soupRun s1 ops).written : Int) - (countSeq s1.written : Int)) :=
  C10_soup_counts _ ops

/-- the history contains no (second) logon -/
def noLogin (ops : List FixOp) : Bool := ops.all (fun op => !op.isLogin)

/-- no operation passes validation and then fails to serialise (the region excluded by `C10_fix_kth_partial`) -/
def noEncodeFailure (ops : List FixOp) : Bool := ops.all (fun op => !op.msg.bodyValid || op.msg.encodable)

private theorem noLogin_cons {op : FixOp} {rest : List FixOp} (h : noLogin (op :: rest) = true) :
    op.isLogin = false ∧ noLogin rest = true := by
  simpa [noLogin] using h

/-- a history without logon keeps whatever every single `send_msg` keeps (`stp`, `snd`: either of the two models) -/
private theorem run_keeps {P : FixSt → Prop} (stp : FixSt → FixOp → FixSt × FixOut) (snd : FixSt → FixMsg → FixSt × FixOut)
    (hstp : ∀ s op, op.isLogin = false → (stp s op).1 = (snd s op.msg).1) :
    ∀ (ops : List FixOp), noLogin ops = true → (∀ op ∈ ops, ∀ s, P s → P (snd s op.msg).1) →
      ∀ s, P s → P (ops.foldl (fun st op => (stp st op).1) s)
  | [], _, _, _, hs => hs
  | op :: rest, hl, hP, s, hs => by
    obtain ⟨hop, hr⟩ := noLogin_cons hl
    rw [List.foldl_cons, hstp s op hop]
    exact run_keeps stp snd hstp rest hr (fun o ho => hP o (List.mem_cons_of_mem _ ho)) _ (hP op List.mem_cons_self s hs)

private theorem fixStep_send (s : FixSt) (op : FixOp) (h : op.isLogin = false) : (fixStep s op).1 = (fixSend s op.msg).1 := by
  cases op with
  | login q m => cases h
  | send m | heartbeat m => rfl

private theorem fixStepR_send (s : FixSt) (op : FixOp) (h : op.isLogin = false) : (fixStepR s op).1 = (fixSendR s op.msg).1 := by
  cases op with
  | login q m => cases h
  | send m | heartbeat m => rfl

private theorem fixSend_none (s : FixSt) (m : FixMsg) (hv : m.bodyValid = true) (hn : s.next = none) :
    fixSend s m = (s, .notLoggedIn) := by
  unfold fixSend; simp [hv, hn]

private theorem fixSend_ok (s : FixSt) (m : FixMsg) (n : Int) (hv : m.bodyValid = true) (hn : s.next = some n)
    (he : m.encodable = true) :
    fixSend s m = ({ next := some (n + 1), frames := s.frames ++ [n] }, .written n) := by
  unfold fixSend; simp [hv, hn, he]

private theorem fixSend_enc (s : FixSt) (m : FixMsg) (n : Int) (hv : m.bodyValid = true) (hn : s.next = some n)
    (he : m.encodable = false) :
    fixSend s m = ({ s with next := some (n + 1) }, .encodeError) := by
  unfold fixSend; simp [hv, hn, he]

/-- **A send rejected by validation writes nothing and consumes no number** (one step). -/
theorem C10_fix_reject_consumes_nothing (s : FixSt) (m : FixMsg) (h : m.bodyValid = false) :
    fixSend s m = (s, .rejected) := by
  unfold fixSend
  simp [h]

/-- … and over histories: deleting every rejected application send / heartbeat changes neither the frames nor the counter -/
theorem C10_fix_rejected_sends_invisible (ops : List FixOp) (h : noLogin ops = true) :
    ∀ s, fixRun s ops = fixRun s (ops.filter (fun op => op.msg.bodyValid)) := by
  induction ops with
  | nil => intro s; rfl
  | cons op rest ih =>
    intro s
    obtain ⟨hop, hr⟩ := noLogin_cons h
    by_cases hv : op.msg.bodyValid
    · rw [List.filter_cons_of_pos (by simpa using hv)]
      show fixRun (fixStep s op).1 rest = fixRun (fixStep s op).1 _
      exact ih hr _
    · rw [List.filter_cons_of_neg (by simpa using hv)]
      show fixRun (fixStep s op).1 rest = _
      rw [fixStep_send s op hop, C10_fix_reject_consumes_nothing s _ (by simpa using hv)]
      exact ih hr s

/-- a frame is written only by a send that passed validation, and it carries the number the counter yields -/
theorem C10_fix_written_inv (s : FixSt) (m : FixMsg) (n : Int) (h : (fixSend s m).2 = .written n) :
    s.next = some n ∧ m.bodyValid = true ∧ (fixSend s m).1 = { next := some (n + 1), frames := s.frames ++ [n] } := by
  unfold fixSend at h ⊢
  by_cases hv : m.bodyValid
  · cases hn : s.next with
    | none => simp [hv, hn] at h
    | some k =>
      by_cases he : m.encodable
      · simp only [hv, hn, he] at h ⊢
        simp at h
        subst h
        simp
      · simp [hv, hn, he] at h
  · simp [hv] at h

private theorem fixSend_fst_none (s : FixSt) (m : FixMsg) (hn : s.next = none) : (fixSend s m).1 = s := by
  unfold fixSend
  split
  · rfl
  · rw [hn]

private theorem fixRun_prelogin (ops : List FixOp) (h : noLogin ops = true) : fixRun fixInit ops = fixInit :=
  run_keeps (P := (· = fixInit)) fixStep fixSend fixStep_send ops h
    (fun op _ s hs => by rw [hs]; exact fixSend_fst_none _ _ rfl) _ rfl

/-- invariant of the gap-free region: the counter is `q + frames written`, the k-th frame carries `q + k` -/
private def Contig (q : Int) (s : FixSt) : Prop :=
  s.next = some (q + s.frames.length) ∧ ∀ k, (hk : k < s.frames.length) → s.frames[k] = q + k

private theorem fixSend_contig (q : Int) (s : FixSt) (m : FixMsg) (hs : Contig q s)
    (hne : (!m.bodyValid || m.encodable) = true) : Contig q (fixSend s m).1 := by
  obtain ⟨hn, hf⟩ := hs
  by_cases hv : m.bodyValid
  · have he : m.encodable = true := by simpa [hv] using hne
    rw [fixSend_ok s m _ hv hn he]
    refine ⟨?_, ?_⟩
    · show some (q + (s.frames.length : Int) + 1) = some (q + ((s.frames ++ [q + (s.frames.length : Int)]).length : Int))
      simp only [List.length_append, List.length_singleton]
      congr 1
      omega
    · intro k hk
      show (s.frames ++ [q + (s.frames.length : Int)])[k]'hk = q + k
      have hk' : k < s.frames.length + 1 := by simpa using hk
      by_cases hlt : k < s.frames.length
      · rw [List.getElem_append_left hlt]; exact hf k hlt
      · have : k = s.frames.length := by omega
        subst this
        simp
  · rw [C10_fix_reject_consumes_nothing s m (by simpa using hv)]
    exact ⟨hn, hf⟩

private theorem fixRun_contig (q : Int) (ops : List FixOp) (hl : noLogin ops = true) (hne : noEncodeFailure ops = true) :
    ∀ s, Contig q s → Contig q (fixRun s ops) :=
  run_keeps fixStep fixSend fixStep_send ops hl
    (fun op ho s hs => fixSend_contig q s op.msg hs (List.all_eq_true.mp hne op ho))

/-
Full statement (property C10, FIX part):

  theorem C10_fix_kth (pre ops) (q) (m) (hpre : noLogin pre) (hops : noLogin ops) :
      let s := fixRun fixInit (pre ++ .login q m :: ops)
      ∀ k (hk : k < s.frames.length), s.frames[k] = q + k

It is FALSE of `fixSend` (Witness.C10.C10_witness_encode_failure_gap): a send that passes validation and then fails to
serialise consumes a number.  What is missing is exactly the hypothesis `noEncodeFailure` below; for `fixSendR`, the code, the
statement holds as it stands (`C10_fix_kth_repaired`).
-/

/-- **k-th frame carries logon MsgSeqNum + k** (frame 0 is the logon itself), for every history
    `sends before the logon ++ logon ++ {application sends, rejected sends, heartbeats}` in any interleaving,
    any logon number — under the hypothesis that no send fails after validation. -/
theorem C10_fix_kth_partial (pre ops : List FixOp) (q : Int) (m : FixMsg)
    (hpre : noLogin pre = true) (hops : noLogin ops = true)
    (hne : noEncodeFailure (.login q m :: ops) = true) :
    (∀ k, (hk : k < (fixRun fixInit (pre ++ .login q m :: ops)).frames.length) →
        (fixRun fixInit (pre ++ .login q m :: ops)).frames[k] = q + k) ∧
    (fixRun fixInit (pre ++ .login q m :: ops)).next
      = some (q + (fixRun fixInit (pre ++ .login q m :: ops)).frames.length) := by
  have hrun : fixRun fixInit (pre ++ .login q m :: ops)
      = fixRun (fixStep (fixRun fixInit pre) (.login q m)).1 ops := by
    simp [fixRun, List.foldl_append]
  rw [hrun, fixRun_prelogin pre hpre]
  simp only [noEncodeFailure, List.all_cons, Bool.and_eq_true] at hne
  have h0 : Contig q (fixStep fixInit (.login q m)).1 := by
    apply fixSend_contig q _ m _ (by simpa [FixOp.msg] using hne.1)
    exact ⟨by simp [fixInit], by intro k hk; simp [fixInit] at hk⟩
  have := fixRun_contig q ops hops (by simpa [noEncodeFailure] using hne.2) _ h0
  exact ⟨this.2, this.1⟩

/-- invariant that needs no hypothesis: frames strictly increase and stay below the counter -/
private def Incr (s : FixSt) : Prop :=
  s.frames.Pairwise (· < ·) ∧ ∀ n, s.next = some n → ∀ f ∈ s.frames, f < n

private theorem fixSend_incr (s : FixSt) (m : FixMsg) (hs : Incr s) : Incr (fixSend s m).1 := by
  obtain ⟨hp, hb⟩ := hs
  by_cases hv : m.bodyValid
  · cases hn : s.next with
    | none => rw [fixSend_none s m hv hn]; exact ⟨hp, hb⟩
    | some n =>
      by_cases he : m.encodable
      · rw [fixSend_ok s m n hv hn he]
        refine ⟨?_, ?_⟩
        · show (s.frames ++ [n]).Pairwise (· < ·)
          rw [List.pairwise_append]
          refine ⟨hp, by simp, ?_⟩
          intro a ha b hb'
          simp at hb'
          rw [hb']
          exact hb n hn a ha
        · intro n' hn' f hf
          have e1 : n' = n + 1 := by simpa using hn'.symm
          have hf' : f ∈ s.frames ++ [n] := hf
          simp at hf'
          rcases hf' with hf' | hf'
          · have := hb n hn f hf'; omega
          · omega
      · rw [fixSend_enc s m n hv hn (by simpa using he)]
        refine ⟨hp, ?_⟩
        intro n' hn' f hf
        have e1 : n' = n + 1 := by simpa using hn'.symm
        have := hb n hn f hf
        omega
  · rw [C10_fix_reject_consumes_nothing s m (by simpa using hv)]
    exact ⟨hp, hb⟩

private theorem fixRun_incr (ops : List FixOp) (hl : noLogin ops = true) : ∀ s, Incr s → Incr (fixRun s ops) :=
  run_keeps fixStep fixSend fixStep_send ops hl (fun op _ s hs => fixSend_incr s op.msg hs)

/-- **No repeat, ever** — with or without serialisation failures: the MsgSeqNums of the frames written since the logon
    are strictly increasing and start at the logon number or later. -/
theorem C10_fix_no_repeat (pre ops : List FixOp) (q : Int) (m : FixMsg)
    (hpre : noLogin pre = true) (hops : noLogin ops = true) :
    (fixRun fixInit (pre ++ .login q m :: ops)).frames.Pairwise (· < ·) ∧
    (∀ f ∈ (fixRun fixInit (pre ++ .login q m :: ops)).frames, q ≤ f) := by
  have hrun : fixRun fixInit (pre ++ .login q m :: ops)
      = fixRun (fixStep (fixRun fixInit pre) (.login q m)).1 ops := by
    simp [fixRun, List.foldl_append]
  rw [hrun, fixRun_prelogin pre hpre]
  -- strengthen with the lower bound
  have low : ∀ (s : FixSt) (m : FixMsg), ((∀ n, s.next = some n → q ≤ n) ∧ ∀ f ∈ s.frames, q ≤ f) →
      ((∀ n, (fixSend s m).1.next = some n → q ≤ n) ∧ ∀ f ∈ (fixSend s m).1.frames, q ≤ f) := by
    intro s m hs
    obtain ⟨h1, h2⟩ := hs
    by_cases hv : m.bodyValid
    · cases hn : s.next with
      | none => rw [fixSend_none s m hv hn]; exact ⟨h1, h2⟩
      | some n =>
        have := h1 n hn
        by_cases he : m.encodable
        · rw [fixSend_ok s m n hv hn he]
          refine ⟨?_, ?_⟩
          · intro n' hn'
            have e1 : n' = n + 1 := by simpa using hn'.symm
            omega
          · intro f hf
            have hf' : f ∈ s.frames ++ [n] := hf
            simp at hf'
            rcases hf' with hf' | hf'
            · exact h2 f hf'
            · omega
        · rw [fixSend_enc s m n hv hn (by simpa using he)]
          refine ⟨?_, h2⟩
          intro n' hn'
          have e1 : n' = n + 1 := by simpa using hn'.symm
          omega
    · rw [C10_fix_reject_consumes_nothing s m (by simpa using hv)]
      exact ⟨h1, h2⟩
  have hs0 : Incr { fixInit with next := some q } := ⟨by simp [fixInit], by intro n _ f hf; simp [fixInit] at hf⟩
  have hl0 : (∀ n, ({ fixInit with next := some q } : FixSt).next = some n → q ≤ n) ∧
      ∀ f ∈ ({ fixInit with next := some q } : FixSt).frames, q ≤ f :=
    ⟨by intro n hn; simp at hn; omega, by intro f hf; simp [fixInit] at hf⟩
  -- the logon is, by definition of `fixStep`, a send from the state with the counter set to `q`
  have i1 := fixRun_incr (.send m :: ops) (by simpa [noLogin, FixOp.isLogin] using hops) _ hs0
  have l1 := run_keeps fixStep fixSend fixStep_send (.send m :: ops) (by simpa [noLogin, FixOp.isLogin] using hops)
    (fun op _ s hs => low s op.msg hs) _ hl0
  exact ⟨i1.1, l1.2⟩

/-! ### FIX, `send_msg` as in the code (the number is given back when serialisation fails): the full statement -/

/-- `fixSendR` differs from `fixSend` only where serialisation fails after validation: there it leaves the state alone -/
private theorem fixSendR_cases (s : FixSt) (m : FixMsg) :
    ((!m.bodyValid || m.encodable) = true ∧ fixSendR s m = fixSend s m) ∨
    ((fixSendR s m).1 = s ∧ ∀ n, (fixSendR s m).2 ≠ .written n) := by
  rcases s with ⟨nx, fr⟩
  unfold fixSendR fixSend
  cases m.bodyValid <;> cases m.encodable <;> simp
  cases nx <;> simp

private theorem fixSendR_contig (q : Int) (s : FixSt) (m : FixMsg) (hs : Contig q s) : Contig q (fixSendR s m).1 := by
  rcases fixSendR_cases s m with ⟨h, e⟩ | ⟨e, _⟩ <;> rw [e]
  · exact fixSend_contig q s m hs h
  · exact hs

private theorem fixRunR_contig (q : Int) (ops : List FixOp) (hl : noLogin ops = true) :
    ∀ s, Contig q s → Contig q (fixRunR s ops) :=
  run_keeps fixStepR fixSendR fixStepR_send ops hl (fun op _ s hs => fixSendR_contig q s op.msg hs)

private theorem fixRunR_prelogin (ops : List FixOp) (h : noLogin ops = true) : fixRunR fixInit ops = fixInit :=
  run_keeps (P := (· = fixInit)) fixStepR fixSendR fixStepR_send ops h
    (fun op _ s hs => by
      rw [hs]
      rcases fixSendR_cases fixInit op.msg with ⟨_, e⟩ | ⟨e, _⟩ <;> rw [e]
      exact fixSend_fst_none _ _ rfl) _ rfl

/-- **The full statement, for `send_msg` as in the code**: for every history
    `sends before the logon ++ logon ++ {application sends of every kind, rejected or unencodable ones included,
    heartbeats}` in any interleaving and any logon number, the k-th frame written since the logon carries
    logon MsgSeqNum + k and the counter is logon + frames written — no hypothesis on serialisation. -/
theorem C10_fix_kth_repaired (pre ops : List FixOp) (q : Int) (m : FixMsg)
    (hpre : noLogin pre = true) (hops : noLogin ops = true) :
    (∀ k, (hk : k < (fixRunR fixInit (pre ++ .login q m :: ops)).frames.length) →
        (fixRunR fixInit (pre ++ .login q m :: ops)).frames[k] = q + k) ∧
    (fixRunR fixInit (pre ++ .login q m :: ops)).next
      = some (q + (fixRunR fixInit (pre ++ .login q m :: ops)).frames.length) := by
  have hrun : fixRunR fixInit (pre ++ .login q m :: ops)
      = fixRunR (fixStepR (fixRunR fixInit pre) (.login q m)).1 ops := by
    simp [fixRunR, List.foldl_append]
  rw [hrun, fixRunR_prelogin pre hpre]
  have h0 : Contig q (fixStepR fixInit (.login q m)).1 := by
    apply fixSendR_contig q _ m
    exact ⟨by simp [fixInit], by intro k hk; simp [fixInit] at hk⟩
  have := fixRunR_contig q ops hops _ h0
  exact ⟨this.2, this.1⟩

/-- `send_msg` as in the code: every send that writes nothing (rejected by validation, or not serialisable) leaves the whole
    state alone -/
theorem C10_fix_repaired_failed_send_consumes_nothing (s : FixSt) (m : FixMsg)
    (h : ∀ n, (fixSendR s m).2 ≠ .written n) : (fixSendR s m).1 = s := by
  rcases fixSendR_cases s m with ⟨hne, e⟩ | ⟨e, _⟩
  · rw [e] at h ⊢
    by_cases hv : m.bodyValid
    · cases hn : s.next with
      | none => exact fixSend_fst_none s m hn
      | some n => exact absurd (congrArg Prod.snd (fixSend_ok s m n hv hn (by simpa [hv] using hne))) (h n)
    · rw [C10_fix_reject_consumes_nothing s m (by simpa using hv)]
  · exact e

-- soup: a server history mixing every kind of operation, two sequenced packets reach the wire out of three attempts
example : (soupRun (soupInit .server 41)
    [.send (.seqData [1, 2]), .heartbeat, .send (.debug [104, 233]), .send (.debug [104]), .send (.loginAcc [115] 7),
     .close, .endSession, .send (.seqData [83])]).seq = 43 := by decide +kernel
example : countSeq (soupRun (soupInit .server 41)
    [.send (.seqData [1, 2]), .heartbeat, .send (.unseqData [0, 1, 83]), .send (.seqData [83])]).written = 2 := by decide +kernel
-- soup: adoption of a right-justified, zero-padded, 20 digit field
example : (clientLogin (soupInit .client 1) (.loginReq [117] [112] [] [49])
    [[0, 1, 72], [0, 31, 65] ++ List.replicate 10 32 ++ List.replicate 17 48 ++ [49, 50, 51]]).1.seq = 123 := by decide +kernel
example : C12.wfPkt (.loginAcc [115, 49] 18446744073709551616) = true := by decide +kernel
-- FIX: hypotheses of `C10_fix_kth_partial` hold on a history with rejected sends and heartbeats; frames are 7, 8, 9
example : noEncodeFailure [.login 7 ⟨true, true⟩, .send ⟨false, false⟩, .heartbeat ⟨true, true⟩, .send ⟨false, true⟩,
    .send ⟨true, true⟩] = true := by decide +kernel
example : (fixRun fixInit [.send ⟨true, true⟩, .login 7 ⟨true, true⟩, .send ⟨false, false⟩, .heartbeat ⟨true, true⟩,
    .send ⟨false, true⟩, .send ⟨true, true⟩]).frames = [7, 8, 9] := by decide +kernel

-- `fixRunR` on the witness history: 5, 6 (`fixRun` gives 5, 7 — Witness/C10.lean)
example : (fixRunR fixInit witnessGap).frames = [5, 6] := by decide +kernel

end NasdaqModel.Props.C10
