import NasdaqModel.Lemmas.AppSessionEvents
/-
C06, application sessions — a closed application session leaves nothing running and stays silent.

Theorems about the product machine `Model/AppSession.lean` for every configuration and every event sequence.  The inner
component is a legal state of the inner machine, so `Props/C06.lean` holds for the soup session's own tasks; here: the second
queue, its dispatcher `D2`, the receive helper `V2` and the callers of the application session.
-/
namespace NasdaqModel.Props.C06App
open NasdaqModel App

abbrev reach (a : ACfg) (evs : List Ev) : St := runEvs a {} evs

/-- **Nothing of the second stage is left.** When the close of the soup session has run to its end (the close callback
    `_on_soup_close` has returned), the application queue is stopped, its dispatcher and its receive helper have ended, and no
    application-level task is suspended any more — not in `queue.get()`, not awaiting the helper, not waiting for the close
    event: every caller has been released — and none is inside `soup_session.close()` (a second dispatcher that carried out the
    close itself, for a `close()` awaited from the message callback, has returned from it and ended). -/
theorem C06App_tasks_ended (a : ACfg) (evs : List Ev) (h : (reach a evs).inner.cstage = .finished)
    (hb : (reach a evs).built = true) :
    (reach a evs).q2Closed = true ∧ alive2 ((reach a evs).astatus .D2) = false ∧ (reach a evs).disp2Set = false ∧
    alive2 ((reach a evs).astatus .V2) = false ∧
    ∀ t, (reach a evs).astatus t ≠ .waitQ ∧ (reach a evs).astatus t ≠ .waitV ∧ (reach a evs).astatus t ≠ .waitE ∧
      (reach a evs).astatus t ≠ .inSoup := by
  have i := runEvs_Inv a evs
  have hc : (reach a evs).cpc = .finished := i.yy.s3 h
  have hl : lateStage (reach a evs).cpc = true := by rw [hc]; rfl
  have hD := i.ss.dnf rfl hb hc
  have hds := (i.ss.dn hb (Or.inr hl)).2
  have hV := i.ss.vn hb hl
  refine ⟨i.bb.q hb (by rw [hc]; simp), hD, hds, hV, ?_⟩
  intro t
  refine ⟨?_, ?_, ?_, ?_⟩
  · intro ht
    rcases i.ss.wq t ht with rfl | rfl
    · rw [ht] at hD; simp [alive2] at hD
    · rw [ht] at hV; simp [alive2] at hV
  · intro ht
    have := (i.ss.wv t ht).1
    rw [hV] at this; contradiction
  · intro ht
    exact i.bb.ev2 hc (i.ss.we t ht)
  · intro ht
    obtain ⟨rfl, _⟩ := i.ss.ip t ht
    rw [ht] at hD; simp [alive2] at hD

/-- **Nothing left running.** When the close has completed and no application-level task can take a step any more
    (quiescence), every application-level task — second dispatcher, receive helper, every caller — has finished. -/
theorem C06App_quiescent_clean (a : ACfg) (evs : List Ev) (h : (reach a evs).inner.cstage = .finished)
    (hb : (reach a evs).built = true) (hq : ∀ t, runnable2 (reach a evs) t = false) :
    ∀ t, alive2 ((reach a evs).astatus t) = false := by
  obtain ⟨_, _, _, _, hw⟩ := C06App_tasks_ended a evs h hb
  intro t
  have h1 := hq t
  obtain ⟨w1, w2, w3, w4⟩ := hw t
  unfold runnable2 at h1
  generalize (reach a evs).astatus t = x at h1 w1 w2 w3 w4
  clear hq hw h hb
  cases x <;> simp_all [alive2]

/-- **The second dispatcher and the receive helper cannot take a step any more**: after the close has completed `run D2` and
    `run V2` change nothing — no application message callback is invoked any more. -/
theorem C06App_no_callback_after_close (a : ACfg) (evs : List Ev) (h : (reach a evs).inner.cstage = .finished)
    (hb : (reach a evs).built = true) :
    step a (reach a evs) (.run .D2) = reach a evs ∧ step a (reach a evs) (.run .V2) = reach a evs := by
  obtain ⟨_, hD, _, hV, hw⟩ := C06App_tasks_ended a evs h hb
  have hni := (hw .D2).2.2.2
  have nr : ∀ t, alive2 ((reach a evs).astatus t) = false → runnable2 (reach a evs) t = false := by
    intro t ht
    unfold runnable2
    generalize (reach a evs).astatus t = x at ht
    clear hw hD hV hni h hb
    cases x <;> simp_all [alive2]
  exact ⟨by simp [step, nr _ hD, hni], by simp [step, nr _ hV]⟩

/-- **Completion is final**: once the close of the soup session has completed, no event of the product machine changes that
    (so the statements above hold for the rest of the session's life). -/
theorem C06App_finished_is_final (a : ACfg) (evs : List Ev) (ev : Ev) (h : (reach a evs).inner.cstage = .finished) :
    (reach a (evs ++ [ev])).inner.cstage = .finished := by
  have e : reach a (evs ++ [ev]) = step a (reach a evs) ev := by simp [reach, runEvs, List.foldl_append]
  rw [e]
  obtain ⟨es, hes⟩ := step_reach a (reach a evs) ev
  rw [hes]
  obtain ⟨es0, he0⟩ := runEvs_reach a evs
  have hcl : (reach a evs).inner.closed = true := by
    have := (Sess.runEvs_InvA (innerCfg a) es0).closed_iff
    rw [← he0] at this
    exact this.mpr (by rw [h]; simp)
  generalize (reach a evs).inner = i0 at h hcl
  clear hes he0 e
  induction es generalizing i0 with
  | nil => exact h
  | cons x xs ih =>
    show (Sess.runEvs (innerCfg a) (Sess.step (innerCfg a) i0 x) xs).cstage = .finished
    exact ih _ (Sess.step_finished_final _ _ x hcl h) (Sess.step_closed_mono _ _ x hcl)

/-- **A blocked `receive_message()` is released with the end-of-queue error.** A receive waiting on the empty application queue
    whose helper task was cancelled by `queue.stop()` in `_on_soup_close` ends with `EndOfQueue`; the helper task ends. -/
theorem C06App_blocked_receive_released (a : ACfg) (s : St) (u : Nat)
    (hW : s.astatus (.W u) = .waitV) (hpW : s.aprog (.W u) = .recvWait u)
    (hV : s.astatus .V2 = .cancelled) (hpV : s.aprog .V2 = .vget) (hq : s.q2Closed = true) (hv : s.vres2 = none) :
    let s' := step a (step a s (.run .V2)) (.run (.W u))
    s'.tr = s.tr ++ [.app (.ret u .eoq)] ∧ alive2 (s'.astatus .V2) = false ∧ alive2 (s'.astatus (.W u)) = false := by
  simp [step, runnable2, hW, hV, stepRun2, hpV, St.finish2, hpW, hv, hq, St.emit2, alive2]

/-! ### non-vacuity -/

private def a1 : ACfg :=
  { dec := fun n => if n = 0 then .skip else .val n
    hasMsgCb := false, msgBeh := fun _ => .ret, hasCb := true, cbBeh := .ret, closedFirst := true }

/-- pull mode: `receive_message()` is blocked on the empty application queue when the peer disconnects; the closing task stops
    the soup session and, inside `_on_soup_close`, cancels the receive helper; the caller gets `EndOfQueue` -/
private def life : List Ev :=
  [.inner .connect, .inner (.callLogin 1), .inner (.run .V), .inner (.data [.msg 0]), .inner (.run .R), .inner (.run .V),
   .inner (.run (.U 1)), .inner (.run .D), .appRecv 2, .run .V2, .inner .eof,
   .inner (.run .C), .inner (.run .D), .inner (.run .C), .inner (.run .L), .inner (.run .C), .inner (.run .M), .inner (.run .C),
   .inner (.run .R), .inner (.run .C), .run .V2, .inner (.run .C), .run (.W 2)]

set_option maxRecDepth 100000 in
example : (reach a1 life).trace2 = [.cbEnter, .cbExit, .ret 2 .eoq] := by decide +kernel
set_option maxRecDepth 100000 in
example : (reach a1 life).inner.cstage = .finished ∧ (reach a1 life).built = true ∧
    [ATid.D2, .V2, .W 2].all (fun t => !alive2 ((reach a1 life).astatus t)) = true := by decide +kernel

end NasdaqModel.Props.C06App
