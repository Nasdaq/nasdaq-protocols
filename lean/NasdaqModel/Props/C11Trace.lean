import NasdaqModel.Lemmas.LoginTraceW
import NasdaqModel.Lemmas.SessionTick
import NasdaqModel.Props.C05
import NasdaqModel.Props.C11
/-
C11 — login either yields a working session or fails cleanly: **whole attempts**.

`Props/C11.lean` has the step lemmas (one `step` from a state satisfying local hypotheses).  Here every clause of the property is
proved of the trace and the state reached by an **arbitrary event list from the fresh session** (`reach cfg evs`): any reply
stream, segmentation, disconnect offset, cancellation phase, any interleaving with unrelated user calls, other user tasks, monitors
tripping, data arriving before and after — for every configuration (`fixLogin` is a field of `cfg`; the machine's login procedure is
the same for soup and FIX after commits f00cdb5 / 3767366 / f58394d, so every theorem holds for both).

"`u` is a login caller" is read off the event list: `loginCaller u evs` — task `u` makes no call other than `login()` (user tasks
are single-use in the model; `ret u r` is then the outcome of that `login()`, and it exists only if `callLogin u` occurred:
`C11_outcome_needs_call`).  "X occurs before Y" is stated as: whenever the trace splits as `l1 ++ Y :: l2`, X is in `l1`.
Because every theorem holds for every `evs`, it holds for every prefix of a run — e.g. `C11_outcomes` gives "`cancel u` occurred
before the attempt returned `cancelled`" when instantiated with the shortest prefix whose trace contains that `ret`.
-/
namespace NasdaqModel.Props.C11Trace
open NasdaqModel Sess

abbrev reach (cfg : Cfg) (evs : List Ev) : St := runEvs cfg {} evs

/-- task `u` is used for `login()` only -/
def loginCaller (u : Nat) (evs : List Ev) : Prop :=
  ∀ ev ∈ evs, ev ≠ .callClose u ∧ ev ≠ .callRecv u ∧ ev ≠ .callRecvNowait u

instance (u : Nat) (evs : List Ev) : Decidable (loginCaller u evs) := by unfold loginCaller; infer_instance

private theorem okEv_of_loginCaller {u : Nat} {evs : List Ev} (hu : loginCaller u evs) : ∀ ev ∈ evs, okEv u ev := hu

private theorem inv (cfg : Cfg) (u : Nat) (evs : List Ev) (hu : loginCaller u evs) :
    LoginInv cfg u (Ev.callSend ∈ evs) (Ev.callLogout ∈ evs) (Ev.cancel u ∈ evs) (Ev.callLogin u ∈ evs) False False (reach cfg evs) :=
  runEvs_LoginInv cfg u evs (okEv_of_loginCaller hu)

private theorem split_of_mem {o : Obs} {l : List Obs} (h : o ∈ l) : ∃ l1 l2, l = l1 ++ o :: l2 := List.append_of_mem h

/-! ### 1. the outcomes of an attempt -/

/-- **Outcomes.** Whatever happens, a `login()` ends — if it ends — in one of four ways: it returns the session, it raises the
    connection-refused error, the caller's cancellation propagates, or (API misuse, see below) it raises `StateError`.
    And it ends `cancelled` only if the caller asked for that: a `cancel u` event occurred. -/
theorem C11_outcomes (cfg : Cfg) (evs : List Ev) (u : Nat) (r : Res) (hu : loginCaller u evs)
    (h : Obs.ret u r ∈ (reach cfg evs).trace) :
    (r = .ok ∨ r = .refused ∨ r = .cancelled ∨ r = .state) ∧ (r = .cancelled → Ev.cancel u ∈ evs) := by
  have i := (inv cfg u evs hu).caller
  obtain ⟨l1, l2, e⟩ := split_of_mem h
  exact ⟨(i.rets l1 _ l2 e r rfl).1, fun hr => i.rcan (hr ▸ h)⟩

/-- an outcome exists only for a call that was made -/
theorem C11_outcome_needs_call (cfg : Cfg) (evs : List Ev) (u : Nat) (r : Res) (hu : loginCaller u evs)
    (h : Obs.ret u r ∈ (reach cfg evs).trace) : Ev.callLogin u ∈ evs := by
  have i := (inv cfg u evs hu).caller
  exact i.called (i.retst r h)

/-- **`StateError` only when dispatching is already on.** If the attempt ends with `state`, a message callback is configured and
    dispatching had been switched on before the call: by the configuration (`dispatchOnConnect`), or by an earlier login that
    consumed an acceptance and returned the session (`loginReply 0` immediately followed by `ret u' ok` earlier in the trace). -/
theorem C11_state_only_when_dispatching (cfg : Cfg) (evs : List Ev) (u : Nat) (hu : loginCaller u evs) (l1 l2 : List Obs)
    (e : (reach cfg evs).trace = l1 ++ Obs.ret u .state :: l2) :
    cfg.hasMsgCb = true ∧ (cfg.dispatchOnConnect = true ∨ AcceptedIn l1) :=
  ((inv cfg u evs hu).caller.rets l1 _ l2 e .state rfl).2.2 rfl

/-- **Client configuration, first login: never `StateError`.** With `dispatchOnConnect = false`, a login attempt made before any
    acceptance was consumed does not end with `state`. -/
theorem C11_no_state_before_first_accept (cfg : Cfg) (evs : List Ev) (u : Nat) (hu : loginCaller u evs)
    (hc : cfg.dispatchOnConnect = false) (l1 l2 : List Obs) (hno : Obs.loginReply 0 ∉ l1) :
    (reach cfg evs).trace ≠ l1 ++ Obs.ret u .state :: l2 := by
  intro e
  rcases (C11_state_only_when_dispatching cfg evs u hu l1 l2 e).2 with h | ⟨a, b, u', h⟩
  · rw [hc] at h; simp at h
  · exact hno (by rw [h]; simp)

/-- precisely when it happens: a `login()` call that gets past the guards of the model (fresh user task, no receive pending)
    writes its request and ends at once with `state` exactly if dispatching is on at that moment -/
theorem C11_state_iff_dispatching (cfg : Cfg) (s : St) (u : Nat) (hu : s.status (.U u) = .absent)
    (hb : s.rcvBusy = false) (hv : alive (s.status .V) = false) (hres : s.vres = none) :
    (step cfg s (.callLogin u)).trace = s.trace ++ [.write .login, .ret u .state] ↔ s.dispSet = true := by
  simp only [step, hu, hb, hv, bne_self_eq_false, Bool.or_self, Bool.false_eq_true, if_false]
  unfold startRecv
  simp only [St.emit, hb, hv, hres, Option.isSome_none, Bool.or_self, Bool.false_eq_true, if_false]
  constructor
  · intro h
    apply Decidable.byContradiction
    intro hd
    simp only [hd, if_false] at h
    split at h
    · simp [St.setStatus, St.setProg] at h
    · split at h
      · simp [St.setStatus] at h
      · simp [St.setStatus, St.setProg, St.spawn] at h
  · intro hd
    simp [hd, St.setStatus]

/-! ### 2. the attempt returns the session -/

/-- **Reply after request.** Whenever `login()` consumes a reply, the login request was written before. -/
theorem C11_reply_after_request (cfg : Cfg) (evs : List Ev) (l1 l2 : List Obs) (n : Nat)
    (e : (reach cfg evs).trace = l1 ++ Obs.loginReply n :: l2) : Obs.write .login ∈ l1 :=
  (runEvs_InvT cfg evs).reply l1 _ l2 e n rfl

/-- **First bytes.** Client configuration: the first write of a session is the login request — unless the user itself sent
    application data or logged out earlier (then that is the first write, and the corresponding call is in the event list). -/
theorem C11_first_write_is_login (cfg : Cfg) (evs : List Ev) (hc : cfg.dispatchOnConnect = false) (l1 l2 : List Obs) (k : WKind)
    (e : (reach cfg evs).trace = l1 ++ Obs.write k :: l2) (hfirst : ∀ k', Obs.write k' ∉ l1) :
    k = .login ∨ (k = .data ∧ Ev.callSend ∈ evs) ∨ (k = .logout ∧ Ev.callLogout ∈ evs) := by
  have i := runEvs_InvT cfg evs
  have hm : Obs.write k ∈ (reach cfg evs).trace := by rw [e]; simp
  rcases i.fw hc l1 _ l2 e k rfl hfirst with h | h | h
  · exact Or.inl h
  · subst h; exact Or.inr (Or.inl ⟨rfl, i.sent hm⟩)
  · subst h; exact Or.inr (Or.inr ⟨rfl, i.logged hm⟩)

/-- **Active.** If the attempt of login caller `u` returns the session, then in the trace before that return:
    (a) the login request was written; (b) the acceptance was consumed — `loginReply 0` is the observable immediately before
    `ret u ok`; (c) no message callback was entered; (d) the transport was not closed.
    And (e) both heartbeat monitors have been started; while the session stays open they are running. -/
theorem C11_active (cfg : Cfg) (evs : List Ev) (u : Nat) (hu : loginCaller u evs) (l1 l2 : List Obs)
    (e : (reach cfg evs).trace = l1 ++ Obs.ret u .ok :: l2) :
    Obs.write .login ∈ l1 ∧ (∃ l0, l1 = l0 ++ [Obs.loginReply 0]) ∧ (∀ n, Obs.msgEnter n ∉ l1) ∧ Obs.tclose ∉ l1 ∧
    ((reach cfg evs).status .L ≠ .absent ∧ (reach cfg evs).status .M ≠ .absent) ∧
    ((reach cfg evs).closed = false → (reach cfg evs).status .L = .ready ∧ (reach cfg evs).status .M = .ready) := by
  have i := inv cfg u evs hu
  obtain ⟨h1, h2, h3, h4⟩ := (i.caller.rets l1 _ l2 e .ok rfl).2.1 rfl
  have hm : Obs.ret u .ok ∈ (reach cfg evs).trace := by rw [e]; simp
  have hb := i.caller.hb hm
  refine ⟨h4, h1, h2, h3, hb, fun hc => ?_⟩
  obtain ⟨mL, mM⟩ := i.w.mons hc
  exact ⟨mL.resolve_left hb.1, mM.resolve_left hb.2⟩

/-- **Active, at the moment of return.** The step in which `ret u ok` appears is the step of task `u` that consumes the acceptance
    on a session that is neither closed nor closing; in the state right after it the session is still open, both monitors are
    runnable, and the dispatcher has been started if a message callback is configured (and was not running). -/
theorem C11_active_at_return (cfg : Cfg) (evs : List Ev) (ev : Ev) (u : Nat) (hu : loginCaller u (evs ++ [ev]))
    (hnew : Obs.ret u .ok ∉ (reach cfg evs).trace) (h : Obs.ret u .ok ∈ (reach cfg (evs ++ [ev])).trace) :
    ev = .run (.U u) ∧ (reach cfg evs).vres = some 0 ∧ (reach cfg evs).closed = false ∧ (reach cfg evs).closingTask = false ∧
    (reach cfg (evs ++ [ev])).trace = (reach cfg evs).trace ++ [.loginReply 0, .ret u .ok] ∧
    (reach cfg (evs ++ [ev])).closed = false ∧
    (reach cfg (evs ++ [ev])).status .L = .ready ∧ (reach cfg (evs ++ [ev])).status .M = .ready ∧
    (cfg.hasMsgCb = true → (reach cfg evs).dispSet = false →
      (reach cfg (evs ++ [ev])).status .D = .ready ∧ (reach cfg (evs ++ [ev])).prog .D = .dispLoop) := by
  have hu0 : loginCaller u evs := fun e he => hu e (List.mem_append_left _ he)
  have hev : okEv u ev := okEv_of_loginCaller hu ev (by simp)
  have i := inv cfg u evs hu0
  have hs : reach cfg (evs ++ [ev]) = step cfg (reach cfg evs) ev := runEvs_snoc cfg {} evs ev
  rw [hs] at h ⊢
  -- were this not the accepting step, `ret u ok` would not have appeared
  have hacc : AcceptCond (reach cfg evs) ev u := by
    apply Classical.byContradiction
    intro hna
    have ju : InvU cfg u (Ev.cancel u ∈ evs ++ [ev]) (Ev.callLogin u ∈ evs ++ [ev]) True False (reach cfg evs) :=
      i.caller.weaken (List.mem_append_left _) (List.mem_append_left _) (fun _ => hnew) (fun f => f.elim)
    have := (step_keeps (sd := True) (lo := True) i.a i.r i.b i.w ev (fun _ => trivial) (fun _ => trivial)).caller
      (i.t.weaken (fun _ => trivial) (fun _ => trivial)) ju ⟨hev, fun e => by rw [e]; simp, fun e => by rw [e]; simp, fun _ => hna⟩
    exact this.spent1 trivial h
  obtain ⟨hev', hst, hp, hv, hc, hct⟩ := hacc
  subst hev'
  obtain ⟨t1, t2, t3, t4, t5⟩ := C11.C11_accept_yields_active_session cfg (reach cfg evs) u hst hp hv hc hct
  exact ⟨rfl, hv, hc, hct, t1, t2, t3, t4, t5⟩

/-! ### 3. the attempt fails: the session is closed, and the clean-up completes -/

/-- **Refused or cancelled ⇒ closed.** If the attempt raised the connection-refused error or the caller's cancellation
    propagated, the session reports closed, the close body has been entered and the queue is stopped. -/
theorem C11_refused_clean (cfg : Cfg) (evs : List Ev) (u : Nat) (hu : loginCaller u evs)
    (h : Obs.ret u .refused ∈ (reach cfg evs).trace ∨ Obs.ret u .cancelled ∈ (reach cfg evs).trace) :
    (reach cfg evs).closed = true ∧ (reach cfg evs).cstage ≠ .idle ∧ (reach cfg evs).qClosed = true := by
  have i := inv cfg u evs hu
  have hc := i.caller.failed h
  have hne := i.a.closed_iff.mp hc
  exact ⟨hc, hne, i.a.qclosed hne⟩

/-- … closed for good: whatever happens afterwards (`C07_closed_is_final` along any continuation) -/
theorem C11_refused_stays_closed (cfg : Cfg) (evs evs' : List Ev) (u : Nat) (hu : loginCaller u evs)
    (h : Obs.ret u .refused ∈ (reach cfg evs).trace ∨ Obs.ret u .cancelled ∈ (reach cfg evs).trace) :
    (reach cfg (evs ++ evs')).closed = true := by
  have hc := (C11_refused_clean cfg evs u hu h).1
  show (runEvs cfg {} (evs ++ evs')).closed = true
  rw [runEvs_append]
  exact runEvs_closed_mono cfg evs' _ hc

/-- … and the clean-up goes on: until the close has run to its end there is always a definite task that can take its next step
    (`C05_close_never_deadlocks`) -/
theorem C11_refused_cleanup_progresses (cfg : Cfg) (evs : List Ev) (u : Nat) (hu : loginCaller u evs)
    (h : Obs.ret u .refused ∈ (reach cfg evs).trace ∨ Obs.ret u .cancelled ∈ (reach cfg evs).trace) :
    (reach cfg evs).cstage = .finished ∨ (reach cfg evs).cstage = .aborted ∨
    ∃ t, runnable (reach cfg evs) t = true ∧
      (isCloser (reach cfg evs) t ∨ ∃ t', isCloser (reach cfg evs) t' ∧ (reach cfg evs).status t' = .waitT t) := by
  have hc := (C11_refused_clean cfg evs u hu h).1
  by_cases hf : (reach cfg evs).cstage = .finished
  · exact Or.inl hf
  · by_cases ha : (reach cfg evs).cstage = .aborted
    · exact Or.inr (Or.inl ha)
    · exact Or.inr (Or.inr (C05.C05_close_never_deadlocks cfg evs hc hf ha))

/-- **Nothing left open or running.** Composition with C05 / C06: once nothing can run any more (quiescence) after a failed
    attempt, the close has run to its end — the close callback has returned, or the *caller* cancelled the closing user task
    inside its own close callback (`aborted`) — and every task the library started (reader, dispatcher, both monitors, closing
    task, receive helper) has finished. -/
theorem C11_refused_quiescent_clean (cfg : Cfg) (evs : List Ev) (u : Nat) (hu : loginCaller u evs)
    (h : Obs.ret u .refused ∈ (reach cfg evs).trace ∨ Obs.ret u .cancelled ∈ (reach cfg evs).trace)
    (hq : ∀ t, runnable (reach cfg evs) t = false) :
    ((reach cfg evs).cstage = .finished ∨ (reach cfg evs).cstage = .aborted) ∧
    (Obs.tclose ∈ (reach cfg evs).trace) ∧
    ∀ t ∈ libTasks, alive ((reach cfg evs).status t) = false := by
  have i := inv cfg u evs hu
  have hfin : (reach cfg evs).cstage = .finished ∨ (reach cfg evs).cstage = .aborted := by
    rcases C11_refused_cleanup_progresses cfg evs u hu h with h | h | ⟨t, ht, _⟩
    · exact Or.inl h
    · exact Or.inr h
    · rw [hq t] at ht; simp at ht
  have b := i.b
  obtain ⟨hL, hM, hV, hD, hR⟩ := b.fin hfin
  have hrun : ∀ t, (reach cfg evs).status t = .ready → False := by
    intro t ht
    have := hq t
    simp [runnable, ht] at this
  refine ⟨hfin, ?_, ?_⟩
  · -- the transport was closed: the close sequence has passed phase 1
    have h9 := C05.C05_close_sequence cfg evs
    apply tclose_mem_of_phase _ h9
    show 1 ≤ monRun _
    rw [i.a.phase]
    rcases hfin with hf | hf
    · rw [hf]
      show 1 ≤ (if cfg.hasCb then 3 else 1)
      split <;> omega
    · rw [hf]
      exact (by decide : 1 ≤ 2)
  · intro t ht
    simp only [libTasks, List.mem_cons, List.mem_nil_iff, or_false] at ht
    rcases ht with rfl | rfl | rfl | rfl | rfl | rfl
    · exact hR.resolve_right (fun h' => hrun _ h')
    · exact hD.resolve_right (fun h' => hrun _ h')
    · exact hL
    · exact hM
    · cases hst : (reach cfg evs).status .C with
      | absent => rfl
      | done => rfl
      | ready => exact absurd (hrun _ hst) id
      | cancelled => exact absurd hst b.ccan
      | waitQ => rcases b.waitq _ hst with h' | h' <;> simp at h'
      | waitT y =>
        rcases b.waitt _ _ hst with ⟨pc, c, hb⟩ | ⟨u', hu', _⟩
        · rcases hfin with hf | hf <;> rw [hf] at hb <;> contradiction
        · simp at hu'
    · exact hV

/-! ### 4. any reply other than an acceptance on an active session is a refusal -/

/-- in the trace: the observable right before `ret u ok` is never a reply other than the acceptance -/
theorem C11_ok_only_after_acceptance (cfg : Cfg) (evs : List Ev) (u : Nat) (hu : loginCaller u evs) (l1 l2 : List Obs) (n : Nat)
    (e : (reach cfg evs).trace = l1 ++ Obs.loginReply n :: Obs.ret u .ok :: l2) : n = 0 := by
  have e' : (reach cfg evs).trace = (l1 ++ [Obs.loginReply n]) ++ Obs.ret u .ok :: l2 := by rw [e]; simp
  obtain ⟨l0, h⟩ := (C11_active cfg evs u hu _ l2 e').2.1
  have := List.append_inj' h rfl
  simpa using this.2

/-- **Any other reply, or an acceptance on a closing session, is refused — per attempt.** Suppose the `login()` of task `u` is about
    to resume with reply `n` (reached by any history), and `n` is not the acceptance, or the session is already closed / closing
    (a disconnect in the same turn, f58394d).  Then that step sets the closed flag, and however the run continues, no `ret u ok`
    is ever added to the trace. -/
theorem C11_any_other_reply_refused (cfg : Cfg) (evs evs' : List Ev) (u n : Nat)
    (hu : loginCaller u (evs ++ .run (.U u) :: evs'))
    (hst : (reach cfg evs).status (.U u) = .ready) (hp : (reach cfg evs).prog (.U u) = .loginWait u)
    (hv : (reach cfg evs).vres = some n)
    (hn : n ≠ 0 ∨ (reach cfg evs).closed = true ∨ (reach cfg evs).closingTask = true) :
    (reach cfg (evs ++ [.run (.U u)])).closed = true ∧
    (Obs.ret u .ok ∈ (reach cfg (evs ++ .run (.U u) :: evs')).trace → Obs.ret u .ok ∈ (reach cfg evs).trace) := by
  have hu0 : loginCaller u evs := fun e he => hu e (List.mem_append_left _ he)
  have hu1 : ∀ e ∈ evs', okEv u e := fun e he => okEv_of_loginCaller hu e (by simp [he])
  have hs1 : reach cfg (evs ++ [.run (.U u)]) = step cfg (reach cfg evs) (.run (.U u)) := runEvs_snoc cfg {} evs _
  have hcl := C11.C11_other_reply_closes cfg (reach cfg evs) u n hst hp hv hn
  refine ⟨by rw [hs1]; exact hcl, ?_⟩
  have i := inv cfg u evs hu0
  generalize hs : reach cfg evs = s at *
  have hstep : step cfg s (.run (.U u)) =
      enterClose cfg (({ s with imm := none, vres := none, rcvBusy := false, gone := s.gone ++ [(n, true)] } : St).emit (.loginReply n))
        (.U u) (.userTail u .refused) := by
    have : (decide (n = 0) && !(s.closed || s.closingTask)) = false := by
      rcases hn with h | h | h <;> simp [h]
    simp only [step, runnable, hst, beq_self_eq_true, Bool.true_or, if_true, stepRun, hp, loginResume, hv, St.emit, this,
      Bool.false_eq_true, if_false]
  have p : ClosePre s (.U u) := ClosePre.of_inv i.a i.b hst (c := .userTail u .refused) rfl
  have spec := enterClose_spec (cfg := cfg)
    (s := (({ s with imm := none, vres := none, rcvBusy := false, gone := s.gone ++ [(n, true)] } : St).emit (.loginReply n)))
    (c := .userTail u .refused) (p.same rfl rfl rfl) rfl
  rw [← hstep] at spec
  -- from now on `u` is past its receive
  let sp : Prop := Obs.ret u .ok ∉ s.trace
  have i0 : LoginInv cfg u (Ev.callSend ∈ evs ++ .run (.U u) :: evs') (Ev.callLogout ∈ evs ++ .run (.U u) :: evs')
      (Ev.cancel u ∈ evs ++ .run (.U u) :: evs') (Ev.callLogin u ∈ evs ++ .run (.U u) :: evs') sp False s := by
    exact ⟨i.a, i.r, i.b, i.w, i.t.weaken (List.mem_append_left _) (List.mem_append_left _),
      i.caller.weaken (List.mem_append_left _) (List.mem_append_left _) (fun h => h) (fun f => f.elim)⟩
  have i1 := i0.step (.run (.U u)) (hu _ (by simp)) (by simp) (by simp) (by simp) (by simp)
    (fun _ ⟨_, _, _, hv', hc', hct'⟩ => by
      rw [hv] at hv'; injection hv' with hv'
      rcases hn with h | h | h
      · exact h hv'
      · rw [hc'] at h; simp at h
      · rw [hct'] at h; simp at h)
  have hpast : (step cfg s (.run (.U u))).status (.U u) ≠ .absent ∧
      ((step cfg s (.run (.U u))).prog (.U u) ≠ .loginWait u ∨ (step cfg s (.run (.U u))).status (.U u) = .done) := by
    constructor
    · intro e
      have := (spec.nabs (.U u)).mp e
      have h' : s.status (.U u) = .absent := this
      rw [hst] at h'; simp at h'
    · rcases spec.fin with f | f | f | f
      · exact Or.inr f
      · left; rw [f.1]; simp
      · simp at f
      · simp at f
  have i2 : LoginInv cfg u (Ev.callSend ∈ evs ++ .run (.U u) :: evs') (Ev.callLogout ∈ evs ++ .run (.U u) :: evs')
      (Ev.cancel u ∈ evs ++ .run (.U u) :: evs') (Ev.callLogin u ∈ evs ++ .run (.U u) :: evs') sp True
      (step cfg s (.run (.U u))) := by
    exact ⟨i1.a, i1.r, i1.b, i1.w, i1.t, i1.caller.weaken id id i1.caller.spent1 (fun _ => hpast)⟩
  have i3 := i2.run evs' hu1 (fun h => by simp [h]) (fun h => by simp [h]) (fun h => by simp [h]) (fun h => by simp [h]) (Or.inr trivial)
  intro hok
  apply Decidable.byContradiction
  intro hno
  have e3 : reach cfg (evs ++ .run (.U u) :: evs') = runEvs cfg (step cfg s (.run (.U u))) evs' := by
    show runEvs cfg {} (evs ++ .run (.U u) :: evs') = _
    rw [runEvs_append]
    show runEvs cfg (reach cfg evs) (.run (.U u) :: evs') = _
    rw [hs]; rfl
  rw [e3] at hok
  exact i3.caller.spent1 hno hok

/-! ### 5. non-vacuity: concrete attempts, for soup (`fixLogin = false`) and FIX (`fixLogin = true`) -/

private def cfgOf (fix : Bool) : Cfg :=
  { msgBeh := fun _ => .ret, cbBeh := .ret, hasCb := true, dispatchOnConnect := false, hasMsgCb := true, fixLogin := fix }

/-- accepted, with a data message piggy-backed on the acceptance and an unrelated user sending meanwhile -/
private def accepted : List Ev :=
  [.connect, .callLogin 1, .run .V, .data [.msg 0, .msg 5], .run .R, .callSend, .run .R, .run .V, .run (.U 1), .run .D]
/-- rejected (reply 7) -/
private def rejected : List Ev :=
  [.connect, .callLogin 1, .run .V, .data [.msg 7], .run .R, .run .V, .run (.U 1), .run .R, .run (.U 1)]
/-- the peer disconnects in the middle of the reply (no complete frame ever arrives) -/
private def eofMidReply : List Ev :=
  [.connect, .callLogin 1, .run .V, .data [], .eof, .run .C, .run .V, .run (.U 1), .run .C, .run .R, .run .C]
/-- the caller cancels while the peer is silent -/
private def cancelled : List Ev :=
  [.connect, .callLogin 1, .run .V, .cancel 1, .run .V, .run (.U 1), .run .R, .run (.U 1)]
/-- the caller cancels after the helper task took the acceptance, before `login()` resumed -/
private def cancelledLate : List Ev :=
  [.connect, .callLogin 1, .run .V, .data [.msg 0], .run .R, .run .V, .cancel 1, .run (.U 1), .run .R, .run (.U 1)]
/-- the acceptance is delivered in the turn in which the connection is lost (f58394d) -/
private def acceptedThenLost : List Ev :=
  [.connect, .callLogin 1, .run .V, .data [.msg 0], .run .R, .run .V, .eof, .run (.U 1)]

example : ∀ fix, (reach (cfgOf fix) accepted).trace =
    [.write .login, .write .data, .loginReply 0, .ret 1 .ok, .msgEnter 5, .msgExit 5] := by decide +kernel
example : loginCaller 1 accepted := by decide +kernel
example : ∀ fix, (reach (cfgOf fix) rejected).trace =
    [.write .login, .loginReply 7, .tclose, .cbEnter, .cbExit, .ret 1 .refused] := by decide +kernel
example : ∀ fix, (reach (cfgOf fix) eofMidReply).trace = [.write .login, .ret 1 .refused, .tclose, .cbEnter, .cbExit] := by decide +kernel
example : ∀ fix, (reach (cfgOf fix) eofMidReply).cstage = .finished ∧
    libTasks.all (fun t => !alive ((reach (cfgOf fix) eofMidReply).status t)) = true := by decide +kernel
example : ∀ fix, (reach (cfgOf fix) cancelled).trace = [.write .login, .tclose, .cbEnter, .cbExit, .ret 1 .cancelled] := by decide +kernel
example : ∀ fix, (reach (cfgOf fix) cancelledLate).trace = [.write .login, .tclose, .cbEnter, .cbExit, .ret 1 .cancelled] := by decide +kernel
/-- the acceptance held for the cancelled `login()` is not lost: it is back in front of the (closed) queue, readable by
    `receive_msg_nowait()` before the end-of-queue error -/
example : ∀ fix, (reach (cfgOf fix) cancelledLate).lost = [] ∧ (reach (cfgOf fix) cancelledLate).queue = [0] := by decide +kernel
example : ∀ fix, (reach (cfgOf fix) (cancelledLate ++ [.callRecvNowait 2, .callRecvNowait 3])).trace =
    [.write .login, .tclose, .cbEnter, .cbExit, .ret 1 .cancelled, .ret 2 (.msg 0), .ret 3 .eoq] := by decide +kernel
example : ∀ fix, (reach (cfgOf fix) acceptedThenLost).trace = [.write .login, .loginReply 0] ∧
    (reach (cfgOf fix) acceptedThenLost).closed = true ∧ (reach (cfgOf fix) acceptedThenLost).status .L = .absent := by decide +kernel
/-- the hypotheses of `C11_any_other_reply_refused` are satisfiable: a rejection, and an acceptance on a closing session -/
example : (reach (cfgOf false) (rejected.take 6)).status (.U 1) = .ready ∧ (reach (cfgOf false) (rejected.take 6)).vres = some 7 := by decide +kernel
example : (reach (cfgOf true) (acceptedThenLost.take 7)).vres = some 0 ∧
    (reach (cfgOf true) (acceptedThenLost.take 7)).closingTask = true := by decide +kernel
/-- API misuse: a second `login()` on a session that is already dispatching writes its request and raises `StateError` -/
example : (reach (cfgOf false) (accepted ++ [.callLogin 2])).trace =
    [.write .login, .write .data, .loginReply 0, .ret 1 .ok, .msgEnter 5, .msgExit 5, .write .login, .ret 2 .state] := by decide +kernel

end NasdaqModel.Props.C11Trace
