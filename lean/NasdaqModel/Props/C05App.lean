import NasdaqModel.Lemmas.AppSessionObs
import NasdaqModel.Lemmas.AppSessionEvents
import NasdaqModel.Lemmas.AppMonitorLemmas
import NasdaqModel.Props.C05
/-
C05, application sessions — every way of ending an ITCH / OUCH / SQF / ASN.1 application session closes it once, completely.

Theorems about the product machine `Model/AppSession.lean` (inner session machine × application layer: second queue, its dispatcher
`D2` and receive helper `V2`, the close event, `_on_soup_message`, `_on_soup_close`) for **every** configuration — any `decode`,
pull or callback mode, message callbacks that return / await / raise / await `close()` / await `close()` in their cancellation
clean-up, close callbacks that return / await / await `close()` — and **every** event sequence: any interleaving of inner events
(bytes, disconnects, heartbeat trips, soup-level calls, task steps), application task steps, `close()` / `receive_message()` calls
and user cancellations.  The inner component is always a legal state of the inner machine (`C04App_inner_reachable`), so
`Props/C05.lean` holds for it verbatim; what is proved here is the second stage.

`closedFirst = true` is the code as it is (commit 7eb8348: `closed = True` before `await self._message_queue.stop()`); the order
before that commit is `closedFirst = false`.

`close()` awaited from the message callback is carried out by the calling task, the second dispatcher (/repo 4b4f253,
C05-app-close-from-message-callback; `Model/AppSession.lean`, `closeOnD2`): `C05App_close_never_raises` holds without any
hypothesis on the callbacks.  `Witness/C05AppOld.lean` has the transition of the code before that commit and decides that it ends the
call with `CancelledError` on the recorded history (and, with the old order, deadlocks in the clean-up).
-/
namespace NasdaqModel.Props.C05App
open NasdaqModel App

abbrev reach (a : ACfg) (evs : List Ev) : St := runEvs a {} evs

/-- **The application-level close sequence.** In every reachable state the application-level trace is accepted by the close
    monitor: the user's close callback entered at most once, left at most once after that, and no application message callback
    started once it has been entered. -/
theorem C05App_close_sequence (a : ACfg) (evs : List Ev) : mon2Run (reach a evs).trace2 ≠ 9 := by
  rw [(runEvs_Inv a evs).bb.ph]
  unfold phase2
  split <;> (try split) <;> omega

/-- **At most once.** Whatever combination and repetition of close triggers occurs, the application's close callback is entered
    and left at most once. -/
theorem C05App_cb_at_most_once (a : ACfg) (evs : List Ev) :
    (reach a evs).trace2.count .cbEnter ≤ 1 ∧ (reach a evs).trace2.count .cbExit ≤ 1 := by
  have h := C05App_close_sequence a evs
  exact ⟨(count2_cbEnter _ 0 h).1 rfl, (count2_cbExit _ 0 h).1 (by omega)⟩

/-- **The callback returns after it was entered.** -/
theorem C05App_callback_exit_after_enter (a : ACfg) (evs : List Ev) (l1 l2 : List AObs)
    (e : (reach a evs).trace2 = l1 ++ AObs.cbExit :: l2) : AObs.cbEnter ∈ l1 :=
  cbEnter2_before_cbExit2 _ l1 l2 (C05App_close_sequence a evs) e

/-- **After the last message callback.** No application message callback is started once the application's close callback has
    been entered. -/
theorem C05App_no_message_callback_after_close_callback (a : ACfg) (evs : List Ev) (l1 l2 : List AObs) (v : Nat)
    (e : (reach a evs).trace2 = l1 ++ AObs.msgEnter v :: l2) : AObs.cbEnter ∉ l1 ∧ AObs.cbExit ∉ l1 :=
  no_msgEnter2_after_cbEnter2 _ l1 l2 v (C05App_close_sequence a evs) e

/-- **Transport first, queue stopped first.** Whenever the application's close callback has been entered, the soup session reports
    closed, its transport has been closed, the application queue is stopped and the application session reports closed.
    (This holds in every reachable state, in particular in the one in which the callback is entered.) -/
theorem C05App_callback_after_soup_close (a : ACfg) (evs : List Ev) (h : AObs.cbEnter ∈ (reach a evs).trace2) :
    (reach a evs).inner.closed = true ∧ Sess.Obs.tclose ∈ (reach a evs).inner.trace ∧
    (reach a evs).q2Closed = true ∧ (reach a evs).appClosed = true := by
  have i := runEvs_Inv a evs
  have hne : (reach a evs).cpc ≠ .idle ∧ (reach a evs).built = true ∧ lateStage (reach a evs).cpc = true := by
    have hph := i.bb.ph
    by_cases h0 : phase2 a (reach a evs) = 0
    · rw [h0] at hph
      exact absurd h (mon2_zero_no_cb _ hph).1
    · unfold phase2 at h0
      split at h0
      · rename_i k hc; exact ⟨by rw [hc]; simp, i.bb.bu (Or.inl (by rw [hc]; rfl)), by rw [hc]; rfl⟩
      · rename_i hc; exact ⟨by rw [hc]; simp, i.bb.bu (Or.inr hc), by rw [hc]; rfl⟩
      · rename_i hc
        split at h0
        · rename_i hb; simp at hb; exact ⟨by rw [hc]; simp, hb.2, by rw [hc]; rfl⟩
        · contradiction
      · contradiction
  exact ⟨i.bb.b hne.1, i.bb.tc hne.1, i.bb.q hne.2.1 hne.1, i.bb.ac2 hne.2.1 hne.2.2⟩

/-- **`closed` means closed.** The application session reports closed only when the soup session reports closed and
    `_on_soup_close` has started; and it does report closed from the moment the user's close callback is entered. -/
theorem C05App_closed_semantics (a : ACfg) (evs : List Ev) :
    ((reach a evs).appClosed = true → (reach a evs).inner.closed = true ∧ (reach a evs).cpc ≠ .idle) ∧
    ((reach a evs).built = true → lateStage (reach a evs).cpc = true → (reach a evs).appClosed = true) ∧
    (a.closedFirst = true → (reach a evs).built = true → (reach a evs).cpc ≠ .idle → (reach a evs).appClosed = true) := by
  have i := runEvs_Inv a evs
  exact ⟨fun h => ⟨i.bb.b (i.bb.ac1 h).2, (i.bb.ac1 h).2⟩, i.bb.ac2, i.bb.ac3⟩

/-- **The position inside `_on_soup_close` follows the inner close stage.** Before the inner close callback is entered
    `_on_soup_close` has not started; while the closer is inside the inner callback stage it is inside `_on_soup_close`; when the
    inner close has finished, `_on_soup_close` has returned. -/
theorem C05App_stage_sync (a : ACfg) (evs : List Ev) :
    (Sess.preCb (reach a evs).inner → (reach a evs).cpc = .idle) ∧
    (∀ t k c, (reach a evs).inner.cstage = .cb t k c → k = 0 ∧ midStage (reach a evs).cpc = true) ∧
    ((reach a evs).inner.cstage = .finished → (reach a evs).cpc = .finished) := by
  have i := runEvs_Inv a evs
  exact ⟨i.yy.s1, i.yy.s2, i.yy.s3⟩

/-- **Completely, exactly once.** When the close of the soup session has run to its end, the application session (if it was
    constructed) reports closed, its queue is stopped, the close event — if anybody created one — is set, nobody waits for it,
    and the application's close callback (if one is configured) was entered and left exactly once. -/
theorem C05App_completed_exactly_once (a : ACfg) (evs : List Ev) (h : (reach a evs).inner.cstage = .finished)
    (hb : (reach a evs).built = true) :
    (reach a evs).appClosed = true ∧ (reach a evs).q2Closed = true ∧ (reach a evs).evt ≠ some false ∧
    (∀ t, (reach a evs).astatus t ≠ .waitE) ∧
    (a.hasCb = true → (reach a evs).trace2.count .cbEnter = 1 ∧ (reach a evs).trace2.count .cbExit = 1) ∧
    (a.hasCb = false → AObs.cbEnter ∉ (reach a evs).trace2) := by
  have i := runEvs_Inv a evs
  have hc : (reach a evs).cpc = .finished := i.yy.s3 h
  have hev := i.bb.ev2 hc
  refine ⟨i.bb.ac2 hb (by rw [hc]; rfl), i.bb.q hb (by rw [hc]; simp), hev, ?_, ?_, ?_⟩
  · intro t ht; exact hev (i.ss.we t ht)
  · intro hcb
    have hph := i.bb.ph
    simp only [phase2, hc, hcb, hb, Bool.and_self, if_true] at hph
    exact mon2_two_counts _ hph
  · intro hcb
    have hph := i.bb.ph
    simp only [phase2, hc, hcb, Bool.false_and] at hph
    exact (mon2_zero_no_cb _ hph).1

/-- **`close()` from the close callback returns at once** (commit 35c133f): with a close callback that awaits `app.close()`
    — or simply returns — the callback is never left hanging: in every reachable state it has been left as often as entered. -/
theorem C05App_close_from_close_callback_returns (a : ACfg) (evs : List Ev) (hbeh : ∀ k, a.cbBeh ≠ .await k) :
    (reach a evs).trace2.count .cbEnter = (reach a evs).trace2.count .cbExit := by
  have i := runEvs_Inv a evs
  have hph := i.bb.ph
  have hnu : ∀ k, (reach a evs).cpc ≠ .user k := by
    intro k hk
    obtain ⟨_, k0, h0⟩ := i.bb.ub (Or.inl ⟨k, hk⟩)
    exact hbeh k0 h0
  have hna : (reach a evs).cpc ≠ .aborted := by
    intro hk
    obtain ⟨_, k0, h0⟩ := i.bb.ub (Or.inr hk)
    exact hbeh k0 h0
  unfold phase2 at hph
  split at hph
  · rename_i k hc; exact absurd hc (hnu k)
  · rename_i hc; exact absurd hc hna
  · split at hph
    · obtain ⟨h1, h2⟩ := mon2_two_counts _ hph
      rw [h1, h2]
    · obtain ⟨h1, h2⟩ := mon2_zero_no_cb _ hph
      rw [List.count_eq_zero_of_not_mem h1, List.count_eq_zero_of_not_mem h2]
  · obtain ⟨h1, h2⟩ := mon2_zero_no_cb _ hph
    rw [List.count_eq_zero_of_not_mem h1, List.count_eq_zero_of_not_mem h2]

/-- **Closing twice is harmless.** Once a close is under way (the close event exists) or the application session reports closed,
    a further `close()` returns at once with no other effect. -/
theorem C05App_close_idempotent (a : ACfg) (s : St) (u : Nat) (hc : s.evt.isSome = true ∨ s.appClosed = true)
    (hu : s.astatus (.W u) = .absent) (hb : s.built = true) :
    (step a s (.appClose u)).tr = s.tr ++ [.app (.closeRet (.user u) .ok)] ∧
    (step a s (.appClose u)).inner = s.inner ∧ (step a s (.appClose u)).cpc = s.cpc ∧
    (step a s (.appClose u)).evt = s.evt := by
  have hg : (s.evt.isSome || s.appClosed) = true := by
    rcases hc with h | h <;> simp [h]
  simp [step, hu, hb, hg, St.emit2, St.setA]

/-- **The close never deadlocks.** In every reachable state in which the soup session reports closed but its close has not run
    to its end, a definite task can take the next step of the close: the closer itself, the (cancelled, hence runnable) inner
    task it is awaiting — or, while the closer is inside `_on_soup_close` awaiting the second dispatcher / the receive helper
    in `queue.stop()`, that task, which is cancelled and runnable.  (For the code as it is, `closedFirst = true`.) -/
theorem C05App_close_never_deadlocks (a : ACfg) (evs : List Ev) (hcf : a.closedFirst = true)
    (hc : (reach a evs).inner.closed = true) (hf : (reach a evs).inner.cstage ≠ .finished)
    (ha : (reach a evs).inner.cstage ≠ .aborted) :
    (∃ t, runnableI (reach a evs) t = true ∧
      (Sess.isCloser (reach a evs).inner t ∨
        ∃ t', Sess.isCloser (reach a evs).inner t' ∧ (reach a evs).inner.status t' = .waitT t)) ∨
    ((reach a evs).cpc = .waitD2 ∧ runnable2 (reach a evs) .D2 = true) ∨
    ((reach a evs).cpc = .waitV2 ∧ runnable2 (reach a evs) .V2 = true) := by
  have i : Inv a (reach a evs) := runEvs_Inv a evs
  obtain ⟨es, he⟩ := runEvs_reach a evs
  have he' : (reach a evs).inner = C05.reach (innerCfg a) es := he
  clear he
  have hin := C05.C05_close_never_deadlocks (innerCfg a) es (he' ▸ hc) (he' ▸ hf) (he' ▸ ha)
  rw [← he'] at hin
  obtain ⟨t, hrun, hrole⟩ := hin
  generalize reach a evs = s at *
  by_cases hblk : closerOf s.inner = some t ∧ closerBlocked s = true
  · -- the closer is inside `queue.stop()`
    obtain ⟨_, hb⟩ := hblk
    unfold closerBlocked at hb
    split at hb
    · rename_i hcp
      refine Or.inr (Or.inl ⟨hcp, ?_⟩)
      rcases i.ss.d2 hcp with h | h | ⟨h, _⟩
      · simp [runnable2, h]
      · rw [h] at hb; contradiction
      · exact absurd h i.ss.ds
    · rename_i hcp
      refine Or.inr (Or.inr ⟨hcp, ?_⟩)
      rcases i.ss.v2 hcp with h | h
      · simp [runnable2, h]
      · rw [h] at hb; contradiction
    · contradiction
  · refine Or.inl ⟨t, ?_, hrole⟩
    unfold runnableI
    rw [hrun]
    simp only [Bool.true_and, Bool.not_eq_true', Bool.and_eq_false_iff, beq_eq_false_iff_ne, ne_eq]
    by_cases h1 : closerOf s.inner = some t
    · right
      cases hcb : closerBlocked s with
      | false => rfl
      | true => exact absurd ⟨h1, hcb⟩ hblk
    · left; exact h1

/-- **Each stop stage of `_on_soup_close` ends in one step**: the cancelled second dispatcher ends at its next step (whatever
    its message callback was doing — with `closedFirst` a `close()` in its cancellation clean-up returns at once), which
    unblocks the closer. -/
theorem C05App_stop_stage_progress (a : ACfg) (s : St) (i : Inv a s) (hcf : a.closedFirst = true)
    (hc : s.cpc = .waitD2) (hD : s.astatus .D2 = .cancelled) :
    alive2 ((step a s (.run .D2)).astatus .D2) = false ∧ (step a s (.run .D2)).cpc = .waitD2 := by
  have hb : s.built = true := i.bb.bu (Or.inl (by rw [hc]; rfl))
  have hac : s.appClosed = true := i.bb.ac3 hcf hb (by rw [hc]; simp)
  have hty := i.ss.ty .D2 (by rw [hD]; rfl)
  simp only [step, runnable2, hD, stepRun2]
  -- whatever the dispatcher was in, the cancellation ends it: in a `handlerCC` callback the `close()` of the clean-up stops at its
  -- guard, because `closed` is already true (`hac`)
  cases hp : s.aprog .D2 <;> simp_all [allowed2, St.finish2, St.emit2, alive2]

/-- **Every `close()` caller is released.** Once the close event is set nobody is waiting for it any more; and a released
    caller returns normally at its next step. -/
theorem C05App_callers_released (a : ACfg) (evs : List Ev) (h : (reach a evs).evt = some true) :
    ∀ t, (reach a evs).astatus t ≠ .waitE := by
  intro t ht
  have := (runEvs_Inv a evs).ss.we t ht
  rw [h] at this; cases this

theorem C05App_released_caller_returns (a : ACfg) (s : St) (u : Nat)
    (hW : s.astatus (.W u) = .ready) (hp : s.aprog (.W u) = .closeWait u) :
    (step a s (.run (.W u))).tr = s.tr ++ [.app (.closeRet (.user u) .ok)] ∧
    alive2 ((step a s (.run (.W u))).astatus (.W u)) = false := by
  simp [step, runnable2, hW, stepRun2, hp, St.finish2, St.emit2, alive2]

/-- **Close calls never raise.** Every `await app.close()` that has ended, whoever made it — a user task, a message callback in
    its body (at once or after some work) or in its cancellation clean-up, the close callback — and whatever else happened
    meanwhile, returned normally; the only exception is a *user task the user cancelled* while it was waiting, which reports
    that cancellation.  No hypothesis on the configuration: any callbacks, either order inside `_on_soup_close`. -/
theorem C05App_close_never_raises (a : ACfg) (evs : List Ev) (c : Caller) (r : Sess.Res)
    (h : AObs.closeRet c r ∈ (reach a evs).trace2) :
    r = .ok ∨ (∃ u, c = .user u ∧ r = .cancelled) := by
  have key := runEvs_InvO (a := a)
    (P := fun o => ∀ c r, o = AObs.closeRet c r → r = .ok ∨ (∃ u, c = .user u ∧ r = .cancelled)) ?_ evs
  · exact key _ h c r rfl
  · -- the observables a step can append: a `closeRet` among them is `ok`, or a user's own cancellation
    intro o ho c r e
    subst e
    cases r <;> cases c <;> simp_all [plainObs]

/-- in particular: a `close()` awaited from a message callback or from the close callback never ends with `CancelledError` -/
theorem C05App_callback_close_returns_ok (a : ACfg) (evs : List Ev) (r : Sess.Res) :
    (∀ v, AObs.closeRet (.handler v) r ∈ (reach a evs).trace2 → r = .ok) ∧
    (AObs.closeRet .closeCb r ∈ (reach a evs).trace2 → r = .ok) := by
  constructor
  · intro v h
    rcases C05App_close_never_raises a evs _ _ h with h' | ⟨u, h', _⟩
    · exact h'
    · cases h'
  · intro h
    rcases C05App_close_never_raises a evs _ _ h with h' | ⟨u, h', _⟩
    · exact h'
    · cases h'

/-- **A message callback inside `close()` is the closer, never a waiter.** In no reachable state does the second dispatcher wait
    for the close event, and whenever a message callback is inside a `close()` call (from its body: `handlerClose`; from its
    cancellation clean-up: `cleanupClose`) the dispatcher is carrying out `soup_session.close()` itself (`inSoup`): it is not
    suspended on anything `queue.stop()` would have to cancel, and no cancellation is pending for it — the situation in which the
    call ended with `CancelledError` before the repair (`Witness/C05AppOld.lean`) does not exist.  Only the dispatcher is ever
    `inSoup`, and only inside such a call; a callback gets there only if it is of the closing kind; and with the order as it is
    (`closedFirst`) the `close()` of a cancellation clean-up never even gets past its guard. -/
theorem C05App_handler_inside_close_is_closer (a : ACfg) (evs : List Ev) :
    (reach a evs).astatus .D2 ≠ .waitE ∧
    (∀ v, (reach a evs).aprog .D2 = .handlerClose v ∨ (reach a evs).aprog .D2 = .cleanupClose v →
      alive2 ((reach a evs).astatus .D2) = true →
      (reach a evs).astatus .D2 = .inSoup ∧ (reach a evs).astatus .D2 ≠ .cancelled) ∧
    (∀ t, (reach a evs).astatus t = .inSoup →
      t = .D2 ∧ ((∃ v, (reach a evs).aprog .D2 = .handlerClose v) ∨ ∃ v, (reach a evs).aprog .D2 = .cleanupClose v)) ∧
    (∀ v, (reach a evs).aprog .D2 = .handlerClose v → alive2 ((reach a evs).astatus .D2) = true →
      a.msgBeh v = .close ∨ ∃ k, a.msgBeh v = .awaitClose k) ∧
    (a.closedFirst = true → ∀ v, ¬ ((reach a evs).aprog .D2 = .cleanupClose v ∧ alive2 ((reach a evs).astatus .D2) = true)) := by
  have i := runEvs_Inv a evs
  refine ⟨i.ss.ds, ?_, i.ss.ip, i.ss.hc, ?_⟩
  · intro v h1 h2
    have h3 := i.ss.hs v h1 h2
    exact ⟨h3, by rw [h3]; simp⟩
  · intro hcf v ⟨h1, h2⟩
    have := i.ss.cc v h1 h2
    rw [hcf] at this; contradiction

/-- **The steps of a dispatcher that carries out the close are the steps of the closer of the soup session**: while the second
    dispatcher is inside the `soup_session.close()` of a message callback's `close()`, the event `run D2` is the inner event
    `run (U d2u)` — the task `C05App_close_never_deadlocks` names when the dispatcher is the closer — and the user cannot interfere
    with that task (its inner events are refused). -/
theorem C05App_dispatcher_closer_step (a : ACfg) (s : St) (hD : s.astatus .D2 = .inSoup) :
    step a s (.run .D2) = stepInner a { s with imm2 := false } (.run (.U d2u)) ∧
    step a s (.inner (.run (.U d2u))) = s ∧ step a s (.inner (.cancel d2u)) = s ∧ step a s (.inner (.callClose d2u)) = s := by
  refine ⟨?_, ?_, ?_, ?_⟩
  · simp [step, runnable2, hD]
  · simp [step, reservedEv]
  · simp [step, reservedEv]
  · simp [step, reservedEv]

/-- **The dispatcher that carries out the close has ended when the close has.** When the close of the soup session has run to
    its end, the second dispatcher is not alive any more — also when it was the closer: the `close()` of the message callback
    has returned, the callback has returned, the dispatcher loop has ended, all in the step in which `_on_soup_close` returned. -/
theorem C05App_dispatcher_ended_with_close (a : ACfg) (evs : List Ev) (h : (reach a evs).inner.cstage = .finished)
    (hb : (reach a evs).built = true) :
    alive2 ((reach a evs).astatus .D2) = false ∧ (reach a evs).disp2Set = false ∧ (reach a evs).astatus .D2 ≠ .inSoup := by
  have i := runEvs_Inv a evs
  have hc : (reach a evs).cpc = .finished := i.yy.s3 h
  have hD := i.ss.dnf rfl hb hc
  refine ⟨hD, (i.ss.dn hb (Or.inr (by rw [hc]; rfl))).2, ?_⟩
  intro h2; rw [h2] at hD; simp [alive2] at hD

/-! ### non-vacuity: concrete lifetimes -/

private def a1 : ACfg :=
  { dec := fun n => if n = 0 then .skip else .val n
    hasMsgCb := true, msgBeh := fun _ => .await 1, hasCb := true, cbBeh := .close, closedFirst := true }

private def login : List Ev :=
  [.inner .connect, .inner (.callLogin 1), .inner (.run .V), .inner (.data [.msg 0]), .inner (.run .R), .inner (.run .V),
   .inner (.run (.U 1))]

/-- message 3 is being handled (the callback awaits) when the user calls `close()`; the peer disconnects as well; the closing
    task stops the soup session, then — inside `_on_soup_close` — cancels and awaits the second dispatcher; the handler is
    abandoned; the close callback calls `close()` (returns at once); the event is set; the caller returns -/
private def life : List Ev := login ++
  [.run .D2, .inner (.run .D), .inner (.data [.msg 3]), .inner (.run .R), .inner (.run .D), .inner (.run .D), .run .D2,
   .appClose 2, .inner .eof, .inner (.run .C), .inner (.run .D), .inner (.run .C), .inner (.run .L), .inner (.run .C),
   .inner (.run .M), .inner (.run .C), .inner (.run .R), .inner (.run .C), .run .D2, .inner (.run .C), .run (.W 2)]

set_option maxRecDepth 100000 in
example : (reach a1 life).trace2 =
    [.msgEnter 3, .msgAbandon 3, .cbEnter, .closeRet .closeCb .ok, .cbExit, .closeRet (.user 2) .ok] := by decide +kernel
set_option maxRecDepth 100000 in
example : (reach a1 life).inner.cstage = .finished ∧ (reach a1 life).built = true ∧ (reach a1 life).cpc = .finished ∧
    (reach a1 life).appClosed = true ∧ (reach a1 life).evt = some true := by decide +kernel

private def a2 : ACfg :=
  { dec := fun n => if n = 0 then .skip else .val n
    hasMsgCb := true, msgBeh := fun v => if v = 3 then .awaitClose 0 else .ret, hasCb := true, cbBeh := .close, closedFirst := true }

/-- the callback for 3 works, then awaits `close()`; a user task calls `close()` while the callback's close is under way (it returns at once: the event exists); the dispatcher stops the soup session's tasks, runs
    `_on_soup_close` (the close callback calls `close()` as well) and returns into the callback -/
private def life2 : List Ev := login ++
  [.run .D2, .inner (.run .D), .inner (.data [.msg 3, .msg 4]), .inner (.run .R), .inner (.run .R),
   .inner (.run .D), .inner (.run .D), .inner (.run .D), .run .D2, .run .D2, .appClose 2,
   .inner (.run .D), .run .D2, .inner (.run .L), .run .D2, .inner (.run .M), .run .D2, .inner (.run .R), .run .D2]

set_option maxRecDepth 100000 in
example : (reach a2 life2).trace2 =
    [.msgEnter 3, .closeRet (.user 2) .ok, .cbEnter, .closeRet .closeCb .ok, .cbExit, .closeRet (.handler 3) .ok, .msgExit 3] := by
  decide +kernel
set_option maxRecDepth 100000 in
example : (reach a2 life2).inner.cstage = .finished ∧ (reach a2 life2).cpc = .finished ∧ (reach a2 life2).appClosed = true ∧
    (reach a2 life2).evt = some true ∧ (reach a2 life2).astatus .D2 = .done ∧ (reach a2 life2).q2 = [4] := by decide +kernel
set_option maxRecDepth 100000 in
/-- midway the dispatcher is the closer -/
example : (reach a2 (life2.take 18)).astatus .D2 = .inSoup ∧ (reach a2 (life2.take 18)).aprog .D2 = .handlerClose 3 ∧
    (reach a2 (life2.take 18)).inner.closed = true ∧ (reach a2 (life2.take 18)).inner.status (.U d2u) = .waitT .D := by decide +kernel

end NasdaqModel.Props.C05App
