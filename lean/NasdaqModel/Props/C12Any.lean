import NasdaqModel.Lemmas.SoupLemmas
/-
C12, first sentence of the statement, at the strength it is worded: "EVERY SoupBinTCP packet the library can build encodes as a
2-byte big-endian length equal to the number of bytes that follow, one type character, then the payload".

`Props/C12.lean` proves layout and round trip for well-formed packets (`wfPkt`: texts ASCII and inside the column widths).  Whether a
packet can be *built* is decided by `encode` itself, not by `wfPkt`: login fields wider than their column are cut by `struct.pack`,
sequence texts that are no numbers still encode, texts outside ASCII and payloads above 32 766 bytes do not.  The theorems below have
no well-formedness hypothesis: whenever `encode p` succeeds - for any packet value whatsoever - the bytes are a sound frame, and a
reader that splits a stream by the prefix finds exactly this packet and then exactly what follows it.
-/
namespace NasdaqModel.Props.C12Any
open NasdaqModel Py Soup

/-- the framing clause of the statement for the bytes `bs` of a packet whose type character is `ty` -/
def Framed (ty : Nat) (bs : Bytes) : Prop :=
  ∃ hi lo rest, bs = hi :: lo :: ty :: rest ∧ hi * 256 + lo = rest.length + 1 ∧ lo < 256 ∧ hi < 128

/-- the same as a decidable check (used for the non-vacuity examples and the counterexample below) -/
def framedB (ty : Nat) : Bytes → Bool
  | hi :: lo :: t :: rest => t == ty && hi * 256 + lo == rest.length + 1 && decide (lo < 256) && decide (hi < 128)
  | _ => false

theorem C12_framedB_iff (ty : Nat) (bs : Bytes) : framedB ty bs = true ↔ Framed ty bs := by
  constructor
  · intro h
    match bs, h with
    | hi :: lo :: t :: rest, h =>
      simp only [framedB, Bool.and_eq_true, beq_iff_eq, decide_eq_true_eq] at h
      obtain ⟨⟨⟨ht, hl⟩, h1⟩, h2⟩ := h
      exact ⟨hi, lo, rest, by rw [ht], hl, h1, h2⟩
  · rintro ⟨hi, lo, rest, rfl, hl, h1, h2⟩
    simp [framedB, hl, h1, h2]

private theorem framed_of (t : Nat) (rest : Bytes) (hr : rest.length + 1 ≤ 32767) :
    Framed t ([(rest.length + 1) / 256, (rest.length + 1) % 256, t] ++ rest) :=
  ⟨(rest.length + 1) / 256, (rest.length + 1) % 256, rest, rfl, by omega, by omega, by omega⟩

/-- **Every packet that can be built is a sound frame** - no hypothesis on the packet: whatever texts, widths, payload. -/
theorem C12_any_built_is_framed (p : Pkt) (bs : Bytes) (h : encode p = .ok bs) : Framed p.ty bs := by
  obtain ⟨hb, rest, rfl, hh⟩ := encode_inv p _ h
  -- `struct.pack('!h', …)` succeeded, so the count fits 15 bits
  rw [header_succ] at hh
  split at hh
  · cases hh
    exact framed_of p.ty rest (by omega)
  · cases hh

/-- what `SoupMessageReader.deserialize` cuts off a buffer: `siz = int.from_bytes(buf[:2], 'big')`, frame `buf[:siz+2]`,
    the rest stays (`none`: not enough bytes yet) -/
def cutFrame (buf : Bytes) : Option (Bytes × Bytes) :=
  match buf with
  | hi :: lo :: _ =>
    let siz := hi * 256 + lo
    if siz + 2 > buf.length then none else some (buf.take (siz + 2), buf.drop (siz + 2))
  | _ => none

/-- **The packet that follows is framed correctly**: on a stream, a reader that cuts by the prefix takes exactly the bytes of any
    packet that could be built and is left with exactly what follows it - whatever follows. -/
theorem C12_any_built_next_packet_intact (p : Pkt) (bs tail : Bytes) (h : encode p = .ok bs) :
    cutFrame (bs ++ tail) = some (bs, tail) := by
  obtain ⟨hi, lo, rest, rfl, hl, _, _⟩ := C12_any_built_is_framed p bs h
  have hlen : hi * 256 + lo + 2 = (hi :: lo :: p.ty :: rest).length := by simp; omega
  simp only [cutFrame, List.cons_append]
  have hle : ¬ (hi * 256 + lo + 2 > (hi :: lo :: p.ty :: (rest ++ tail)).length) := by
    simp only [List.length_cons, List.length_append]; omega
  rw [if_neg hle]
  have e : hi :: lo :: p.ty :: (rest ++ tail) = (hi :: lo :: p.ty :: rest) ++ tail := by simp
  rw [e, hlen, List.take_left, List.drop_left]

/-- two packets built one after the other come apart again, in order -/
theorem C12_any_two_on_a_stream (p q : Pkt) (bp bq tail : Bytes) (hp : encode p = .ok bp) (hq : encode q = .ok bq) :
    cutFrame (bp ++ (bq ++ tail)) = some (bp, bq ++ tail) ∧ cutFrame (bq ++ tail) = some (bq, tail) :=
  ⟨C12_any_built_next_packet_intact p bp _ hp, C12_any_built_next_packet_intact q bq _ hq⟩

/-! non-vacuity: packets outside `wfPkt` that the library does build (column overflow, a sequence text that is no number) -/
example : encode (.loginReq [116, 111, 111, 108, 111, 110, 103, 117] [112] [] [97, 98, 99]) =
    .ok ([0, 47, 76] ++ [116, 111, 111, 108, 111, 110] ++ (112 :: List.replicate 9 32) ++ List.replicate 10 32 ++
         ([97, 98, 99] ++ List.replicate 17 32)) := by decide
example : framedB 43 [0, 3, 43, 104, 105] = true := by decide
example : encode (.debug [233]) = .error .unicode := by decide

/-- a debug encoder that counted CHARACTERS in the prefix while writing UTF-8 bytes (`Debug('é')` → `00 02 2b c3 a9`) would not
    produce a frame, and the reader would be left with a stray byte in front of the next packet -/
theorem C12_char_count_prefix_is_no_frame :
    framedB 43 [0, 2, 43, 0xc3, 0xa9] = false ∧
    cutFrame ([0, 2, 43, 0xc3, 0xa9] ++ [0, 1, 72]) = some ([0, 2, 43, 0xc3], [0xa9, 0, 1, 72]) := by decide

end NasdaqModel.Props.C12Any
