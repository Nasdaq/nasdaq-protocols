import NasdaqModel.Props.C10
import NasdaqModel.Model.SeqSeg
/-
C10, FIX part, segment by segment: "no gap or repeat under any interleaving of application sends and automatic heartbeats" —
whichever segment of a message is the one that cannot be serialised (header, body, trailer; plain field or group instance),
the send writes nothing and consumes no number, and the k-th frame since the logon carries logon MsgSeqNum + k.
-/
namespace NasdaqModel.Props.C10Seg
open NasdaqModel SeqNum NasdaqModel.Props.C10

/-- a message is serialisable iff each of its three segments is -/
theorem C10_seg_encodable_iff (m : SegMsg) :
    m.toMsg.encodable = true ↔ (m.hdrEnc = true ∧ m.bodyEnc = true ∧ m.trlEnc = true) := by
  simp [SegMsg.toMsg, Bool.and_eq_true, and_assoc]

/-- **Any segment.** A send that passes validation on a logged-in session and whose header, body or trailer cannot be serialised
    is reported as `encodeError`, writes nothing and leaves the counter where it was. -/
theorem C10_fix_segment_failure_consumes_nothing (s : FixSt) (m : SegMsg) (n : Int)
    (hv : m.bodyValid = true) (hn : s.next = some n)
    (hf : m.hdrEnc = false ∨ m.bodyEnc = false ∨ m.trlEnc = false) :
    fixSendR s m.toMsg = (s, .encodeError) := by
  have he : m.toMsg.encodable = false := by
    rcases hf with h | h | h <;> simp [SegMsg.toMsg, h]
  have hv' : m.toMsg.bodyValid = true := hv
  unfold fixSendR
  simp only [hv', hn, he, Bool.not_true, Bool.false_eq_true, if_false]
  cases s
  simp_all

/-- a failed send of any kind (rejected by validation, or any segment not serialisable) leaves the whole state alone -/
theorem C10_fix_segment_failed_send_invisible (s : FixSt) (m : SegMsg)
    (h : ∀ n, (fixSendR s m.toMsg).2 ≠ .written n) : (fixSendR s m.toMsg).1 = s :=
  C10_fix_repaired_failed_send_consumes_nothing s m.toMsg h

private theorem noLogin_map (ops : List SegOp) (h : ops.all (fun op => match op with | .login .. => false | _ => true) = true) :
    noLogin (ops.map SegOp.toOp) = true := by
  induction ops with
  | nil => rfl
  | cons op rest ih =>
    simp only [List.all_cons, Bool.and_eq_true] at h
    simp only [List.map_cons, noLogin, List.all_cons, Bool.and_eq_true]
    refine ⟨?_, by simpa [noLogin] using ih h.2⟩
    cases op <;> simp_all [SegOp.toOp, FixOp.isLogin]

def noSegLogin (ops : List SegOp) : Bool := ops.all (fun op => match op with | .login .. => false | _ => true)

/-- **k-th frame carries logon MsgSeqNum + k**, for every history `sends before the logon ++ logon ++ {sends of every kind —
    accepted, rejected by validation, header / body / trailer not serialisable — and heartbeats}` in any interleaving. -/
theorem C10_fix_kth_segments (pre ops : List SegOp) (q : Int) (m : SegMsg)
    (hpre : noSegLogin pre = true) (hops : noSegLogin ops = true) :
    (∀ k, (hk : k < (segRunR fixInit (pre ++ .login q m :: ops)).frames.length) →
        (segRunR fixInit (pre ++ .login q m :: ops)).frames[k] = q + k) ∧
    (segRunR fixInit (pre ++ .login q m :: ops)).next
      = some (q + (segRunR fixInit (pre ++ .login q m :: ops)).frames.length) := by
  have e : segRunR fixInit (pre ++ .login q m :: ops)
      = fixRunR fixInit (pre.map SegOp.toOp ++ .login q m.toMsg :: ops.map SegOp.toOp) := by
    simp [segRunR, SegOp.toOp]
  rw [e]
  exact C10_fix_kth_repaired _ _ q m.toMsg (noLogin_map pre hpre) (noLogin_map ops hops)

example : noSegLogin [.send ⟨true, false, true, true⟩, .heartbeat ⟨true, true, true, true⟩, .send ⟨false, false, true, false⟩,
    .send ⟨true, true, true, false⟩, .send ⟨true, true, true, true⟩] = true := by decide +kernel
example : (segRunR fixInit ([.send ⟨true, true, true, true⟩] ++ .login 41 ⟨true, true, true, true⟩ ::
    [.send ⟨true, false, true, true⟩, .heartbeat ⟨true, true, true, true⟩, .send ⟨false, false, true, false⟩,
     .send ⟨true, true, true, false⟩, .send ⟨true, true, false, true⟩, .send ⟨true, true, true, true⟩])).frames = [41, 42, 43] := by decide +kernel

end NasdaqModel.Props.C10Seg
