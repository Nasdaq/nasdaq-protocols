import NasdaqModel.Model.Registry
/-
C19 — message ids resolve to the right class, per application, or not at all.

All theorems are about `run r ds`, the registry after executing the class statements `ds` *in the order given* (statements
that raise leave the registry alone) and hold for every list `ds`, i.e. for every set of applications and every definition
order.  The central fact is `C19_lookup_first`: an id of an application resolves to the class of the FIRST statement that
declared that id in that application, for ever; the decode theorems follow from it, uniqueness and rejection from the
case analysis of one statement (`step_cases`).
-/
namespace NasdaqModel.Props.C19
open NasdaqModel Registry

/-- where a class statement registers, if it registers: (application namespace, id key) -/
def target (d : Decl) : Option (Nat × Key) :=
  match resolve d with
  | .ok t => t
  | .error _ => none

/-- no two entries of the registry have the same (application, id) -/
def NoDupKeys (r : Reg) : Prop := (r.ids.map (fun e => (e.app, e.key))).Nodup

/-- class identities are what Python guarantees: every class statement creates a new class object -/
def freshClasses (ds : List Decl) : Prop := (ds.map (·.cid)).Nodup

private theorem lookupId_append (ids : List Entry) (e : Entry) (nm : List (Nat × Nat × Nat)) (a : Nat) (k : Key) :
    lookupId { ids := ids ++ [e], names := nm } a k =
      (lookupId { ids := ids, names := nm } a k).or (if e.app = a ∧ e.key = k then some e.cls else none) := by
  unfold lookupId
  simp only [List.find?_append, Option.map_or]
  congr 1
  by_cases h : e.app = a ∧ e.key = k
  · simp [List.find?, h]
  · have : (e.app == a && e.key == k) = false := by
      rcases Classical.not_and_iff_not_or_not.mp h with h1 | h1 <;> simp [h1]
    simp [List.find?, this, h]

private theorem lookupId_none_iff (r : Reg) (a : Nat) (k : Key) :
    lookupId r a k = none ↔ (a, k) ∉ r.ids.map (fun e => (e.app, e.key)) := by
  unfold lookupId
  simp only [Option.map_eq_none_iff, List.find?_eq_none, List.mem_map, not_exists, not_and]
  constructor
  · intro h e he heq
    have := h e he
    simp only [Prod.mk.injEq] at heq
    simp [heq.1, heq.2] at this
  · intro h e he
    have := h e he
    simp only [Prod.mk.injEq, not_and] at this
    simp only [Bool.and_eq_true, beq_iff_eq, not_and]
    exact this

/-- the four things a class statement can do to the registry -/
private theorem step_cases (r : Reg) (d : Decl) :
    (target d = none ∧ step r d = r) ∨
    (∃ a k, target d = some (a, k) ∧
      ((∃ c, lookupId r a k = some c ∧ c ≠ d.cid ∧ step r d = r ∧ defineMsg r d = .error .dup) ∨
       (lookupId r a k = some d.cid ∧ step r d = { r with names := setName r.names a d.name d.cid }) ∨
       (lookupId r a k = none ∧
          step r d = { ids := r.ids ++ [{ app := a, key := k, cls := d.cid }],
                       names := setName r.names a d.name d.cid }))) := by
  unfold step defineMsg target
  cases hr : resolve d with
  | error e => left; simp
  | ok t =>
    cases t with
    | none => left; simp
    | some ak =>
      obtain ⟨a, k⟩ := ak
      right
      refine ⟨a, k, rfl, ?_⟩
      simp only [register]
      cases hl : lookupId r a k with
      | none => right; right; simp
      | some c =>
        by_cases hc : c = d.cid
        · right; left; subst hc; simp
        · left
          have : (c != d.cid) = true := by simpa using hc
          exact ⟨c, rfl, hc, by simp [this], by simp [this]⟩

/-- one class statement: what every lookup sees afterwards -/
private theorem lookup_step (r : Reg) (d : Decl) (a : Nat) (k : Key) :
    lookupId (step r d) a k =
      (lookupId r a k).or (if target d = some (a, k) then some d.cid else none) := by
  rcases step_cases r d with ⟨ht, hs⟩ | ⟨a', k', ht, h⟩
  · rw [hs, ht]; simp
  · rw [ht]
    by_cases hak : a' = a ∧ k' = k
    · obtain ⟨h1, h2⟩ := hak
      subst h1 h2
      rcases h with ⟨c, hl, _, hs, _⟩ | ⟨hl, hs⟩ | ⟨hl, hs⟩
      · rw [hs, hl]; simp
      · rw [hs]
        show lookupId r a' k' = _
        rw [hl]; simp
      · rw [hs, lookupId_append]
        show (lookupId r a' k').or _ = _
        rw [hl]; simp
    · have hne : ¬ ((a', k') = (a, k)) := by simpa [Prod.mk.injEq] using hak
      have hif : (if some (a', k') = some (a, k) then some d.cid else none) = none := by
        simp [hne]
      rw [hif]
      rcases h with ⟨c, _, _, hs, _⟩ | ⟨_, hs⟩ | ⟨_, hs⟩
      · rw [hs]; simp
      · rw [hs]
        show lookupId r a k = _
        simp
      · rw [hs, lookupId_append]
        show (lookupId r a k).or _ = _
        simp [hak]

private theorem step_nodup (r : Reg) (d : Decl) (h : NoDupKeys r) : NoDupKeys (step r d) := by
  rcases step_cases r d with ⟨_, hs⟩ | ⟨a, k, _, h'⟩
  · rw [hs]; exact h
  · rcases h' with ⟨c, _, _, hs, _⟩ | ⟨_, hs⟩ | ⟨hl, hs⟩
    · rw [hs]; exact h
    · rw [hs]; exact h
    · rw [hs]
      unfold NoDupKeys at h ⊢
      simp only [List.map_append, List.map_cons, List.map_nil]
      rw [List.nodup_append]
      refine ⟨h, by simp, ?_⟩
      intro x hx y hy
      simp only [List.mem_singleton] at hy
      subst hy
      intro hxy
      subst hxy
      exact (lookupId_none_iff r _ _).mp hl hx

/-- **First declaration wins, for ever** — the complete description of every lookup after any program:
    what was registered before stays; otherwise the id resolves to the class of the first statement of `ds` that declares
    (application `a`, id `k`); if there is none, to nothing. -/
theorem C19_lookup_first (ds : List Decl) : ∀ (r : Reg) (a : Nat) (k : Key),
    lookupId (run r ds) a k =
      (lookupId r a k).or ((ds.find? (fun d => target d == some (a, k))).map (·.cid)) := by
  induction ds with
  | nil => intro r a k; simp [run]
  | cons d rest ih =>
    intro r a k
    show lookupId (run (step r d) rest) a k = _
    rw [ih, lookup_step]
    by_cases hd : target d = some (a, k)
    · cases hh : lookupId r a k <;> simp [List.find?, hd]
    · have : (target d == some (a, k)) = false := by simpa using hd
      cases hh : lookupId r a k <;> simp [List.find?, hd, this]

/-- **Unique.** Within one application namespace an id names at most one class (the registry never holds two entries for
    the same application and id), and a class statement for an id that already names a *different* class raises
    `DuplicateMessageException`. -/
theorem C19_unique (ds : List Decl) : NoDupKeys (run Reg.empty ds) ∧
    ∀ (d : Decl) (a : Nat) (k : Key) (c : Nat), target d = some (a, k) →
      lookupId (run Reg.empty ds) a k = some c → c ≠ d.cid → defineMsg (run Reg.empty ds) d = .error .dup := by
  constructor
  · have : ∀ (ds : List Decl) (r : Reg), NoDupKeys r → NoDupKeys (run r ds) := by
      intro ds
      induction ds with
      | nil => intro r h; exact h
      | cons d rest ih => intro r h; exact ih (step r d) (step_nodup r d h)
    exact this ds Reg.empty (by simp [NoDupKeys, Reg.empty])
  · intro d a k c hres hl hc
    rcases step_cases (run Reg.empty ds) d with ⟨ht, _⟩ | ⟨a', k', ht, h⟩
    · rw [ht] at hres; simp at hres
    · rw [ht] at hres
      simp only [Option.some.injEq, Prod.mk.injEq] at hres
      obtain ⟨h1, h2⟩ := hres
      subst h1 h2
      rcases h with ⟨c', _, _, _, he⟩ | ⟨hl', _⟩ | ⟨hl', _⟩
      · exact he
      · rw [hl] at hl'; exact absurd (Option.some.inj hl') hc
      · rw [hl] at hl'; simp at hl'

/-- **A rejected definition leaves the state alone**: whatever exception the class statement raises (duplicate id, missing
    `indicator`), the registries — and therefore every later lookup and decode — are exactly what they were. -/
theorem C19_dup_rejected_state_unchanged (r : Reg) (d : Decl) (e : Err) (h : defineMsg r d = .error e) :
    step r d = r ∧ ∀ rest, run r (d :: rest) = run r rest := by
  have hs : step r d = r := by unfold step; rw [h]
  exact ⟨hs, fun rest => by show run (step r d) rest = run r rest; rw [hs]⟩

/-- **Isolated.** Whatever class decoding through an application's base class returns, it was declared for exactly that id
    in exactly that application: there is a class statement of the program with that class identity whose namespace is the
    base's application and whose id is the decoded one (`OuchMessageId(byte)` = direction 'outgoing' for OUCH). -/
theorem C19_isolated (ds : List Decl) (b : Base) (byte c : Nat) (h : decode (run Reg.empty ds) b byte = .ok c) :
    ∃ d ∈ ds, d.cid = c ∧ target d = some (b.app, decodeKey b.proto byte) := by
  unfold decode at h
  cases hl : lookupId (run Reg.empty ds) b.app (decodeKey b.proto byte) with
  | none => simp [hl] at h
  | some c' =>
    simp only [hl, Except.ok.injEq] at h
    subst h
    rw [C19_lookup_first] at hl
    have h0 : lookupId Reg.empty b.app (decodeKey b.proto byte) = none := rfl
    rw [h0] at hl
    simp only [Option.none_or, Option.map_eq_some_iff] at hl
    obtain ⟨d, hd, hc⟩ := hl
    have := List.find?_some hd
    exact ⟨d, List.mem_of_find?_eq_some hd, hc, by simpa using this⟩

/-- distinct class statements create distinct classes -/
private theorem cid_inj_of_fresh : ∀ (ds : List Decl), freshClasses ds → ∀ {x y : Decl}, x ∈ ds → y ∈ ds → x.cid = y.cid → x = y := by
  intro ds
  induction ds with
  | nil => intro _ x y hx; simp at hx
  | cons d rest ih =>
    intro hf x y hx hy hxy
    unfold freshClasses at hf
    simp only [List.map_cons, List.nodup_cons, List.mem_map, not_exists, not_and] at hf
    rcases List.mem_cons.mp hx with rfl | hx' <;> rcases List.mem_cons.mp hy with rfl | hy'
    · rfl
    · exact absurd hxy.symm (hf.1 y hy')
    · exact absurd hxy (hf.1 x hx')
    · exact ih hf.2 hx' hy' hxy

/-- … and since every class statement creates a new class, that class belongs to no other application and to no other id:
    *every* statement with the returned class identity registers in the application decoded through. -/
theorem C19_isolated_strict (ds : List Decl) (hf : freshClasses ds) (b : Base) (byte c : Nat)
    (h : decode (run Reg.empty ds) b byte = .ok c) :
    ∀ d ∈ ds, d.cid = c → target d = some (b.app, decodeKey b.proto byte) := by
  obtain ⟨d0, hd0, hc0, hr0⟩ := C19_isolated ds b byte c h
  intro d hd hc
  have : d = d0 := by
    exact cid_inj_of_fresh ds hf hd hd0 (by rw [hc, hc0])
  rw [this]; exact hr0

/-- **Unknown raises.** If no class statement of the program declares the decoded id in the application decoded through,
    `from_bytes` raises KeyError — whatever other applications (with the same id, the same protocol, …) exist. -/
theorem C19_unknown_raises (ds : List Decl) (b : Base) (byte : Nat)
    (h : ∀ d ∈ ds, target d ≠ some (b.app, decodeKey b.proto byte)) :
    decode (run Reg.empty ds) b byte = .error .key := by
  unfold decode
  rw [C19_lookup_first]
  have h0 : lookupId Reg.empty b.app (decodeKey b.proto byte) = none := rfl
  have : ds.find? (fun d => target d == some (b.app, decodeKey b.proto byte)) = none := by
    rw [List.find?_eq_none]
    intro d hd
    simpa using h d hd
  simp [h0, this]

/-- **Right class.** Conversely the class of the first statement declaring the id in that application *is* returned:
    later statements for the same id (which raise) and statements of other applications cannot take it away. -/
theorem C19_decodes_first (pre post : List Decl) (d : Decl) (b : Base) (byte : Nat)
    (hd : target d = some (b.app, decodeKey b.proto byte))
    (hpre : ∀ d' ∈ pre, target d' ≠ some (b.app, decodeKey b.proto byte)) :
    decode (run Reg.empty (pre ++ d :: post)) b byte = .ok d.cid := by
  unfold decode
  rw [C19_lookup_first]
  have h0 : lookupId Reg.empty b.app (decodeKey b.proto byte) = none := rfl
  have : (pre ++ d :: post).find? (fun d => target d == some (b.app, decodeKey b.proto byte)) = some d := by
    rw [List.find?_append]
    have : pre.find? (fun d => target d == some (b.app, decodeKey b.proto byte)) = none := by
      rw [List.find?_eq_none]
      intro d' hd'
      simpa using hpre d' hd'
    simp [this, List.find?, hd]
  simp [h0, this]

/-- the namespace rule of generated code: a message class derived from a generated-style application base registers in
    that application, whatever `app_name=` its own class statement carries, under the id its keywords spell -/
theorem C19_generated_namespace (d : Decl) (hs : d.base.style = .generated) (i : Nat) (hi : d.ind = some i) :
    target d = (msgIdOf d).map (fun k => (d.base.app, k)) := by
  unfold target resolve namespaceOf
  simp [hs, hi]

/-! ### non-vacuity: two applications with the same id, an OUCH application using one indicator in both directions,
    a duplicate in the middle -/

private def gA : Base := { proto := .itch, app := 3, style := .generated }
private def gB : Base := { proto := .itch, app := 4, style := .generated }
private def gO : Base := { proto := .ouch, app := 5, style := .generated }
private def prog : List Decl :=
  [ { cid := 1, name := 1, base := gA, ind := some 65, dir := none, appKw := none },
    { cid := 2, name := 2, base := gB, ind := some 65, dir := none, appKw := none },
    { cid := 3, name := 3, base := gA, ind := some 65, dir := none, appKw := none },      -- duplicate in application 3
    { cid := 4, name := 4, base := gO, ind := some 65, dir := some .incoming, appKw := none },
    { cid := 5, name := 5, base := gO, ind := some 65, dir := some .outgoing, appKw := none } ]

example : outcomes Reg.empty prog = [none, none, some .dup, none, none] := by decide +kernel
example : decode (run Reg.empty prog) gA 65 = .ok 1 := by decide +kernel
example : decode (run Reg.empty prog) gB 65 = .ok 2 := by decide +kernel
example : decode (run Reg.empty prog) gO 65 = .ok 5 := by decide +kernel
example : byIndicator (run Reg.empty prog) 5 (mkKey .ouch 65 .incoming) = .ok 4 := by decide +kernel
example : decode (run Reg.empty prog) gA 66 = .error .key := by decide +kernel
example : decode (run Reg.empty prog) { proto := .itch, app := 0, style := .protoBase } 65 = .error .key := by decide +kernel
example : freshClasses prog := by unfold freshClasses; decide +kernel

end NasdaqModel.Props.C19
