import NasdaqModel.Lemmas.FixSharedAnchor
/-
C13 — the FIX tag=value codec round-trips messages, nested repeating groups included.
Only property theorems (`C13_*`) and non-vacuity examples live here; the predicates they are stated with and the lemmas are in Lemmas/FixLemmas.lean and Lemmas/FixShared*.lean (level-distinct dictionaries, of which `wfDef` is a special case),
the model in Model/Fix.lean.
-/
namespace NasdaqModel.Props.C13
open NasdaqModel Py Fix

/-
The hypotheses (all decidable, defined in Lemmas/FixLemmas.lean):
  wfDef d    — all tags of header, body and trailer of the message class, nested groups included, pairwise distinct
               (slightly stronger than "segments disjoint": a group instance ends at the first tag it does not know);
  wfMsg d m  — every segment holds values its entries accept: right Python type, text ASCII without SOH, group instances
               with distinct keys known to the group and containing the group's first entry; at least one field set;
  canonMsg d m — `m` with every group instance re-ordered to dictionary order (top-level segments keep their order):
               what decoding returns, with the same field values as `m`;
  getMsgType bs = .ok d.type — `get_msg_type` (a `35=` at the start of the bytes or right after a SOH) reads the class's own type
               from the bytes (`C13_msgtype_first`; for MsgType anywhere in the header `C13Anchor.C13_msgtype_any_order`);
  lookupReg reg d.type = some d — the class is the one registered for its type.
Non-vacuity examples are at the end of the file.
-/

/-- **Round trip.** Decoding the bytes of a well-formed message through the base class yields the class registered for
    its MsgType, consumes every byte and returns the message in canonical form (same field values; group instances in
    dictionary order) — for every dictionary with distinct tags, any nesting depth, any assignment order. -/
theorem C13_roundtrip (reg : List MsgDef) (d : MsgDef) (m : Msg) (bs : Bytes)
    (hd : wfDef d = true) (hm : wfMsg d m = true) (henc : encMsg d m = .ok bs)
    (hty : getMsgType bs = .ok d.type) (hreg : lookupReg reg d.type = some d) :
    decodeMsg reg bs = .ok (bs.length, d, canonMsg d m) :=
  decodeMsg_shared reg d m bs (wfDefLevels_of_wfDef hd) hm (countEndsS_of_wfDef hd hm) henc hty hreg

/-- **Re-encode.** The decoded message encodes to the same bytes as the original (any assignment order). -/
theorem C13_reencode (d : MsgDef) (m : Msg) (hd : wfDef d = true) : encMsg d (canonMsg d m) = encMsg d m :=
  encMsg_canon d m (wfDefLevels_of_wfDef hd)

/-- **Equality under the attrs-generated `Group.__eq__` (the code before /repo 02aab28), partial.**  `pyEq` compares group
    instances as OrderedDicts (order sensitive); with it the decoded message equals the original only when every group
    instance was assigned in dictionary order ("canonicalising changes nothing"); `Witness.C13.C13_witness_eq_order` is the
    counterexample otherwise.  Kept as the regression statement for the defect that was repaired. -/
theorem C13_eq_original_partial (d : MsgDef) (m : Msg) (hord : canonMsg d m = m) : pyEq (canonMsg d m) m = true := by
  rw [hord]; exact pyEq_refl m

/-- **Equality — the statement of the property.**  `pyEqDict` is `Message.__eq__` of the code as it is now (`Group.__eq__`
    compares the fields of an instance as plain dicts, top-level segments as OrderedDicts): the decoded message compares
    equal to the original for *every* well-formed message, whatever the order in which group fields were assigned. -/
theorem C13_eq_original (d : MsgDef) (m : Msg) (hd : wfDef d = true) (hm : wfMsg d m = true) :
    pyEqDict (canonMsg d m) m = true :=
  pyEqDict_canon d m (wfDefLevels_of_wfDef hd) hm

/-- **Class.** Whatever `decodeMsg` returns for the bytes of a well-formed message is the class registered for its type. -/
theorem C13_class (reg : List MsgDef) (d : MsgDef) (m : Msg) (bs : Bytes)
    (hd : wfDef d = true) (hm : wfMsg d m = true) (henc : encMsg d m = .ok bs)
    (hty : getMsgType bs = .ok d.type) (hreg : lookupReg reg d.type = some d)
    (n : Nat) (d' : MsgDef) (m' : Msg) (hdec : decodeMsg reg bs = .ok (n, d', m')) :
    d' = d ∧ n = bs.length :=
  decodeMsg_class (C13_roundtrip reg d m bs hd hm henc hty hreg) hdec

/-- **MsgType.** When `MsgType` is the first header field assigned (so the bytes begin with `35=`), `get_msg_type`
    finds the class's own type: the hypothesis `hty` of `C13_roundtrip` holds. -/
theorem C13_msgtype_first (d : MsgDef) (m : Msg) (bs : Bytes)
    (hd : wfDef d = true) (hm : wfMsg d m = true) (henc : encMsg d m = .ok bs)
    (r : Bool) (rest : Seg) (hfirst : m.hdr = (35, .str d.type) :: rest)
    (hentry : lookupE d.hdr 35 = some (.field 35 .string r)) :
    getMsgType bs = .ok d.type :=
  getMsgType_encMsg hd hm henc (by rw [hfirst]; exact .head _) hentry

/-- **Group layout.**  A repeating group is written as its count field, whose value is the number of instances in
    decimal, followed by the instances; every instance is exactly its present fields in *dictionary* order
    (`itemTags fs` = the group's entries filtered by presence), each field followed by SOH. -/
theorem C13_group_layout (t : Nat) (sub : List Entry) (r : Bool) (insts : List Seg) (b : Bytes)
    (hne : ∀ inst ∈ insts, firstPresent sub inst = true)
    (henc : encEntry (.group t sub r) (.grp insts) = .ok b) :
    ∃ fss : List (List Item),
      b ++ [1] = fieldBytes t (natDigits insts.length) ++ 1 :: (fss.map wireItems).flatten ∧
      All₂ (fun inst fs =>
              itemTags fs = (sub.filter (fun e => hasKey inst e.tag)).map Entry.tag ∧
              ∀ x ∈ fs, x.1 ∈ sub ∧ lookupV inst x.1.tag = some x.2.1 ∧ encEntry x.1 x.2.1 = .ok x.2.2) insts fss := by
  obtain ⟨gs, hgs, rfl⟩ := encEntry_group_ok henc
  have key : ∀ {is : List Seg} {gl : List Bytes},
      All₂ (fun inst g => ∃ fbs, encGroupFields sub inst = .ok fbs ∧ g = joinSOH fbs) is gl →
      (∀ inst ∈ is, firstPresent sub inst = true) →
      ∃ fss : List (List Item), termAll gl = (fss.map wireItems).flatten ∧
        All₂ (fun inst fs =>
              itemTags fs = (sub.filter (fun e => hasKey inst e.tag)).map Entry.tag ∧
              ∀ x ∈ fs, x.1 ∈ sub ∧ lookupV inst x.1.tag = some x.2.1 ∧ encEntry x.1 x.2.1 = .ok x.2.2) is fss := by
    intro is gl hal
    induction hal with
    | nil => intro _; exact ⟨[], by simp [termAll], .nil⟩
    | @cons inst g insts' gs' hg _ ih =>
      intro hfp
      obtain ⟨fss, h1, h2⟩ := ih (fun i hi => hfp i (by simp [hi]))
      obtain ⟨fbs, hf, rfl⟩ := hg
      obtain ⟨fs, k1, k2, k3, _, _⟩ := encGroupFields_layout inst sub fbs hf
      -- the instance holds the group's first entry: at least one item, so the join is the items, each terminated
      obtain ⟨x, fs', rfl, _⟩ := items_first k3 (hfp inst (by simp))
      refine ⟨(x :: fs') :: fss, ?_, .cons ⟨k3, k2⟩ h2⟩
      rw [← k1, termAll_join_items, h1]
      simp
  obtain ⟨fss, h1, h2⟩ := key hgs hne
  refine ⟨fss, ?_, h2⟩
  rw [joinSOH_term, termAll_cons, h1, intStr_natCast]

/-- **Assignment order is irrelevant.**  Two group values whose instances hold the same items, assigned in any
    order, encode to the same bytes. -/
theorem C13_group_order_irrelevant (t : Nat) (sub : List Entry) (r : Bool) (insts insts' : List Seg)
    (h : All₂ (fun a b => a.Perm b ∧ (keysOf b).Nodup) insts' insts) :
    encEntry (.group t sub r) (.grp insts') = encEntry (.group t sub r) (.grp insts) := by
  have hlen : insts'.length = insts.length := by
    induction h with
    | nil => rfl
    | cons _ _ ih => simp [ih]
  have hmap : mapE (fun inst => do let fs ← encGroupFields sub inst; pure (joinSOH fs)) insts'
      = mapE (fun inst => do let fs ← encGroupFields sub inst; pure (joinSOH fs)) insts := by
    induction h with
    | nil => rfl
    | cons hab _ ih =>
      simp only [mapE] at ih ⊢
      rw [encGroupFields_perm sub hab.1 hab.2, ih (by simpa using hlen)]
  simp only [encEntry, hmap, hlen]

/-- **Encoding never raises** on a message built from valid values. -/
theorem C13_encodes (d : MsgDef) (m : Msg) (hd : wfDef d = true) (hm : wfMsg d m = true) : ∃ bs, encMsg d m = .ok bs :=
  encMsg_ok d m (wfDefLevels_of_wfDef hd) hm

/-- **The statement of C13 in one piece** (for a message whose first assigned header field is MsgType): it encodes;
    the bytes decode to the registered class, every byte consumed, to the canonical form of the message; that form
    re-encodes to the same bytes and compares `==` to the original. -/
theorem C13_statement (reg : List MsgDef) (d : MsgDef) (m : Msg) (hd : wfDef d = true) (hm : wfMsg d m = true)
    (r : Bool) (rest : Seg) (hfirst : m.hdr = (35, .str d.type) :: rest)
    (hentry : lookupE d.hdr 35 = some (.field 35 .string r)) (hreg : lookupReg reg d.type = some d) :
    ∃ bs, encMsg d m = .ok bs ∧ decodeMsg reg bs = .ok (bs.length, d, canonMsg d m) ∧
      encMsg d (canonMsg d m) = .ok bs ∧ pyEqDict (canonMsg d m) m = true :=
  roundtrip_statement reg d m (wfDefLevels_of_wfDef hd) hm (countEndsS_of_wfDef hd hm)
    (fun bs henc => C13_msgtype_first d m bs hd hm henc r rest hfirst hentry) hreg

/-- header MsgType(35) + 49; body: 58 string, group 453 { 448 string, 447 char, group 802 { 523 string, 803 int } }, 44 float;
    trailer 93 int -/
def exDef : MsgDef :=
  { name := [68], type := [68],
    hdr := [.field 35 .string true, .field 49 .string false],
    body := [.field 58 .string false,
             .group 453 [.field 448 .string true, .field 447 .char false,
                         .group 802 [.field 523 .string true, .field 803 .int false] false] false,
             .field 44 .float false],
    trl := [.field 93 .int false] }

/-- `44` assigned before the group, instances assigned out of order, an empty string, a string containing `=`, a negative
    integer, an instance with an empty nested group and one with two nested instances -/
def exMsg : Msg :=
  { hdr := [(35, .str [68]), (49, .str [])],
    body := [(44, .flt [45, 49, 46, 53]),
             (453, .grp [[(447, .str [88]), (448, .str [97, 61, 98])],
                         [(802, .grp [[(803, .int (-7)), (523, .str [113])], [(523, .str [])]]), (448, .str [99])],
                         [(448, .str [100]), (802, .grp [])]])],
    trl := [(93, .int 0)] }

example : wfDef exDef = true := by decide +kernel
example : wfMsg exDef exMsg = true := by decide +kernel
example : wfDef witnessDef = true ∧ wfMsg witnessDef witnessMsg = true := by decide +kernel
/-- the hypothesis of `C13_eq_original_partial` is satisfiable by a message with a group -/
example : canonMsg witnessDef { witnessMsg with body := [(100, .grp [[(101, .int 1), (102, .str [97])]])] }
    = { witnessMsg with body := [(100, .grp [[(101, .int 1), (102, .str [97])]])] } := by rfl
/-- `exMsg` encodes to the documented layout: `35=D|49=|44=-1.5|453=3|448=a=b|447=X|448=c|802=2|523=q|803=-7|523=|448=d|802=0|93=0|` -/
example : encMsg exDef exMsg = .ok
    [51,53,61,68,1, 52,57,61,1, 52,52,61,45,49,46,53,1, 52,53,51,61,51,1, 52,52,56,61,97,61,98,1, 52,52,55,61,88,1,
     52,52,56,61,99,1, 56,48,50,61,50,1, 53,50,51,61,113,1, 56,48,51,61,45,55,1, 53,50,51,61,1,
     52,52,56,61,100,1, 56,48,50,61,48,1, 57,51,61,48,1] := by decide +kernel

end NasdaqModel.Props.C13
