import NasdaqModel.Lemmas.MonitorLateLemmas
/-
C09, late ticks — "the session is never closed for inactivity … whatever else it is doing" includes a handler that blocks the
event loop.  Model/MonitorLate.lean adds to the monitor model: `hold` (one grid unit passes while a callback blocks: no timer
fires), bytes that reach the socket meanwhile (`base (recv k)` while held: they wait), and `resume` (the callback returns: the
waiting bytes are handed to `data_received`, then the timers whose deadline has passed run — late).  A tick may thus be late by
any amount, any number of times.

Reading guide.  `x.s` is the session of Model/Monitor.lean; `x.arrivals` the instants at which bytes from the peer reached the
socket (this is what "the peer delivers a byte" means when the loop may be blocked: the bytes are handed to `data_received` at once
on a running loop, at the end of the hold-up otherwise — before the late timers, as `BaseEventLoop._run_once` does);
`x.remChecks` the instants at which the remote monitor's sleep returned and it looked at `_pinged` (newest first);
`x.tripFrom` the instant of the check before the one that closed the session.
All theorems hold for every event list (`LEv`: any interleaving of hold-ups of any length with sends, failed sends, arrivals,
closes), every pair of intervals, every tolerance; no well-formedness hypothesis is needed.

The lemma everything rests on is `C09Late_next_sleep_starts_at_the_check`: after a check — however late — the monitor sleeps a
*full* interval again (`await asyncio.sleep(self.interval)` inside the loop), so consecutive checks are at least one interval
apart (`C09Late_check_windows_ge_interval`).  A monitor that paces its checks off a fixed schedule (`next_check += interval`)
does not have this property: after a hold-up two checks follow each other at once and a live peer is dropped.
-/
namespace NasdaqModel.Props.C09Late
open NasdaqModel.Monitor NasdaqModel.MonitorLate

/-- histories without hold-ups are exactly the histories of Model/Monitor.lean: all theorems of Props/C08.lean, C09.lean apply -/
theorem C09Late_extends (role : Role) (c : Cfg) (evs : List Ev) :
    ((loginL role c).run (evs.map LEv.base)).s = (login role c).run evs :=
  (run_base_s evs (loginL role c) rfl).1

/-- **the drift.**  When the remote monitor's check has run and the monitor goes on, its next sleep is a full interval from
    *now* — not from the deadline it missed. -/
theorem C09Late_next_sleep_starts_at_the_check (s : Sess) (h : (remCheck s).rem.running = true) :
    (remCheck s).rem.left = s.rem.interval ∧ (remCheck s).now = s.now :=
  ⟨remCheck_left s h, remCheck_now s⟩

/-- **C09Late_check_windows_ge_interval.**  However the event loop is held up, two consecutive checks of the remote monitor are at
    least one interval apart, and the first one is at least one interval after login. -/
theorem C09Late_check_windows_ge_interval (l r tl n : Nat) (evs : List LEv) (pre rest : List Nat) (c : Nat)
    (h : ((startWithL l r tl n).run evs).remChecks = pre ++ c :: rest) : rest.headD 0 + r ≤ c := by
  have hs := (invLate_run l r tl n evs).spaced
  rw [h] at hs
  exact hs.at

/-- **C09Late_trip_has_silent_period.**  Whenever the remote monitor has closed the session — after any hold-ups — it did so at
    one of its checks (`closeT`), the previous check (`tripFrom`) was at least one interval earlier, and strictly between the two
    no byte from the peer reached the socket. -/
theorem C09Late_trip_has_silent_period (l r tl n : Nat) (evs : List LEv)
    (hclosed : ((startWithL l r tl n).run evs).s.closed = true) (hmon : ((startWithL l r tl n).run evs).s.closedByMon = true) :
    let x := (startWithL l r tl n).run evs
    x.tripFrom + r ≤ x.s.closeT ∧ x.tripFrom ∈ x.remChecks ∧ x.s.closeT ∈ x.remChecks ∧
      ∀ a ∈ x.arrivals, ¬ (x.tripFrom < a ∧ a < x.s.closeT) :=
  (invLate_run l r tl n evs).trip hclosed hmon

/-- **C09Late_live_never_dropped** (any tolerance, any hold-ups).  If every window `[τ, τ + P)` of the session's life contains an
    instant at which a byte from the peer reached the socket, and no byte arrives at the very instant of a check (on a continuous
    time line: almost surely; in the harness: arrivals on odd, checks on even instants), the remote monitor never closes the
    session. -/
theorem C09Late_live_never_dropped_generic (l r tl n : Nat) (evs : List LEv)
    (hlive : ∀ τ, τ + r ≤ ((startWithL l r tl n).run evs).s.life →
      ∃ a ∈ ((startWithL l r tl n).run evs).arrivals, τ ≤ a ∧ a < τ + r)
    (hnotie : ∀ a ∈ ((startWithL l r tl n).run evs).arrivals, a ∉ ((startWithL l r tl n).run evs).remChecks) :
    ¬ (((startWithL l r tl n).run evs).s.closed = true ∧ ((startWithL l r tl n).run evs).s.closedByMon = true) := by
  rintro ⟨hc, hm⟩
  obtain ⟨h1, h2, _, h4⟩ := C09Late_trip_has_silent_period l r tl n evs hc hm
  obtain ⟨a, ha, hlo, hhi⟩ := hlive ((startWithL l r tl n).run evs).tripFrom (by rw [life_closed _ hc]; exact h1)
  have hne : a ≠ ((startWithL l r tl n).run evs).tripFrom := fun e => hnotie a ha (e ▸ h2)
  exact h4 a ha ⟨by omega, by omega⟩

/-- the same without any assumption about ties: a byte in every window one grid unit shorter than the interval (the grid can be
    as fine as one likes) -/
theorem C09Late_live_never_dropped_strict (l r tl n : Nat) (hr : 1 ≤ r) (evs : List LEv)
    (hlive : ∀ τ, τ + (r - 1) ≤ ((startWithL l r tl n).run evs).s.life →
      ∃ a ∈ ((startWithL l r tl n).run evs).arrivals, τ ≤ a ∧ a < τ + (r - 1)) :
    ¬ (((startWithL l r tl n).run evs).s.closed = true ∧ ((startWithL l r tl n).run evs).s.closedByMon = true) := by
  rintro ⟨hc, hm⟩
  obtain ⟨h1, _, _, h4⟩ := C09Late_trip_has_silent_period l r tl n evs hc hm
  obtain ⟨a, ha, hlo, hhi⟩ := hlive (((startWithL l r tl n).run evs).tripFrom + 1) (by rw [life_closed _ hc]; omega)
  exact h4 a ha ⟨by omega, by omega⟩

private theorem loginL_eq (role : Role) (c : Cfg) :
    loginL role c = startWithL (ownInterval role c) (peerInterval role c) 1 1 := by
  cases role <;> rfl

/-- **C09Late_live_never_dropped** for sessions: `P` is the interval of the peer's role (`C09_role`) -/
theorem C09Late_live_never_dropped (role : Role) (c : Cfg) (evs : List LEv)
    (hlive : ∀ τ, τ + peerInterval role c ≤ ((loginL role c).run evs).s.life →
      ∃ a ∈ ((loginL role c).run evs).arrivals, τ ≤ a ∧ a < τ + peerInterval role c)
    (hnotie : ∀ a ∈ ((loginL role c).run evs).arrivals, a ∉ ((loginL role c).run evs).remChecks) :
    ¬ (((loginL role c).run evs).s.closed = true ∧ ((loginL role c).run evs).s.closedByMon = true) := by
  rw [loginL_eq] at hlive hnotie ⊢
  exact C09Late_live_never_dropped_generic _ _ 1 1 evs hlive hnotie

theorem C09Late_live_never_dropped_strict_session (role : Role) (c : Cfg) (hp : 1 ≤ peerInterval role c) (evs : List LEv)
    (hlive : ∀ τ, τ + (peerInterval role c - 1) ≤ ((loginL role c).run evs).s.life →
      ∃ a ∈ ((loginL role c).run evs).arrivals, τ ≤ a ∧ a < τ + (peerInterval role c - 1)) :
    ¬ (((loginL role c).run evs).s.closed = true ∧ ((loginL role c).run evs).s.closedByMon = true) := by
  rw [loginL_eq] at hlive ⊢
  exact C09Late_live_never_dropped_strict _ _ 1 1 hp evs hlive

/-- the failing input of the seeded change C09f as a history: a client whose peer (interval 8) delivers a byte at 7, 13, 19, 25, 31;
    a handler blocks the loop from 9 to 20 -/
def heldUpLivePeer : List LEv :=
  List.replicate 7 (.base .adv) ++ [.base (.recv .hb)] ++ List.replicate 2 (.base .adv) ++
  List.replicate 4 .hold ++ [.base (.recv .hb)] ++ List.replicate 6 .hold ++ [.base (.recv .hb)] ++ [.hold, .resume] ++
  List.replicate 5 (.base .adv) ++ [.base (.recv .hb)] ++ List.replicate 6 (.base .adv) ++ [.base (.recv .hb)] ++
  List.replicate 4 (.base .adv)

set_option maxRecDepth 100000 in
/-- non-vacuity: in that history the checks ran at 8, at 20 (the deadline 16 was missed by 4) and at 28 — never less than 8
    apart —, the bytes arrived at 7, 13, 19, 25, 31 (a byte in every window of 8, none at a check instant) and the session is
    open at 35.  A monitor on the fixed schedule 8, 16, 24 would have checked at 20 and again at 24 with no byte in between. -/
example :
    let x := (loginL .soupClient ⟨100, 8⟩).run heldUpLivePeer
    x.s.now = 35 ∧ x.s.closed = false ∧ x.remChecks = [28, 20, 8] ∧ x.arrivals = [31, 25, 19, 13, 7] ∧
      (x.arrivals.all fun a => !x.remChecks.contains a) = true := by decide +kernel

set_option maxRecDepth 100000 in
/-- non-vacuity of the trip theorem: the same client, held up from 9 to 30 with no byte from the peer after 7, is closed by its
    late check at 30; the previous check was at 8 and nothing arrived in between -/
example :
    let x := (loginL .soupClient ⟨100, 8⟩).run
      (List.replicate 7 (.base .adv) ++ [.base (.recv .hb)] ++ List.replicate 2 (.base .adv) ++ List.replicate 21 .hold ++ [.resume])
    x.s.closed = true ∧ x.s.closedByMon = true ∧ x.s.closeT = 30 ∧ x.tripFrom = 8 ∧ x.remChecks = [30, 8] := by decide +kernel

end NasdaqModel.Props.C09Late
