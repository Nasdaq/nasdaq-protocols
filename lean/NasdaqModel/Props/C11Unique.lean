import NasdaqModel.Lemmas.LoginUnique
import NasdaqModel.Props.C11Trace
/-
C11 — "a connect/login attempt … has **exactly two outcomes**": at most one outcome per attempt.

`Props/C11Trace.lean` proves every clause of the two-outcome statement (which outcomes exist, what each one guarantees).  Here the
missing half: the outcomes are mutually exclusive, because an attempt returns **at most once** — for every configuration and every
event list from the fresh session.  It is a fact about user tasks in general (`C11_task_returns_at_most_once`: the task of a
`close()`, `receive_msg()` or `login()` call reports one result), specialised to login callers below.

Reason (invariant `InvK`, `Lemmas/LoginUnique.lean`): the trace holds no `ret u _` while task `u` has not ended and at most one
afterwards; `done` is absorbing for user tasks (`callLogin u` is ignored unless `u` is `absent`), and every step that emits
`ret u _` is a step of task `u` that ends it.
-/
namespace NasdaqModel.Props.C11Unique
open NasdaqModel Sess
open NasdaqModel.Props.C11Trace (loginCaller)

abbrev reach (cfg : Cfg) (evs : List Ev) : St := runEvs cfg {} evs

/-- `isRet u o` is the decidable form of "`o` is an outcome of task `u`" -/
theorem C11_isRet_iff (u : Nat) (o : Obs) : isRet u o = true ↔ ∃ r, o = .ret u r := isRet_iff

private theorem noNowait_of_loginCaller {u : Nat} {evs : List Ev} (hu : loginCaller u evs) :
    ∀ ev ∈ evs, ev ≠ .callRecvNowait u := fun ev he => (hu ev he).2.2

private theorem eq_of_filter_le_one {α} {p : α → Bool} {l : List α} (h : (l.filter p).length ≤ 1) {a b : α}
    (ha : a ∈ l) (hb : b ∈ l) (pa : p a = true) (pb : p b = true) : a = b := by
  have ha' : a ∈ l.filter p := List.mem_filter.mpr ⟨ha, pa⟩
  have hb' : b ∈ l.filter p := List.mem_filter.mpr ⟨hb, pb⟩
  match hf : l.filter p, h with
  | [], _ => rw [hf] at ha'; simp at ha'
  | [x], _ => rw [hf] at ha' hb'; simp at ha' hb'; rw [ha', hb']
  | _ :: _ :: _, h => simp at h

/-- **A user task returns at most once.** For every configuration, every event list and every user task `u` whose label is not
    also used for the synchronous `receive_msg_nowait()` (which reports under a label without being a task): the trace contains
    at most one observable `ret u r`. -/
theorem C11_task_returns_at_most_once (cfg : Cfg) (evs : List Ev) (u : Nat) (h : ∀ ev ∈ evs, ev ≠ .callRecvNowait u) :
    ((reach cfg evs).trace.filter (isRet u)).length ≤ 1 := by
  have i : InvK u (reach cfg evs) := runEvs_InvK cfg u evs h
  unfold InvK retCount at i
  split at i <;> omega

/-- **At most one outcome per attempt.** -/
theorem C11_at_most_one_outcome (cfg : Cfg) (evs : List Ev) (u : Nat) (hu : loginCaller u evs) :
    ((reach cfg evs).trace.filter (isRet u)).length ≤ 1 :=
  C11_task_returns_at_most_once cfg evs u (noNowait_of_loginCaller hu)

/-- **The outcome is unique**: two outcomes of the same attempt found in the trace are the same outcome. -/
theorem C11_outcome_unique (cfg : Cfg) (evs : List Ev) (u : Nat) (r r' : Res) (hu : loginCaller u evs)
    (h : Obs.ret u r ∈ (reach cfg evs).trace) (h' : Obs.ret u r' ∈ (reach cfg evs).trace) : r = r' := by
  have := eq_of_filter_le_one (C11_at_most_one_outcome cfg evs u hu) h h' (by simp [isRet]) (by simp [isRet])
  injection this

/-- … and it occurs at one place only: nothing before it and nothing after it in the trace is an outcome of the same attempt. -/
theorem C11_outcome_occurs_once (cfg : Cfg) (evs : List Ev) (u : Nat) (r : Res) (hu : loginCaller u evs) (l1 l2 : List Obs)
    (e : (reach cfg evs).trace = l1 ++ Obs.ret u r :: l2) : ∀ r', Obs.ret u r' ∉ l1 ∧ Obs.ret u r' ∉ l2 := by
  have h := C11_at_most_one_outcome cfg evs u hu
  rw [e, List.filter_append, List.length_append] at h
  have hc : (List.filter (isRet u) (Obs.ret u r :: l2)).length = 1 + (List.filter (isRet u) l2).length := by
    simp [List.filter, isRet]; omega
  rw [hc] at h
  have h1 : (l1.filter (isRet u)) = [] := List.eq_nil_of_length_eq_zero (by omega)
  have h2 : (l2.filter (isRet u)) = [] := List.eq_nil_of_length_eq_zero (by omega)
  intro r'
  constructor
  · intro hm
    have : Obs.ret u r' ∈ l1.filter (isRet u) := List.mem_filter.mpr ⟨hm, by simp [isRet]⟩
    rw [h1] at this; simp at this
  · intro hm
    have : Obs.ret u r' ∈ l2.filter (isRet u) := List.mem_filter.mpr ⟨hm, by simp [isRet]⟩
    rw [h2] at this; simp at this

/-- **An attempt that has returned is over**: its task has ended, and stays ended whatever happens afterwards
    (`callLogin u` is ignored unless task `u` is `absent`). -/
theorem C11_returned_task_is_done (cfg : Cfg) (evs : List Ev) (u : Nat) (r : Res) (hu : loginCaller u evs)
    (h : Obs.ret u r ∈ (reach cfg evs).trace) : (reach cfg evs).status (.U u) = .done := by
  have i : InvK u (reach cfg evs) := runEvs_InvK cfg u evs (noNowait_of_loginCaller hu)
  unfold InvK retCount at i
  have : Obs.ret u r ∈ (reach cfg evs).trace.filter (isRet u) := List.mem_filter.mpr ⟨h, by simp [isRet]⟩
  have hpos : 0 < ((reach cfg evs).trace.filter (isRet u)).length := List.length_pos_of_mem this
  split at i
  · assumption
  · omega

/-- **Exactly two outcomes, exclusively.** A login attempt (first login on a client configuration, i.e. not the API misuse that
    raises `StateError`: `r ≠ state`) that the caller does not cancel and that has ended, ended in exactly one of the two ways of
    the property: it returned the session (`C11_active`, `C11_active_at_return` say what that guarantees) and did **not** raise the
    connection-refused error — or it raised it (`C11_refused_clean`, `C11_refused_quiescent_clean`) and did **not** return a
    session. -/
theorem C11_exactly_two_outcomes (cfg : Cfg) (evs : List Ev) (u : Nat) (r : Res) (hu : loginCaller u evs)
    (hnc : Ev.cancel u ∉ evs) (hns : r ≠ .state) (h : Obs.ret u r ∈ (reach cfg evs).trace) :
    (r = .ok ∧ ∀ r', r' ≠ .ok → Obs.ret u r' ∉ (reach cfg evs).trace) ∨
    (r = .refused ∧ ∀ r', r' ≠ .refused → Obs.ret u r' ∉ (reach cfg evs).trace) := by
  obtain ⟨hr, hcan⟩ := C11Trace.C11_outcomes cfg evs u r hu h
  have excl : ∀ r', r' ≠ r → Obs.ret u r' ∉ (reach cfg evs).trace :=
    fun r' hne hm => hne (C11_outcome_unique cfg evs u r' r hu hm h)
  rcases hr with rfl | rfl | rfl | rfl
  · exact Or.inl ⟨rfl, excl⟩
  · exact Or.inr ⟨rfl, excl⟩
  · exact absurd (hcan rfl) hnc
  · exact absurd rfl hns

/-- The four-way version without side conditions: whatever the outcome of an attempt is — session, refusal, the caller's own
    cancellation, or `StateError` — no other outcome of that attempt is in the trace. -/
theorem C11_outcomes_exclusive (cfg : Cfg) (evs : List Ev) (u : Nat) (r : Res) (hu : loginCaller u evs)
    (h : Obs.ret u r ∈ (reach cfg evs).trace) :
    (r = .ok ∨ r = .refused ∨ r = .cancelled ∨ r = .state) ∧ ∀ r', r' ≠ r → Obs.ret u r' ∉ (reach cfg evs).trace :=
  ⟨(C11Trace.C11_outcomes cfg evs u r hu h).1, fun r' hne hm => hne (C11_outcome_unique cfg evs u r' r hu hm h)⟩

private def cfg1 : Cfg :=
  { msgBeh := fun _ => .ret, cbBeh := .ret, hasCb := true, dispatchOnConnect := false, hasMsgCb := true, fixLogin := false }

/-- accepted; afterwards the caller re-uses the task label for another `login()` and cancels it: both are ignored -/
private def accepted : List Ev :=
  [.connect, .callLogin 1, .run .V, .data [.msg 0, .msg 5], .run .R, .run .R, .run .V, .run (.U 1), .run .D,
   .callLogin 1, .cancel 1, .run (.U 1)]
/-- rejected, then the close runs to its end: one `refused`, although the close body passes through task 1 several times -/
private def rejected : List Ev :=
  [.connect, .callLogin 1, .run .V, .data [.msg 7], .run .R, .run .V, .run (.U 1), .run .R, .run (.U 1), .run (.U 1), .cancel 1]

example : loginCaller 1 accepted ∧ loginCaller 1 rejected := by decide +kernel
example : ((reach cfg1 accepted).trace.filter (isRet 1)) = [.ret 1 .ok] := by decide +kernel
example : ((reach cfg1 rejected).trace.filter (isRet 1)) = [.ret 1 .refused] := by decide +kernel
example : (reach cfg1 accepted).status (.U 1) = .done := by decide +kernel
/-- the hypothesis of `C11_task_returns_at_most_once` is needed: `receive_msg_nowait()` is synchronous, the label `1` given to two
    such calls is no task, and two results are reported under it -/
example : ((reach cfg1 [.connect, .data [.msg 1, .msg 2], .run .R, .run .R, .callRecvNowait 1, .callRecvNowait 1]).trace.filter
    (isRet 1)) = [.ret 1 (.msg 1), .ret 1 (.msg 2)] := by decide +kernel

end NasdaqModel.Props.C11Unique
