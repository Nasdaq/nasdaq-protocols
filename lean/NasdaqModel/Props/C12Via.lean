import NasdaqModel.Props.C12
import NasdaqModel.Props.C12Table
import NasdaqModel.Model.SoupVia
import NasdaqModel.Extracted.SoupViaTable
/-
C12 — every decode ENTRY POINT.  The statement's last clause, "decoding never returns a packet of a type other than the one named by the
type character", and its round-trip clause speak about decoding, not about one spelling of it: `from_bytes` is a classmethod that the ten
packet classes inherit, so `LogoutRequest.from_bytes(b)`, `SequencedData.from_bytes(b)` … are decode calls the library offers next to
`SoupMessage.from_bytes(b)`.  `Model/SoupVia.lean` models the entry points (`decodeVia cls b`: dispatch on the type character through
`classByIndicator`, then the selected class's `unpack`, `unpackAs`) and this file proves

  * the receiver is irrelevant: `decodeVia cls b = decode b` for every class and every byte string — so every theorem of `Props/C12.lean`
    about `decode` is a theorem about each of the eleven entry points (kind, round trip, exact payload are restated below);
  * `unpackAs k` only ever builds a packet of class `k` — which is why the dispatch on the type character is what makes the kind clause
    true, and why a receiver-directed ("typed") decode breaks it (`Witness/C12Via.lean`);
  * the complete probe tables of `<Class>.from_bytes` (10 classes x 256 type bytes x lengths) and `<Class>.unpack`, regenerated from the
    live library on every run (`Extracted/SoupViaTable.lean`), agree with the model on EVERY row (`decide +kernel`).
-/
namespace NasdaqModel.Props.C12Via
open NasdaqModel Py Soup

/-- index in harness/extract_c12.py `KINDS` -/
def kindOfIdx : Nat → Option Kind
  | 0 => some .loginReq | 1 => some .loginAcc | 2 => some .loginRej | 3 => some .seqData | 4 => some .unseqData | 5 => some .debug
  | 6 => some .clientHb | 7 => some .serverHb | 8 => some .endOfSession | 9 => some .logoutReq | _ => none

def outcomeOf (r : Except Err Pkt) : Nat :=
  match r with
  | .ok p => C12Table.kindIdx p + (if p.isHeartbeat then 10 else 0) + (if p.isLogout then 20 else 0)
  | .error e => 100 + C12Table.errIdx e

def viaRowOK (r : Nat × Nat × Nat × Nat × Nat) : Bool :=
  match kindOfIdx r.1 with
  | none => false
  | some k => outcomeOf (decodeVia (some k) (C12Table.probeBytes r.2.1 r.2.2.1 r.2.2.2.1)) == r.2.2.2.2

/-- one row of `soupViaByType`: 256 outcome codes, the i-th for type byte i -/
def viaByTypeRowOK (r : Nat × Nat × Nat × List Nat) : Bool :=
  match kindOfIdx r.1 with
  | none => false
  | some k => r.2.2.2.length == 256 &&
      (List.range 256).all (fun t => some (outcomeOf (decodeVia (some k) (C12Table.probeBytes t r.2.1 r.2.2.1))) == r.2.2.2[t]?)

/-- harness/extract_c12.py `unpack_probe` -/
def unpackProbe (t n fill : Nat) : Bytes :=
  if n ≥ 2 then ([(n - 2) / 256 % 256, (n - 2) % 256, t] ++ List.replicate (n - 3) fill).take n else List.replicate n 0

def unpackRowOK (r : Nat × Nat × Nat × Nat × Nat) : Bool :=
  match kindOfIdx r.1 with
  | none => false
  | some k => outcomeOf (unpackAs k (unpackProbe r.2.1 r.2.2.1 r.2.2.2.1)) == r.2.2.2.2

private theorem classByIndicator_ind (k : Kind) : classByIndicator k.ind = some k :=
  Soup.classByIndicator_ind k

private theorem classByIndicator_some {t : Nat} {k : Kind} (h : classByIndicator t = some k) : t = k.ind :=
  Soup.classByIndicator_some h

/-- **The receiver is irrelevant.**  `<Class>.from_bytes` and `SoupMessage.from_bytes` are the same function of the bytes, for every
    class and every byte string. -/
theorem C12Via_entry_point_irrelevant (cls : Option Kind) (b : Bytes) : decodeVia cls b = decode b := by
  unfold decodeVia
  cases hb : b[2]? with
  | none =>
    unfold decode
    rw [hb]
  | some t => exact (decode_eq_unpackAs hb).symm

/-- every entry point: a successful decode is a packet of the type named by the type character -/
theorem C12Via_kind (cls : Option Kind) (bs : Bytes) (p : Pkt) (h : decodeVia cls bs = .ok p) : bs[2]? = some p.ty := by
  rw [C12Via_entry_point_irrelevant] at h
  exact C12.C12_kind bs p h

/-- every entry point decodes the encoding of a well-formed packet to that packet (in particular: same class, whatever the receiver) -/
theorem C12Via_roundtrip (cls : Option Kind) (p : Pkt) (h : C12.wfPkt p = true) (bs : Bytes) (he : encode p = .ok bs) :
    decodeVia cls bs = .ok p := by
  rw [C12Via_entry_point_irrelevant]
  exact C12.C12_roundtrip p h bs he

/-- `<Class>.unpack` only ever builds an instance of its own class: the type character is honoured by the DISPATCH, not by `unpack` -/
theorem C12Via_unpack_own_class (k : Kind) (b : Bytes) (p : Pkt) (h : unpackAs k b = .ok p) : p.kind = k :=
  unpackAs_kind h

private theorem viaByTypeRowOK_receiver (c c' : Nat) (x : Nat × Nat × List Nat) (h : (kindOfIdx c).isSome = true)
    (h' : (kindOfIdx c').isSome = true) : viaByTypeRowOK (c, x) = viaByTypeRowOK (c', x) := by
  obtain ⟨k, hk⟩ := Option.isSome_iff_exists.mp h
  obtain ⟨k', hk'⟩ := Option.isSome_iff_exists.mp h'
  simp only [viaByTypeRowOK, hk, hk', C12Via_entry_point_irrelevant]

private theorem viaRowOK_receiver (c c' : Nat) (x : Nat × Nat × Nat × Nat) (h : (kindOfIdx c).isSome = true)
    (h' : (kindOfIdx c').isSome = true) : viaRowOK (c, x) = viaRowOK (c', x) := by
  obtain ⟨k, hk⟩ := Option.isSome_iff_exists.mp h
  obtain ⟨k', hk'⟩ := Option.isSome_iff_exists.mp h'
  simp only [viaRowOK, hk, hk', C12Via_entry_point_irrelevant]

/-- **Every row of the probed `<Class>.from_bytes` table** (each of the ten classes x all 256 type bytes x lengths 3 and 4): same packet
    kind with the same flags, or the same exception class, as the running library — and, by `C12Via_kind`, never a foreign kind. -/
theorem C12Via_from_bytes_table_agrees : Extracted.soupViaByType.all viaByTypeRowOK = true := by
  -- a row is compared with the list of its 256 outcomes in one pass (`viaByTypeRowOK` looks every outcome up by index)
  have h : viaByTypeRowOK = fun r => match kindOfIdx r.1 with
      | none => false
      | some k => r.2.2.2 == (List.range 256).map fun t => outcomeOf (decodeVia (some k) (C12Table.probeBytes t r.2.1 r.2.2.1)) := by
    funext r
    simp only [viaByTypeRowOK, beq_map_range_eq]
  -- the receiver is irrelevant: the rows of the first class are evaluated, every other row carries the data of one of them
  refine all_of_key_zero _ _ (fun c => (kindOfIdx c).isSome) viaByTypeRowOK_receiver rfl ?_ ?_
  · rw [h]
    decide +kernel
  · decide +kernel

/-- … and at the lengths where a login struct fits (5, 33, 49), for every class x every registered type byte -/
theorem C12Via_from_bytes_sizes_agree : Extracted.soupViaTable.all viaRowOK = true := by
  refine all_of_key_zero _ _ (fun c => (kindOfIdx c).isSome) viaRowOK_receiver rfl ?_ ?_
  · decide +kernel
  · decide +kernel

/-- **Every row of the probed `<Class>.unpack` table**: `unpackAs` is the library's per-class `unpack` on short, exact-size and over-long
    inputs of every registered (and some unregistered) type byte -/
theorem C12Via_unpack_table_agrees : Extracted.soupUnpackTable.all unpackRowOK = true := by decide +kernel

/-- the `from_bytes` table is the whole domain it claims: each of the ten classes at lengths 3 and 4 (256 type bytes per row) -/
theorem C12Via_table_covers_all_classes :
    (List.range 10).all (fun c => Extracted.soupViaByType.any (fun r => r.1 == c && r.2.1 == 3) &&
                                  Extracted.soupViaByType.any (fun r => r.1 == c && r.2.1 == 4)) = true := by decide +kernel

example : outcomeOf (decodeVia (some .logoutReq) [0, 1, 82]) = 16 := by decide     -- LogoutRequest.from_bytes(b'\x00\x01R') is a ClientHeartbeat
example : outcomeOf (unpackAs .logoutReq [0, 1, 82]) = 29 := by decide              -- LogoutRequest.unpack(b'\x00\x01R') is a LogoutRequest
example : unpackProbe 83 5 49 = [0, 3, 83, 49, 49] := by decide

end NasdaqModel.Props.C12Via
