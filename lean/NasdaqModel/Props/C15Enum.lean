import NasdaqModel.Props.C15
/-
C15 — "unset fields encode their declared default", for enum-typed fields, whatever the enum's members are called.

`wfSpec` puts no condition that relates the NAMES of an enum's members to their VALUES: names are distinct identifiers,
values are constants of the enum's datatype, and a member may be named like its own value, like another member's value, or
the names may be a permutation of the values (`<value name="N">Y</value><value name="Y">N</value>`) — see the `example`s at
the end.  This file states explicitly what the default of a field is in the generated module for all those
specifications:

* `declaredDefault s f0` — the `default` attribute of the (def-resolved) field read in the field's datatype: the text
  itself for character / string types and character enums, the integer it spells for integer types and integer enums.
  It never looks at an enum's member list (`C15Enum_default_ignores_members`, for every specification, well-formed or not).

The name-first lookup that a seeded change introduced is refuted on concrete overlapping specifications in
`Witness/C15Enum.lean`.
-/
namespace NasdaqModel.Props.C15Enum
open NasdaqModel GenSoupApp
open NasdaqModel.Py (isDigit)

/-- the default a `<field>` declares: its (def-resolved) `default` attribute read in the domain of the field's datatype -/
def declaredDefault (s : Spec) (f0 : FieldEl) : Option DVal :=
  match (resolvedF s f0).dflt with
  | none => none
  | some v =>
    match docElemTy s (resolvedF s f0) with
    | .ok (_, some .int) => (parseInt? v).map DVal.int
    | _ => some (.str v)

/-- the specification with every enum's member list replaced (names, values, number of members: anything) -/
def withMembers (s : Spec) (g : EnumEl → List EnumVal) : Spec :=
  { s with enums := s.enums.map fun e => { e with values := g e } }

private theorem findEnum?_withMembers (s : Spec) (g : EnumEl → List EnumVal) (n : Str) :
    findEnum? (withMembers s g) n = (findEnum? s n).map fun e => { e with values := g e } := by
  unfold findEnum? withMembers
  simp only
  induction s.enums with
  | nil => rfl
  | cons e es ih =>
    simp only [List.map_cons, List.find?_cons]
    cases h : e.name == n with
    | true => simp
    | false => simpa using ih

private theorem findEnum?_withMembers_ty (s : Spec) (g : EnumEl → List EnumVal) (n : Str) :
    (findEnum? (withMembers s g) n).map (·.ty) = (findEnum? s n).map (·.ty) := by
  rw [findEnum?_withMembers, Option.map_map]
  rfl

private theorem docElemTy_withMembers (s : Spec) (g : EnumEl → List EnumVal) (f : FieldEl) :
    docElemTy (withMembers s g) f = docElemTy s f :=
  docElemTy_congr (findEnum?_withMembers_ty s g) (fun _ => rfl) f

private theorem resolvedF_withMembers (s : Spec) (g : EnumEl → List EnumVal) (f0 : FieldEl) :
    resolvedF (withMembers s g) f0 = resolvedF s f0 := rfl

/-- the default a field denotes is `declaredDefault` (whenever the field denotes anything) -/
theorem C15Enum_denoted_default {s : Spec} {f0 : FieldEl} {fs : FieldS} (h : denoteField s f0 = .ok fs) :
    fs.dflt = declaredDefault s f0 := by
  obtain ⟨_, h⟩ := denoteField_ok_inv h
  obtain ⟨_, _, hty, _, _, hd⟩ := denoteResolved_ok_iff.mp h
  unfold declaredDefault
  rw [hty]
  cases hv : (resolvedF s f0).dflt with
  | none =>
    rw [hv] at hd
    exact hd
  | some v =>
    rw [hv] at hd
    obtain ⟨_, _, _, rfl, hdv, hx⟩ := hd
    rw [hx]
    rcases docValue_ok_inv hdv with ⟨rfl, rfl⟩ | ⟨rfl, i, hi, rfl⟩
    · rfl
    · simp only [hi, Option.map_some]

/-- **Member names (and values) are irrelevant to a field's default.**  Replace the member list of every enum by anything
    at all: every field denotes the same thing (name, type, default) and declares the same default.  No well-formedness
    hypothesis. -/
theorem C15Enum_default_ignores_members (s : Spec) (g : EnumEl → List EnumVal) (f0 : FieldEl) :
    denoteField (withMembers s g) f0 = denoteField s f0
    ∧ declaredDefault (withMembers s g) f0 = declaredDefault s f0 := by
  refine ⟨denoteField_congr (findEnum?_withMembers_ty s g) rfl (fun _ => rfl) f0, ?_⟩
  unfold declaredDefault
  rw [resolvedF_withMembers, docElemTy_withMembers]

/-- **Generated defaults.**  For every well-formed specification — enums whose member names overlap their values
    included — the generated module imports, and in every record class and every message class the fields are, position by
    position, the specification's `<field>`s under their resolved names with `default_value` = the declared default. -/
theorem C15Enum_defaults_generated (impl : Impl) (app : Str) (override : Bool) (s : Spec) (h : wfSpec impl s = true) :
    ∃ m sch, gen impl app override s = .ok m ∧ evalModule m = .ok sch
      ∧ sch.records.map (fun r => r.fields.map fun f => (f.name, f.dflt))
          = s.records.map (fun r => r.fields.map fun f0 => (resolvedName s f0, declaredDefault s f0))
      ∧ sch.messages.map (fun g => g.fields.map fun f => (f.name, f.dflt))
          = s.messages.map (fun g => g.fields.map fun f0 => (resolvedName s f0, declaredDefault s f0)) := by
  exact generated_fields app override h (fun f => (f.name, f.dflt)) (fun f0 => (resolvedName s f0, declaredDefault s f0))
    (fun _ _ hx => by rw [C15.C15_field_name hx, C15Enum_denoted_default hx])

/-- **Character enums.**  A field of type `enum:n`, where `n` is an enum of a character datatype, with `default="v"`:
    the declared default is the text `v` itself — whatever the members of `n` are called, in particular when `v` is also
    the name of a member with another value. -/
theorem C15Enum_char_enum_default {s : Spec} {f0 : FieldEl} {n v : Str} {e : EnumEl} {p : Prim}
    (hty : (resolvedF s f0).ty = some (kwEnum ++ n)) (he : findEnum? s n = some e)
    (hp : e.ty = some p.id) (hch : p.isChar = true) (hd : (resolvedF s f0).dflt = some v) :
    declaredDefault s f0 = some (.str v) := by
  unfold declaredDefault
  rw [hd, docElemTy_enum hty he hp, Prim.kind_of_isChar p hch]

/-- **Integer enums.**  The declared default is the number the text spells (a member name is never a number) -/
theorem C15Enum_int_enum_default {s : Spec} {f0 : FieldEl} {n v : Str} {e : EnumEl} {p : Prim}
    (hty : (resolvedF s f0).ty = some (kwEnum ++ n)) (he : findEnum? s n = some e)
    (hp : e.ty = some p.id) (hk : p.kind = .int) (hd : (resolvedF s f0).dflt = some v) :
    declaredDefault s f0 = (parseInt? v).map DVal.int := by
  unfold declaredDefault
  rw [hd, docElemTy_enum hty he hp, hk]

/-- a member name is an identifier, an integer constant is not: for integer enums names and default texts cannot overlap -/
theorem C15Enum_int_const_not_a_name {v : Str} (h : isIntLit v = true) : wfMemberName v = false := by
  cases v with
  | nil => rfl
  | cons c cs =>
    have hc : isIdentStart c = false := by
      unfold isIntLit at h
      split at h
      · rename_i ds heq; cases heq; decide
      · have hd : isDigit c = true := by
          have := isNatLit_digits h
          simp only [List.all_cons, Bool.and_eq_true] at this
          exact this.1
        simp only [isDigit, Bool.and_eq_true, decide_eq_true_eq] at hd
        simp only [isIdentStart, Bool.or_eq_false_iff, Bool.and_eq_false_iff, decide_eq_false_iff_not, beq_eq_false_iff_ne]
        omega
    simp [wfMemberName, isIdent, hc]

/-! ### non-vacuity: overlapping enums are inside `wfSpec`, and the theorems say something on them -/

/-- `N` ↦ `Y`, `Y` ↦ `N`; a member named like its own value; a chain `B` ↦ `C`, `C` ↦ `D`; defaults inline, through a
    field definition and through a renamed one, in a record and in a message; an integer enum next to them -/
def overlap : Spec where
  enums := [
    ⟨cp "Flag", some (cp "char_ascii"), [⟨cp "N", cp "Y"⟩, ⟨cp "Y", cp "N"⟩]⟩,
    ⟨cp "Chain", some (cp "char_iso-8859-1"), [⟨cp "A", cp "A"⟩, ⟨cp "B", cp "C"⟩, ⟨cp "C", cp "D"⟩]⟩,
    ⟨cp "Tier", some (cp "int_2_be"), [⟨cp "Retail", cp "-1"⟩, ⟨cp "Pro", cp "2"⟩]⟩]
  fielddefs := [
    { name := some (cp "flag"), ty := some (cp "enum:Flag"), dflt := some (cp "N") },
    { name := some (cp "tier"), ty := some (cp "enum:Tier"), dflt := some (cp "2") }]
  records := [
    ⟨cp "Leg", [{ name := some (cp "hidden"), ty := some (cp "enum:Flag"), dflt := some (cp "Y") },
                { defn := some (cp "flag") },
                { name := some (cp "level"), defn := some (cp "tier") }]⟩]
  messages := [
    ⟨cp "Order", cp "F", none, some (cp "outgoing"), [
      { name := some (cp "displayed"), ty := some (cp "enum:Flag"), dflt := some (cp "N") },
      { name := some (cp "link"), ty := some (cp "enum:Chain"), dflt := some (cp "B") },
      { name := some (cp "postOnly"), defn := some (cp "flag") },
      { defn := some (cp "tier") },
      { name := some (cp "legs"), ty := some (cp "record:Leg"), array := some (cp "true"), endian := some (cp "big") }]⟩]

example : wfSpec .itch overlap = true ∧ wfSpec .ouch overlap = true ∧ wfSpec .sqf overlap = true := by decide +kernel

/-- the right-hand side of `C15Enum_defaults_generated` on that specification, computed: the declared texts -/
example : overlap.records.map (fun r => r.fields.map fun f0 => (resolvedName overlap f0, declaredDefault overlap f0))
      = [[(cp "hidden", some (.str (cp "Y"))), (cp "flag", some (.str (cp "N"))), (cp "level", some (.int 2))]]
    ∧ overlap.messages.map (fun g => g.fields.map fun f0 => (resolvedName overlap f0, declaredDefault overlap f0))
      = [[(cp "displayed", some (.str (cp "N"))), (cp "link", some (.str (cp "B"))), (cp "postOnly", some (.str (cp "N"))),
          (cp "tier", some (.int 2)), (cp "legs", none)]] := by decide +kernel

/-- the hypotheses of `C15Enum_char_enum_default` hold for the renamed def-reference `postOnly` -/
example : ∃ e, (resolvedF overlap { name := some (cp "postOnly"), defn := some (cp "flag") }).ty = some (kwEnum ++ cp "Flag")
    ∧ findEnum? overlap (cp "Flag") = some e ∧ e.ty = some Prim.charAscii.id ∧ Prim.charAscii.isChar = true
    ∧ (resolvedF overlap { name := some (cp "postOnly"), defn := some (cp "flag") }).dflt = some (cp "N")
    ∧ e.values.map (·.name) = [cp "N", cp "Y"] ∧ e.values.map (·.value) = [cp "Y", cp "N"] :=
  ⟨_, by decide, rfl, by decide, rfl, by decide, by decide, by decide⟩

/-- `withMembers` really changes the specification (here: the two members swap their values back) and stays well-formed -/
example : withMembers overlap (fun e => e.values.map fun v => ⟨v.name, v.name.take 1⟩) ≠ overlap
    ∧ wfSpec .itch (withMembers overlap (fun e => if e.name = cp "Tier" then e.values else e.values.map fun v => ⟨v.name, v.name⟩)) = true := by
  decide +kernel

end NasdaqModel.Props.C15Enum
