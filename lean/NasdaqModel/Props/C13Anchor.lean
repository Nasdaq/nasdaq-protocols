import NasdaqModel.Lemmas.FixSharedAnchor
import NasdaqModel.Props.C13
/-
C13 at full strength — MsgType need not be the first header field assigned.

`Props/C13.lean` proves the round trip under the hypothesis `getMsgType bs = .ok d.type` and discharges it only when
MsgType is the *first* assigned header field (`C13_msgtype_first`), because `Message.get_msg_type` used to take the first
`35=` anywhere in the bytes (finding fixes/C13-msgtype-anchor.md).  Since /repo a2cfe01 the search is anchored (`35=` at the
start of the bytes or right after a SOH) and `Fix.getMsgType` follows the code.  Here the hypothesis is dropped: the
property's quantifier "any assignment order, any header" is covered — fields assigned before MsgType may have tags that
end in 35 (135) and values that contain `35=`.
Only property theorems and non-vacuity examples live here; the lemmas are in Lemmas/FixAnchor.lean and Lemmas/FixSharedAnchor.lean.

The one hypothesis about MsgType that remains, and why the code needs it too:
  `(35, .str d.type) ∈ m.hdr`  with  `lookupE d.hdr 35 = some (.field 35 .string r)`.
`wfMsg` speaks about the values that *are* set (types, text, group instances); it does not say that required fields are
present (`DataSegment.validate` is a separate call that `to_bytes` does not make), and nothing ties the value of tag 35 to
the class's `Type` (the header is an ordinary segment: `msg.Header[35] = 'X'` is accepted for any string).  A message
without tag 35, or with another type in it, encodes — but `Message.from_bytes` of the base class reads the class *from the
bytes*: without the field the lookup raises or picks whatever `bytes_[3:…]` holds, with another type it dispatches to
that other class.  `C13_msgtype_required` below is the decided instance: well-formed, no MsgType, not decodable to its class.
-/
namespace NasdaqModel.Props.C13Anchor
open NasdaqModel Py Fix Props.C13

/-- **MsgType is read from the header**, whatever string it holds under tag 35 and wherever the field stands (`get_msg_type` reads the
    message, not the class). -/
theorem C13_msgtype_reads_header (d : MsgDef) (m : Msg) (bs : Bytes)
    (hd : wfDef d = true) (hm : wfMsg d m = true) (henc : encMsg d m = .ok bs)
    (r : Bool) (ty : Str) (hmem : (35, Val.str ty) ∈ m.hdr)
    (hentry : lookupE d.hdr 35 = some (.field 35 .string r)) :
    getMsgType bs = .ok ty :=
  getMsgType_encMsg hd hm henc hmem hentry

/-- **MsgType, any assignment order.**  For a well-formed message whose header holds `35 = <the class's type>` at *any*
    position — after fields whose tags end in 35, after values that contain `35=` — the anchored `get_msg_type` finds the
    class's own type in the encoded bytes: the hypothesis `hty` of `C13_roundtrip` holds. -/
theorem C13_msgtype_any_order (d : MsgDef) (m : Msg) (bs : Bytes)
    (hd : wfDef d = true) (hm : wfMsg d m = true) (henc : encMsg d m = .ok bs)
    (r : Bool) (hmem : (35, Val.str d.type) ∈ m.hdr)
    (hentry : lookupE d.hdr 35 = some (.field 35 .string r)) :
    getMsgType bs = .ok d.type :=
  C13_msgtype_reads_header d m bs hd hm henc r d.type hmem hentry

/-- **Round trip, any assignment order**: `C13_roundtrip` without its `getMsgType` hypothesis. -/
theorem C13_roundtrip_any_order (reg : List MsgDef) (d : MsgDef) (m : Msg) (bs : Bytes)
    (hd : wfDef d = true) (hm : wfMsg d m = true) (henc : encMsg d m = .ok bs)
    (r : Bool) (hmem : (35, Val.str d.type) ∈ m.hdr)
    (hentry : lookupE d.hdr 35 = some (.field 35 .string r)) (hreg : lookupReg reg d.type = some d) :
    decodeMsg reg bs = .ok (bs.length, d, canonMsg d m) :=
  C13_roundtrip reg d m bs hd hm henc (C13_msgtype_any_order d m bs hd hm henc r hmem hentry) hreg

/-- **The statement of C13 in one piece, any assignment order, any header**: the message encodes; the bytes decode to the
    registered class, every byte consumed, to the canonical form of the message; that form re-encodes to the same bytes
    and compares `==` to the original.  (`C13_statement` without `hfirst`.) -/
theorem C13_statement_any_order (reg : List MsgDef) (d : MsgDef) (m : Msg) (hd : wfDef d = true) (hm : wfMsg d m = true)
    (r : Bool) (hmem : (35, Val.str d.type) ∈ m.hdr)
    (hentry : lookupE d.hdr 35 = some (.field 35 .string r)) (hreg : lookupReg reg d.type = some d) :
    ∃ bs, encMsg d m = .ok bs ∧ decodeMsg reg bs = .ok (bs.length, d, canonMsg d m) ∧
      encMsg d (canonMsg d m) = .ok bs ∧ pyEqDict (canonMsg d m) m = true :=
  roundtrip_statement reg d m (wfDefLevels_of_wfDef hd) hm (countEndsS_of_wfDef hd hm)
    (fun bs henc => C13_msgtype_any_order d m bs hd hm henc r hmem hentry) hreg

/-- **Class, any assignment order**: whatever `decodeMsg` returns for the bytes is the class registered for the type. -/
theorem C13_class_any_order (reg : List MsgDef) (d : MsgDef) (m : Msg) (bs : Bytes)
    (hd : wfDef d = true) (hm : wfMsg d m = true) (henc : encMsg d m = .ok bs)
    (r : Bool) (hmem : (35, Val.str d.type) ∈ m.hdr)
    (hentry : lookupE d.hdr 35 = some (.field 35 .string r)) (hreg : lookupReg reg d.type = some d)
    (n : Nat) (d' : MsgDef) (m' : Msg) (hdec : decodeMsg reg bs = .ok (n, d', m')) :
    d' = d ∧ n = bs.length :=
  C13_class reg d m bs hd hm henc (C13_msgtype_any_order d m bs hd hm henc r hmem hentry) hreg n d' m' hdec

/-! ### non-vacuity: the two inputs of fixes/C13-msgtype-anchor.md are inside the quantifier -/

/-- class `ZZ`: header 8 string, 135 int, 35 string; body 58 string; trailer 10 string -/
def anchorDef : MsgDef :=
  { name := [90, 90], type := [90, 90],
    hdr := [.field 8 .string false, .field 135 .int false, .field 35 .string true],
    body := [.field 58 .string false], trl := [.field 10 .string false] }

/-- header assigned `8='a'`, `135=7`, then `35='ZZ'`: bytes `8=a|135=7|35=ZZ|58=x|10=1|` — a tag that ends in 35 first -/
def msgTag135 : Msg :=
  { hdr := [(8, .str [97]), (135, .int 7), (35, .str [90, 90])], body := [(58, .str [120])], trl := [(10, .str [49])] }

/-- header assigned `8='a35=b'`, then `35='ZZ'`: bytes `8=a35=b|35=ZZ|58=x|10=1|` — a value that contains `35=` first -/
def msgValue35 : Msg :=
  { hdr := [(8, .str [97, 51, 53, 61, 98]), (35, .str [90, 90])], body := [(58, .str [120])], trl := [(10, .str [49])] }

/-- no MsgType in the header at all -/
def msgNoType : Msg :=
  { hdr := [(8, .str [97])], body := [(58, .str [120])], trl := [(10, .str [49])] }

example : wfDef anchorDef = true := by decide +kernel
example : wfMsg anchorDef msgTag135 = true ∧ wfMsg anchorDef msgValue35 = true := by decide +kernel
example : (35, Val.str anchorDef.type) ∈ msgTag135.hdr := .tail _ (.tail _ (.head _))
example : (35, Val.str anchorDef.type) ∈ msgValue35.hdr := .tail _ (.head _)
example : lookupE anchorDef.hdr 35 = some (.field 35 .string true) := rfl
example : lookupReg [anchorDef] anchorDef.type = some anchorDef := rfl
/-- the bytes are the documented ones, and the anchored lookup names `ZZ` for both (what the theorem says) -/
example : encMsg anchorDef msgTag135 = .ok [56,61,97,1, 49,51,53,61,55,1, 51,53,61,90,90,1, 53,56,61,120,1, 49,48,61,49,1] := by
  decide +kernel
example : encMsg anchorDef msgValue35 = .ok [56,61,97,51,53,61,98,1, 51,53,61,90,90,1, 53,56,61,120,1, 49,48,61,49,1] := by
  decide +kernel
example : (encMsg anchorDef msgTag135 >>= getMsgType) = .ok [90, 90] := by decide +kernel
example : (encMsg anchorDef msgValue35 >>= getMsgType) = .ok [90, 90] := by decide +kernel

/-- **The remaining hypothesis is needed** (`wfMsg` does not force MsgType to be present): a well-formed message of
    `anchorDef` without tag 35 encodes, and the base-class decoder cannot find its class (`KeyError` in the code). -/
theorem C13_msgtype_required :
    wfDef anchorDef = true ∧ wfMsg anchorDef msgNoType = true ∧
    (encMsg anchorDef msgNoType >>= getMsgType) ≠ .ok anchorDef.type ∧
    (match encMsg anchorDef msgNoType >>= decodeMsg [anchorDef] with
      | .error e => e == Err.key
      | .ok _ => false) = true := by decide +kernel

end NasdaqModel.Props.C13Anchor
