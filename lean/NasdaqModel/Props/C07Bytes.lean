import NasdaqModel.Lemmas.RefineProgress
import NasdaqModel.Lemmas.RefineWf
import NasdaqModel.Props.C07
/-
C07 at byte level — "never open and deaf" for every BYTE sequence a peer can send.

`Props/C07.lean` proves it for the session machine, where a malformed frame is the token `bad`; `Props/C07Framing.lean` proves
that the byte-level reader (`deserialize()` on arbitrary bytes) cannot spin.  Here the two are joined through the refinement
(`Props/C04Bytes.lean`; vocabulary in Model/Refine.lean): one byte-level history `evs` drives the byte-level reader and the
session machine together (`brun`), the token the session machine sees as `bad` IS an exception of `deserialize()` on the bytes.
-/
namespace NasdaqModel.Props.C07Bytes
open NasdaqModel Py Refine
open NasdaqModel.Framing (Proto R Consuming Settled soupProto fixProtoD)
open NasdaqModel.Sess (St Cfg Frame Tid atLoop)

variable {μ : Type}

/-- **Never open and deaf, over bytes.**  After every byte-level history of a connected session — any (stable) byte stream,
    any segmentation, any schedule of tasks and user calls, any configuration — `len(buffer)` further polls of the reader task
    leave the session either CLOSED, or OPEN with the reader task alive at the top of its loop (`_stopped` false), the byte
    buffer settled (empty, or an incomplete frame waiting for its announced length), no complete frame left unconsumed, and every
    decodable message carried by the bytes received handed on to the queue side. -/
theorem C07_bytes_never_deaf {P : Proto μ} {st : Bytes → Bool} (F : Framer P st) (num : μ → Nat) (cfg : Cfg) (evs : List BEv)
    (hs : stable P st (bytesOf evs) = true) (hconn : (brun P num cfg evs).s.status .R ≠ .absent) (n : Nat)
    (hn : (brun P num cfg evs).r.buf.length ≤ n) :
    (bfold P num cfg (brun P num cfg evs) (pollsN n)).s.closed = true ∨
    ((bfold P num cfg (brun P num cfg evs) (pollsN n)).s.closed = false ∧
      Settled P (bfold P num cfg (brun P num cfg evs) (pollsN n)).r ∧
      (bfold P num cfg (brun P num cfg evs) (pollsN n)).r.stopped = false ∧
      (bfold P num cfg (brun P num cfg evs) (pollsN n)).s.buf = [] ∧
      atLoop (bfold P num cfg (brun P num cfg evs) (pollsN n)).s ∧
      (bfold P num cfg (brun P num cfg evs) (pollsN n)).s.rStopped = false ∧
      (bfold P num cfg (brun P num cfg evs) (pollsN n)).r.out = carried P (bytesOf evs) ∧
      (bfold P num cfg (brun P num cfg evs) (pollsN n)).s.recvd = (carried P (bytesOf evs)).map num) :=
  never_deaf F num cfg evs hs hconn n hn _ rfl

/-- **Never open behind an unparsable frame.**  In every reachable state: once the byte-level reader has stopped — it consumed
    a logout, or `deserialize()` raised on the bytes — the session is flagged closed (and stays so: `C07_closed_is_final`). -/
theorem C07_bytes_stopped_is_closed {P : Proto μ} {st : Bytes → Bool} (F : Framer P st) (num : μ → Nat) (cfg : Cfg)
    (evs : List BEv) (hs : stable P st (bytesOf evs) = true) (h : (brun P num cfg evs).r.stopped = true) :
    (brun P num cfg evs).s.closed = true :=
  stopped_closed F num cfg evs hs h

/-- **The poll that meets the malformed bytes closes the session.**  In every reachable state in which the reader task is about
    to poll and `deserialize()` raises on the buffered bytes, that very poll sets the closed flag. -/
theorem C07_bytes_crash_closes {P : Proto μ} {st : Bytes → Bool} (F : Framer P st) (num : μ → Nat) (cfg : Cfg) (evs : List BEv)
    (hs : stable P st (bytesOf evs) = true) (hp : polls (brun P num cfg evs).s = true)
    (hst : (brun P num cfg evs).r.stopped = false) (hb : (brun P num cfg evs).r.buf ≠ []) (e : Err)
    (hd : P.deser (brun P num cfg evs).r.buf = .error e) :
    (bstep P num cfg (brun P num cfg evs) (.ev (.run .R))).s.closed = true := by
  have h := brun_pinv F num cfg evs hs
  have h1 := h.step F num cfg (.ev (.run .R)) (by rw [bstep_ev_all, brun_all]; exact hs)
  refine (h1.rel.dead ?_).2
  rw [bstep_run_R, hp]
  have hl : ¬ (brun P num cfg evs).r.buf.length = 0 := fun h0 => hb (List.eq_nil_of_length_eq_zero h0)
  simp [Framing.step, Framing.stepObs, hst, hl, hd]

/-- **SoupBinTCP: for EVERY byte sequence a peer can send** -/
theorem C07_bytes_soup_never_deaf (num : Soup.Pkt → Nat) (cfg : Cfg) (evs : List BEv)
    (hconn : (brun soupProto num cfg evs).s.status .R ≠ .absent) (n : Nat)
    (hn : (brun soupProto num cfg evs).r.buf.length ≤ n) :
    (bfold soupProto num cfg (brun soupProto num cfg evs) (pollsN n)).s.closed = true ∨
    ((bfold soupProto num cfg (brun soupProto num cfg evs) (pollsN n)).s.closed = false ∧
      Settled soupProto (bfold soupProto num cfg (brun soupProto num cfg evs) (pollsN n)).r ∧
      (bfold soupProto num cfg (brun soupProto num cfg evs) (pollsN n)).s.buf = [] ∧
      atLoop (bfold soupProto num cfg (brun soupProto num cfg evs) (pollsN n)).s ∧
      (bfold soupProto num cfg (brun soupProto num cfg evs) (pollsN n)).s.rStopped = false ∧
      (bfold soupProto num cfg (brun soupProto num cfg evs) (pollsN n)).s.recvd = (carried soupProto (bytesOf evs)).map num) := by
  rcases never_deaf soupFramer num cfg evs (soup_stable _) hconn n hn _ rfl with h | ⟨h1, h2, _, h4, h5, h6, _, h8⟩
  · exact Or.inl h
  · exact Or.inr ⟨h1, h2, h4, h5, h6, h8⟩

theorem C07_bytes_soup_stopped_is_closed (num : Soup.Pkt → Nat) (cfg : Cfg) (evs : List BEv)
    (h : (brun soupProto num cfg evs).r.stopped = true) : (brun soupProto num cfg evs).s.closed = true :=
  stopped_closed soupFramer num cfg evs (soup_stable _) h

/-- **FIX (reader with the dictionary dispatch, any dictionary, any field decoder): for EVERY byte sequence a peer can send** —
    since the repair 658ee1f a negative BodyLength is a malformed frame like any other (before it the frames depended on
    arrival timing, `Witness/C04Bytes.lean`). -/
theorem C07_bytes_fix_never_deaf (known : Bytes → Bool) (decode : Bytes → Except Err Unit)
    (num : Bytes → Nat) (cfg : Cfg) (evs : List BEv)
    (hconn : (brun (fixProtoD known decode) num cfg evs).s.status .R ≠ .absent) (n : Nat)
    (hn : (brun (fixProtoD known decode) num cfg evs).r.buf.length ≤ n) :
    (bfold (fixProtoD known decode) num cfg (brun (fixProtoD known decode) num cfg evs) (pollsN n)).s.closed = true ∨
    ((bfold (fixProtoD known decode) num cfg (brun (fixProtoD known decode) num cfg evs) (pollsN n)).s.closed = false ∧
      Settled (fixProtoD known decode) (bfold (fixProtoD known decode) num cfg (brun (fixProtoD known decode) num cfg evs) (pollsN n)).r ∧
      (bfold (fixProtoD known decode) num cfg (brun (fixProtoD known decode) num cfg evs) (pollsN n)).s.buf = [] ∧
      atLoop (bfold (fixProtoD known decode) num cfg (brun (fixProtoD known decode) num cfg evs) (pollsN n)).s ∧
      (bfold (fixProtoD known decode) num cfg (brun (fixProtoD known decode) num cfg evs) (pollsN n)).s.rStopped = false ∧
      (bfold (fixProtoD known decode) num cfg (brun (fixProtoD known decode) num cfg evs) (pollsN n)).s.recvd =
        (carried (fixProtoD known decode) (bytesOf evs)).map num) := by
  rcases never_deaf (fixFramer known decode) num cfg evs (fix_stable _ _) hconn n hn _ rfl with h | ⟨h1, h2, _, h4, h5, h6, _, h8⟩
  · exact Or.inl h
  · exact Or.inr ⟨h1, h2, h4, h5, h6, h8⟩

theorem C07_bytes_fix_stopped_is_closed (known : Bytes → Bool) (decode : Bytes → Except Err Unit) (num : Bytes → Nat)
    (cfg : Cfg) (evs : List BEv) (h : (brun (fixProtoD known decode) num cfg evs).r.stopped = true) :
    (brun (fixProtoD known decode) num cfg evs).s.closed = true :=
  stopped_closed (fixFramer known decode) num cfg evs (fix_stable _ _) h

private def cfg0 : Cfg :=
  { msgBeh := fun _ => .ret, cbBeh := .ret, hasCb := true, dispatchOnConnect := false, hasMsgCb := false, fixLogin := false }
private def numS : Soup.Pkt → Nat
  | .seqData d => 100 + d.length
  | _ => 0

/-- a data packet, a zero-length packet (malformed), a heartbeat — all in one segment, nothing polled yet -/
private def hostile : List BEv := [.ev .connect, .bytes [0, 2, 83, 7, 0, 0, 0, 1, 72]]
example : (brun soupProto numS cfg0 hostile).s.status .R ≠ .absent := by decide +kernel
example : (brun soupProto numS cfg0 hostile).s.closed = false ∧ (brun soupProto numS cfg0 hostile).s.buf = [.msg 101, .bad] := by
  decide +kernel
-- one poll: the valid packet is queued, the session is open; the second poll meets the malformed bytes and closes
example : (bfold soupProto numS cfg0 (brun soupProto numS cfg0 hostile) (pollsN 1)).s.closed = false ∧
    (bfold soupProto numS cfg0 (brun soupProto numS cfg0 hostile) (pollsN 1)).s.queue = [101] := by decide +kernel
example : (bfold soupProto numS cfg0 (brun soupProto numS cfg0 hostile) (pollsN 2)).s.closed = true ∧
    (bfold soupProto numS cfg0 (brun soupProto numS cfg0 hostile) (pollsN 2)).r.stopped = true ∧
    (bfold soupProto numS cfg0 (brun soupProto numS cfg0 hostile) (pollsN 2)).r.failed = some .invalidSoup := by decide +kernel
/-- a data packet and half of the next one: after the polls the session is open, the reader alive, the half packet waits -/
private def partialEvs : List BEv := [.ev .connect, .bytes [0, 2, 83, 7, 0, 9, 83]]
example : (bfold soupProto numS cfg0 (brun soupProto numS cfg0 partialEvs) (pollsN 7)).s.closed = false ∧
    (bfold soupProto numS cfg0 (brun soupProto numS cfg0 partialEvs) (pollsN 7)).r.buf = [0, 9, 83] ∧
    (bfold soupProto numS cfg0 (brun soupProto numS cfg0 partialEvs) (pollsN 7)).s.recvd = [101] ∧
    (bfold soupProto numS cfg0 (brun soupProto numS cfg0 partialEvs) (pollsN 7)).s.buf = [] := by decide +kernel

/-- FIX, `8=FIX.4.4|9=-25|35=M|1=7|2=x|ZZ` (negative BodyLength): whether the reader polls between the two segments or after
    both, the session closes with `ValueError` and nothing is handed on -/
private def fx1 : Bytes := [56,61,70,73,88,46,52,46,52,1, 57,61,45,50,53,1, 51,53,61,77,1, 49,61,55,1, 50,61]
private def fx2 : Bytes := [120,1, 90,90]
private def fxP : Proto Bytes := fixProtoD (fun ty => ty == [48] || ty == [53] || ty == [77]) (fun _ => .ok ())
example : (brun fxP (fun _ => 7) cfg0 [.ev .connect, .bytes fx1, .ev (.run .R), .bytes fx2, .ev (.run .R)]).s.closed = true ∧
    (brun fxP (fun _ => 7) cfg0 [.ev .connect, .bytes fx1, .ev (.run .R), .bytes fx2, .ev (.run .R)]).r.failed = some .value ∧
    (brun fxP (fun _ => 7) cfg0 [.ev .connect, .bytes fx1, .ev (.run .R), .bytes fx2, .ev (.run .R)]).r.out = [] := by decide +kernel
example : (brun fxP (fun _ => 7) cfg0 [.ev .connect, .bytes fx1, .bytes fx2, .ev (.run .R)]).s.closed = true ∧
    (brun fxP (fun _ => 7) cfg0 [.ev .connect, .bytes fx1, .bytes fx2, .ev (.run .R)]).r.failed = some .value ∧
    (brun fxP (fun _ => 7) cfg0 [.ev .connect, .bytes fx1, .bytes fx2, .ev (.run .R)]).r.out = [] := by decide +kernel

end NasdaqModel.Props.C07Bytes
