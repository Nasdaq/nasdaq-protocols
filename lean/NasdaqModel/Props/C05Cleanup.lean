import NasdaqModel.Lemmas.SessionLemmas4
/-
C05 — a callback whose cancellation clean-up awaits `session.close()` cannot deadlock the close.

`AsyncSession.close()` is `if not self._closed: self._closed = True; <stop queue, monitors, reader>; transport.close(); callback`.
The closer cancels and AWAITS the task that runs a message callback (the dispatcher).  If that callback reacts to its cancellation
with `await session.close()` (`except CancelledError: await session.close(); raise`, or the `finally:` form), the call must return
at once — a `close()` that waited for the running close there would wait for a task that is waiting for it.

The session machine (`Model/Session.lean`) has no handler program "on cancel: call close()" (a cancelled `Prog.handler` ends with
`msgAbandon`), so the behaviour itself is exercised by the oracle-only scenarios of `harness/sess_r7.py`.  What the model does
carry is the guard of `close()` (`enterClose`) and the invariants of the reachable states; the theorems below state, for every
configuration and every event sequence, that at the moment any task is being awaited by a closer the guard is already set and a
`close()` awaited by that task is the identity on the close stage and continues the caller in the same step.
-/
namespace NasdaqModel.Props.C05Cleanup
open NasdaqModel Sess

abbrev reach (cfg : Cfg) (evs : List Ev) : St := runEvs cfg {} evs

/-- **`close()` on a session whose `_closed` flag is set does nothing and does not wait**: whoever the caller is (a task, a
    callback, the cancellation clean-up of a callback), it continues at once with what follows the call; no stage of the close
    body is run and the stage of the close in progress is untouched. -/
theorem C05Cleanup_close_on_closed_is_immediate (cfg : Cfg) (s : St) (t : Tid) (c : Cont) (hc : s.closed = true) :
    enterClose cfg s t c = runCont s t c ∧ (enterClose cfg s t c).cstage = s.cstage ∧ (enterClose cfg s t c).closed = true := by
  have h : enterClose cfg s t c = runCont s t c := by unfold enterClose; rw [if_pos hc]
  refine ⟨h, ?_, ?_⟩
  · rw [h, runCont_cstage]
  · rw [h, runCont_closed]; exact hc

/-- **A task the closer is waiting for can itself await `close()`.** In every reachable state in which the close body is in
    progress and the closer `t` is suspended awaiting another task `x` (the dispatcher inside a message callback, a monitor, the
    receive helper, the reader), `x` has its `CancelledError` pending, the session already reports closed, and a `close()`
    awaited by `x` — from the callback's cancellation clean-up — returns to `x` in the same step, leaving the close stage of `t`
    as it is.  So the close never waits for a task that waits for the close. -/
theorem C05Cleanup_awaited_task_may_close (cfg : Cfg) (evs : List Ev) (t x : Tid) (pc : Nat) (c c' : Cont)
    (hs : (reach cfg evs).cstage = .body t pc c) (hw : (reach cfg evs).status t = .waitT x) :
    (reach cfg evs).status x = .cancelled ∧ (reach cfg evs).closed = true ∧
    enterClose cfg (reach cfg evs) x c' = runCont (reach cfg evs) x c' ∧
    (enterClose cfg (reach cfg evs) x c').cstage = .body t pc c := by
  have h3 : InvA cfg (reach cfg evs) ∧ InvR (reach cfg evs) ∧ InvB (reach cfg evs) := runEvs_InvARB cfg evs
  generalize reach cfg evs = s at *
  obtain ⟨a, _, b⟩ := h3
  have hc : s.closed = true := a.closed_iff.mpr (by rw [hs]; simp)
  obtain ⟨h1, h2, _⟩ := C05Cleanup_close_on_closed_is_immediate cfg s x c' hc
  exact ⟨(b.bwait t pc c x hs hw).2, hc, h1, by rw [h2, hs]⟩

/-- … and the closer it was waiting for is still able to go on: after the awaited task's `close()` returned, the session is in a
    state in which the close body is in progress, so (`C05_close_never_deadlocks`' premise) some task can take its next step. -/
theorem C05Cleanup_close_stays_in_progress (cfg : Cfg) (evs : List Ev) (t x : Tid) (pc : Nat) (c c' : Cont)
    (hs : (reach cfg evs).cstage = .body t pc c) (hw : (reach cfg evs).status t = .waitT x) :
    (enterClose cfg (reach cfg evs) x c').cstage ≠ .idle ∧ (enterClose cfg (reach cfg evs) x c').cstage ≠ .finished := by
  rw [(C05Cleanup_awaited_task_may_close cfg evs t x pc c c' hs hw).2.2.2]
  exact ⟨by simp, by simp⟩

/-! ### non-vacuity: a user's `close()` while the dispatcher is inside a message callback -/

private def cfgBusy : Cfg :=
  { msgBeh := fun _ => .await 5, cbBeh := .ret, hasCb := true, dispatchOnConnect := true, hasMsgCb := true, fixLogin := false }

private def inFlight : List Ev := [.connect, .run .D, .data [.msg 3], .run .R, .run .D, .callClose 1]

/-- the callback for message 3 is in flight, user 1's `close()` has cancelled the dispatcher and awaits it -/
example : (reach cfgBusy inFlight).trace = [.msgEnter 3] ∧ (reach cfgBusy inFlight).status (.U 1) = .waitT .D ∧
    (reach cfgBusy inFlight).status .D = .cancelled ∧ (∃ c, (reach cfgBusy inFlight).cstage = .body (.U 1) 1 c) := by
  refine ⟨by decide, by decide, by decide, ⟨.userTail 1 .ok, by decide⟩⟩

/-- the premises of `C05Cleanup_awaited_task_may_close` hold there -/
example : (reach cfgBusy inFlight).cstage = .body (.U 1) 1 (.userTail 1 .ok) ∧ (reach cfgBusy inFlight).status (.U 1) = .waitT .D := by
  constructor <;> decide

/-- and the close then runs to its end: the callback is abandoned, the transport closed, the close callback runs once, `close()` returns -/
example : (reach cfgBusy (inFlight ++ [.run .D, .run (.U 1), .run .R, .run (.U 1), .run (.U 1), .run (.U 1), .run (.U 1)])).cstage = .finished := by
  decide

end NasdaqModel.Props.C05Cleanup
