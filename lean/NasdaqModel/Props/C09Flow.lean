import NasdaqModel.Props.C09
import NasdaqModel.Props.C08Flow
/-
C09 under transport flow control and slow application callbacks.

Write side: `pause_writing()` / `resume_writing()` (Model/MonitorFlow.lean) are no-ops on the session, so by
`C08Flow_erasable` both clauses of C09 hold for every history with such callbacks anywhere (`C09Flow_silence_closes`,
`C09Flow_live_never_dropped`).

Read side and callbacks — why there is nothing more to put into the model.  In the code every byte the peer writes reaches
`AsyncSession.data_received` as soon as the loop runs (the session never calls `transport.pause_reading()`: there is no such
call anywhere in the library), and `data_received` pings the remote monitor *before* the bytes go to the reader, the queue and
the application's callback.  The remote monitor's trip action is `close()`, unconditionally; it looks at nothing but `_pinged`.
So neither how many parsed messages wait in the queue nor whether the dispatcher is awaiting inside the application's callback
occurs in any transition of `Monitor.Sess`: a `recv k` event *is* the arrival, whatever the application then does with the
message, and `C09_silence_closes` / `C09_live_never_dropped` already quantify over all of that.  What a seeded change can break
is exactly this independence (a trip that consults the dispatcher: C09i; a session that stops reading when its queue is long:
C09j) — that is a property of the implementation's wiring, checked by running the real sessions with awaiting callbacks and
bursts through a transport that honours `pause_reading()` (harness/c09.py, families `latency` and `burst`).
-/
namespace NasdaqModel.Props.C09Flow
open NasdaqModel.Monitor NasdaqModel.MonitorFlow NasdaqModel.Props.C09 NasdaqModel.Props.C08Flow

/-- **C09Flow_silence_closes.**  No byte from the peer during `(t, t + 2·P]` ⇒ closed by `t + 2·P`, on a transport that calls
    `pause_writing()` / `resume_writing()` at any moments. -/
theorem C09Flow_silence_closes (role : Role) (c : Cfg) (hc : wfCfg c = true) (evs : List FEv) (t : Nat)
    (hlong : t + 2 * peerInterval role c ≤ ((loginF role c).run evs).s.now)
    (hsilent : ∀ x ∈ ((loginF role c).run evs).s.recvs, ¬ (t < x.1 ∧ x.1 ≤ t + 2 * peerInterval role c)) :
    ((loginF role c).run evs).s.closed = true ∧ ((loginF role c).run evs).s.closeT ≤ t + 2 * peerInterval role c := by
  rw [C08Flow_erasable] at hlong hsilent ⊢
  exact C09_silence_closes role c hc (baseOnly evs) t hlong hsilent

/-- **C09Flow_live_never_dropped.**  A peer that delivers a byte in every window of one peer-role interval is never closed for
    inactivity, however long the session's own transport stays paused for writing. -/
theorem C09Flow_live_never_dropped (role : Role) (c : Cfg) (hc : wfCfg c = true) (evs : List FEv)
    (hlive : ∀ τ, τ + peerInterval role c ≤ ((loginF role c).run evs).s.now →
      ∃ x ∈ ((loginF role c).run evs).s.recvs, τ ≤ x.1 ∧ x.1 < τ + peerInterval role c) :
    ¬ (((loginF role c).run evs).s.closed = true ∧ ((loginF role c).run evs).s.closedByMon = true) := by
  rw [C08Flow_erasable] at hlive ⊢
  exact C09_live_never_dropped role c hc (baseOnly evs) hlive

set_option maxRecDepth 100000 in
/-- non-vacuity: a client (peer interval 4) on a transport paused from 1 on hears nothing and is closed at 8 -/
example :
    let x := (loginF .soupClient ⟨100, 4⟩).run ([.base .adv, .pauseWriting] ++ List.replicate 9 (.base .adv))
    x.s.closed = true ∧ x.s.closeT = 8 ∧ x.s.closedByMon = true ∧ x.writingPaused = true := by decide +kernel

end NasdaqModel.Props.C09Flow
