import NasdaqModel.Props.C08
import NasdaqModel.Model.MonitorFlow
/-
C08 under transport flow control — "every window of two heartbeat intervals contains at least one outbound transmission" on a
transport that has told the session to stop writing.

`Model/MonitorFlow.lean` adds the transport's two callbacks (`pause_writing()`, `resume_writing()`: inherited from
`asyncio.BaseProtocol`, empty bodies — the session overrides neither) to the histories of `Model/Monitor.lean`, at arbitrary
positions (the transport, i.e. the peer's reading and the water marks, decides when).  An *outbound transmission* is a
`transport.write` call: a write the transport accepts into a buffer that is already over its high-water mark is still the
session emitting — whether and when the peer reads is not the session's doing, and the property is about the session.

* the callbacks change nothing in the session (`C08Flow_callbacks_noop`); erasing them from any history leaves the session's run
  unchanged — same writes at the same instants, same monitors, same close (`C08Flow_erasable`): a paused transport does not change
  WHEN the session emits;
* hence every clause of C08 holds for every history with callbacks anywhere: the gap bound (`C08Flow_gap`), one heartbeat per idle
  interval — in particular at every tick that falls while the transport is paused — (`C08Flow_idle_one_per_interval`), no
  heartbeat after a recent send (`C08Flow_no_hb_if_recent_send`), heartbeats only at ticks (`C08Flow_hb_only_at_ticks`);
* writes made while paused are writes (`C08Flow_paused_writes_are_writes`): they are in the session's write log, which is what the
  clauses above quantify over.
-/
namespace NasdaqModel.Props.C08Flow
open NasdaqModel.Monitor NasdaqModel.MonitorFlow NasdaqModel.Props.C08

private theorem frun_cons (x : FSess) (e : FEv) (evs : List FEv) : x.run (e :: evs) = (x.step e).run evs := rfl

/-- `pause_writing()` and `resume_writing()` leave the session — monitors, writes, closed flag, clock — exactly as it was -/
theorem C08Flow_callbacks_noop (x : FSess) : (x.step .pauseWriting).s = x.s ∧ (x.step .resumeWriting).s = x.s := ⟨rfl, rfl⟩

/-- a step of the session is the same step whether or not the transport has asked for a pause -/
theorem C08Flow_flag_not_consulted (x : FSess) (e : Ev) : (x.step (.base e)).s = x.s.step e := rfl

/-- **C08Flow_erasable.**  Deleting the transport's flow-control callbacks from a history changes nothing in the session: the same
    final state, hence the same writes at the same instants, the same monitor states and the same close. -/
theorem C08Flow_erasable (x : FSess) (evs : List FEv) : (x.run evs).s = x.s.run (baseOnly evs) := by
  induction evs generalizing x with
  | nil => rfl
  | cons e evs ih =>
    rw [frun_cons, ih]
    cases e <;> rfl

/-- **C08Flow_gap.**  From login until close every window `(t, t + 2·I]` of two own-role intervals contains an outbound write made
    on the open session — for every history, with `pause_writing()` / `resume_writing()` calls at any positions, however long the
    transport stays paused. -/
theorem C08Flow_gap (role : Role) (c : Cfg) (hc : wfCfg c = true) (evs : List FEv) (t : Nat)
    (h : t + 2 * ownInterval role c ≤ ((loginF role c).run evs).s.life) :
    ∃ w ∈ ((loginF role c).run evs).s.writes, w.live = true ∧ t < w.t ∧ w.t ≤ t + 2 * ownInterval role c := by
  rw [C08Flow_erasable] at h ⊢
  exact C08_gap role c hc (baseOnly evs) t h

/-- **C08Flow_idle_one_per_interval.**  A tick `T = k·I` (`k ≥ 2`, within the session's life) before which the application wrote
    nothing for one interval emits exactly one heartbeat, written on the open session — whether or not the transport is paused at
    `T`: ticks are neither skipped nor postponed by a pause. -/
theorem C08Flow_idle_one_per_interval (role : Role) (c : Cfg) (hc : wfCfg c = true) (evs : List FEv) (T : Nat)
    (hdvd : ownInterval role c ∣ T) (h2 : 2 * ownInterval role c ≤ T) (hlife : T ≤ ((loginF role c).run evs).s.life)
    (hidle : ∀ w ∈ ((loginF role c).run evs).s.writes, w.origin = .app → ¬ (T - ownInterval role c ≤ w.t ∧ w.t < T)) :
    monCount ((loginF role c).run evs).s.writes T = 1 ∧
      ∃ w ∈ ((loginF role c).run evs).s.writes, w.origin = .mon ∧ w.t = T ∧ w.live = true := by
  rw [C08Flow_erasable] at hlife hidle ⊢
  exact C08_idle_one_per_interval role c hc (baseOnly evs) T hdvd h2 hlife hidle

/-- **C08Flow_no_hb_if_recent_send.**  A monitor heartbeat at `T` means the application wrote nothing in `[T - I, T)`, also on a
    transport that pauses and resumes: a resume does not release a heartbeat of its own. -/
theorem C08Flow_no_hb_if_recent_send (role : Role) (c : Cfg) (hc : wfCfg c = true) (evs : List FEv) (w a : Write)
    (hw : w ∈ ((loginF role c).run evs).s.writes) (hwo : w.origin = .mon)
    (ha : a ∈ ((loginF role c).run evs).s.writes) (hao : a.origin = .app) :
    ¬ (w.t - ownInterval role c ≤ a.t ∧ a.t < w.t) := by
  rw [C08Flow_erasable] at hw ha
  exact C08_no_hb_if_recent_send role c hc (baseOnly evs) w a hw hwo ha hao

/-- **C08Flow_hb_only_at_ticks.**  Monitor heartbeats are written only at ticks `k·I`, `k ≥ 2`, one per tick — in particular none
    at the instant of a `resume_writing()` that is not a tick. -/
theorem C08Flow_hb_only_at_ticks (role : Role) (c : Cfg) (hc : wfCfg c = true) (evs : List FEv) (w : Write)
    (hw : w ∈ ((loginF role c).run evs).s.writes) (hwo : w.origin = .mon) :
    ownInterval role c ∣ w.t ∧ 2 * ownInterval role c ≤ w.t ∧ w.t ≤ ((loginF role c).run evs).s.life ∧ w.live = true ∧
      monCount ((loginF role c).run evs).s.writes w.t = 1 := by
  rw [C08Flow_erasable] at hw ⊢
  exact C08_hb_only_at_ticks role c hc (baseOnly evs) w hw hwo

private theorem tickLocal_writes (u : Sess) : ∃ l, u.tickLocal.writes = l ++ u.writes := by
  by_cases h : u.loc.adv.2 = true
  · exact ⟨[{ t := u.now, origin := .mon, live := !u.closed }], by simp [Sess.tickLocal, h]⟩
  · exact ⟨[], by simp [Sess.tickLocal, h]⟩

private theorem writes_step_suffix (s : Sess) (e : Ev) : ∃ l, (s.step e).writes = l ++ s.writes := by
  cases e with
  | adv =>
    obtain ⟨l, hl⟩ := tickLocal_writes s.bump
    exact ⟨l, by show (s.bump.tickLocal.tickRemote).writes = l ++ s.writes; rw [tickRemote_writes, hl]; simp⟩
  | send => exact ⟨[{ t := s.now, origin := .app, live := !s.closed }], by simp [Sess.step]⟩
  | sendHb => exact ⟨[{ t := s.now, origin := .appHb, live := !s.closed }], by simp [Sess.step]⟩
  | sendFailed => exact ⟨[], rfl⟩
  | recv k | close => exact ⟨[], by simp [Sess.step]⟩

private theorem newWrites_sub (s : Sess) (e : Ev) : ∀ w ∈ newWrites s (s.step e), w ∈ (s.step e).writes := by
  intro w hw
  exact List.mem_of_mem_take hw

private theorem writes_mono (s : Sess) (e : Ev) : ∀ w ∈ s.writes, w ∈ (s.step e).writes := by
  intro w hw
  obtain ⟨l, hl⟩ := writes_step_suffix s e
  rw [hl]; exact List.mem_append_right _ hw

/-- **C08Flow_paused_writes_are_writes.**  What the session writes while the transport has asked for a pause is written: every such
    write is in the session's write log (the log the clauses above quantify over) — a buffered transmission is a transmission. -/
theorem C08Flow_paused_writes_are_writes (role : Role) (c : Cfg) (evs : List FEv) :
    ∀ w ∈ ((loginF role c).run evs).pausedWrites, w ∈ ((loginF role c).run evs).s.writes := by
  have key : ∀ (evs : List FEv) (x : FSess), (∀ w ∈ x.pausedWrites, w ∈ x.s.writes) →
      ∀ w ∈ (x.run evs).pausedWrites, w ∈ (x.run evs).s.writes := by
    intro evs
    induction evs with
    | nil => intro x h; exact h
    | cons e evs ih =>
      intro x h
      rw [frun_cons]
      apply ih
      cases e with
      | pauseWriting | resumeWriting => exact h
      | base e =>
        intro w hw
        show w ∈ (x.s.step e).writes
        have hw' : w ∈ (if x.writingPaused then newWrites x.s (x.s.step e) ++ x.pausedWrites else x.pausedWrites) := hw
        split at hw'
        · rcases List.mem_append.mp hw' with h1 | h1
          · exact newWrites_sub x.s e w h1
          · exact writes_mono x.s e w (h w h1)
        · exact writes_mono x.s e w (h w hw')
  exact key evs (loginF role c) (by intro w hw; cases hw)

set_option maxRecDepth 100000 in
/-- non-vacuity (the history seeded change C08j is about): an idle FIX session with interval 4; the transport calls `pause_writing()`
    from inside the heartbeat write at 8 and `resume_writing()` only at 23.  The session lives 24 units; its writes are the
    heartbeats at 8, 12, 16, 20, 24 — those at 12, 16, 20 were made while paused, none was skipped or postponed — so the window
    (8, 16], which lies entirely inside the pause, is served; and the callbacks are really in the history. -/
example :
    let evs := List.replicate 8 (FEv.base .adv) ++ [.pauseWriting] ++ List.replicate 15 (.base .adv) ++ [.resumeWriting, .base .adv]
    let x := (loginF .fix ⟨4, 100⟩).run evs
    x.s.life = 24 ∧ x.s.writes.map (fun w => (w.t, w.origin)) = [(24, .mon), (20, .mon), (16, .mon), (12, .mon), (8, .mon)] ∧
      x.pausedWrites.map (fun w => w.t) = [20, 16, 12] ∧ x.flowCalls = [(23, false), (8, true)] ∧ x.writingPaused = false ∧
      8 + 2 * ownInterval .fix ⟨4, 100⟩ ≤ x.s.life ∧ (baseOnly evs).length + 2 = evs.length := by decide +kernel

end NasdaqModel.Props.C08Flow
