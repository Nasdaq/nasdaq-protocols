import NasdaqModel.Lemmas.RefineProgress
import NasdaqModel.Lemmas.RefineGate
import NasdaqModel.Lemmas.RefineWf
import NasdaqModel.Props.C04
/-
C04 at byte level — refinement: the byte-level reader (Model/Framing.lean, the C03 machine on BYTES) implements the token-level
reader of the session machine (Model/Session.lean, whose `Ev.data fs` delivers complete frames as tokens), so that
`Props/C04.lean` speaks about the bytes received.

Vocabulary (Model/Refine.lean): `tokens P buf` = the frames the reader loop cuts off `buf` (one `deserialize()` per round, as
`Framing.stepObs`), classified `msg m | hb | logout | bad`, up to the first `logout` / `bad`, + the bytes left + "stopped";
`carried P buf` = its `msg`s = the decodable application messages carried by `buf`; `stable P st buf` = the protocol's stability
test `st` holds at every cut point of `buf` (SoupBinTCP: always; FIX: always since the repair 658ee1f — before it, iff the computed
frame length was never negative: `Witness/C04Bytes.lean`);
`brun P num cfg evs` = ONE byte-level history `evs` (`bytes seg` = `data_received(seg)`, every other session event as it is)
driving BOTH existing machines: the C03 reader gets `data seg` / `tick` (a `run R` that finds the reader task at the top of its
loop), the session machine gets `Ev.data (newFrames … seg)` (the frames `seg` completes) / the event itself.  `num : μ → Nat`
names messages for the session machine (any function; an injective one loses nothing).

Proofs: Lemmas/Refine.lean (tokenisation, segmentation independence), RefineInstances.lean (SoupBinTCP, FIX), RefineWf.lean
(well-formed streams, C03's hypotheses), RefineSess.lean (who writes the reader's data), RefineSim.lean (simulation),
RefineRun.lean (invariant along every history), RefineReader.lean / RefineGate.lean (a stopped reader is never polled again).  Only property theorems and non-vacuity examples live here.
-/
namespace NasdaqModel.Props.C04Bytes
open NasdaqModel Py Refine
open NasdaqModel.Framing (Proto R Consuming FrameSpec stream expected soupProto fixProtoD)
open NasdaqModel.Sess (St Cfg Frame Tid msgsOf delivered atLoop)

variable {μ : Type}

/-- **`tokens` is the reader loop of C03 run to quiescence** (so `tokens` is not a second definition of framing): `len(buffer)`
    polls of a running byte-level reader with no data in between hand on exactly the messages of `tokens buffer`, leave its
    remainder in the buffer, and the reader is stopped iff the tokenisation ends in a logout / malformed frame. -/
theorem C04_bytes_tokens_is_reader_loop (P : Proto μ) (hC : Consuming P) (r : R μ) (hst : r.stopped = false) (n : Nat)
    (hn : r.buf.length ≤ n) :
    (Framing.ticks P n r).out = r.out ++ (tokens P r.buf).msgs ∧ (Framing.ticks P n r).buf = (tokens P r.buf).rest ∧
    (Framing.ticks P n r).stopped = (tokens P r.buf).fin :=
  ticks_tokens P hC n r hst hn

/-- **Segmentation independence of tokens.**  For a protocol whose `deserialize()` is a `Framer` relative to a stability test `st`:
    if the stream `a ++ b` is stable, tokenising it is tokenising `a` and continuing on what `a` left over once `b` has
    arrived; and the prefix `a` is stable too. -/
theorem C04_bytes_tokens_append {P : Proto μ} {st : Bytes → Bool} (F : Framer P st) (a b : Bytes)
    (h : stable P st (a ++ b) = true) :
    tokens P (a ++ b) = (tokens P a).extend P b ∧ stable P st a = true :=
  ⟨tokens_append F a b h, stable_prefix F a b h⟩

/-- the tokens of what has arrived are a prefix of the tokens of what will have arrived -/
theorem C04_bytes_tokens_prefix {P : Proto μ} {st : Bytes → Bool} (F : Framer P st) (a b : Bytes)
    (h : stable P st (a ++ b) = true) : (tokens P a).toks <+: (tokens P (a ++ b)).toks :=
  tokens_toks_prefix F a b h

/-- **SoupBinTCP: for EVERY byte string** (framing is by the 2-byte length prefix only: whatever could be cut off, and whatever
    `from_bytes` raised on the delimited packet, is the same whatever arrives later). -/
theorem C04_bytes_soup_tokens_append (a b : Bytes) :
    tokens soupProto (a ++ b) = (tokens soupProto a).extend soupProto b :=
  tokens_append soupFramer a b (soup_stable _)

/-- **FIX (reader with the dictionary dispatch, any dictionary, any field-level decoder): for EVERY byte string** — since the
    repair 658ee1f (`if body_length < 0: raise ValueError`).  `bytes.find` results, the BodyLength text and the computed length
    `n` never change when bytes are appended; the frame is `buf[:n]`, and `n ≥ 8` wherever a frame is cut.  (Before the repair
    `n < 0` counted from the END of whatever had arrived: `Witness/C04Bytes.lean`.) -/
theorem C04_bytes_fix_tokens_append (known : Bytes → Bool) (decode : Bytes → Except Err Unit) (a b : Bytes) :
    tokens (fixProtoD known decode) (a ++ b) = (tokens (fixProtoD known decode) a).extend (fixProtoD known decode) b :=
  tokens_append (fixFramer known decode) a b (fix_stable _ _)

/-- the FIX facts behind it, for every buffer: a frame that could be cut off, or an exception that was raised, is not changed
    by later bytes; and a cut frame is never empty (whatever the dictionary) -/
theorem C04_bytes_fix_deser_stable (known : Bytes → Bool) (decode : Bytes → Except Err Unit) (buf more : Bytes) :
    (∀ f r, Framing.fixDeserD known decode buf = .ok (some (f, r)) →
        Framing.fixDeserD known decode (buf ++ more) = .ok (some (f, r ++ more)) ∧ f ≠ [] ∧ r.length < buf.length) ∧
    (∀ e, Framing.fixDeserD known decode buf = .error e → Framing.fixDeserD known decode (buf ++ more) = .error e) :=
  ⟨fun _ _ h => ⟨by rw [fixDeserD_later _ _ _ more (by rw [h]; simp), h]; rfl, Framing.fixDeser_consumes (Framing.fixDeserD_inv h).1⟩,
    fun _ h => by rw [fixDeserD_later _ _ _ more (by rw [h]; simp), h]; rfl⟩

/-- **Well-formed streams (exactly C03's hypotheses, `FrameSpec`: a complete well-formed frame followed by anything is cut off
    exactly, a proper prefix asks for more bytes, frames are non-empty — `soupSpec` for `wfPkt`, `fixSpec` / `fixSpecD` for
    `wfFixFrame`)**: however a prefix of the stream is cut in two, no stability test is needed. -/
theorem C04_bytes_tokens_append_wf {P : Proto μ} {enc : μ → Bytes} {wf : μ → Prop} (S : FrameSpec P enc wf)
    (hC : Consuming P) (ms : List μ) (hwf : ∀ m ∈ ms, wf m) (a b : Bytes) (h : a ++ b <+: stream enc ms) :
    tokens P (a ++ b) = (tokens P a).extend P b :=
  tokens_append_wf S hC ms hwf a b h

/-- the decodable messages carried by a well-formed stream are C03's `expected` messages -/
theorem C04_bytes_carried_wf {P : Proto μ} {enc : μ → Bytes} {wf : μ → Prop} (S : FrameSpec P enc wf) (hC : Consuming P)
    (ms : List μ) (hwf : ∀ m ∈ ms, wf m) : carried P (stream enc ms) = expected P ms :=
  carried_stream S hC ms hwf

/-- FIX, well-formed frames the dictionary accepts (`FixWf.wfD`: C03's `wfFixFrame` + known type + decodable): the messages
    carried by their concatenation are C03's `expected` -/
theorem C04_bytes_fix_carried_wf (known : Bytes → Bool) (decode : Bytes → Except Err Unit) (fs : List Bytes)
    (hwf : ∀ f ∈ fs, FixWf.wfD known decode f) :
    carried (fixProtoD known decode) (stream (fun f => f) fs) = expected (fixProtoD known decode) fs :=
  carried_stream (FixWf.fixSpecD known decode) (Framing.fixProtoD_consuming known decode) fs hwf

/-- SoupBinTCP, well-formed packets (`wfPkt`, C12/C03): the messages carried by their byte stream (the documented layouts) are the
    non-heartbeats before the first logout — C03's `expected` -/
theorem C04_bytes_soup_carried_wf (ms : List Soup.Pkt) (hwf : ∀ p ∈ ms, Props.C12.wfPkt p = true) :
    carried soupProto (stream Spec.SoupLayout.layout ms) = expected soupProto ms :=
  carried_stream Framing.soupSpec Framing.soupProto_consuming ms hwf

/-- **Data.**  `on_data(seg)` is matched by the delivery of the frames `seg` completes: related states stay related. -/
theorem C04_bytes_sim_data {P : Proto μ} {st : Bytes → Bool} (F : Framer P st) (num : μ → Nat) (cfg : Cfg) (r : R μ) (s : St)
    (h : Rel P num r s) (seg : Bytes) (hs : r.stopped = false → stable P st (r.buf ++ seg) = true) :
    Rel P num (Framing.step P r (.data seg)) (Sess.step cfg s (.data (newFrames P num r seg))) :=
  h.data F num cfg seg hs

/-- the frames a segment completes: what the tokenisation of the buffer gains = what an incremental tokeniser cuts -/
theorem C04_bytes_newFrames {P : Proto μ} {st : Bytes → Bool} (F : Framer P st) (num : μ → Nat) (r : R μ) (seg : Bytes)
    (hst : r.stopped = false) (hs : stable P st (r.buf ++ seg) = true) :
    (tokens P r.buf).frames num ++ newFrames P num r seg = (tokens P (r.buf ++ seg)).frames num ∧
    newFrames P num r seg =
      (if (tokens P r.buf).fin then [] else (tokens P ((tokens P r.buf).rest ++ seg)).frames num) :=
  ⟨newFrames_spec F num r seg hst hs, newFrames_incremental F num r seg hst hs⟩

/-- **Poll.**  One poll of the reader task at the top of its loop (`run R`) is one `tick` of the byte-level reader — one
    `deserialize()`, one frame on both sides: related states stay related. -/
theorem C04_bytes_sim_poll {P : Proto μ} (hC : Consuming P) (num : μ → Nat) (cfg : Cfg) (r : R μ) (s : St)
    (h : Rel P num r s) (hl : atLoop s) (hs : s.rStopped = false) :
    Rel P num (Framing.step P r .tick) (Sess.step cfg s (.run .R)) :=
  h.tick hC num cfg hl hs

/-- **Everything else.**  No other event of the session machine — and no `run R` that does not find the reader task at the
    top of its loop, or finds `_stopped` set — touches what the relation reads. -/
theorem C04_bytes_sim_other {P : Proto μ} (num : μ → Nat) (cfg : Cfg) (r : R μ) (s : St) (h : Rel P num r s) (ev : Sess.Ev)
    (hd : ∀ fs, ev ≠ .data fs) (hr : ev = .run .R → (¬ atLoop s ∨ s.rStopped = true)) :
    Rel P num r (Sess.step cfg s ev) := by
  refine h.other num cfg ev hd (fun he => ?_)
  cases hp : polls s with
  | false => rfl
  | true =>
    obtain ⟨hl, hs⟩ := (Sess.polls_iff s).1 hp
    rcases hr he with h0 | h0
    · exact absurd hl h0
    · rw [hs] at h0; cases h0

/-- **One history, both machines.**  The two components of a byte-level run ARE the two existing machines, run on the two
    projections of the history; the reader machine is given exactly the bytes of the history. -/
theorem C04_bytes_components (P : Proto μ) (num : μ → Nat) (cfg : Cfg) (evs : List BEv) :
    (brun P num cfg evs).s = Sess.runEvs cfg {} (traces P num cfg {} evs).1 ∧
    (brun P num cfg evs).r = Framing.run P (traces P num cfg {} evs).2 ∧
    Framing.received (traces P num cfg {} evs).2 = bytesOf evs ∧
    (brun P num cfg evs).all = bytesOf evs :=
  ⟨brun_s P num cfg evs, brun_r P num cfg evs, traces_received P num cfg evs {}, brun_all P num cfg evs⟩

/-- **The tick gate is the real one.**  `brun` gives the byte-level reader a `tick` exactly when the reader task runs its loop
    body (`polls`: ready at the top of `_process`, `_stopped` false — when the real reader calls `deserialize()`); the C03 machine
    additionally ignores ticks once its own `stopped` is set (on entering `stop()`, earlier than `_stopped`).  The two never
    disagree: in every reachable state a byte-level reader that has stopped is not polled — its task is inside `close()` until
    `_stopped` is set, or has ended. -/
theorem C04_bytes_stopped_never_polls {P : Proto μ} {st : Bytes → Bool} (F : Framer P st) (num : μ → Nat) (cfg : Cfg)
    (evs : List BEv) (hs : stable P st (bytesOf evs) = true) (h : (brun P num cfg evs).r.stopped = true) :
    polls (brun P num cfg evs).s = false :=
  stopped_never_polls F num cfg evs hs h

/-- **The refinement, along every history.**  For every byte stream (stable), segmentation and schedule, every configuration:
    the two machines are related at the end (token buffer = tokenisation of the byte buffer; byte-level reader stopped ⇒ session
    flagged closed; same messages handed on), the frames the session machine counts as received are the tokens of ALL the bytes
    received, and the messages the byte-level reader handed on are a prefix of the messages those bytes carry. -/
theorem C04_bytes_related {P : Proto μ} {st : Bytes → Bool} (F : Framer P st) (num : μ → Nat) (cfg : Cfg) (evs : List BEv)
    (hs : stable P st (bytesOf evs) = true) :
    Rel P num (brun P num cfg evs).r (brun P num cfg evs).s ∧
    (brun P num cfg evs).s.wire = (tokens P (bytesOf evs)).frames num ∧
    msgsOf (brun P num cfg evs).s.wire = (carried P (bytesOf evs)).map num ∧
    (brun P num cfg evs).r.out <+: carried P (bytesOf evs) := by
  have h := brun_pinv F num cfg evs hs
  have ha := brun_all P num cfg evs
  refine ⟨h.rel, ?_, ?_, ?_⟩
  · rw [h.wire, ha]
  · rw [h.msgs_wire, ha]
  · rw [← ha]; exact h.out_prefix

/-- **Order, no duplicates, no inventions — over the bytes.**  For every byte stream (stable), segmentation, schedule and
    configuration: what the consumer was handed is a subsequence of the decodable application messages carried by all the bytes
    received (`C04_sublist` restated over bytes). -/
theorem C04_bytes_sublist {P : Proto μ} {st : Bytes → Bool} (F : Framer P st) (num : μ → Nat) (cfg : Cfg) (evs : List BEv)
    (hs : stable P st (bytesOf evs) = true) :
    List.Sublist (delivered (brun P num cfg evs).s.trace) ((carried P (bytesOf evs)).map num) := by
  have h := (C04_bytes_related F num cfg evs hs).2.2.1
  rw [← h, brun_s]
  exact Props.C04.C04_sublist cfg _

/-- **Prefix — over the bytes** (every history, late cancels of receives included: `Props.C04.C04_prefix`): what
    the consumer was handed is a prefix of the decodable application messages carried by all the bytes received. -/
theorem C04_bytes_prefix {P : Proto μ} {st : Bytes → Bool} (F : Framer P st) (num : μ → Nat) (cfg : Cfg)
    (evs : List BEv) (hs : stable P st (bytesOf evs) = true) :
    delivered (brun P num cfg evs).s.trace <+: (carried P (bytesOf evs)).map num := by
  have h := (C04_bytes_related F num cfg evs hs).2.2.1
  rw [← h]
  rw [brun_s]
  exact Props.C04.C04_prefix cfg _

/-- the same two statements about the MESSAGES (not their numbers): the delivered numbers name a subsequence / a prefix `ds` of
    the carried messages (for an injective `num` it is the only list they name) -/
theorem C04_bytes_sublist_msgs {P : Proto μ} {st : Bytes → Bool} (F : Framer P st) (num : μ → Nat) (cfg : Cfg)
    (evs : List BEv) (hs : stable P st (bytesOf evs) = true) :
    ∃ ds : List μ, List.Sublist ds (carried P (bytesOf evs)) ∧ delivered (brun P num cfg evs).s.trace = ds.map num :=
  List.sublist_map_iff.1 (C04_bytes_sublist F num cfg evs hs)

theorem C04_bytes_prefix_msgs {P : Proto μ} {st : Bytes → Bool} (F : Framer P st) (num : μ → Nat) (cfg : Cfg)
    (evs : List BEv) (hs : stable P st (bytesOf evs) = true) :
    ∃ ds : List μ, ds <+: carried P (bytesOf evs) ∧ delivered (brun P num cfg evs).s.trace = ds.map num := by
  have h := C04_bytes_prefix F num cfg evs hs
  refine ⟨(carried P (bytesOf evs)).take (delivered (brun P num cfg evs).s.trace).length, List.take_prefix _ _, ?_⟩
  rw [List.map_take]
  exact List.prefix_iff_eq_take.1 h

/-- with an injective numbering the delivered numbers name exactly one list of messages, and that list is a subsequence of
    the carried messages -/
theorem C04_bytes_sublist_injective {P : Proto μ} {st : Bytes → Bool} (F : Framer P st) (num : μ → Nat)
    (hinj : ∀ x y, num x = num y → x = y) (cfg : Cfg) (evs : List BEv) (hs : stable P st (bytesOf evs) = true) (ds : List μ)
    (hds : delivered (brun P num cfg evs).s.trace = ds.map num) : List.Sublist ds (carried P (bytesOf evs)) := by
  obtain ⟨ds', h1, h2⟩ := C04_bytes_sublist_msgs F num cfg evs hs
  rw [hds] at h2
  rw [(List.map_inj_right hinj).1 h2]; exact h1

/-- **Conservation, over the bytes**: every message the byte-level reader handed on is, in order, gone for good (delivered:
    nothing is dropped, `Props.C04.C04_nothing_lost`), held for the pending receive, or still queued. -/
theorem C04_bytes_flow {P : Proto μ} {st : Bytes → Bool} (F : Framer P st) (num : μ → Nat) (cfg : Cfg) (evs : List BEv)
    (hs : stable P st (bytesOf evs) = true) :
    (brun P num cfg evs).s.gone.map (·.1) ++ (brun P num cfg evs).s.vres.toList ++ (brun P num cfg evs).s.queue
      = (brun P num cfg evs).r.out.map num := by
  have h := brun_pinv F num cfg evs hs
  rw [h.g.flow, h.rel.out]

/-- **SoupBinTCP: every byte stream**, no hypothesis on the bytes at all -/
theorem C04_bytes_soup_sublist (num : Soup.Pkt → Nat) (cfg : Cfg) (evs : List BEv) :
    List.Sublist (delivered (brun soupProto num cfg evs).s.trace) ((carried soupProto (bytesOf evs)).map num) :=
  C04_bytes_sublist soupFramer num cfg evs (soup_stable _)

theorem C04_bytes_soup_prefix (num : Soup.Pkt → Nat) (cfg : Cfg) (evs : List BEv) :
    delivered (brun soupProto num cfg evs).s.trace <+: (carried soupProto (bytesOf evs)).map num :=
  C04_bytes_prefix soupFramer num cfg evs (soup_stable _)

/-- **FIX: every byte stream too** (since the repair 658ee1f), any dictionary, any field-level decoder -/
theorem C04_bytes_fix_sublist (known : Bytes → Bool) (decode : Bytes → Except Err Unit) (num : Bytes → Nat) (cfg : Cfg)
    (evs : List BEv) :
    List.Sublist (delivered (brun (fixProtoD known decode) num cfg evs).s.trace)
      ((carried (fixProtoD known decode) (bytesOf evs)).map num) :=
  C04_bytes_sublist (fixFramer known decode) num cfg evs (fix_stable _ _)

theorem C04_bytes_fix_prefix (known : Bytes → Bool) (decode : Bytes → Except Err Unit) (num : Bytes → Nat) (cfg : Cfg)
    (evs : List BEv) :
    delivered (brun (fixProtoD known decode) num cfg evs).s.trace <+:
      (carried (fixProtoD known decode) (bytesOf evs)).map num :=
  C04_bytes_prefix (fixFramer known decode) num cfg evs (fix_stable _ _)

/-- the FIX refinement itself, unconditionally: related machines, wire = tokens of all bytes, reader output ≤ carried -/
theorem C04_bytes_fix_related (known : Bytes → Bool) (decode : Bytes → Except Err Unit) (num : Bytes → Nat) (cfg : Cfg)
    (evs : List BEv) :
    Rel (fixProtoD known decode) num (brun (fixProtoD known decode) num cfg evs).r (brun (fixProtoD known decode) num cfg evs).s ∧
    (brun (fixProtoD known decode) num cfg evs).s.wire = (tokens (fixProtoD known decode) (bytesOf evs)).frames num ∧
    msgsOf (brun (fixProtoD known decode) num cfg evs).s.wire = (carried (fixProtoD known decode) (bytesOf evs)).map num ∧
    (brun (fixProtoD known decode) num cfg evs).r.out <+: carried (fixProtoD known decode) (bytesOf evs) :=
  C04_bytes_related (fixFramer known decode) num cfg evs (fix_stable _ _)

theorem C04_bytes_soup_related (num : Soup.Pkt → Nat) (cfg : Cfg) (evs : List BEv) :
    Rel soupProto num (brun soupProto num cfg evs).r (brun soupProto num cfg evs).s ∧
    (brun soupProto num cfg evs).s.wire = (tokens soupProto (bytesOf evs)).frames num ∧
    msgsOf (brun soupProto num cfg evs).s.wire = (carried soupProto (bytesOf evs)).map num ∧
    (brun soupProto num cfg evs).r.out <+: carried soupProto (bytesOf evs) :=
  C04_bytes_related soupFramer num cfg evs (soup_stable _)

/-! ## 4. Non-vacuity: concrete byte strings, tokens, histories and related states -/

-- SoupBinTCP: server heartbeat, sequenced data `01 02 03`, end of session, one more data packet (never looked at)
private def exBytes : Bytes := [0, 1, 72, 0, 4, 83, 1, 2, 3, 0, 1, 90, 0, 2, 83, 9]
example : tokens soupProto exBytes = ⟨[.hb, .msg (.seqData [1, 2, 3]), .logout], [0, 2, 83, 9], true⟩ := by decide +kernel
example : carried soupProto exBytes = [.seqData [1, 2, 3]] := by decide +kernel
-- cut inside the 2-byte length prefix of the data packet: the heartbeat is a token, the half prefix waits; continued on arrival
example : tokens soupProto [0, 1, 72, 0] = ⟨[.hb], [0], false⟩ := by decide +kernel
set_option maxRecDepth 4000 in
example : (tokens soupProto [0, 1, 72, 0]).extend soupProto [4, 83, 1, 2, 3] = ⟨[.hb, .msg (.seqData [1, 2, 3])], [], false⟩ := by
  decide +kernel
-- a zero-length packet is malformed: token `bad`, the buffer stays as it is, the reader stops
example : tokens soupProto [0, 1, 72, 0, 0, 0, 1, 72] = ⟨[.hb, .bad], [0, 0, 0, 1, 72], true⟩ := by decide +kernel

private def numS : Soup.Pkt → Nat
  | .seqData d => 100 + d.length
  | .unseqData d => 200 + d.length
  | _ => 0
private def cfg0 : Cfg :=
  { msgBeh := fun _ => .ret, cbBeh := .ret, hasCb := true, dispatchOnConnect := false, hasMsgCb := false, fixLogin := false }
/-- one byte, poll, the rest of the heartbeat and half a length prefix, two polls, everything else, poll, a receive, poll -/
private def exEvs : List BEv :=
  [.ev .connect, .bytes [0], .ev (.run .R), .bytes [1, 72, 0], .ev (.run .R), .ev (.run .R),
   .bytes [4, 83, 1, 2, 3, 0, 1, 90, 0, 2, 83, 9], .ev (.run .R), .ev (.callRecvNowait 0), .ev (.run .R)]
example : bytesOf exEvs = exBytes := by decide +kernel
-- the token-level history the session machine is given, and the C03 history the reader machine is given
example : (traces soupProto numS cfg0 {} exEvs).1 =
    [.connect, .data [], .run .R, .data [.hb], .run .R, .run .R, .data [.msg 103, .logout], .run .R, .callRecvNowait 0, .run .R] := by
  decide +kernel
example : (traces soupProto numS cfg0 {} exEvs).2 =
    [.data [0], .tick, .data [1, 72, 0], .tick, .tick, .data [4, 83, 1, 2, 3, 0, 1, 90, 0, 2, 83, 9], .tick, .tick] := by decide +kernel
-- the related final states: reader stopped behind the logout with the unread packet still buffered, session closed, message delivered
example : (brun soupProto numS cfg0 exEvs).r.buf = [0, 2, 83, 9] ∧ (brun soupProto numS cfg0 exEvs).r.stopped = true ∧
    (brun soupProto numS cfg0 exEvs).r.out = [.seqData [1, 2, 3]] := by decide +kernel
example : (brun soupProto numS cfg0 exEvs).s.wire = [.hb, .msg 103, .logout] ∧ (brun soupProto numS cfg0 exEvs).s.buf = [] ∧
    (brun soupProto numS cfg0 exEvs).s.closed = true ∧ delivered (brun soupProto numS cfg0 exEvs).s.trace = [103] := by decide +kernel

-- FIX: `8=FIX.4.4|9=5|35=0|10=163|` (heartbeat), `8=FIX.4.4|9=13|35=D|58=35=5|10=107|` (order), `8=FIX.4.4|9=5|35=5|10=168|` (logout)
private def exHb : Bytes := [56,61,70,73,88,46,52,46,52,1, 57,61,53,1, 51,53,61,48,1, 49,48,61,49,54,51,1]
private def exOrd : Bytes := [56,61,70,73,88,46,52,46,52,1, 57,61,49,51,1, 51,53,61,68,1, 53,56,61,51,53,61,53,1, 49,48,61,49,48,55,1]
private def exOut : Bytes := [56,61,70,73,88,46,52,46,52,1, 57,61,53,1, 51,53,61,53,1, 49,48,61,49,54,56,1]
private def exKnown : Bytes → Bool := fun ty => ty == [48] || ty == [53] || ty == [68]
private def exDec : Bytes → Except Err Unit := fun _ => .ok ()
private def exPD : Proto Bytes := fixProtoD exKnown exDec
/-- an injective numbering of byte strings with bytes below 256 -/
private def numF : Bytes → Nat := fun f => f.foldl (fun a b => a * 256 + b) 1
example : FixWf.wfD exKnown exDec exHb ∧ FixWf.wfD exKnown exDec exOrd ∧ FixWf.wfD exKnown exDec exOut := by
  refine ⟨⟨?_, ?_, ?_⟩, ⟨?_, ?_, ?_⟩, ⟨?_, ?_, ?_⟩⟩ <;> decide +kernel
set_option maxRecDepth 8000 in
example : tokens exPD (exHb ++ exOrd ++ exOut ++ exOrd) = ⟨[.hb, .msg exOrd, .logout], exOrd, true⟩ := by decide +kernel
-- cut between `9=13` and its SOH: the heartbeat is a token, the partial order waits; continued on arrival
set_option maxRecDepth 8000 in
example : tokens exPD (exHb ++ exOrd.take 14) = ⟨[.hb], exOrd.take 14, false⟩ := by decide +kernel
set_option maxRecDepth 8000 in
example : (tokens exPD (exHb ++ exOrd.take 14)).extend exPD (exOrd.drop 14) = ⟨[.hb, .msg exOrd], [], false⟩ := by decide +kernel
private def exEvsF : List BEv :=
  [.ev .connect, .bytes (exHb ++ exOrd.take 14), .ev (.run .R), .ev (.run .R), .bytes (exOrd.drop 14 ++ exOut), .ev (.run .R),
   .ev (.callRecvNowait 0), .ev (.run .R)]
set_option maxRecDepth 8000 in
example : (traces exPD numF cfg0 {} exEvsF).1 =
    [.connect, .data [.hb], .run .R, .run .R, .data [.msg (numF exOrd), .logout], .run .R, .callRecvNowait 0, .run .R] := by decide +kernel
set_option maxRecDepth 8000 in
example : (brun exPD numF cfg0 exEvsF).s.closed = true ∧ delivered (brun exPD numF cfg0 exEvsF).s.trace = [numF exOrd] ∧
    (brun exPD numF cfg0 exEvsF).r.out = [exOrd] ∧ (brun exPD numF cfg0 exEvsF).r.stopped = true := by decide +kernel
-- hostile: a negative BodyLength (`8=FIX.4.4|9=-25|35=0|`) is a malformed frame whatever follows and whenever it is polled
example : tokens exPD [56, 61, 70, 73, 88, 46, 52, 46, 52, 1, 57, 61, 45, 50, 53, 1, 51, 53, 61, 48, 1] =
    ⟨[.bad], [56, 61, 70, 73, 88, 46, 52, 46, 52, 1, 57, 61, 45, 50, 53, 1, 51, 53, 61, 48, 1], true⟩ := by decide +kernel

end NasdaqModel.Props.C04Bytes
