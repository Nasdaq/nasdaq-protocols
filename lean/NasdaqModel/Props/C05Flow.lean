import NasdaqModel.Props.C05
import NasdaqModel.Model.SessionFlow
/-
C05 under transport flow control — "every way of ending a session closes it once, completely, without error" when the trigger
arrives while the transport has told the session to stop writing (the peer is not reading: exactly the situation in which one
wants to drop it).

`Model/SessionFlow.lean` adds the transport's two callbacks (`pause_writing()`, `resume_writing()`: inherited from
`asyncio.BaseProtocol`, empty bodies) to the histories of `Model/Session.lean`, at arbitrary positions.

* the callbacks change nothing in the session and no transition consults the flag; erasing them from a history leaves the run
  unchanged (`C05Flow_erasable`);
* hence the clauses of C05 hold for every history with callbacks anywhere: the close sequence (`C05Flow_close_sequence`), at most
  once (`C05Flow_cb_at_most_once`), completely and exactly once (`C05Flow_completed_exactly_once`), reports closed iff the close body
  was entered (`C05Flow_is_closed_iff`);
* every local trigger — `logout()` / `end_session()`, `initiate_close()`, the disconnect — leaves the session closed or with its
  closing task created, paused transport or not (`C05Flow_trigger_initiates_close`);
* sensitivity: if sends were refused while the transport is paused, `logout()` on a paused transport would leave the session open
  with no closing task (`C05Flow_refused_farewell_breaks`).
-/
namespace NasdaqModel.Props.C05Flow
open NasdaqModel Sess NasdaqModel.SessFlow NasdaqModel.Props.C05

private theorem frun_cons (cfg : Cfg) (x : FSt) (e : FEv) (evs : List FEv) : x.run cfg (e :: evs) = (x.step cfg e).run cfg evs := rfl

/-- `pause_writing()` and `resume_writing()` leave the session exactly as it was -/
theorem C05Flow_callbacks_noop (cfg : Cfg) (x : FSt) : (x.step cfg .pauseWriting).s = x.s ∧ (x.step cfg .resumeWriting).s = x.s :=
  ⟨rfl, rfl⟩

/-- a transition of the session is the same transition whether or not the transport has asked for a pause -/
theorem C05Flow_flag_not_consulted (cfg : Cfg) (x : FSt) (e : Ev) : (x.step cfg (.base e)).s = step cfg x.s e := rfl

/-- **C05Flow_erasable.**  Deleting the transport's flow-control callbacks from a history changes nothing in the session. -/
theorem C05Flow_erasable (cfg : Cfg) (x : FSt) (evs : List FEv) : (x.run cfg evs).s = runEvs cfg x.s (baseOnly evs) := by
  induction evs generalizing x with
  | nil => rfl
  | cons e evs ih =>
    rw [frun_cons, ih]
    cases e <;> rfl

/-- the state reached from a fresh session on a transport that has not asked for a pause -/
abbrev freach (cfg : Cfg) (evs : List FEv) : FSt := ({ s := {} } : FSt).run cfg evs

private theorem freach_s (cfg : Cfg) (evs : List FEv) : (freach cfg evs).s = reach cfg (baseOnly evs) :=
  C05Flow_erasable cfg _ evs

/-- **The close sequence**, for every history with `pause_writing()` / `resume_writing()` at any positions. -/
theorem C05Flow_close_sequence (cfg : Cfg) (evs : List FEv) : monRun (freach cfg evs).s.trace ≠ 9 := by
  rw [freach_s]; exact C05_close_sequence cfg _

/-- **At most once**: transport close, close-callback entry and exit — whatever the transport's write side did meanwhile. -/
theorem C05Flow_cb_at_most_once (cfg : Cfg) (evs : List FEv) :
    (freach cfg evs).s.trace.count .tclose ≤ 1 ∧ (freach cfg evs).s.trace.count .cbEnter ≤ 1 ∧
    (freach cfg evs).s.trace.count .cbExit ≤ 1 := by
  rw [freach_s]; exact C05_cb_at_most_once cfg _

/-- **Reports closed** exactly when the close body has been entered. -/
theorem C05Flow_is_closed_iff (cfg : Cfg) (evs : List FEv) :
    (freach cfg evs).s.closed = true ↔ (freach cfg evs).s.cstage ≠ .idle := by
  rw [freach_s]; exact C05_is_closed_iff cfg _

/-- **Completely, exactly once.** -/
theorem C05Flow_completed_exactly_once (cfg : Cfg) (evs : List FEv) (h : (freach cfg evs).s.cstage = .finished) :
    (freach cfg evs).s.closed = true ∧ Obs.tclose ∈ (freach cfg evs).s.trace ∧
    (freach cfg evs).s.trace.count .tclose ≤ 1 ∧
    (cfg.hasCb = true → Obs.cbEnter ∈ (freach cfg evs).s.trace ∧ Obs.cbExit ∈ (freach cfg evs).s.trace) := by
  rw [freach_s] at h ⊢; exact C05_completed_exactly_once cfg _ h

private theorem initiateClose_started (s : St) : s.initiateClose.closed = true ∨ s.initiateClose.closingTask = true := by
  unfold St.initiateClose
  by_cases hc : s.closed
  · simp [hc]
  · by_cases ht : s.closingTask
    · simp [hc, ht]
    · simp [hc, ht, St.spawn, St.setStatus, St.setProg]

/-- the local close triggers that are plain calls: `logout()` / `end_session()`, `initiate_close()`, the disconnect -/
def isSyncTrigger : Ev → Bool
  | .callLogout | .callInitiateClose | .eof => true
  | _ => false

/-- **C05Flow_trigger_initiates_close.**  In ANY state — transport paused or not — `logout()` / `end_session()`, `initiate_close()`
    and `connection_lost()` return with the session closed or its closing task created: the farewell message's `transport.write`
    cannot stand in the way of the close. -/
theorem C05Flow_trigger_initiates_close (cfg : Cfg) (x : FSt) (e : Ev) (he : isSyncTrigger e = true) :
    (x.step cfg (.base e)).s.closed = true ∨ (x.step cfg (.base e)).s.closingTask = true := by
  cases e <;> simp [isSyncTrigger] at he
  · exact initiateClose_started x.s
  · exact initiateClose_started x.s
  · exact initiateClose_started _

/-! ### sensitivity and non-vacuity -/

def plainCfg : Cfg := { msgBeh := fun _ => .ret, cbBeh := .ret, hasCb := true, dispatchOnConnect := true, hasMsgCb := true, fixLogin := false }

/-- connect, the transport pauses, `logout()` -/
def logoutWhilePaused : List FEv := [.base .connect, .pauseWriting, .base .callLogout]

/-- **C05Flow_refused_farewell_breaks.**  Were sends refused while the transport is paused, `logout()` on a paused transport would
    leave the session open with no closing task; the code as it is has created the closing task. -/
theorem C05Flow_refused_farewell_breaks :
    ((({ s := {} } : FSt).runRefusing plainCfg logoutWhilePaused).s.closed = false ∧
     (({ s := {} } : FSt).runRefusing plainCfg logoutWhilePaused).s.closingTask = false) ∧
    (freach plainCfg logoutWhilePaused).s.closingTask = true ∧ (freach plainCfg logoutWhilePaused).writingPaused = true := by
  decide

end NasdaqModel.Props.C05Flow
