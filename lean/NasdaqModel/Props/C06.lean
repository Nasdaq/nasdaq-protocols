import NasdaqModel.Lemmas.MonitorLemmas
import NasdaqModel.Lemmas.SessionLemmas4
/-
C06 — a closed session leaves nothing running and stays silent.

Theorems about the session machine for every configuration and every event sequence.
-/
namespace NasdaqModel.Props.C06
open NasdaqModel Sess

abbrev reach (cfg : Cfg) (evs : List Ev) : St := runEvs cfg {} evs

/-- **Monitors and receive helper are gone.** Whenever the close has completed (the close callback returned), both
    heartbeat monitors and the receive helper task have ended; the dispatcher and the reader have ended or — if one of them
    ran the close, or stopped itself while another task was closing — are runnable and end at their next step. -/
theorem C06_tasks_ended (cfg : Cfg) (evs : List Ev) (h : (reach cfg evs).cstage = .finished) :
    alive ((reach cfg evs).status .L) = false ∧ alive ((reach cfg evs).status .M) = false ∧
    alive ((reach cfg evs).status .V) = false ∧
    (alive ((reach cfg evs).status .D) = false ∨ (reach cfg evs).status .D = .ready) ∧
    (alive ((reach cfg evs).status .R) = false ∨ (reach cfg evs).status .R = .ready) :=
  (runEvs_InvARB cfg evs).2.2.fin (Or.inl h)

/-- **Nothing left running.** When the close has completed and no library task can take a step any more (quiescence),
    every task the library started — reader, dispatcher, both monitors, closing task, receive helper — has finished. -/
theorem C06_quiescent_clean (cfg : Cfg) (evs : List Ev) (h : (reach cfg evs).cstage = .finished)
    (hq : ∀ t ∈ libTasks, runnable (reach cfg evs) t = false) :
    ∀ t ∈ libTasks, alive ((reach cfg evs).status t) = false := by
  obtain ⟨_, _, b⟩ := runEvs_InvARB cfg evs
  obtain ⟨hL, hM, hV, hD, hR⟩ := b.fin (Or.inl h)
  have hrun : ∀ t, (reach cfg evs).status t = .ready → t ∈ libTasks → False := by
    intro t ht hm
    have := hq t hm
    simp [runnable, ht] at this
  intro t ht
  simp only [libTasks, List.mem_cons, List.mem_nil_iff, or_false] at ht
  rcases ht with rfl | rfl | rfl | rfl | rfl | rfl
  · rcases hR with h' | h'
    · exact h'
    · exact absurd (hrun _ h' (by simp [libTasks])) id
  · rcases hD with h' | h'
    · exact h'
    · exact absurd (hrun _ h' (by simp [libTasks])) id
  · exact hL
  · exact hM
  · -- the closing task: never cancelled, never in queue.get(), waits for a task only as the closer
    cases hst : (reach cfg evs).status .C with
    | absent => rfl
    | done => rfl
    | ready => exact absurd (hrun _ hst (by simp [libTasks])) id
    | cancelled => exact absurd hst b.ccan
    | waitQ => rcases b.waitq _ hst with h' | h' <;> simp at h'
    | waitT y =>
      rcases b.waitt _ _ hst with ⟨pc, c, hb⟩ | ⟨u, hu, _⟩
      · rw [h] at hb; contradiction
      · simp at hu
  · exact hV

/-- **No heartbeat after close.** A heartbeat is only ever written by a step of the local monitor task; once the close has
    completed that task has ended and `run L` is not possible: the event changes nothing. Completion is final
    (`C05_finished_is_final`), so this holds for the rest of the session's life. -/
theorem C06_no_heartbeat_after_close (cfg : Cfg) (evs : List Ev) (h : (reach cfg evs).cstage = .finished) :
    step cfg (reach cfg evs) (.run .L) = reach cfg evs ∧ step cfg (reach cfg evs) (.run .M) = reach cfg evs := by
  obtain ⟨hL, hM, _⟩ := C06_tasks_ended cfg evs h
  have nr : ∀ t, alive ((reach cfg evs).status t) = false → runnable (reach cfg evs) t = false := by
    intro t ht
    cases hs : (reach cfg evs).status t <;> simp_all [runnable, alive]
  constructor
  · simp [step, nr _ hL]
  · simp [step, nr _ hM]

/-- **No callback after close** (from the close-sequence monitor; the same statement as `C05_no_message_callback_after_close`): no
    message callback is started after the transport was closed, nor after the close callback was entered. -/
theorem C06_no_callback_after_close (cfg : Cfg) (evs : List Ev) (l1 l2 : List Obs) (n : Nat)
    (e : (reach cfg evs).trace = l1 ++ Obs.msgEnter n :: l2) : Obs.tclose ∉ l1 ∧ Obs.cbEnter ∉ l1 := by
  exact no_msgEnter_after_tclose _ l1 l2 n (runEvs_InvA cfg evs).accepted e

/-- **A blocked receive is released with the end-of-queue error.** A receive waiting on an empty queue whose helper task
    was cancelled by the close (queue stopped) ends with `EndOfQueue`; the helper task ends. -/
theorem C06_blocked_receive_released (cfg : Cfg) (s : St) (u : Nat)
    (hU : s.status (.U u) = .waitT .V) (hpU : s.prog (.U u) = .recvWait u)
    (hV : s.status .V = .cancelled) (hpV : s.prog .V = .vget) (hq : s.qClosed = true) (hv : s.vres = none) :
    let s' := step cfg (step cfg s (.run .V)) (.run (.U u))
    s'.trace = s.trace ++ [.ret u .eoq] ∧ alive (s'.status .V) = false ∧ alive (s'.status (.U u)) = false := by
  simp [step, runnable, hU, hV, stepRun, hpV, St.finish, hpU, hv, hq, St.emit, alive]

/-! ### non-vacuity -/

private def cfg1 : Cfg :=
  { msgBeh := fun _ => .ret, cbBeh := .ret, hasCb := true, dispatchOnConnect := false, hasMsgCb := true, fixLogin := false }

/-- login, acceptance, then a peer disconnect: the closing task stops dispatcher, monitors and reader one after the other -/
private def life : List Ev :=
  [.connect, .callLogin 1, .run .V, .data [.msg 0], .run .R, .run .V, .run (.U 1), .run .L, .run .M, .run .D,
   .eof, .run .C, .run .D, .run .C, .run .L, .run .C, .run .M, .run .C, .run .R, .run .C]

example : (reach cfg1 life).cstage = .finished := by decide
example : (reach cfg1 life).trace = [.write .login, .loginReply 0, .ret 1 .ok, .tclose, .cbEnter, .cbExit] := by decide
example : libTasks.all (fun t => !alive ((reach cfg1 life).status t)) = true := by decide

end NasdaqModel.Props.C06
