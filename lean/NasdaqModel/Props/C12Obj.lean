import NasdaqModel.Props.C12
import NasdaqModel.Model.SoupObj
/-
C12, packet objects over time: "every SoupBinTCP packet the library can build" includes a packet object that has been
encoded, had a field assigned (or its bytearray payload changed in place) and is encoded again.  Every `to_bytes()` of
such a history returns the documented layout of the fields the object holds at that moment, and decodes to them —
whatever was encoded before.
-/
namespace NasdaqModel.Props.C12Obj
open NasdaqModel Py Soup SoupObj Spec.SoupLayout NasdaqModel.Props.C12

/-- **No memory.** The `to_bytes()` calls of a history return the encodings of the fields held at each call. -/
theorem C12_obj_run_eq (p : Pkt) (ops : List Op) : run p ops = (atEncodes p ops).map encode := by
  induction ops generalizing p with
  | nil => rfl
  | cons op r ih =>
    cases op with
    | set f v => simp only [run, atEncodes]; exact ih _
    | toBytes => simp only [run, atEncodes, List.map_cons]; rw [ih]

/-- **Layout of the current fields.** If the object is well formed at every `to_bytes()` call, each call returns exactly the
    documented layout of the fields it holds then (length prefix, type character, payload) — independent of every earlier
    encoding and assignment. -/
theorem C12_obj_layout (p : Pkt) (ops : List Op) (h : (atEncodes p ops).all wfPkt = true) :
    run p ops = (atEncodes p ops).map (fun q => .ok (layout q)) := by
  rw [C12_obj_run_eq]
  apply List.map_congr_left
  intro q hq
  exact C12_layout q (List.all_eq_true.mp h q hq)

/-- **Round trip of every encoding of the history.** -/
theorem C12_obj_roundtrip (p : Pkt) (ops : List Op) (h : (atEncodes p ops).all wfPkt = true) :
    (run p ops).map (fun r => r >>= decode) = (atEncodes p ops).map (fun q => .ok q) := by
  rw [C12_obj_layout p ops h, List.map_map]
  apply List.map_congr_left
  intro q hq
  have hw := List.all_eq_true.mp h q hq
  show (Except.ok (layout q) >>= decode) = .ok q
  rw [ok_bind]
  exact C12_roundtrip q hw (layout q) (C12_layout q hw)

/-- An assignment changes the assigned field only, and the next encoding shows it: the data payload case. -/
theorem C12_obj_reassign_data (d d' : Bytes) (h : d.length ≤ 32766) (h' : d'.length ≤ 32766) :
    run (.seqData d) [.toBytes, .set .data (.bytes d'), .toBytes] =
      [.ok (layout (.seqData d)), .ok (layout (.seqData d'))] := by
  have := C12_obj_layout (.seqData d) [.toBytes, .set .data (.bytes d'), .toBytes]
    (by simp [atEncodes, step, assign, wfPkt, h, h'])
  simpa [atEncodes, step, assign] using this

example : run (.debug [104]) [.toBytes, .set .msg (.text []), .toBytes] = [.ok [0, 2, 43, 104], .ok [0, 1, 43]] := by decide
example : run (.loginAcc [115] 1) [.toBytes, .set .sequence (.int 10), .toBytes]
    = [.ok (layout (.loginAcc [115] 1)), .ok (layout (.loginAcc [115] 10))] := by decide
example : (atEncodes (.seqData [1, 2]) [.toBytes, .set .data (.bytes []), .toBytes, .set .data (.bytes [0, 3, 83]), .toBytes]).all wfPkt = true := by
  decide

end NasdaqModel.Props.C12Obj
