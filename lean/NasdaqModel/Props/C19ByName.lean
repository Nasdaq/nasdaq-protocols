import NasdaqModel.Props.C19
/-
C19, the by-name view of the registry (`get_msg_cls_by_name`).

`MsgNameToMsgMap[app][cls.__name__] = cls` is assigned by every class statement that registers; unlike the id map it is
overwritten.  These theorems pin down exactly that: after a statement that registers in application `a`, its name resolves —
in `a` — to the class it created; no other (application, name) pair changes; a statement that raises or registers nothing
changes no name at all.

  * `C19_byName_after_define`        the registering statement's name resolves to its class, in its own application
  * `C19_byName_frame`               every other (application, name) resolves as before
  * `C19_byName_untouched`           a statement that raises, or has no id, changes no by-name lookup
-/
namespace NasdaqModel.Props.C19ByName
open NasdaqModel Registry NasdaqModel.Props.C19

private theorem find_setName_same (l : List (Nat × Nat × Nat)) (a n c : Nat) :
    (setName l a n c).find? (fun e => e.1 == a && e.2.1 == n) = some (a, n, c) := by
  induction l with
  | nil => simp [setName]
  | cons x rest ih =>
    obtain ⟨a', n', c'⟩ := x
    unfold setName
    by_cases h : a' = a ∧ n' = n
    · simp [h]
    · have hb : (a' == a && n' == n) = false := by
        rcases Classical.not_and_iff_not_or_not.mp h with h1 | h1 <;> simp [h1]
      simp only [h, if_false, List.find?, hb]
      exact ih

private theorem find_setName_other (l : List (Nat × Nat × Nat)) (a n c a' n' : Nat) (hne : ¬ (a' = a ∧ n' = n)) :
    (setName l a n c).find? (fun e => e.1 == a' && e.2.1 == n') = l.find? (fun e => e.1 == a' && e.2.1 == n') := by
  have hb : (a == a' && n == n') = false := by
    rcases Classical.not_and_iff_not_or_not.mp hne with h1 | h1
    · have : ¬ a = a' := fun h => h1 h.symm
      simp [this]
    · have : ¬ n = n' := fun h => h1 h.symm
      simp [this]
  induction l with
  | nil => simp [setName, List.find?, hb]
  | cons x rest ih =>
    obtain ⟨a0, n0, c0⟩ := x
    unfold setName
    by_cases h : a0 = a ∧ n0 = n
    · obtain ⟨rfl, rfl⟩ := h
      simp [List.find?, hb]
    · simp only [h, if_false, List.find?]
      cases (a0 == a' && n0 == n') <;> simp [ih]

private theorem names_after (r r' : Reg) (d : Decl) (a : Nat) (k : Key)
    (ht : target d = some (a, k)) (h : defineMsg r d = .ok r') :
    r'.names = setName r.names a d.name d.cid := by
  unfold target at ht
  unfold defineMsg at h
  cases hr : resolve d with
  | error e => rw [hr] at ht; simp at ht
  | ok t =>
    rw [hr] at ht h
    simp only at ht
    subst ht
    simp only at h
    unfold register at h
    cases hl : lookupId r a k with
    | none => rw [hl] at h; simp only [Except.ok.injEq] at h; rw [← h]
    | some c =>
      rw [hl] at h
      simp only at h
      split at h
      · cases h
      · simp only [Except.ok.injEq] at h; rw [← h]

/-- **The statement's name resolves to its class.** -/
theorem C19_byName_after_define (r r' : Reg) (d : Decl) (a : Nat) (k : Key)
    (ht : target d = some (a, k)) (h : defineMsg r d = .ok r') :
    byName r' a d.name = .ok d.cid := by
  unfold byName
  rw [names_after r r' d a k ht h, find_setName_same]

/-- **Frame.** Every other (application, name) pair resolves exactly as before. -/
theorem C19_byName_frame (r r' : Reg) (d : Decl) (a : Nat) (k : Key)
    (ht : target d = some (a, k)) (h : defineMsg r d = .ok r') (a' n' : Nat) (hne : ¬ (a' = a ∧ n' = d.name)) :
    byName r' a' n' = byName r a' n' := by
  unfold byName
  rw [names_after r r' d a k ht h, find_setName_other _ _ _ _ _ _ hne]

/-- **Untouched.** A statement that raises, or that carries no id, changes no by-name lookup. -/
theorem C19_byName_untouched (r : Reg) (d : Decl) (hn : target d = none) (a n : Nat) :
    byName (step r d) a n = byName r a n := by
  unfold step defineMsg
  unfold target at hn
  cases hr : resolve d with
  | error e => rfl
  | ok t =>
    rw [hr] at hn
    simp only at hn
    subst hn
    rfl

example : ∃ r', defineMsg Reg.empty
    { cid := 1, name := 7, base := { proto := .itch, app := 5, style := .generated }, ind := some 65, dir := none, appKw := none } = .ok r' ∧
    byName r' 5 7 = .ok 1 := ⟨_, rfl, by decide⟩

end NasdaqModel.Props.C19ByName
