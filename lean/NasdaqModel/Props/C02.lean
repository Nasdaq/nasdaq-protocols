import NasdaqModel.Lemmas.BinCodecLemmas
import NasdaqModel.Extracted.TypeTable
/-
C02 — the binary encoding is exactly the documented wire layout.

`Spec/Layout.lean` is the independent reference (written from the DATATYPES documentation, digit-wise integers, positional
text).  The theorems say that the model of the codec (`Model/BinCodec.lean`, transcribed from the code) produces exactly those
bytes and decodes them, for every schema tree, every in-domain value and every tail; and that the registered type ids and the
array count selection are the documented ones (`Extracted/TypeTable.lean` is regenerated from the live library on every run).

Only property theorems and their non-vacuity examples live here.
-/
namespace NasdaqModel.Props.C02
open NasdaqModel BinCodec Spec.Layout

/-- The encoder produces exactly the documented layout, and reports its length. -/
theorem C02_encode_is_layout (t : Ty) (v : Val) (hwf : wf t v = true) :
    encode t v = .ok ((layout t v).length, layout t v) :=
  (carried_all.1 t v hwf).enc

/-- The decoder reads the documented layout — whatever follows it — back to the value, consuming exactly the layout. -/
theorem C02_decode_layout (t : Ty) (v : Val) (tail : Bytes) (hwf : wf t v = true) :
    decode t (layout t v ++ tail) = .ok (((layout t v).length : Int), norm t v) :=
  (carried_all.1 t v hwf).dec tail

/-- Messages: one message-type byte, then the fields in declaration order. -/
theorem C02_msg_encode_is_layout (m : MsgDef) (v : Val) (hwf : wfMsg m v = true) :
    encodeMsg m v = .ok ((msgLayout m v).length, msgLayout m v) :=
  encodeMsg_layout m v hwf

theorem C02_msg_decode_layout (reg : List MsgDef) (m : MsgDef) (v : Val) (tail : Bytes)
    (hreg : findMsg reg (m.ind : Int) = some m) (hwf : wfMsg m v = true) :
    decodeMsg reg (msgLayout m v ++ tail) = .ok (((msgLayout m v).length : Int), m.cls, norm (.record m.fs) v) :=
  decodeMsg_layout reg m v tail hreg hwf

/-- The layout determines the value up to `norm`: two in-domain values with the same bytes decode to the same thing. -/
theorem C02_layout_injective (t : Ty) (v w : Val) (hv : wf t v = true) (hw : wf t w = true)
    (h : layout t v = layout t w) : norm t v = norm t w := by
  have a := (carried_all.1 t v hv).dec []
  have b := (carried_all.1 t w hw).dec []
  rw [h, b] at a
  injection a with a
  injection a with _ a
  exact a.symm

/-- Every type id the library registers is bound to the documented size / signedness / byte order / charset, and nothing else
    is registered (20 rows; the left side is probed from the running library before each build). -/
theorem C02_table : Extracted.typeTable = documentedTable := by decide

/-- The count type `parser.py` selects for an array field is the documented one, for every value of the `endian` attribute. -/
theorem C02_array_count (endianAttr : Option String) :
    arrayCountType endianAttr = documentedArrayCount (endianAttr.getD "") := by
  unfold arrayCountType documentedArrayCount
  cases endianAttr with
  | none => simp
  | some a => simp

/-- …and that is what the running parser does (probed rows). -/
theorem C02_array_count_extracted :
    ∀ row ∈ Extracted.arrayCountTable, row.2 = documentedArrayCount row.1 := by decide

def exTy : Ty :=
  .record (.cons 1 (.int 4 true true) .none
          (.cons 2 (.str true) .none
          (.cons 3 (.optrec (.cons 1 (.int 2 false false) .none .nil)) .none
          (.cons 4 (.arr (.int 2 false true) 2 false true) .none
          (.cons 5 (.fixed false 3 true) (.str [120]) .nil)))))

def exVal : Val := .recd [(1, .int (-2)), (2, .str [233]), (3, .recd [(1, .int 513)]), (4, .list [.int 1, .int 65535])]

example : wf exTy exVal = true := by decide
example : layout exTy exVal = [255, 255, 255, 254,  1, 0, 233,  1, 1, 2,  0, 2, 0, 1, 255, 255,  32, 32, 120] := by decide
example : msgLayout { ind := 65, cls := 0, fs := .cons 1 .bool .none .nil } (.recd [(1, .bool true)]) = [65, 1] := by decide
example : documentedTable.length = 20 := by decide

end NasdaqModel.Props.C02
