import NasdaqModel.Props.C19
/-
C19, names and modules (seeded change C19i, and C19a / C19e before it: "reload support" in the duplicate check).

A class object has a name, a qualified name, a module, and the module may or may not still bind that name to an earlier
class.  The registration code looks at none of these: what a class statement does to the id registry — raise or not, and
which class every id resolves to afterwards — is a function of (application namespace, id, class identity) alone.

  * `C19_site_irrelevant`            the registry after any program written at any sites = the registry of the bare statements
  * `C19_define_depends_on_app_id_class_only`
                                     two statements that reach `CommonMessage.__init_subclass__` with the same (application, id)
                                     and the same class identity have the same outcome on the id registry, whatever they are called
  * `C19_rename_invariant`           renaming the classes of a whole program in any way changes no outcome, no id lookup, no decode
  * `C19_redefinition_rejected`      a second, different class for a taken id raises DuplicateMessageException and changes
                                     neither the registries nor the module bindings — in particular when it has the name, the module
                                     and the definition form of the registered class and the module attribute is still bound to it
                                     (`looksLikeReload`), the situation the seeded change accepts
  * `C19_first_class_survives_redefinitions`
                                     … and decoding keeps returning the first class after any number of such statements
-/
namespace NasdaqModel.Props.C19Names
open NasdaqModel Registry NasdaqModel.Props.C19

theorem stepAt_reg (w : World) (sd : SDecl) : (stepAt w sd).reg = step w.reg sd.decl := by
  unfold stepAt step
  cases defineMsg w.reg sd.decl <;> rfl

/-- **The site is irrelevant.** Module, definition form, binding of the module attribute: the registry after a program is
    the registry of its bare class statements. -/
theorem C19_site_irrelevant (sds : List SDecl) : ∀ (w : World), (runAt w sds).reg = run w.reg (sds.map (·.decl)) := by
  induction sds with
  | nil => intro w; rfl
  | cons sd rest ih =>
    intro w
    show (runAt (stepAt w sd) rest).reg = run (step w.reg sd.decl) (rest.map (·.decl))
    rw [ih, stepAt_reg]

/-- same statements at other sites: same registry -/
theorem C19_same_statements_same_registry (sds sds' : List SDecl) (h : sds.map (·.decl) = sds'.map (·.decl)) (w w' : World)
    (hw : w.reg = w'.reg) : (runAt w sds).reg = (runAt w' sds').reg := by
  rw [C19_site_irrelevant, C19_site_irrelevant, h, hw]

private theorem lookupId_ids {r r' : Reg} (h : r.ids = r'.ids) (a : Nat) (k : Key) : lookupId r a k = lookupId r' a k := by
  unfold lookupId; rw [h]

/-- the id half of the outcome of a class statement: exception, or the id registry afterwards -/
def idOutcome (x : Except Err Reg) : Except Err (List Entry) :=
  match x with
  | .ok r => .ok r.ids
  | .error e => .error e

private theorem register_ids {r r' : Reg} (h : r.ids = r'.ids) (a : Nat) (k : Key) (n n' c : Nat) :
    idOutcome (register r a k n c) = idOutcome (register r' a k n' c) := by
  unfold register
  rw [lookupId_ids h a k]
  cases lookupId r' a k with
  | none => simp [idOutcome, h]
  | some c0 =>
    by_cases hc : (c0 != c) = true
    · simp [hc, idOutcome]
    · simp [hc, idOutcome, h]

/-- **(application, id, class identity) only.** Two class statements whose keywords resolve to the same namespace and id
    (`resolve`) and that create the same class object act identically on the id registry — on registries with the same ids,
    whatever the names registered so far and whatever the two classes are called. -/
theorem C19_define_depends_on_app_id_class_only {r r' : Reg} (hr : r.ids = r'.ids) (d d' : Decl)
    (hres : resolve d = resolve d') (hcid : d.cid = d'.cid) :
    idOutcome (defineMsg r d) = idOutcome (defineMsg r' d') := by
  unfold defineMsg
  rw [hres]
  cases resolve d' with
  | error e => rfl
  | ok t =>
    cases t with
    | none => simp [idOutcome, hr]
    | some ak =>
      obtain ⟨a, k⟩ := ak
      show idOutcome (register r a k d.name d.cid) = idOutcome (register r' a k d'.name d'.cid)
      rw [hcid]
      exact register_ids hr a k _ _ _

def rename (ren : Decl → Nat) (d : Decl) : Decl := { d with name := ren d }

@[simp] theorem rename_cid (ren : Decl → Nat) (d : Decl) : (rename ren d).cid = d.cid := rfl
@[simp] theorem rename_resolve (ren : Decl → Nat) (d : Decl) : resolve (rename ren d) = resolve d := rfl

private theorem idOutcome_cases {x y : Except Err Reg} (h : idOutcome x = idOutcome y) :
    (∃ e, x = .error e ∧ y = .error e) ∨ (∃ a b, x = .ok a ∧ y = .ok b ∧ a.ids = b.ids) := by
  cases x <;> cases y <;> simp_all [idOutcome]

/-- **Renaming changes nothing.** Give every class of a program any other name (equal names for different classes
    included): every statement raises or succeeds as before, and every id resolves as before. -/
theorem C19_rename_invariant (ren : Decl → Nat) (ds : List Decl) : ∀ (r r' : Reg), r.ids = r'.ids →
    outcomes r (ds.map (rename ren)) = outcomes r' ds ∧ (run r (ds.map (rename ren))).ids = (run r' ds).ids := by
  induction ds with
  | nil => intro r r' h; exact ⟨rfl, h⟩
  | cons d rest ih =>
    intro r r' h
    have hd := C19_define_depends_on_app_id_class_only h (rename ren d) d (rename_resolve ren d) (rename_cid ren d)
    rcases idOutcome_cases hd with ⟨e, h1, h2⟩ | ⟨a, b, h1, h2, hab⟩
    · obtain ⟨i1, i2⟩ := ih r r' h
      constructor
      · simp only [List.map_cons, outcomes, h1, h2, i1]
      · show (run (step r (rename ren d)) (rest.map (rename ren))).ids = (run (step r' d) rest).ids
        simp only [step, h1, h2]; exact i2
    · obtain ⟨i1, i2⟩ := ih a b hab
      constructor
      · simp only [List.map_cons, outcomes, h1, h2, i1]
      · show (run (step r (rename ren d)) (rest.map (rename ren))).ids = (run (step r' d) rest).ids
        simp only [step, h1, h2]; exact i2

/-- … in particular every decode through every base class -/
theorem C19_rename_decode (ren : Decl → Nat) (ds : List Decl) (b : Base) (byte : Nat) :
    decode (run Reg.empty (ds.map (rename ren))) b byte = decode (run Reg.empty ds) b byte := by
  unfold decode
  rw [lookupId_ids (C19_rename_invariant ren ds Reg.empty Reg.empty rfl).2]

/-- **Re-definition rejected.** After any program, written at any sites: a statement for an (application, id) that
    resolves to a *different* class raises DuplicateMessageException and leaves registries and module bindings alone — no
    hypothesis on names, modules, forms or bindings, so also when `looksLikeReload` holds. -/
theorem C19_redefinition_rejected (sds : List SDecl) (sd : SDecl) (a : Nat) (k : Key) (c : Nat)
    (ht : target sd.decl = some (a, k))
    (hl : lookupId (runAt World.empty sds).reg a k = some c) (hc : c ≠ sd.decl.cid) :
    defineMsg (runAt World.empty sds).reg sd.decl = .error .dup ∧
    stepAt (runAt World.empty sds) sd = runAt World.empty sds := by
  have hreg : (runAt World.empty sds).reg = run Reg.empty (sds.map (·.decl)) := C19_site_irrelevant sds World.empty
  have hdup : defineMsg (runAt World.empty sds).reg sd.decl = .error .dup := by
    rw [hreg] at hl ⊢
    exact (C19_unique (sds.map (·.decl))).2 sd.decl a k c ht hl hc
  exact ⟨hdup, by unfold stepAt; rw [hdup]⟩

/-- **The first class survives.** `d0` is the first statement of the program for (application of base `b`, id `byte`);
    whatever follows — any number of statements for the same id with the same name in the same module — decoding returns
    `d0`'s class, and the module attribute `d0` bound is never re-bound by a statement for that id. -/
theorem C19_first_class_survives_redefinitions (pre post : List SDecl) (sd0 : SDecl) (b : Base) (byte : Nat)
    (h0 : target sd0.decl = some (b.app, decodeKey b.proto byte))
    (hpre : ∀ sd ∈ pre, target sd.decl ≠ some (b.app, decodeKey b.proto byte)) :
    decode (runAt World.empty (pre ++ sd0 :: post)).reg b byte = .ok sd0.decl.cid := by
  rw [C19_site_irrelevant]
  simp only [List.map_append, List.map_cons]
  apply C19_decodes_first _ _ _ _ _ h0
  intro d hd
  obtain ⟨sd, hsd, rfl⟩ := List.mem_map.mp hd
  exact hpre sd hsd

/-! ### non-vacuity: the history of the seeded change's demonstration

`class Quote(App, indicator=81)` twice at top level of one module, different bodies (different class objects 1 and 2);
then the same with a factory, and in another module. -/

private def app : Base := { proto := .itch, app := 3, style := .generated }
private def top (m : Nat) : Site := { modl := m, form := .topLevel, bind := true, unbind := false }
private def quote (cid : Nat) : Decl := { cid := cid, name := 7, base := app, ind := some 81, dir := none, appKw := none }
private def prog : List SDecl :=
  [ { decl := quote 1, site := top 0 } ]
private def second : SDecl := { decl := quote 2, site := top 0 }

/-- the seeded change's test would call this a reload … -/
example : looksLikeReload (runAt World.empty prog) 7 (top 0) 1 second = true := by decide +kernel
/-- … the code raises, the module still binds the first class, the id still resolves to it -/
example : defineMsg (runAt World.empty prog).reg second.decl = .error .dup := by decide +kernel
example : bindGet (runAt World.empty (prog ++ [second])).binds 0 7 = some 1 := by decide +kernel
example : decode (runAt World.empty (prog ++ [second, { decl := quote 3, site := top 1 },
    { decl := quote 4, site := { modl := 0, form := .factory, bind := true, unbind := false } }])).reg app 81 = .ok 1 := by decide +kernel
example : (outcomes Reg.empty ((prog ++ [second]).map (·.decl))) = [none, some .dup] := by decide +kernel
/-- the same program with every class renamed apart: same outcomes -/
example : outcomes Reg.empty (((prog ++ [second]).map (·.decl)).map (rename (·.cid))) = [none, some .dup] := by decide +kernel

end NasdaqModel.Props.C19Names
