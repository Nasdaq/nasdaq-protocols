import NasdaqModel.Props.C08
/-
C08, failed sends — "for every pattern of application sends" includes send attempts that the library rejects.

`Ev.sendFailed` is a `send_msg(msg)` call that raises before `transport.write` (FIX: `msg.validate` finds a mandatory body
field missing, or the frame cannot be encoded; soup: `msg.to_bytes()` raises).  In the code the write and the `ping()` of the
local heartbeat monitor both come after the statement that raises, so the attempt writes nothing and is **not** application
activity.  All theorems of Props/C08.lean quantify over every `List Ev` and therefore already cover histories with failed
sends; this file states the consequences that matter for them explicitly:

* a failed send changes nothing at all (`C08_failed_send_noop`), in particular it does not ping (`C08_failed_send_no_ping`);
* erasing the failed sends from any history leaves the whole run unchanged — same writes at the same instants, same monitor
  states, same close (`C08_failed_sends_erasable`);
* the gap bound holds for every history including failed sends, and the writes that witness it are real writes, never failed
  attempts (`C08_gap_failed`);
* failed attempts never postpone a heartbeat: if the application *wrote* nothing during the interval before a tick, the
  heartbeat is emitted at that tick however many attempts failed meanwhile (`C08_failed_sends_do_not_postpone_heartbeat`).
-/
namespace NasdaqModel.Props.C08Failed
open NasdaqModel.Monitor NasdaqModel.Props.C08

/-- a send attempt that raises before the write leaves the session exactly as it was -/
theorem C08_failed_send_noop (s : Sess) : s.step .sendFailed = s := rfl

/-- … in particular it writes nothing and pings neither monitor -/
theorem C08_failed_send_no_ping (s : Sess) :
    (s.step .sendFailed).loc = s.loc ∧ (s.step .sendFailed).rem = s.rem ∧ (s.step .sendFailed).writes = s.writes :=
  ⟨rfl, rfl, rfl⟩

/-- the history without its failed sends -/
def successfulOnly (evs : List Ev) : List Ev := evs.filter fun e => e != .sendFailed

/-- **C08_failed_sends_erasable.**  Deleting every failed send from a history changes nothing: same final state, hence the
    same writes at the same instants, the same monitor states and the same close. -/
theorem C08_failed_sends_erasable (s : Sess) (evs : List Ev) : s.run evs = s.run (successfulOnly evs) := by
  induction evs generalizing s with
  | nil => rfl
  | cons e evs ih =>
    by_cases he : e = .sendFailed
    · subst he
      have : successfulOnly (Ev.sendFailed :: evs) = successfulOnly evs := by simp [successfulOnly]
      rw [this, run_cons, C08_failed_send_noop, ih]
    · have : successfulOnly (e :: evs) = e :: successfulOnly evs := by simp [successfulOnly, he]
      rw [this, run_cons, run_cons, ih]

/-- **C08_gap_failed.**  From login until close every window `(t, t + 2·I]` of two own-role intervals contains an outbound
    write made on the open session, for every history — failed send attempts at any instants included — and that write is
    also a write of the history from which the failed attempts were deleted: it is never the failed attempt itself. -/
theorem C08_gap_failed (role : Role) (c : Cfg) (hc : wfCfg c = true) (evs : List Ev) (t : Nat)
    (h : t + 2 * ownInterval role c ≤ ((login role c).run evs).life) :
    ∃ w ∈ ((login role c).run (successfulOnly evs)).writes, w ∈ ((login role c).run evs).writes ∧
      w.live = true ∧ t < w.t ∧ w.t ≤ t + 2 * ownInterval role c := by
  obtain ⟨w, hw, h1, h2, h3⟩ := C08_gap role c hc evs t h
  exact ⟨w, by rw [← C08_failed_sends_erasable]; exact hw, hw, h1, h2, h3⟩

/-- **C08_failed_sends_do_not_postpone_heartbeat.**  If the application wrote nothing in `[T - I, T)` — whatever number of its
    send attempts failed in that interval — the tick `T = k·I` (`k ≥ 2`, within the session's life) emits exactly one
    heartbeat, written on the open session. -/
theorem C08_failed_sends_do_not_postpone_heartbeat (role : Role) (c : Cfg) (hc : wfCfg c = true) (evs : List Ev) (T : Nat)
    (hdvd : ownInterval role c ∣ T) (h2 : 2 * ownInterval role c ≤ T) (hlife : T ≤ ((login role c).run evs).life)
    (hidle : ∀ w ∈ ((login role c).run evs).writes, w.origin = .app → ¬ (T - ownInterval role c ≤ w.t ∧ w.t < T)) :
    monCount ((login role c).run evs).writes T = 1 ∧
      ∃ w ∈ ((login role c).run evs).writes, w.origin = .mon ∧ w.t = T ∧ w.live = true :=
  C08_idle_one_per_interval role c hc evs T hdvd h2 hlife hidle

/-- a history in which every application send fails behaves like an idle application: one heartbeat at every tick from the
    second one on -/
theorem C08_only_failed_sends_is_idle (role : Role) (c : Cfg) (hc : wfCfg c = true) (evs : List Ev)
    (hno : ∀ e ∈ evs, e ≠ .send) (k : Nat) (hk : 2 ≤ k) (hlife : k * ownInterval role c ≤ ((login role c).run evs).life) :
    monCount ((login role c).run evs).writes (k * ownInterval role c) = 1 :=
  C08_idle_forever role c hc evs hno k hk hlife

set_option maxRecDepth 100000 in
/-- non-vacuity (the history the bound is about): a FIX session with interval 4 sends at 5 (just after the tick at 4), then one
    attempt fails in each following interval (9, 13, 17).  The session lives 21 units; its writes are the send at 5 and the
    heartbeats at 12, 16, 20 — the failed attempts neither wrote nor postponed a heartbeat, so the window (5, 13] is served. -/
example :
    let evs := List.replicate 5 Ev.adv ++ [.send] ++ List.replicate 4 .adv ++ [.sendFailed] ++ List.replicate 4 .adv ++
      [.sendFailed] ++ List.replicate 4 .adv ++ [.sendFailed] ++ List.replicate 4 .adv
    let s := (login .fix ⟨4, 100⟩).run evs
    s.life = 21 ∧ s.writes.map (fun w => (w.t, w.origin)) = [(20, .mon), (16, .mon), (12, .mon), (5, .app)] ∧
      5 + 2 * ownInterval .fix ⟨4, 100⟩ ≤ s.life ∧ successfulOnly evs ≠ evs := by decide +kernel

end NasdaqModel.Props.C08Failed
