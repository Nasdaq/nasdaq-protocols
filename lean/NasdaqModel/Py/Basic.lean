/-
Python semantics the models rely on (import-free, executable).
Bytes are `List Nat` (each element intended `< 256`); text is a list of Unicode code points.
Every Python function that can raise returns `Except Err α`.
-/
namespace NasdaqModel

abbrev Bytes := List Nat
abbrev Str := List Nat

/-- small enum of the Python exception classes the harness canonicalises to -/
inductive Err where
  | overflow      -- OverflowError
  | unicode       -- UnicodeEncodeError / UnicodeDecodeError
  | value         -- ValueError (incl. enum lookups)
  | key           -- KeyError
  | struct        -- struct.error
  | type          -- TypeError
  | index         -- IndexError
  | invalidSoup   -- InvalidSoupMessage
  | state         -- StateError
  | eoq           -- EndOfQueue
  | cancelled     -- CancelledError
  | timeout       -- TimeoutError
  | dup           -- DuplicateMessageException
  | attr          -- AttributeError
  | refused       -- ConnectionRefusedError
  | other
  deriving Repr, DecidableEq, Inhabited

def Err.name : Err → String
  | .overflow => "overflow" | .unicode => "unicode" | .value => "value" | .key => "key"
  | .struct => "struct" | .type => "type" | .index => "index" | .invalidSoup => "invalid-soup"
  | .state => "state" | .eoq => "eoq" | .cancelled => "cancelled" | .timeout => "timeout"
  | .dup => "dup" | .attr => "attr" | .refused => "refused" | .other => "other"

deriving instance DecidableEq for Except

namespace Py

def isByte (b : Nat) : Bool := b < 256
def allBytes (bs : Bytes) : Bool := bs.all isByte

/-- `str.encode('ascii')` -/
def encodeAscii (s : Str) : Except Err Bytes :=
  if s.all (· < 128) then .ok s else .error .unicode

/-- `str.encode('iso-8859-1')` -/
def encodeIso (s : Str) : Except Err Bytes :=
  if s.all (· < 256) then .ok s else .error .unicode

/-- `bytes.decode('ascii')` -/
def decodeAscii (b : Bytes) : Except Err Str :=
  if b.all (· < 128) then .ok b else .error .unicode

/-- `bytes.decode('iso-8859-1')` never fails on bytes -/
def decodeIso (b : Bytes) : Except Err Str := .ok b

/-- `s.ljust(n)` (pad character: space) -/
def ljust (s : List Nat) (n : Nat) : List Nat := s ++ List.replicate (n - s.length) 32

/-- `s.rjust(n)` -/
def rjust (s : List Nat) (n : Nat) : List Nat := List.replicate (n - s.length) 32 ++ s

/-- `s.rjust(n, '0')` -/
def rjust0 (s : List Nat) (n : Nat) : List Nat := List.replicate (n - s.length) 48 ++ s

/-- characters removed by `str.strip()` with no argument: `str.isspace()` code points.
    Only the code points below 256 matter for the codecs modelled (ASCII / ISO-8859-1 text). -/
def isSpace (c : Nat) : Bool :=
  (9 ≤ c && c ≤ 13) || (28 ≤ c && c ≤ 32) || c == 133 || c == 160
  || c == 0x1680 || (0x2000 ≤ c && c ≤ 0x200a) || c == 0x2028 || c == 0x2029 || c == 0x202f
  || c == 0x205f || c == 0x3000

def stripBy (p : Nat → Bool) (s : List Nat) : List Nat :=
  ((s.dropWhile p).reverse.dropWhile p).reverse

/-- `str.strip()` -/
def strip (s : Str) : Str := stripBy isSpace s

/-- `bytes.strip(b' \x00')` -/
def stripSpNul (b : Bytes) : Bytes := stripBy (fun c => c == 32 || c == 0) b

/-- whitespace for `bytes.strip()` / `int(bytes)`: ASCII whitespace only -/
def isAsciiSpace (c : Nat) : Bool := (9 ≤ c && c ≤ 13) || c == 32

/-- `data[:n]` -/
def sliceTo (b : List α) (n : Nat) : List α := b.take n
/-- `data[n:]` -/
def sliceFrom (b : List α) (n : Nat) : List α := b.drop n

/-- `struct.pack('Ns', v)`: truncate to `n`, pad with NUL -/
def packNs (n : Nat) (v : Bytes) : Bytes := (v.take n) ++ List.replicate (n - v.length) 0

/-- big-endian 16 bit, as `struct.pack('!h', v)`; fails outside the signed range -/
def packBE16s (v : Int) : Except Err Bytes :=
  if -32768 ≤ v ∧ v ≤ 32767 then
    let u : Nat := (v % 65536).toNat
    .ok [u / 256, u % 256]
  else .error .struct

/-- `struct.unpack('!h', b)` for exactly two bytes -/
def unpackBE16s (hi lo : Nat) : Int :=
  let u := hi * 256 + lo
  if u < 32768 then (u : Int) else (u : Int) - 65536

end Py
end NasdaqModel

namespace NasdaqModel
/-! monadic plumbing for `Except Err`, stated as rewrite rules (unfolding `bind` itself is avoided in proofs) -/
@[simp] theorem ok_bind {α β : Type} (a : α) (f : α → Except Err β) : (Except.ok a >>= f) = f a := rfl
@[simp] theorem err_bind {α β : Type} (e : Err) (f : α → Except Err β) : (Except.error e >>= f) = Except.error e := rfl
@[simp] theorem pure_eq_ok {α : Type} (a : α) : (pure a : Except Err α) = Except.ok a := rfl

theorem bind_eq_ok {α β : Type} {x : Except Err α} {f : α → Except Err β} {b : β} :
    (x >>= f) = .ok b ↔ ∃ a, x = .ok a ∧ f a = .ok b := by
  cases x with
  | ok a =>
    rw [ok_bind]
    exact ⟨fun h => ⟨a, rfl, h⟩, fun ⟨_, e, h⟩ => by cases e; exact h⟩
  | error e =>
    rw [err_bind]
    exact ⟨fun h => (nomatch h), fun ⟨_, e, _⟩ => (nomatch e)⟩

theorem bind_ok_inv {α β : Type} {x : Except Err α} {f : α → Except Err β} {b : β}
    (h : (x >>= f) = .ok b) : ∃ a, x = .ok a ∧ f a = .ok b :=
  bind_eq_ok.mp h
end NasdaqModel
